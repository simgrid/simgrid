import SgVerif.C34.Model
/-
C34 — the repaired mechanism (all three switches on), programs made of exclusive-lock epochs: an inductive invariant
over ALL schedules.  "Every RMA message in flight belongs to the rank that currently holds the exclusive lock of its
target window" — so when a lock is released (and when the next origin acquires it) none of the previous epoch's data is
in flight: epochs on one window are atomic, including their in-flight data.
-/
namespace SgVerif.C34

/-- the code after the three repairs (449d71abd2, 89a6e6f865, a2a9f2f5cf) -/
def fixedV : Variant := ⟨true, true, true⟩

/-- one exclusive-lock epoch of a rank: MPI_Win_lock(EXCLUSIVE, t); the calls; MPI_Win_unlock(t) -/
structure Epoch where
  t : Nat
  calls : List Call

def epochBody (e : Epoch) : List Micro := e.calls.flatMap (fun c => compile fixedV (.rma c))

def epochMicros (e : Epoch) : List Micro :=
  [.acquire e.t true, .flushWait e.t] ++ (epochBody e ++ [.flushWait e.t, .release e.t])

def progMicros (es : List Epoch) : List Micro := es.flatMap epochMicros

theorem epochMicros_eq (e : Epoch) :
    epochMicros e = compile fixedV (.lock e.t) ++ epochBody e ++ compile fixedV (.unlock e.t) := by
  simp [epochMicros, compile, unlockMicros, fixedV]

/-- the calls of an epoch address the locked window (others are refused with MPI_ERR_WIN by CHECK_WIN_LOCKED) -/
def epochOk (e : Epoch) : Prop := ∀ c ∈ e.calls, c.target = e.t

/-- micro-actions of an RMA call towards `t`: no lock / unlock, every message goes to `t` -/
def bodyMicro (t : Nat) : Micro → Prop
  | .acquire _ _ => False
  | .release _ => False
  | .flushWait t' => t' = t
  | .issuePut t' _ _ => t' = t
  | .issueGet _ t' _ _ => t' = t
  | .issueAcc t' _ _ _ => t' = t
  | .casPut _ t' _ _ _ => t' = t
  | .waitRes _ => True
  | .atomAcquire _ => True
  | .atomRelease _ => True

theorem compile_body (c : Call) : ∀ m ∈ compile fixedV (.rma c), bodyMicro c.target m := by
  cases c with
  | put t d vals => intro m hm; simp [compile] at hm; subst hm; simp [bodyMicro, Call.target]
  | get id t d n => intro m hm; simp [compile] at hm; subst hm; simp [bodyMicro, Call.target]
  | acc t d op vals =>
    intro m hm
    simp [compile, accMicros, fixedV] at hm
    rcases hm with rfl | rfl | rfl | rfl <;> simp [bodyMicro, Call.target]
  | gacc id t d op vals =>
    intro m hm
    simp only [compile] at hm
    by_cases hop : op = .noop
    · simp [hop] at hm
      rcases hm with rfl | rfl | rfl | rfl <;> simp [bodyMicro, Call.target]
    · simp [hop] at hm
      rcases hm with rfl | rfl | rfl | rfl | rfl | rfl <;> simp [bodyMicro, Call.target]
  | cas id t d cmp new =>
    intro m hm
    simp [compile, fixedV] at hm
    rcases hm with rfl | rfl | rfl | rfl | rfl | rfl <;> simp [bodyMicro, Call.target]

theorem epochBody_body (e : Epoch) (h : epochOk e) : ∀ m ∈ epochBody e, bodyMicro e.t m := by
  intro m hm
  simp only [epochBody, List.mem_flatMap] at hm
  obtain ⟨c, hc, hmc⟩ := hm
  have := compile_body c m hmc
  rwa [h c hc] at this

/-- what a body micro-action of rank `r` towards `t` can change: in every branch of `microStep` the new state is `s`
with the program counter advanced and at most `mem`, `atomOwner` or one more pending message `r → t` changed -/
theorem body_step (s s' : MState) (r t : Nat) (a : Micro) (rest : List Micro) (hb : bodyMicro t a)
    (h : microStep s r a rest = some s') :
    s'.lockOwner = s.lockOwner ∧ s'.mode = s.mode ∧ s'.pc = upd s.pc r rest ∧
    (∀ msg ∈ s'.pending, msg ∈ s.pending ∨ (msg.origin = r ∧ msg.target = t)) := by
  cases a <;> simp only [bodyMicro] at hb <;> (try subst hb) <;> simp only [microStep] at h <;>
    (repeat' split at h) <;> cases h <;> refine ⟨rfl, rfl, rfl, fun msg hmsg => ?_⟩ <;>
    first
    | exact Or.inl hmsg
    | exact (List.mem_append.mp hmsg).imp id fun h => by cases List.mem_singleton.mp h; exact ⟨rfl, rfl⟩

/-- `Win::flush(t)` returns only when no communication between the two ranks is pending, and changes nothing -/
theorem flushWait_step (s s' : MState) (r t : Nat) (rest : List Micro)
    (h : microStep s r (.flushWait t) rest = some s') :
    s.pending.any (between r t) = false ∧ s' = { s with pc := upd s.pc r rest } := by
  simp only [microStep] at h
  split at h
  · cases h
  · cases h
    exact ⟨Bool.eq_false_iff.mpr ‹_›, rfl⟩

/-- where rank `r` is in its program -/
inductive RankSt (s : MState) (r : Nat) : Prop where
  /-- between epochs -/
  | out (es : List Epoch) (hpc : s.pc r = progMicros es) (hok : ∀ e ∈ es, epochOk e)
  /-- inside an epoch on `t`: it owns the lock; `ms` = what is left of the lock's flush and of the calls -/
  | inside (t : Nat) (ms : List Micro) (es : List Epoch)
      (hpc : s.pc r = ms ++ ([.flushWait t, .release t] ++ progMicros es))
      (hms : ∀ m ∈ ms, bodyMicro t m) (hown : s.lockOwner t = some r) (hok : ∀ e ∈ es, epochOk e)
  /-- the unlock has flushed: nothing of `r` towards `t` is in flight; next micro-action: release the lock -/
  | rel (t : Nat) (es : List Epoch) (hpc : s.pc r = .release t :: progMicros es) (hown : s.lockOwner t = some r)
      (hnone : ∀ msg ∈ s.pending, ¬ (msg.origin = r ∧ msg.target = t)) (hok : ∀ e ∈ es, epochOk e)

structure GInv (s : MState) : Prop where
  ranks : ∀ r, RankSt s r
  /-- every message in flight belongs to the holder of the exclusive lock of its target window -/
  owner : ∀ msg ∈ s.pending, s.lockOwner msg.target = some msg.origin
  mode : ∀ t, s.mode t = if (s.lockOwner t).isSome then 1 else 0

theorem upd_same {β : Type} (f : Nat → β) (k : Nat) (v : β) : upd f k v k = v := by simp [upd]
theorem upd_other {β : Type} (f : Nat → β) (k k' : Nat) (v : β) (h : k' ≠ k) : upd f k v k' = f k' := by simp [upd, h]

theorem rankSt_transfer (s s' : MState) (r' : Nat) (h : RankSt s r') (hpc : s'.pc r' = s.pc r')
    (hown : ∀ t, s.lockOwner t = some r' → s'.lockOwner t = some r')
    (hpend : ∀ msg ∈ s'.pending, msg.origin = r' → msg ∈ s.pending) : RankSt s' r' := by
  cases h with
  | out es h1 h2 => exact .out es (by rw [hpc]; exact h1) h2
  | inside t ms es h1 h2 h3 h4 => exact .inside t ms es (by rw [hpc]; exact h1) h2 (hown t h3) h4
  | rel t es h1 h2 h3 h4 =>
    refine .rel t es (by rw [hpc]; exact h1) (hown t h2) ?_ h4
    intro msg hm hc
    exact h3 msg (hpend msg hm hc.1) hc

theorem ginv_deliver (s : MState) (k : Nat) (msg : Msg) (h : GInv s) :
    GInv { s with pending := s.pending.eraseIdx k, mem := msg.pl.apply s.mem } :=
  ⟨fun r => rankSt_transfer s _ r (h.ranks r) rfl (fun _ ht => ht) fun _ hm _ => List.mem_of_mem_eraseIdx hm,
    fun m hm => h.owner m (List.mem_of_mem_eraseIdx hm), h.mode⟩

/-- rank `r` takes or gives back the lock of window `t`, to which nothing is in flight: everybody else keeps their place -/
theorem ginv_relock (s : MState) (h : GInv s) (r t md : Nat) (o' : Option Nat) (lk : Nat → List Nat) (rest : List Micro)
    (hmd : md = if o'.isSome then 1 else 0) (hold : ∀ r', r' ≠ r → s.lockOwner t ≠ some r')
    (hnomsg : ∀ msg ∈ s.pending, msg.target ≠ t)
    (hr : RankSt { s with mode := upd s.mode t md, lockOwner := upd s.lockOwner t o', lockers := lk,
                          pc := upd s.pc r rest } r) :
    GInv { s with mode := upd s.mode t md, lockOwner := upd s.lockOwner t o', lockers := lk, pc := upd s.pc r rest } := by
  refine ⟨?_, ?_, ?_⟩
  · intro r'
    by_cases hrr : r' = r
    · subst hrr; exact hr
    · refine rankSt_transfer s _ r' (h.ranks r') (upd_other _ _ _ _ hrr) ?_ (fun _ hm _ => hm)
      intro t' ht
      exact (upd_other _ _ _ _ fun e => hold r' hrr (by rw [← e]; exact ht)).trans ht
  · intro msg hmsg
    exact (upd_other _ _ _ _ (hnomsg msg hmsg)).trans (h.owner msg hmsg)
  · intro t'
    show upd s.mode t md t' = if (upd s.lockOwner t o' t').isSome then 1 else 0
    by_cases hte : t' = t
    · subst hte; rw [upd_same, upd_same]; exact hmd
    · rw [upd_other _ _ _ _ hte, upd_other _ _ _ _ hte]; exact h.mode t'

/-- a body micro-action of rank `r`, which holds the lock of `t`, keeps the invariant once `r` itself has a place -/
theorem ginv_body (s s' : MState) (r t : Nat) (a : Micro) (rest : List Micro) (h : GInv s) (hb : bodyMicro t a)
    (hown : s.lockOwner t = some r) (hs : microStep s r a rest = some s')
    (hr : s'.lockOwner = s.lockOwner → s'.pc r = rest → RankSt s' r) : GInv s' := by
  obtain ⟨b1, b2, b3, b4⟩ := body_step s s' r t a rest hb hs
  refine ⟨?_, ?_, ?_⟩
  · intro r'
    by_cases hrr : r' = r
    · subst hrr; exact hr b1 (by rw [b3, upd_same])
    · exact rankSt_transfer s s' r' (h.ranks r') (by rw [b3]; exact upd_other _ _ _ _ hrr)
        (fun t' ht => by rw [b1]; exact ht)
        fun msg hmsg horig => (b4 msg hmsg).resolve_right fun c => hrr (horig.symm.trans c.1)
  · intro msg hmsg
    rw [b1]
    rcases b4 msg hmsg with h' | ⟨ho, ht⟩
    · exact h.owner msg h'
    · rw [ht, ho]; exact hown
  · intro t'; rw [b1, b2]; exact h.mode t'

theorem ginv_call (s s' : MState) (r : Nat) (a : Micro) (rest : List Micro) (h : GInv s) (hpc : s.pc r = a :: rest)
    (hs : microStep s r a rest = some s') : GInv s' := by
  cases hr : h.ranks r with
  | out es h1 h2 =>
    -- acquire the lock of the next epoch
    cases es with
    | nil => rw [h1] at hpc; simp [progMicros] at hpc
    | cons e es' =>
      rw [h1] at hpc
      simp only [progMicros, List.flatMap_cons, epochMicros, List.cons_append, List.nil_append, List.cons.injEq] at hpc
      obtain ⟨rfl, hrest⟩ := hpc
      simp only [microStep, h.mode e.t] at hs
      cases ho : s.lockOwner e.t with
      | some o => simp [ho] at hs
      | none =>
        simp [ho] at hs
        subst hs
        refine ginv_relock s h r e.t 1 (some r) _ rest rfl (fun r' _ => by rw [ho]; exact fun c => nomatch c)
          (fun msg hmsg heq => by have := h.owner msg hmsg; rw [heq, ho] at this; cases this) ?_
        refine .inside e.t (.flushWait e.t :: epochBody e) es' ?_ ?_ (upd_same ..) (fun x hx => h2 x (by simp [hx]))
        · show upd s.pc r rest r = _
          rw [upd_same, ← hrest]
          simp [progMicros]
        · intro m hm'
          rcases List.mem_cons.mp hm' with rfl | hm'
          · rfl
          · exact epochBody_body e (h2 e (by simp)) m hm'
  | inside t ms es h1 h2 h3 h4 =>
    rw [h1] at hpc
    cases ms with
    | nil =>
      -- the flush of the unlock
      simp only [List.nil_append, List.cons_append, List.cons.injEq] at hpc
      obtain ⟨rfl, hrest⟩ := hpc
      obtain ⟨hnone, rfl⟩ := flushWait_step s s' r t rest hs
      refine ginv_body s _ r t (.flushWait t) rest h rfl h3 hs fun _ hp => .rel t es (hp.trans hrest.symm) h3 ?_ h4
      intro msg hmsg hc
      have := List.any_eq_false.mp hnone msg hmsg
      simp [between, hc.1, hc.2] at this
    | cons m ms' =>
      simp only [List.cons_append, List.cons.injEq] at hpc
      obtain ⟨rfl, hrest⟩ := hpc
      exact ginv_body s s' r t _ rest h (h2 _ (by simp)) h3 hs fun hl hp =>
        .inside t ms' es (hp.trans hrest.symm) (fun x hx => h2 x (by simp [hx])) (hl ▸ h3) h4
  | rel t es h1 h2 h3 h4 =>
    -- release the lock
    rw [h1] at hpc
    simp only [List.cons.injEq] at hpc
    obtain ⟨rfl, hrest⟩ := hpc
    simp only [microStep, h.mode t, h2, Option.isSome_some, if_true, Option.some.injEq] at hs
    subst hs
    refine ginv_relock s h r t 0 none _ rest rfl (fun r' hrr => by rw [h2]; exact fun c => hrr (Option.some.inj c).symm)
      (fun msg hmsg heq => ?_) (.out es ?_ h4)
    · have ho := h.owner msg hmsg
      rw [heq, h2] at ho
      exact h3 msg hmsg ⟨(Option.some.inj ho).symm, heq⟩
    · show upd s.pc r rest r = _
      rw [upd_same, hrest]

theorem ginv_step (s s' : MState) (e : Ev) (h : GInv s) (hs : step s e = some s') : GInv s' := by
  cases e with
  | call r =>
    simp only [step] at hs
    split at hs
    · cases hs
    · rename_i a rest hpc
      exact ginv_call s s' r a rest h hpc hs
  | deliver k =>
    simp only [step] at hs
    split at hs
    · cases hs
    · rename_i msg hk
      injection hs with hs; subst hs
      exact ginv_deliver s k msg h

theorem ginv_run : ∀ (evs : List Ev) (s s' : MState), GInv s → runMech s evs = some s' → GInv s' := by
  intro evs
  induction evs with
  | nil => intro s s' h hr; simp only [runMech, Option.some.injEq] at hr; subst hr; exact h
  | cons e es ih =>
    intro s s' h hr
    simp only [runMech] at hr
    split at hr
    · cases hr
    · rename_i s1 hs1
      exact ih s1 s' (ginv_step s s1 e h hs1) hr

theorem ginv_init (m : Mem) (progs : List (List Epoch)) (hok : ∀ es ∈ progs, ∀ e ∈ es, epochOk e) :
    GInv (MState.init m (progs.map progMicros)) := by
  refine ⟨?_, fun msg hm => (nomatch hm), fun t => rfl⟩
  intro r
  have hpc : (MState.init m (progs.map progMicros)).pc r = progMicros ((progs[r]?).getD []) := by
    show (match (progs.map progMicros)[r]? with | some p => p | none => []) = _
    rw [List.getElem?_map]
    cases progs[r]? <;> rfl
  refine .out _ hpc fun e he => ?_
  cases hp : progs[r]? with
  | none => rw [hp] at he; cases he
  | some es => rw [hp] at he; exact hok es (List.mem_of_getElem? hp) e he

end SgVerif.C34
