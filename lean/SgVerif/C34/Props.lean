import SgVerif.C34.Lemmas
import SgVerif.C34.ExclInv
/-
C34 — RMA windows behave like shared memory under their locks.
Specification level: full strength (∀ window sizes, ∀ memories, ∀ programs in the call language, ∀ serialisations).
Mechanism level (model of smpi_win.cpp's request plumbing, section Mech of Model.lean): the full-strength statement

      theorem mech_refines_spec : ∀ programs p (race-free in the sense of `phaseCommutes` outside exclusive epochs),
        ∀ schedules es, runMech (init p) es = some s → s.finished → allowed … (obsOf s) = true

  was FALSE on the code before the three fix commits (`mech_excl_unlock_counterexample`, `mech_cas_counterexample`,
  `mech_getacc_counterexample`, all three replayed on the real library, see NOTES.md).  For the repaired mechanism (all
  three switches on = /repo now) the part of it that the first defect broke is PROVED for all programs of exclusive-lock
  epochs and ALL schedules: `mech_fixed_excl_epochs_isolated`.
  Still NOT proved: that the final memory is the one of a serialisation (`mech_refines_spec`); what is missing is the
  argument inside ONE epoch (deliveries in any order of the holder's messages = the sequential `Block.exec`, for blocks
  whose Put / Get footprints are disjoint from the other calls of the block) and the composition over epochs.
-/
namespace SgVerif.C34

/-- The cell a displacement denotes is decided by the *target's* displacement unit alone: two assignments of units to the
ranks that agree on the target give the same cell, whatever the origin's (or anybody else's) unit is. -/
theorem dispIndexAt_target_only (dus dus' : List Nat) (t disp : Nat) (h : dus[t]? = dus'[t]?) :
    dispIndexAt dus t disp = dispIndexAt dus' t disp := by
  simp [dispIndexAt, h]

/-- with the same unit everywhere this is the single-unit conversion -/
theorem dispIndexAt_uniform (n du t disp : Nat) (h : t < n) :
    dispIndexAt (List.replicate n du) t disp = dispIndex du disp := by
  simp [dispIndexAt, h]

/-- units 4 / 1 / 8 on ranks 0 / 1 / 2: cell 2 of each window is displacement 2, 8, 1 -/
example : (dispIndexAt [4, 1, 8] 0 2, dispIndexAt [4, 1, 8] 1 8, dispIndexAt [4, 1, 8] 2 1, dispIndexAt [4, 1, 8] 1 3)
    = (some 2, some 2, some 2, none) := by decide

/-- `CHECK_RMA_REMOTE_WIN` at its boundary, for every window size: a transfer of exactly the whole window is accepted
(a one-element counter window can be read and updated), one element more is refused.  (CAS: no check.) -/
theorem rangeErr_iff (w : Nat) (c : Call) (h : ∀ id t d a b, c ≠ .cas id t d a b) :
    c.rangeErr w = true ↔ w < c.count := by
  cases c with
  | cas id t d a b => exact absurd rfl (h id t d a b)
  | put t d vals => simp [Call.rangeErr, Call.count]
  | get id t d n => simp [Call.rangeErr, Call.count]
  | acc t d op vals => simp [Call.rangeErr, Call.count]
  | gacc id t d op vals => simp [Call.rangeErr, Call.count]

theorem whole_window_accepted (ws : WSizes) (c : Call) (h : c.count ≤ ws c.target) : c.execW ws = c.exec := by
  funext m
  have : c.rangeErr (ws c.target) = false := by
    cases c <;> simp [Call.rangeErr, Call.count] at * <;> omega
  simp [Call.execW, this]

theorem past_the_end_refused (ws : WSizes) (c : Call) (h : ∀ id t d a b, c ≠ .cas id t d a b)
    (hc : ws c.target < c.count) (m : Mem) : c.execW ws m = m := by
  simp [Call.execW, (rangeErr_iff (ws c.target) c h).2 hc]

/-- the range check looks at the size of the TARGET's window only: two size assignments that agree on the target of a
call treat the call alike, whatever the size of the origin's own window is -/
theorem execW_target_only (ws ws' : WSizes) (c : Call) (h : ws c.target = ws' c.target) : c.execW ws = c.execW ws' := by
  funext m; simp [Call.execW, h]

example : (Call.put 1 0 [5]).rangeErr 1 = false ∧ (Call.gacc 7 1 0 .sum [5]).rangeErr 1 = false ∧
    (Call.get 7 1 0 4).rangeErr 4 = false ∧ (Call.get 7 1 0 5).rangeErr 4 = true := by decide

/-- Under exclusive locks (and for any phase) the observation is allowed iff it is the result of *some* serialisation
of the epochs that keeps each origin's program order: the result depends only on that order. -/
theorem rma_spec_allowed_iff (n w : Nat) (ws : WSizes) (m0 : Mem) (ph : Phase) (o : Obs) :
    allowed n w ws m0 ph o = true ↔ ∃ order ∈ merges ph, matchesObs n w (runBlocks ws order m0) o = true := by
  simp [allowed, List.any_eq_true]

theorem phaseCommutes_sound (w : WSizes) (o : List Block) (os : Phase) (h : phaseCommutes (o :: os) = true) :
    (∀ x ∈ o, ∀ y ∈ os.flatten, Commutes (Block.exec w x) (Block.exec w y)) ∧ phaseCommutes os = true := by
  simp only [phaseCommutes, Bool.and_eq_true, List.all_eq_true] at h
  refine ⟨?_, h.2⟩
  intro x hx y hy
  rw [List.mem_flatten] at hy
  rcases hy with ⟨o', ho', hy⟩
  exact blocksCommute_sound w x y (h.1 x hx o' ho' y hy)

/-- **Determinacy.**  When the blocks of different origins commute pairwise — disjoint footprints, or plain
accumulates with one commutative-associative operator — every allowed serialisation gives the same memory (windows
*and* result buffers): the one of the canonical order. -/
theorem rma_spec_determinate (w : WSizes) (ph : Phase) (h : phaseCommutes ph = true) (m : Mem) :
    ∀ order ∈ merges ph, runBlocks w order m = canonical w m ph := by
  induction ph generalizing m with
  | nil => intro order ho; simp [merges] at ho; subst ho; rfl
  | cons o os ih =>
    intro order ho
    simp only [merges, List.mem_flatMap] at ho
    rcases ho with ⟨l', hl', hl⟩
    have hs := phaseCommutes_sound w o os h
    have hc : ∀ x ∈ o, ∀ y ∈ l', Commutes (Block.exec w x) (Block.exec w y) := by
      intro x hx y hy
      exact hs.1 x hx y ((merges_perm os l' hl').mem_iff.mp hy)
    rw [run_merge2 w o l' order hl hc m, runBlocks_append, ih hs.2 (runBlocks w o m) l' hl']
    simp [canonical, runBlocks_append]

theorem append_mem_merge2 {α : Type} (xs ys : List α) : xs ++ ys ∈ merge2 xs ys := by
  fun_induction merge2 xs ys with
  | case1 ys => simp
  | case2 x xs => simp
  | case3 x xs y ys ih1 ih2 =>
    simp only [List.mem_append, List.mem_map]
    exact Or.inl ⟨xs ++ y :: ys, ih1, rfl⟩

theorem flatten_mem_merges {α : Type} (ls : List (List α)) : ls.flatten ∈ merges ls := by
  induction ls with
  | nil => simp [merges]
  | cons o os ih =>
    simp only [merges, List.mem_flatMap, List.flatten_cons]
    exact ⟨os.flatten, ih, append_mem_merge2 o os.flatten⟩

/-- in the commuting case the monitor has exactly one acceptable observation -/
theorem rma_spec_determinate_obs (n w : Nat) (ws : WSizes) (m0 : Mem) (ph : Phase) (o : Obs)
    (h : phaseCommutes ph = true) :
    allowed n w ws m0 ph o = matchesObs n w (canonical ws m0 ph) o := by
  rw [Bool.eq_iff_iff, rma_spec_allowed_iff]
  constructor
  · rintro ⟨order, ho, hm⟩
    rwa [rma_spec_determinate ws ph h m0 order ho] at hm
  · intro hm
    exact ⟨ph.flatten, flatten_mem_merges ph, hm⟩

/-- fence epochs (or any two blocks) whose calls pairwise have non-overlapping footprints or are same-operator
commutative accumulates can be executed in either order -/
theorem fence_epochs_commute (w : WSizes) (a b : Block) (h : blocksCommute a b = true) (m : Mem) :
    Block.exec w a (Block.exec w b m) = Block.exec w b (Block.exec w a m) :=
  blocksCommute_sound w a b h m

theorem foldl_frame (w : WSizes) (cs : List Call) (m : Mem) (loc : Loc) (h : ∀ c ∈ cs, loc ∉ c.writes) :
    cs.foldl (fun m c => c.execW w m) m loc = m loc := by
  induction cs generalizing m with
  | nil => rfl
  | cons c cs ih =>
    simp only [List.foldl_cons]
    rw [ih _ (fun c' hc' => h c' (by simp [hc']))]
    unfold Call.execW
    split
    · rfl
    · exact exec_frame c m loc (h c (by simp))

/-- **A Get returns the value at its position in the serialisation**: in any sequence of calls `pre ++ get :: post`
where no later call writes the same result word, word `k` of the Get's buffer is, at the end, the content of the
target cell in the memory produced by exactly the calls before the Get. -/
theorem get_returns_value_at_its_position (w : WSizes) (pre post : List Call) (m0 : Mem) (id t d n k : Nat)
    (hk : k < n) (hn : n ≤ w t) (hpost : ∀ c ∈ post, Loc.res id k ∉ c.writes) :
    (pre ++ Call.get id t d n :: post).foldl (fun m c => c.execW w m) m0 (.res id k) =
      (pre.foldl (fun m c => c.execW w m) m0) (.win t (d + k)) := by
  rw [List.foldl_append, List.foldl_cons, foldl_frame w post _ _ hpost, whole_window_accepted w (.get id t d n) hn]
  simp only [Call.exec, hk, and_self, if_true]

/-- results returned by a sequence of compare-and-swap calls on cell `(t,d)` with compare value `c` -/
def casResults (t d : Nat) (c : Int) : List (Nat × Int) → Mem → List Int
  | [], _ => []
  | (id, new) :: rest, m =>
    let m' := (Call.cas id t d c new).exec m
    m' (.res id 0) :: casResults t d c rest m'

theorem cas_none_after (t d : Nat) (c : Int) (ops : List (Nat × Int)) (m : Mem) (h : m (.win t d) ≠ c) :
    ∀ r ∈ casResults t d c ops m, r ≠ c := by
  induction ops generalizing m with
  | nil => simp [casResults]
  | cons op ops ih =>
    obtain ⟨id, new⟩ := op
    intro r hr
    simp only [casResults, List.mem_cons] at hr
    rcases hr with rfl | hr
    · simpa [Call.exec] using h
    · apply ih _ _ r hr
      simp [Call.exec, h]

/-- **CAS is atomic**: among any number of compare-and-swap calls on one cell with the same compare value `c` and new
values different from `c`, applied in any serial order, at most one returns `c` (succeeds); exactly one when the cell
holds `c` initially and there is at least one call. -/
theorem cas_atomic (t d : Nat) (c : Int) (ops : List (Nat × Int)) (m : Mem) (hnew : ∀ op ∈ ops, op.2 ≠ c) :
    ((casResults t d c ops m).filter (· = c)).length ≤ 1 ∧
    (m (.win t d) = c → ops ≠ [] → ((casResults t d c ops m).filter (· = c)).length = 1) := by
  cases ops with
  | nil => simp [casResults]
  | cons op ops =>
    obtain ⟨id, new⟩ := op
    have hn : new ≠ c := hnew (id, new) (by simp)
    -- whether or not the first CAS succeeds, the cell does not hold `c` afterwards and nobody else can succeed
    have hafter : ((Call.cas id t d c new).exec m) (.win t d) ≠ c := by
      by_cases hm : m (.win t d) = c <;> simp [Call.exec, hm, hn]
    have hz : ((casResults t d c ops ((Call.cas id t d c new).exec m)).filter (· = c)) = [] := by
      rw [List.filter_eq_nil_iff]
      intro r hr
      simpa using cas_none_after t d c ops _ hafter r hr
    have hres : ((Call.cas id t d c new).exec m) (.res id 0) = m (.win t d) := by simp [Call.exec]
    by_cases hm : m (.win t d) = c <;> simp [casResults, hres, hz, hm]

/-- `Win::flush(t)` returns only when no communication between the two ranks is pending -/
theorem flush_drains (s s' : MState) (r t : Nat) (rest : List Micro)
    (h : microStep s r (.flushWait t) rest = some s') :
    s'.pending.any (between r t) = false ∧ s'.pending = s.pending ∧ s'.mem = s.mem := by
  obtain ⟨h1, rfl⟩ := flushWait_step s s' r t rest h
  exact ⟨h1, rfl, rfl⟩

/-- `Win::accumulate` = issue + `flush(target_rank)`: when the call has returned (both micro-actions done, whatever
happened in between), none of the caller's communications towards that target is pending — in particular its own
update has been applied, so accumulates of one origin to one target are applied in program order. -/
theorem accumulate_returns_drained (s1 s2 : MState) (r t d : Nat) (op : ROp) (vals : List Int)
    (rest : List Micro) (mid : List Ev) (s1' : MState)
    (_h1 : microStep s1 r (.issueAcc t d op vals) (.flushWait t :: rest) = some s1')
    (_hmid : runMech s1' mid = some s2)
    (s3 : MState) (h3 : microStep s2 r (.flushWait t) rest = some s3) :
    ∀ m ∈ s3.pending, ¬ (m.origin = r ∧ m.target = t) := by
  have := (flush_drains s2 s3 r t rest h3).1
  intro m hm hc
  rw [List.any_eq_false] at this
  apply this m hm
  simp [between, hc.1, hc.2]

/-- **Exclusive epochs are atomic including their in-flight data** (repaired mechanism, `fixedV`).  For every initial
    memory, every number of ranks, every program in which each rank runs any sequence of exclusive-lock epochs
    (lock t; any Put / Get / Accumulate / Get_accumulate / Compare_and_swap addressed to t; unlock t — any targets, self
    included), and EVERY schedule of micro-actions and message deliveries that the mechanism can execute, in every state
    reached: (1) each RMA message in flight belongs to the rank that currently holds the exclusive lock of its target
    window; hence (2) while the lock of a window is free — in particular at the moment the next origin acquires it — no
    message to that window is in flight: nothing of a finished epoch can land inside the next one (what
    `mech_excl_unlock_counterexample` shows for the old `Win::unlock`); (3) `mode_` is 1 exactly while `lock_mut_` is
    owned (the odd branches of `Win::lock` for `mode_ = 2` are never taken).  Inductive invariant `GInv` (ExclInv.lean). -/
theorem mech_fixed_excl_epochs_isolated (m0 : Mem) (progs : List (List Epoch))
    (hok : ∀ es ∈ progs, ∀ e ∈ es, epochOk e) (evs : List Ev) (s : MState)
    (hrun : runMech (MState.init m0 (progs.map progMicros)) evs = some s) :
    (∀ msg ∈ s.pending, s.lockOwner msg.target = some msg.origin) ∧
    (∀ t, s.lockOwner t = none → ∀ msg ∈ s.pending, msg.target ≠ t) ∧
    (∀ t, s.mode t = if (s.lockOwner t).isSome then 1 else 0) := by
  have h := ginv_run evs _ s (ginv_init m0 progs hok) hrun
  refine ⟨h.owner, ?_, h.mode⟩
  intro t ht msg hm heq
  have := h.owner msg hm
  rw [heq, ht] at this
  cases this

def obsOf (n w : Nat) (ids : List Nat) (s : MState) : Obs :=
  { wins := winsOfMem n w s.mem, results := ids.map (fun id => (id, [s.mem (.res id 0)])) }

/-- `allowed` with the list of serialisations as an argument (`allowed … = allowedIn … (merges ph)` by unfolding): the
counterexamples evaluate it on the two orders that `merges_two` gives, without evaluating `merges` -/
def allowedIn (n w : Nat) (ws : WSizes) (m0 : Mem) (orders : List (List Block)) (o : Obs) : Bool :=
  orders.any (fun order => matchesObs n w (runBlocks ws order m0) o)

def badEnd (n w : Nat) (ws : WSizes) (m0 : Mem) (orders : List (List Block)) (ids : List Nat) (r : Option MState) : Bool :=
  match r with
  | some s => s.finished n && !(allowedIn n w ws m0 orders (obsOf n w ids s))
  | none => false

theorem badEnd_spec (n w : Nat) (ws : WSizes) (m0 : Mem) (ph : Phase) (ids : List Nat) (r : Option MState)
    (h : badEnd n w ws m0 (merges ph) ids r = true) :
    ∃ s, r = some s ∧ s.finished n = true ∧ allowed n w ws m0 ph (obsOf n w ids s) = false := by
  cases r with
  | none => simp [badEnd] at h
  | some s =>
    simp only [badEnd, Bool.and_eq_true, Bool.not_eq_true'] at h
    exact ⟨s, rfl, h.1, h.2⟩

theorem merges_two {α : Type} (a b : α) : merges [[a], [b]] = [[a, b], [b, a]] := by
  simp [merges, merge2]

def m0w : Mem := memOfWins [[1000, 1001], [2000, 2001], [3000, 3001]]

/-- the mechanism as it was BEFORE the three fix commits in /repo (449d71abd2, 89a6e6f865, a2a9f2f5cf): the
`…_counterexample` theorems below are about that variant and are kept as regressions; the `…_blocked_when_fixed`
theorems show the same schedules are not executable on the repaired mechanism (all three switches on), which is
what /repo contains now. -/
def preFix : Variant := {}

/-- witness 1: two exclusive-lock epochs on rank 2's window.
rank 0: lock 2; Put [0]:=7; Put [1]:=5; unlock 2        rank 1: lock 2; Get [0]; Get [1]; unlock 2 -/
def w1Epoch0 : Block := [.put 2 0 [7], .put 2 1 [5]]
def w1Epoch1 : Block := [.get 3 2 0 1, .get 4 2 1 1]
def w1Progs (v : Variant) : List (List Micro) :=
  [ ([MCall.lock 2] ++ w1Epoch0.map MCall.rma ++ [MCall.unlock 2]).flatMap (compile v),
    ([MCall.lock 2] ++ w1Epoch1.map MCall.rma ++ [MCall.unlock 2]).flatMap (compile v) ]
/-- rank 0 runs up to the release of `lock_mut_` (its puts are in flight); rank 1 gets the lock and issues its first
Get (the detached send copies cell 0 *now*: still 3000); rank 0's second put completes; rank 1 issues the second Get
(reads 5); everything completes. -/
def w1Sched : List Ev :=
  [.call 0, .call 0, .call 0, .call 0, .call 0, .call 1, .call 1, .call 1, .deliver 1, .call 1, .deliver 0, .call 0,
   .deliver 0, .deliver 0, .call 1, .call 1]

theorem mech_excl_unlock_counterexample :
    ∃ s, runMech (MState.init m0w (w1Progs preFix)) w1Sched = some s ∧ s.finished 3 = true ∧
      allowed 3 2 (fun _ => 2) m0w [[w1Epoch0], [w1Epoch1]] (obsOf 3 2 [3, 4] s) = false := by
  apply badEnd_spec
  rw [merges_two]
  decide +kernel

/-- with `flush` before the release of `lock_mut_` the same interleaving is impossible: rank 0 cannot release
while its puts are pending, so rank 1's acquire is not enabled -/
theorem mech_excl_unlock_blocked_when_fixed :
    runMech (MState.init m0w (w1Progs { unlockFlushFirst := true })) w1Sched = none := by
  decide +kernel

/-- the old `Win::unlock` breaks the invariant of `mech_fixed_excl_epochs_isolated`: after rank 0's release its two puts are
    in flight towards window 2 whose lock is free -/
theorem mech_unfixed_inflight_after_release_counterexample :
    (runMech (MState.init m0w (w1Progs preFix)) (w1Sched.take 5)).map
      (fun s => (s.lockOwner 2, s.pending.map (fun m => (m.origin, m.target)))) = some (none, [(0, 2), (0, 2)]) := by
  decide +kernel

/-- witness 2: two compare-and-swap on cell 0 of rank 2 under lock_all; both compare with 3000. -/
def w2Progs (v : Variant) : List (List Micro) :=
  [ [MCall.lockAll 3, .rma (.cas 1 2 0 3000 11), .unlockAll 3].flatMap (compile v),
    [MCall.lockAll 3, .rma (.cas 2 2 0 3000 22), .unlockAll 3].flatMap (compile v) ]
def w2Sched : List Ev :=
  (List.replicate 6 (.call 0)) ++ (List.replicate 6 (.call 1)) ++
  [.call 0, .call 0, .deliver 0, .call 0, .call 0, .call 0,      -- rank 0: CAS done, its put in flight
   .call 1, .call 1, .deliver 1, .call 1, .call 1, .call 1,      -- rank 1: reads 3000 as well
   .deliver 0, .deliver 0] ++
  (List.replicate 6 (.call 0)) ++ (List.replicate 6 (.call 1))

theorem mech_cas_counterexample :
    ∃ s, runMech (MState.init m0w (w2Progs preFix)) w2Sched = some s ∧ s.finished 3 = true ∧
      allowed 3 2 (fun _ => 2) m0w [[[.cas 1 2 0 3000 11]], [[.cas 2 2 0 3000 22]]] (obsOf 3 2 [1, 2] s) = false := by
  apply badEnd_spec
  rw [merges_two]
  decide +kernel

theorem mech_cas_blocked_when_fixed :
    runMech (MState.init m0w (w2Progs { casFlush := true })) w2Sched = none := by
  decide +kernel

/-- witness 3: Fetch_and_op(REPLACE) by rank 0 and Accumulate(REPLACE) by rank 1 on the same cell under lock_all:
the accumulate lands between the read and the write of the fetch-and-op (`Win::accumulate` does not take
`atomic_mut_`). -/
def w3Progs (v : Variant) : List (List Micro) :=
  [ [MCall.lockAll 3, .rma (.gacc 1 2 0 .replace [11]), .unlockAll 3].flatMap (compile v),
    [MCall.lockAll 3, .rma (.acc 2 0 .replace [22]), .unlockAll 3].flatMap (compile v) ]
def w3Sched : List Ev :=
  (List.replicate 6 (.call 0)) ++ (List.replicate 6 (.call 1)) ++
  [.call 0, .call 0,                 -- rank 0: atomic_mut_, Get issued (payload 3000)
   .call 1, .deliver 1, .call 1,     -- rank 1: accumulate 22 applied, flush returns
   .deliver 0, .call 0, .call 0, .deliver 0, .call 0, .call 0] ++
  (List.replicate 6 (.call 0)) ++ (List.replicate 6 (.call 1))

theorem mech_getacc_counterexample :
    ∃ s, runMech (MState.init m0w (w3Progs preFix)) w3Sched = some s ∧ s.finished 3 = true ∧
      allowed 3 2 (fun _ => 2) m0w [[[.gacc 1 2 0 .replace [11]]], [[.acc 2 0 .replace [22]]]] (obsOf 3 2 [1] s) = false := by
  apply badEnd_spec
  rw [merges_two]
  decide +kernel

theorem mech_getacc_blocked_when_fixed :
    runMech (MState.init m0w (w3Progs { accAtomic := true })) w3Sched = none := by
  decide +kernel

/-- a phase with three origins whose blocks commute (disjoint puts, same-operator accumulates on one cell) -/
example : phaseCommutes [[[.put 2 0 [1, 2]], [.acc 2 3 .sum [5]]], [[.acc 2 3 .sum [7], .get 9 0 0 1]],
    [[.put 1 0 [4]]]] = true := by decide

/-- and one that does not (two puts on the same cell): determinacy's hypothesis is a real restriction -/
example : phaseCommutes [[[.put 2 0 [1]]], [[.put 2 0 [2]]]] = false := by decide

/-- the spec distinguishes orders when blocks conflict: two results, both allowed, a third one not -/
example : allowedIn 3 2 (fun _ => 2) m0w [[[.put 2 0 [1]], [.put 2 0 [2]]], [[.put 2 0 [2]], [.put 2 0 [1]]]]
    { wins := [[1000, 1001], [2000, 2001], [1, 3001]], results := [] } = true := by decide
example : allowedIn 3 2 (fun _ => 2) m0w [[[.put 2 0 [1]], [.put 2 0 [2]]], [[.put 2 0 [2]], [.put 2 0 [1]]]]
    { wins := [[1000, 1001], [2000, 2001], [3, 3001]], results := [] } = false := by decide

/-- cas_atomic's hypotheses are satisfiable and the count is exactly one -/
example : ((casResults 2 0 3000 [(1, 11), (2, 22), (3, 33)] m0w).filter (· = 3000)).length = 1 := by decide

/-- non-vacuity of `mech_fixed_excl_epochs_isolated`: witness 1 as a program of epochs; on the repaired mechanism a
    complete run exists (rank 0's puts are delivered before it can release; then rank 1's epoch) and gives the
    serialisation epoch 0 ; epoch 1 -/
example : [[(⟨2, w1Epoch0⟩ : Epoch)], [⟨2, w1Epoch1⟩]].map progMicros = w1Progs fixedV := rfl
example : ∀ es ∈ [[(⟨2, w1Epoch0⟩ : Epoch)], [⟨2, w1Epoch1⟩]], ∀ e ∈ es, epochOk e := by
  unfold epochOk
  decide
example : (runMech (MState.init m0w (w1Progs fixedV))
    [.call 0, .call 0, .call 0, .call 0, .deliver 0, .deliver 0, .call 0, .call 0, .call 1, .call 1, .call 1, .call 1,
     .deliver 1, .deliver 0, .call 1, .call 1]).map
      (fun s => (s.finished 3, s.mem (.win 2 0), s.mem (.win 2 1), s.mem (.res 3 0), s.mem (.res 4 0))) =
    some (true, 7, 5, 7, 5) := by decide +kernel

end SgVerif.C34
