import SgVerif.C34.Model
/-
C34: when two calls commute.  A call changes only its `writes` (`exec_frame`) and what it writes depends only on its `reads`
(`exec_local`), so calls with disjoint footprints commute; two accumulates with one commutative-associative operator commute by
the operator's algebra (`app_left_comm`).  Lifted to blocks and to merges of block sequences (`run_merge2`).
-/
namespace SgVerif.C34

theorem bv_toInt (x : BitVec 32) : bv x.toInt = x := by
  unfold bv; exact BitVec.ofInt_toInt

theorem app_left_comm (op : ROp) (h : op.comm = true) (a b x : Int) :
    op.app a (op.app b x) = op.app b (op.app a x) := by
  cases op with
  | replace => cases h
  | noop => rfl
  | sum => simp only [ROp.app, bv_toInt]; rw [← BitVec.add_assoc, BitVec.add_comm (bv a), BitVec.add_assoc]
  | prod => simp only [ROp.app, bv_toInt]; rw [← BitVec.mul_assoc, BitVec.mul_comm (bv a), BitVec.mul_assoc]
  | band => simp only [ROp.app, bv_toInt]; rw [← BitVec.and_assoc, BitVec.and_comm (bv a), BitVec.and_assoc]
  | bor => simp only [ROp.app, bv_toInt]; rw [← BitVec.or_assoc, BitVec.or_comm (bv a), BitVec.or_assoc]
  | bxor => simp only [ROp.app, bv_toInt]; rw [← BitVec.xor_assoc, BitVec.xor_comm (bv a), BitVec.xor_assoc]
  | max =>
    have e : ∀ u v : Int, (if u < v then v else u) = max u v := fun u v => by rw [Int.max_def]; split <;> split <;> omega
    simp only [ROp.app, e]
    rw [← Int.max_assoc, Int.max_comm a, Int.max_assoc]
  | min =>
    have e : ∀ u v : Int, (if u < v then u else v) = min u v := fun u v => by rw [Int.min_def]; split <;> split <;> omega
    simp only [ROp.app, e]
    rw [← Int.min_assoc, Int.min_comm a, Int.min_assoc]

theorem mem_rangeMap {f : Nat → Loc} {n : Nat} {loc : Loc} :
    loc ∈ (List.range n).map f ↔ ∃ k, k < n ∧ f k = loc := by
  simp [List.mem_map, List.mem_range]

theorem mem_winRange (t d n r i : Nat) :
    Loc.win r i ∈ (List.range n).map (fun k => Loc.win t (d + k)) ↔ r = t ∧ d ≤ i ∧ i - d < n := by
  rw [mem_rangeMap]
  constructor
  · rintro ⟨k, hk, he⟩
    injection he with h1 h2
    exact ⟨h1.symm, by omega, by omega⟩
  · rintro ⟨rfl, h1, h2⟩
    exact ⟨i - d, h2, by rw [Nat.add_sub_cancel' h1]⟩

theorem mem_resRange (id n j k : Nat) :
    Loc.res j k ∈ (List.range n).map (fun k => Loc.res id k) ↔ j = id ∧ k < n := by
  rw [mem_rangeMap]
  constructor
  · rintro ⟨k', hk, he⟩
    injection he with h1 h2
    exact ⟨h1.symm, h2 ▸ hk⟩
  · rintro ⟨rfl, h⟩
    exact ⟨k, h, rfl⟩

theorem res_not_mem_winRange (t d n j k : Nat) : Loc.res j k ∉ (List.range n).map (fun k => Loc.win t (d + k)) := by
  rw [mem_rangeMap]; rintro ⟨_, _, he⟩; cases he

theorem win_not_mem_resRange (id n r i : Nat) : Loc.win r i ∉ (List.range n).map (fun k => Loc.res id k) := by
  rw [mem_rangeMap]; rintro ⟨_, _, he⟩; cases he

theorem disjointL_spec {a b : List Loc} (h : disjointL a b = true) {x : Loc} (ha : x ∈ a) : x ∉ b := by
  unfold disjointL at h
  rw [List.all_eq_true] at h
  have := h x ha
  simpa using this

/-- frame: a call changes only what it writes -/
theorem exec_frame (c : Call) (m : Mem) (loc : Loc) (h : loc ∉ c.writes) : c.exec m loc = m loc := by
  cases c with
  | put t d vals =>
    cases loc with
    | res j k => rfl
    | win r i =>
      rw [Call.writes, mem_winRange] at h
      simp only [Call.exec]
      split
      · rw [List.getElem?_eq_none (by omega)]
      · rfl
  | get id t d n =>
    cases loc with
    | win r i => rfl
    | res j k =>
      rw [Call.writes, mem_resRange] at h
      simp only [Call.exec, if_neg h]
  | acc t d op vals =>
    cases loc with
    | res j k => rfl
    | win r i =>
      rw [Call.writes, mem_winRange] at h
      simp only [Call.exec]
      split
      · rw [List.getElem?_eq_none (by omega)]
      · rfl
  | gacc id t d op vals =>
    rw [Call.writes, List.mem_append, not_or] at h
    cases loc with
    | res j k =>
      rw [mem_resRange] at h
      simp only [Call.exec, if_neg h.2]
    | win r i =>
      rw [mem_winRange] at h
      simp only [Call.exec]
      split
      · rw [List.getElem?_eq_none (by omega)]
      · rfl
  | cas id t d cmp new =>
    simp only [Call.writes, List.mem_cons, List.not_mem_nil, or_false, not_or] at h
    cases loc with
    | res j k =>
      have : ¬ (j = id ∧ k = 0) := fun hh => h.2 (by rw [hh.1, hh.2])
      simp only [Call.exec, if_neg this]
    | win r i =>
      have : ¬ (r = t ∧ i = d) := fun hh => h.1 (by rw [hh.1, hh.2])
      simp only [Call.exec, if_neg this]

/-- locality: what a call writes depends only on what it reads -/
theorem exec_local (c : Call) (m1 m2 : Mem) (h : ∀ loc ∈ c.reads, m1 loc = m2 loc) (loc : Loc)
    (hw : loc ∈ c.writes) : c.exec m1 loc = c.exec m2 loc := by
  cases c with
  | put t d vals =>
    cases loc with
    | res j k => exact absurd hw (res_not_mem_winRange _ _ _ _ _)
    | win r i =>
      rw [Call.writes, mem_winRange] at hw
      simp only [Call.exec, if_pos (And.intro hw.1 hw.2.1)]
      rw [List.getElem?_eq_getElem hw.2.2]
  | get id t d n =>
    cases loc with
    | win r i => exact absurd hw (win_not_mem_resRange _ _ _ _)
    | res j k =>
      rw [Call.writes, mem_resRange] at hw
      simp only [Call.exec, if_pos hw]
      exact h _ (mem_rangeMap.mpr ⟨k, hw.2, rfl⟩)
  | acc t d op vals =>
    cases loc with
    | res j k => exact absurd hw (res_not_mem_winRange _ _ _ _ _)
    | win r i => simp only [Call.exec, h _ hw]
  | gacc id t d op vals =>
    rw [Call.writes, List.mem_append] at hw
    cases loc with
    | res j k =>
      rcases hw with hw | hw
      · exact absurd hw (res_not_mem_winRange _ _ _ _ _)
      · rw [mem_resRange] at hw
        simp only [Call.exec, if_pos hw]
        exact h _ (mem_rangeMap.mpr ⟨k, hw.2, rfl⟩)
    | win r i =>
      rcases hw with hw | hw
      · simp only [Call.exec, h _ hw]
      · exact absurd hw (win_not_mem_resRange _ _ _ _)
  | cas id t d cmp new =>
    have hr : m1 (.win t d) = m2 (.win t d) := h _ (List.mem_singleton.mpr rfl)
    simp only [Call.writes, List.mem_cons, List.not_mem_nil, or_false] at hw
    rcases hw with rfl | rfl <;> simp only [Call.exec, hr, and_self, if_true]

def Commutes (f g : Mem → Mem) : Prop := ∀ m, f (g m) = g (f m)

theorem commutes_disjoint (a b : Call) (h1 : disjointL a.writes b.touch = true)
    (h2 : disjointL b.writes a.touch = true) : Commutes a.exec b.exec := by
  intro m
  funext loc
  by_cases ha : loc ∈ a.writes
  · have hnb : loc ∉ b.touch := disjointL_spec h1 ha
    have hnbw : loc ∉ b.writes := fun hh => hnb (by simp [Call.touch, hh])
    rw [exec_frame b (a.exec m) loc hnbw]
    apply exec_local a _ _ _ loc ha
    intro l hl
    apply exec_frame
    intro hbw
    exact disjointL_spec h2 hbw (by simp [Call.touch, hl])
  · by_cases hb : loc ∈ b.writes
    · rw [exec_frame a (b.exec m) loc ha]
      symm
      apply exec_local b _ _ _ loc hb
      intro l hl
      apply exec_frame
      intro haw
      exact disjointL_spec h1 haw (by simp [Call.touch, hl])
    · rw [exec_frame a _ loc ha, exec_frame b _ loc hb, exec_frame b _ loc hb, exec_frame a _ loc ha]

theorem ite_comm_lemma (P Q : Prop) [Decidable P] [Decidable Q] (f g : Int → Int)
    (hfg : ∀ x, f (g x) = g (f x)) (x : Int) :
    (if P then f (if Q then g x else x) else (if Q then g x else x)) =
    (if Q then g (if P then f x else x) else (if P then f x else x)) := by
  by_cases hp : P <;> by_cases hq : Q <;> simp [hp, hq, hfg]

theorem commutes_acc (t d t' d' : Nat) (op : ROp) (vals vals' : List Int) (h : op.comm = true) :
    Commutes (Call.acc t d op vals).exec (Call.acc t' d' op vals').exec := by
  intro m
  funext loc
  cases loc with
  | res j k => rfl
  | win r i =>
    simp only [Call.exec]
    generalize vals[i - d]? = o1
    generalize vals'[i - d']? = o2
    exact ite_comm_lemma (r = t ∧ d ≤ i) (r = t' ∧ d' ≤ i)
      (fun x => match o1 with | some v => op.app v x | none => x)
      (fun x => match o2 with | some v => op.app v x | none => x)
      (by
        intro x
        cases o1 <;> cases o2 <;> simp only []
        exact app_left_comm op h _ _ _)
      (m (.win r i))

theorem commAcc_some {a : Call} {o : ROp} (h : a.commAcc = some o) :
    o.comm = true ∧ ∃ t d vals, a = .acc t d o vals := by
  cases a with
  | acc t d op vals =>
    simp only [Call.commAcc] at h
    split at h
    · cases h; exact ⟨‹_›, t, d, vals, rfl⟩
    · cases h
  | _ => cases h

theorem commuteC_sound (w : WSizes) (a b : Call) (h : commuteC a b = true) :
    Commutes (a.execW w) (b.execW w) := by
  intro m
  unfold Call.execW
  by_cases ea : a.rangeErr (w a.target) = true
  · simp only [ea, if_true]
  · by_cases eb : b.rangeErr (w b.target) = true
    · simp only [eb, if_true]
    · simp only [ea, eb]
      unfold commuteC at h
      rw [Bool.or_eq_true] at h
      rcases h with h | h
      · rw [Bool.and_eq_true] at h
        exact commutes_disjoint a b h.1 h.2 m
      · cases ha : a.commAcc with
        | none => simp only [ha, Bool.false_eq_true] at h
        | some o1 =>
          cases hb : b.commAcc with
          | none => simp only [ha, hb, Bool.false_eq_true] at h
          | some o2 =>
            simp only [ha, hb, beq_iff_eq] at h
            subst h
            obtain ⟨hc, t, d, vals, rfl⟩ := commAcc_some ha
            obtain ⟨_, t', d', vals', rfl⟩ := commAcc_some hb
            exact commutes_acc t d t' d' o1 vals vals' hc m

theorem commutes_foldl {γ : Type} (f : Mem → Mem) (act : γ → Mem → Mem) (l : List γ)
    (h : ∀ c ∈ l, Commutes f (act c)) : Commutes f (fun m => l.foldl (fun m c => act c m) m) := by
  induction l with
  | nil => intro m; rfl
  | cons c cs ih =>
    intro m
    simp only [List.foldl_cons]
    rw [← h c (List.mem_cons_self ..) m]
    exact ih (fun c' hc' => h c' (List.mem_cons_of_mem _ hc')) (act c m)

theorem commutes_block_right (f : Mem → Mem) (w : WSizes) (b : Block)
    (h : ∀ c ∈ b, Commutes f (c.execW w)) : Commutes f (Block.exec w b) :=
  fun m => commutes_foldl f (fun c : Call => c.execW w) b h m

theorem blocksCommute_sound (w : WSizes) (a b : Block) (h : blocksCommute a b = true) :
    Commutes (Block.exec w a) (Block.exec w b) := by
  unfold blocksCommute at h
  rw [List.all_eq_true] at h
  intro m
  symm
  apply commutes_block_right (Block.exec w b) w a _ m
  intro c hc m'
  symm
  apply commutes_block_right (c.execW w) w b _ m'
  intro c' hc'
  have := h c hc
  rw [List.all_eq_true] at this
  exact commuteC_sound w c c' (this c' hc')

theorem runBlocks_append (w : WSizes) (xs ys : List Block) (m : Mem) :
    runBlocks w (xs ++ ys) m = runBlocks w ys (runBlocks w xs m) := by
  simp [runBlocks, List.foldl_append]

theorem merge2_perm {α : Type} (xs ys l : List α) (h : l ∈ merge2 xs ys) : l.Perm (xs ++ ys) := by
  fun_induction merge2 xs ys generalizing l with
  | case1 ys => simp at h; subst h; simp
  | case2 x xs => simp at h; subst h; simp
  | case3 x xs y ys ih1 ih2 =>
    simp only [List.mem_append, List.mem_map] at h
    rcases h with ⟨l', hl', rfl⟩ | ⟨l', hl', rfl⟩
    · exact (ih1 l' hl').cons x
    · exact ((ih2 l' hl').cons y).trans List.perm_middle.symm

theorem merges_perm {α : Type} (ls : List (List α)) (l : List α) (h : l ∈ merges ls) : l.Perm ls.flatten := by
  induction ls generalizing l with
  | nil => simp [merges] at h; subst h; simp
  | cons o os ih =>
    simp only [merges, List.mem_flatMap] at h
    rcases h with ⟨l', hl', hl⟩
    exact (merge2_perm o l' l hl).trans ((ih l' hl').append_left o)

theorem run_merge2 (w : WSizes) (xs ys l : List Block) (h : l ∈ merge2 xs ys)
    (hc : ∀ x ∈ xs, ∀ y ∈ ys, Commutes (Block.exec w x) (Block.exec w y)) (m : Mem) :
    runBlocks w l m = runBlocks w (xs ++ ys) m := by
  fun_induction merge2 xs ys generalizing l m with
  | case1 ys => simp at h; subst h; simp
  | case2 x xs => simp at h; subst h; simp
  | case3 x xs y ys ih1 ih2 =>
    simp only [List.mem_append, List.mem_map] at h
    rcases h with ⟨l', hl', rfl⟩ | ⟨l', hl', rfl⟩
    · exact ih1 l' hl' (fun a ha b hb => hc a (List.mem_cons_of_mem _ ha) b hb) (Block.exec w x m)
    · -- `y` first: run the rest, then move `y` back over the `x :: xs` it commutes with
      rw [show runBlocks w (y :: l') m = runBlocks w l' (Block.exec w y m) from rfl,
        ih2 l' hl' (fun a ha b hb => hc a ha b (List.mem_cons_of_mem _ hb)) _, runBlocks_append, runBlocks_append]
      exact congrArg (runBlocks w ys) (commutes_foldl (Block.exec w y) (Block.exec w) (x :: xs)
        (fun b hb m' => (hc b hb y (List.mem_cons_self ..) m').symm) m).symm

end SgVerif.C34
