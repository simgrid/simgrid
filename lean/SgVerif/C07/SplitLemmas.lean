/-
C07 — the invariant of the split-path history run (C07/Split.lean).  Core only.
-/
import SgVerif.C07.Split
import SgVerif.C07.Lemmas
import SgVerif.Common.List
namespace SgVerif.C07
open SgVerif.Sync

theorem grantUnwaitedB_apply : ∀ (l : List BAcq) (h : Aid → Bool) (x : Aid),
    grantUnwaitedB h l x = (h x || l.any (fun q => decide (q.issuer = x) && !q.waited))
  | [], h, x => by simp [grantUnwaitedB]
  | y :: ys, h, x => by
    simp only [grantUnwaitedB, List.any_cons]
    rw [grantUnwaitedB_apply ys]
    cases hw : y.waited
    · by_cases e : y.issuer = x
      · simp [upd, e]
      · have e' : x ≠ y.issuer := fun h => e h.symm
        simp [upd, e, e']
    · simp

theorem markB_nodup (a : Aid) : ∀ (q : List BAcq), (q.map (·.issuer)).Nodup →
    markB a q = q.map (fun x => if x.issuer = a then { x with waited := true } else x)
  | [], _ => rfl
  | x :: xs, hnd => by
    simp only [List.map_cons, List.nodup_cons] at hnd
    simp only [markB, List.map_cons]
    by_cases hx : x.issuer = a
    · have hno : ∀ y ∈ xs, y.issuer ≠ a := by
        intro y hy e
        exact hnd.1 (by rw [hx, ← e]; exact List.mem_map_of_mem hy)
      have hmap : xs.map (fun x => if x.issuer = a then { x with waited := true } else x) = xs := by
        have : ∀ y ∈ xs, (fun x : BAcq => if x.issuer = a then { x with waited := true } else x) y = id y := by
          intro y hy; simp [hno y hy]
        rw [List.map_congr_left this, List.map_id]
      simp [hx, hmap]
    · simp [hx, markB_nodup a xs hnd.2]

theorem map_mark {β : Type} (a : Aid) (f : BAcq → β) (hf : ∀ x : BAcq, f { x with waited := true } = f x)
    (q : List BAcq) : (q.map (fun x => if x.issuer = a then { x with waited := true } else x)).map f = q.map f := by
  rw [List.map_map]
  refine List.map_congr_left fun x _ => ?_
  simp only [Function.comp]
  split
  · exact hf x
  · rfl

theorem woken_contains_eq (l : List BAcq) (x : Aid) :
    (woken l).contains x = l.any (fun q => decide (q.issuer = x) && q.waited) := by
  apply Bool.eq_iff_iff.mpr
  simp only [woken, List.contains_iff_mem, List.mem_map, List.mem_filter, List.any_eq_true, Bool.and_eq_true,
    decide_eq_true_eq]
  constructor
  · rintro ⟨q, ⟨hq, hw⟩, e⟩; exact ⟨q, hq, e, hw⟩
  · rintro ⟨q, hq, e, hw⟩; exact ⟨q, ⟨hq, hw⟩, e⟩

theorem any_mem {l : List BAcq} {x : Aid} {f : BAcq → Bool}
    (h : l.any (fun q => decide (q.issuer = x) && f q) = true) : ∃ q ∈ l, q.issuer = x ∧ f q = true := by
  obtain ⟨q, hq, hp⟩ := List.any_eq_true.mp h
  simp only [Bool.and_eq_true, decide_eq_true_eq] at hp
  exact ⟨q, hq, hp.1, hp.2⟩

/-- 1 iff x holds a granted acquisition on which it has not executed its BARRIER_WAIT yet, recorded flag v -/
def ind (s : SSt) (x : Aid) (v : Bool) : Nat :=
  if s.phase x = 1 ∧ s.hgrant x = true ∧ s.hlast x = v then 1 else 0

/-- `H` lists the holders of a granted acquisition on which they have not executed their BARRIER_WAIT yet, each with the
`was_last` it will return: the arrivals of the complete groups are, as a multiset, the returns made so far and `H` -/
structure Holders (n : Nat) (s : SSt) (H : List (Aid × Bool)) : Prop where
  perm : (s.arrF.take (n * s.groups)).Perm (s.retF ++ H)
  nd : H.Nodup
  mem : ∀ x v, (x, v) ∈ H ↔ s.phase x = 1 ∧ s.hgrant x = true ∧ s.hlast x = v
  pT : ∀ x, x ∈ s.pendT ↔ (x, true) ∈ H

structure SInv (n : Nat) (s : SSt) : Prop where
  exp : s.b.expected = n
  small : s.b.queue.length < n
  len : s.arrF.length = n * s.groups + s.b.queue.length
  openF : s.arrF.drop (n * s.groups) = s.b.queue.map (fun q => (q.issuer, false))
  nd : (s.b.queue.map (·.issuer)).Nodup
  phq : ∀ q ∈ s.b.queue, (q.waited = true → s.phase q.issuer = 2) ∧
          (q.waited = false → s.phase q.issuer = 1 ∧ s.hgrant q.issuer = false ∧ s.hlast q.issuer = false)
  inq : ∀ a, s.phase a = 2 ∨ s.phase a = 1 ∧ s.hgrant a = false → a ∈ s.b.queue.map (·.issuer)
  hold : ∃ H, Holders n s H
  flags : (s.arrF.map (·.2)).count true = s.groups
  /-- the `true` values: one per complete group, returned or still held by an actor of `pendT` -/
  tcnt : (s.retF.map (·.2)).count true + s.pendT.length = s.groups
  pnd : s.pendT.Nodup

theorem sinv_init (n : Nat) (h : 1 ≤ n) : SInv n (SSt.init n) := by
  refine ⟨rfl, h, rfl, rfl, .nil, nofun, ?_, ⟨[], .nil, .nil, ?_, ?_⟩, rfl, rfl, .nil⟩ <;> simp [SSt.init]

namespace SInv
variable {n : Nat} {s : SSt} {a : Aid}

theorem not_queued (hi : SInv n s) (h : s.phase a = 0 ∨ s.phase a = 1 ∧ s.hgrant a = true) :
    ∀ q ∈ s.b.queue, q.issuer ≠ a := by
  intro q hq e
  subst e
  cases hw : q.waited with
  | true => have := (hi.phq q hq).1 hw; omega
  | false =>
    obtain ⟨hp, hg, -⟩ := (hi.phq q hq).2 hw
    rcases h with h | ⟨-, h⟩
    · omega
    · rw [hg] at h; cases h

theorem any_waited (hi : SInv n s) (x : Aid) :
    s.b.queue.any (fun q => decide (q.issuer = x) && q.waited) = decide (s.phase x = 2) := by
  apply Bool.eq_iff_iff.mpr
  rw [decide_eq_true_eq]
  constructor
  · intro h
    obtain ⟨q, hq, rfl, hw⟩ := any_mem h
    exact (hi.phq q hq).1 hw
  · intro h
    obtain ⟨q, hq, rfl⟩ := List.mem_map.mp (hi.inq x (.inl h))
    refine List.any_eq_true.mpr ⟨q, hq, ?_⟩
    cases hw : q.waited with
    | true => simp
    | false => have := ((hi.phq q hq).2 hw).1; omega

theorem any_unwaited (hi : SInv n s) (x : Aid) :
    s.b.queue.any (fun q => decide (q.issuer = x) && !q.waited) = decide (s.phase x = 1 ∧ s.hgrant x = false) := by
  apply Bool.eq_iff_iff.mpr
  rw [decide_eq_true_eq]
  constructor
  · intro h
    obtain ⟨q, hq, rfl, hw⟩ := any_mem h
    have := (hi.phq q hq).2 (by simpa using hw)
    exact ⟨this.1, this.2.1⟩
  · intro ⟨hp, hg⟩
    obtain ⟨q, hq, rfl⟩ := List.mem_map.mp (hi.inq x (.inr ⟨hp, hg⟩))
    refine List.any_eq_true.mpr ⟨q, hq, ?_⟩
    cases hw : q.waited with
    | true => have := (hi.phq q hq).1 hw; omega
    | false => simp

theorem unwaited_not_last (hi : SInv n s) {x : Aid} (hp : s.phase x = 1) (hg : s.hgrant x = false) :
    s.hlast x = false := by
  obtain ⟨q, hq, rfl⟩ := List.mem_map.mp (hi.inq x (.inr ⟨hp, hg⟩))
  cases hw : q.waited with
  | true => have := (hi.phq q hq).1 hw; omega
  | false => exact ((hi.phq q hq).2 hw).2.2

theorem pT (hi : SInv n s) (x : Aid) : x ∈ s.pendT ↔ (s.phase x = 1 ∧ s.hgrant x = true ∧ s.hlast x = true) :=
  let ⟨_, hH⟩ := hi.hold
  (hH.pT x).trans (hH.mem x true)

/-- the multiset equality in numbers -/
theorem cnt (hi : SInv n s) (x : Aid) (v : Bool) :
    (s.arrF.take (n * s.groups)).count (x, v) = s.retF.count (x, v) + ind s x v := by
  obtain ⟨H, hH⟩ := hi.hold
  rw [hH.perm.count_eq, List.count_append, hH.nd.count]
  simp only [ind, hH.mem x v]

theorem waitGranted (hi : SInv n s) (hph : s.phase a = 1) (hg : s.hgrant a = true) :
    SInv n { s with phase := upd s.phase a 0, retF := s.retF ++ [(a, s.hlast a)], pendT := s.pendT.erase a } := by
  obtain ⟨H, hH⟩ := hi.hold
  have hmemT : a ∈ s.pendT ↔ s.hlast a = true := by
    rw [hi.pT a]; simp [hph, hg]
  have haH : (a, s.hlast a) ∈ H := (hH.mem _ _).mpr ⟨hph, hg, rfl⟩
  -- `a` is a holder once
  have hera : ∀ v, (a, v) ∉ H.erase (a, s.hlast a) := fun v hm => by
    obtain ⟨hne, hm⟩ := hH.nd.mem_erase_iff.mp hm
    exact hne (by rw [((hH.mem a v).mp hm).2.2])
  have hne : ∀ {x : Aid} (v : Bool), x ≠ a → (x, v) ≠ (a, s.hlast a) := fun _ e h => e (congrArg Prod.fst h)
  refine ⟨hi.exp, hi.small, hi.len, hi.openF, hi.nd, ?_, ?_, ⟨H.erase (a, s.hlast a), ?_, ?_, ?_, ?_⟩, hi.flags, ?_,
    hi.pnd.erase a⟩
  all_goals try dsimp only
  · intro q hq
    rw [upd_ne _ _ (hi.not_queued (.inr ⟨hph, hg⟩) q hq)]
    exact hi.phq q hq
  · intro x hx
    have e : x ≠ a := by
      rintro rfl
      rw [upd_same] at hx; omega
    rw [upd_ne _ _ e] at hx
    exact hi.inq x hx
  · rw [List.append_assoc]
    exact hH.perm.trans ((List.perm_cons_erase haH).append_left _)
  · exact hH.nd.erase _
  · intro x v
    by_cases e : x = a
    · subst e
      exact ⟨fun h => absurd h (hera v), fun h => by rw [upd_same] at h; cases h.1⟩
    · rw [List.mem_erase_of_ne (hne v e), hH.mem, upd_ne _ _ e]
  · intro x
    by_cases e : x = a
    · subst e
      exact ⟨fun h => absurd rfl (hi.pnd.mem_erase_iff.mp h).1, fun h => absurd h (hera true)⟩
    · rw [List.mem_erase_of_ne e, List.mem_erase_of_ne (hne true e)]
      exact hH.pT x
  · simp only [List.map_append, List.map_cons, List.map_nil, List.count_append, List.count_singleton]
    have htc := hi.tcnt
    cases hl : s.hlast a with
    | true =>
      have hm : a ∈ s.pendT := hmemT.mpr hl
      have := List.length_pos_of_mem hm
      rw [List.length_erase_of_mem hm]
      simp; omega
    | false =>
      have hm : a ∉ s.pendT := fun h => by rw [hmemT.mp h] at hl; cases hl
      rw [List.erase_of_not_mem hm]
      simpa using htc

theorem waitQueued (hi : SInv n s) (hph : s.phase a = 1) (hg : s.hgrant a = false) :
    SInv n { s with b := { s.b with queue := markB a s.b.queue }, phase := upd s.phase a 2 } := by
  obtain ⟨H, hH⟩ := hi.hold
  have hmem := hi.inq a (.inr ⟨hph, hg⟩)
  simp only [markB_nodup a s.b.queue hi.nd]
  have hmapi := map_mark a (·.issuer) (fun _ => rfl) s.b.queue
  have hmapf := map_mark a (fun q => (q.issuer, false)) (fun _ => rfl) s.b.queue
  refine ⟨hi.exp, by simpa using hi.small, by simpa using hi.len, ?_, ?_, ?_, ?_, ⟨H, hH.perm, hH.nd, ?_, hH.pT⟩,
    hi.flags, hi.tcnt, hi.pnd⟩
  · rw [hmapf]; exact hi.openF
  · rw [hmapi]; exact hi.nd
  · intro q' hq'
    obtain ⟨q, hq, rfl⟩ := List.mem_map.mp hq'
    by_cases e : q.issuer = a
    · simp [e, upd]
    · simpa [e, upd] using hi.phq q hq
  · intro x hx
    rw [hmapi]
    by_cases e : x = a
    · rw [e]; exact hmem
    · exact hi.inq x (by simpa [upd, e] using hx)
  · intro x v
    rw [hH.mem]
    by_cases e : x = a
    · simp [e, hg]
    · simp [upd, e]

theorem asyncQueued (hi : SInv n s) (hph : s.phase a = 0) (hlt : s.b.queue.length + 1 < n) :
    SInv n { s with b := { s.b with queue := s.b.queue ++ [{ issuer := a }] }, hgrant := upd s.hgrant a false,
                    hlast := upd s.hlast a false, phase := upd s.phase a 1, arrF := s.arrF ++ [(a, false)] } := by
  obtain ⟨H, hH⟩ := hi.hold
  have hnq := hi.not_queued (.inl hph)
  have hle : n * s.groups ≤ s.arrF.length := by have := hi.len; omega
  refine ⟨hi.exp, by simp; omega, by have := hi.len; simp; omega, ?_, ?_, ?_, ?_, ⟨H, ?_, hH.nd, ?_, hH.pT⟩, ?_,
    hi.tcnt, hi.pnd⟩
  · rw [List.drop_append_of_le_length hle, hi.openF]; simp
  · simp only [List.map_append, List.map_cons, List.map_nil]
    refine nodup_concat hi.nd fun hx => ?_
    obtain ⟨q, hq, e⟩ := List.mem_map.mp hx
    exact hnq q hq e
  · intro q hq
    simp only [List.mem_append, List.mem_singleton] at hq
    rcases hq with hq | rfl
    · have hne := hnq q hq
      simpa [upd, hne] using hi.phq q hq
    · simp [upd]
  · intro x hx
    by_cases e : x = a
    · simp [e]
    · have := hi.inq x (by simpa [upd, e] using hx)
      simp [this]
  · rw [List.take_append_of_le_length hle]; exact hH.perm
  · intro x v
    rw [hH.mem]
    by_cases e : x = a
    · simp [upd, e, hph]
    · simp [upd, e]
  · simpa [List.count_append] using hi.flags

/-- the arrival that completes a group: the registered waiters return `false`, the others and the caller become
holders; what the queue held is read off the phases (`any_waited`, `any_unwaited`) -/
theorem asyncOpen (hi : SInv n s) (h1 : 1 ≤ n) (hph : s.phase a = 0) (hqlen : s.b.queue.length + 1 = n) :
    SInv n { b := { s.b with queue := [] }, hgrant := upd (grantUnwaitedB s.hgrant s.b.queue) a true,
             hlast := upd s.hlast a true,
             phase := fun x => if x = a then 1 else if (woken s.b.queue).contains x then 0 else s.phase x,
             arrF := s.arrF ++ [(a, true)], retF := s.retF ++ (woken s.b.queue).map (fun x => (x, false)),
             groups := s.groups + 1, pendT := s.pendT ++ [a] } := by
  obtain ⟨H, hH⟩ := hi.hold
  have hl := hi.len
  have hfull : (s.arrF ++ [(a, true)]).length = n * (s.groups + 1) := by
    simp only [List.length_append, List.length_cons, List.length_nil, Nat.mul_succ]
    omega
  -- the unregistered acquisitions of the queue
  have hU : ∀ x v, (x, v) ∈ (s.b.queue.filter (fun q => !q.waited)).map (fun q => (q.issuer, false)) ↔
      v = false ∧ s.phase x = 1 ∧ s.hgrant x = false := by
    intro x v
    rw [← decide_eq_true_iff (p := s.phase x = 1 ∧ s.hgrant x = false), ← hi.any_unwaited x]
    simp only [List.mem_map, List.mem_filter, Prod.mk.injEq, List.any_eq_true, Bool.and_eq_true, decide_eq_true_eq]
    exact ⟨fun ⟨q, hq, e1, e2⟩ => ⟨e2.symm, q, hq.1, e1, hq.2⟩, fun ⟨e2, q, hq, e1, hw⟩ => ⟨q, ⟨hq, hw⟩, e1, e2.symm⟩⟩
  have haH : ∀ v, (a, v) ∉ H := fun v h => by have := ((hH.mem a v).mp h).1; omega
  have haU : ∀ v, (a, v) ∉ (s.b.queue.filter (fun q => !q.waited)).map (fun q => (q.issuer, false)) :=
    fun v h => by have := ((hU a v).mp h).2.1; omega
  refine ⟨hi.exp, ?_, ?_, ?_, by simp, by simp, ?_,
    ⟨H ++ (s.b.queue.filter (fun q => !q.waited)).map (fun q => (q.issuer, false)) ++ [(a, true)], ?_, ?_, ?_, ?_⟩,
    ?_, ?_, ?_⟩
  all_goals try dsimp only
  · exact h1
  · rw [hfull]; rfl
  · exact List.drop_eq_nil_of_le (Nat.le_of_eq hfull)
  · intro x hx
    exfalso
    simp only [woken_contains_eq, grantUnwaitedB_apply, hi.any_waited, hi.any_unwaited, upd, decide_eq_true_eq] at hx
    by_cases e : x = a
    · simp [e] at hx
    · simp only [e, if_false] at hx
      have hp : s.phase x = 1 := by split at hx <;> omega
      simp [hp] at hx
  · -- arrivals of the complete groups = those before, the queue, the caller; the queue = registered ++ unregistered
    have hsplit : s.arrF ++ [(a, true)] =
        s.arrF.take (n * s.groups) ++ (s.b.queue.map (fun q => (q.issuer, false)) ++ [(a, true)]) := by
      rw [← hi.openF, ← List.append_assoc, List.take_append_drop]
    have hw : (woken s.b.queue).map (fun x => (x, false)) =
        (s.b.queue.filter (·.waited)).map (fun q => (q.issuer, false)) := by
      simp [woken, List.map_map, Function.comp_def]
    rw [List.take_of_length_le (by omega), hsplit, hw]
    refine List.perm_iff_count.mpr fun p => ?_
    have h1 := hH.perm.count_eq p
    have h2 := ((List.filter_append_perm (·.waited) s.b.queue).map (fun q => (q.issuer, false))).count_eq p
    simp only [List.count_append, List.map_append] at h1 h2 ⊢
    omega
  · refine List.nodup_append.mpr ⟨List.nodup_append.mpr ⟨hH.nd, ?_, ?_⟩, List.pairwise_singleton _ _, ?_⟩
    · refine List.Pairwise.of_map (S := (· ≠ ·)) Prod.fst (fun _ _ h e => h (congrArg Prod.fst e)) ?_
      rw [List.map_map]
      exact (List.filter_sublist.map _).nodup hi.nd
    · rintro ⟨x, v⟩ hx _ hy rfl
      have := ((hH.mem x v).mp hx).2.1
      rw [((hU x v).mp hy).2.2] at this; cases this
    · rintro p hp _ hy rfl
      rw [List.mem_singleton.mp hy] at hp
      exact (List.mem_append.mp hp).elim (haH true) (haU true)
  · intro x v
    rw [List.mem_append, List.mem_append, List.mem_singleton, hH.mem, hU, Prod.mk.injEq]
    simp only [woken_contains_eq, grantUnwaitedB_apply, hi.any_waited, hi.any_unwaited, upd, decide_eq_true_eq]
    by_cases e : x = a
    · simp [e, hph]
    · simp only [e, false_and, or_false, if_false]
      by_cases hp : s.phase x = 1
      · cases hg : s.hgrant x with
        | false => simp [hp, hi.unwaited_not_last hp hg]
        | true => simp [hp]
      · have : (if s.phase x = 2 then 0 else s.phase x) ≠ 1 := by split <;> omega
        simp [hp, this]
  · intro x
    rw [List.mem_append, List.mem_append, List.mem_append, List.mem_singleton, List.mem_singleton, hH.pT x, hU,
      Prod.mk.injEq]
    simp
  · simp [List.count_append, hi.flags]
  · have : (((woken s.b.queue).map (fun x => (x, false))).map (·.2)).count true = 0 :=
      List.count_eq_zero.mpr (by simp)
    have htc := hi.tcnt
    simp only [List.map_append, List.count_append, this, List.length_append, List.length_singleton]
    omega
  · refine nodup_concat hi.pnd fun hx => ?_
    have := ((hi.pT a).mp hx).1
    omega

end SInv

theorem sinv_step {n : Nat} (h1 : 1 ≤ n) (h2 : n < 4294967296) {s s' : SSt} {e : BEv} (hi : SInv n s)
    (h : sstep s e = .ok s') : SInv n s' := by
  cases e with
  | async a =>
    simp only [sstep] at h
    split at h
    · cases h
    rename_i hph
    have hph : s.phase a = 0 := Decidable.not_not.mp hph
    obtain rfl := Except.ok.inj h
    have ht : s.b.threshold = n - 1 := by rw [threshold_eq s.b (hi.exp ▸ h1) (hi.exp ▸ h2), hi.exp]
    have hs := hi.small
    by_cases hlt : s.b.queue.length < s.b.threshold
    · rw [acquireAsync_queue a hlt]
      have hwl : (s.b.queue ++ [({ issuer := a } : BAcq)]).isEmpty = false := by simp
      simp only [woken, List.filter_nil, List.map_nil, List.contains_nil, Bool.false_eq_true, if_false,
        List.append_nil, grantUnwaitedB, Bar.wasLast, hwl]
      exact hi.asyncQueued hph (by omega)
    · rw [acquireAsync_open a hlt]
      exact hi.asyncOpen h1 hph (by omega)
  | wait a =>
    simp only [sstep] at h
    split at h
    · cases h
    rename_i hph
    have hph : s.phase a = 1 := Decidable.not_not.mp hph
    obtain rfl := Except.ok.inj h
    cases hg : s.hgrant a with
    | true => exact hi.waitGranted hph hg
    | false => exact hi.waitQueued hph hg

theorem sinv_run {n : Nat} (h1 : 1 ≤ n) (h2 : n < 4294967296) (es : List BEv) {s s' : SSt} (hi : SInv n s)
    (h : srun s es = .ok s') : SInv n s' := by
  induction es generalizing s with
  | nil => simp [srun] at h; subst h; exact hi
  | cons e es ih =>
    simp only [srun] at h
    split at h
    · simp at h
    · rename_i s1 he
      exact ih (sinv_step h1 h2 hi he) h

end SgVerif.C07
