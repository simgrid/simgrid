import SgVerif.C07.Model
import SgVerif.Sync.Lemmas
/-
C07 — the invariant `Inv` of the one-simcall history run (C07/Model.lean), proved directly: it states the ORDER of the
returns, which the invariant of the split run (C07/SplitLemmas.lean) has only as a multiset.  Core only.
-/
namespace SgVerif.C07
open SgVerif.Sync

theorem groups_of_bounds {n g L : Nat} (hlo : n * g ≤ L) (hhi : L < n * g + n) : g = L / n := by
  symm
  apply Nat.div_eq_of_lt_le
  · rw [Nat.mul_comm]; exact hlo
  · rw [Nat.succ_mul, Nat.mul_comm]; exact hhi

structure Inv (n : Nat) (s : St) : Prop where
  exp : s.b.expected = n
  small : s.b.queue.length < n
  waited : ∀ q ∈ s.b.queue, q.waited = true
  -- the arrivals are the returned waits, in order, then the open group (the queue)
  split : s.arrivals = s.returned ++ s.b.queue.map (·.issuer)
  -- only complete groups have returned
  full : s.returned.length = n * s.groups
  -- one return value per arrival, one `true` per complete group
  flags : s.lasts.length = s.arrivals.length ∧ s.lasts.count true = s.groups

theorem inv_init (n : Nat) (h : 1 ≤ n) : Inv n (St.init n) := by
  constructor <;> simp [St.init] <;> omega

theorem inv_step {n : Nat} (h1 : 1 ≤ n) (h2 : n < 4294967296) {s s' : St} {a : Aid} (hi : Inv n s)
    (h : step s a = .ok s') : Inv n s' := by
  unfold step at h
  split at h
  · simp at h
  · rename_i hb
    have hb : ∀ x ∈ s.b.queue, x.issuer ≠ a := by
      intro x hx he
      apply hb
      simp only [List.any_eq_true, decide_eq_true_eq]
      exact ⟨x, hx, he⟩
    obtain ⟨he, hs, hw, hsp, hf, hfl⟩ := hi
    have ht : s.b.threshold = n - 1 := by rw [threshold_eq s.b (by omega) (by omega), he]
    simp only [Except.ok.injEq] at h
    by_cases hlt : s.b.queue.length < s.b.threshold
    · rw [acquireAsync_queue a hlt] at h
      simp only [Bar.waitFor, Bool.false_eq_true, if_false, markB_fresh a s.b.queue hb] at h
      subst h
      constructor
      · exact he
      · simp; omega
      · intro q hq; simp at hq; rcases hq with hq | rfl
        · exact hw q hq
        · rfl
      · simp [hsp]
      · simpa using hf
      · simp [Bar.wasLast, hfl.1, hfl.2, List.count_append]
    · rw [acquireAsync_open a hlt] at h
      simp only [Bar.waitFor, if_true] at h
      subst h
      have hall : s.b.queue.filter (·.waited) = s.b.queue := List.filter_eq_self.mpr (fun q hq => hw q hq)
      have hlen : s.b.queue.length + 1 = n := by omega
      constructor
      · exact he
      · simp; omega
      · intro q hq; simp at hq
      · simp [hsp, hall]
      · simp only [hall, List.length_append, List.length_map, List.length_cons, List.length_nil, hf, Nat.mul_succ]
        omega
      · simp [Bar.wasLast, hfl.1, hfl.2, List.count_append]

theorem inv_run {n : Nat} (h1 : 1 ≤ n) (h2 : n < 4294967296) (as : List Aid) {s s' : St} (hi : Inv n s)
    (h : run s as = .ok s') : Inv n s' := by
  induction as generalizing s with
  | nil => simp [run] at h; subst h; exact hi
  | cons a as ih =>
    simp only [run] at h
    split at h
    · simp at h
    · rename_i s1 he
      exact ih (inv_step h1 h2 hi he) h

end SgVerif.C07
