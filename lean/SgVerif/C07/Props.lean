/-
C07 — Barrier semantics: complete groups of n in arrival order, no early return, exactly one "last" per group.

Model: SgVerif/Sync/Model.lean (`Bar.acquireAsync / waitFor / wasLast` = BarrierImpl.cpp; `expected_actors_ - 1` in
unsigned arithmetic) and the ghost-instrumented history run of C07/Model.lean (Barrier::wait on the one-simcall path).
All theorems: for every n with 1 ≤ n < 2^32 and EVERY history (any length, any actors, repeated use of the barrier).
n = 0 is outside the quantifier (expected_actors_ - 1 wraps to 2^32-1: nobody is ever released).
Split path of the model checker (BARRIER_ASYNC_LOCK + BARRIER_WAIT): the value returned there is the `was_last()` read in
the BARRIER_ASYNC_LOCK simcall; `split_path_same_answer` shows that it is the value of the one-simcall path, so
`exactly_one_last_per_group` speaks about both paths.  The `split_*` theorems take the two simcalls as separate events, in
any interleaving (run of C07/Split.lean).
-/
import SgVerif.C07.Lemmas
import SgVerif.C07.SplitLemmas
namespace SgVerif.C07
open SgVerif.Sync

/-- Waiters are released only in complete groups of n, in arrival order: at every point of every history the
actors whose wait has returned are exactly the first n·g arrivals, in arrival order, where g is the number of complete
groups (n·g ≤ #arrivals < n·g + n, i.e. g = ⌊#arrivals / n⌋). -/
theorem barrier_groups (n : Nat) (h1 : 1 ≤ n) (h2 : n < 4294967296) (as : List Aid) (s : St)
    (h : run (St.init n) as = .ok s) :
    s.returned = s.arrivals.take (n * s.groups) ∧ n * s.groups ≤ s.arrivals.length ∧
      s.arrivals.length < n * s.groups + n := by
  have hi := inv_run h1 h2 as (inv_init n h1) h
  have hlen : s.arrivals.length = n * s.groups + s.b.queue.length := by
    rw [hi.split, List.length_append, hi.full, List.length_map]
  refine ⟨?_, by omega, ?_⟩
  · rw [hi.split, ← hi.full, List.take_left']
    rfl
  · have := hi.small; omega

theorem groups_eq_div (n : Nat) (h1 : 1 ≤ n) (h2 : n < 4294967296) (as : List Aid) (s : St)
    (h : run (St.init n) as = .ok s) : s.groups = s.arrivals.length / n := by
  obtain ⟨-, hlo, hhi⟩ := barrier_groups n h1 h2 as s h
  exact groups_of_bounds hlo hhi

/-- No wait returns before n actors (including itself) have arrived in its group: the number of returned waits is
always n·⌊arrivals / n⌋ — never a partial group — and everybody still inside is registered (will be answered). -/
theorem no_early_return (n : Nat) (h1 : 1 ≤ n) (h2 : n < 4294967296) (as : List Aid) (s : St)
    (h : run (St.init n) as = .ok s) :
    s.returned.length = n * (s.arrivals.length / n) ∧ (∀ q ∈ s.b.queue, q.waited = true) ∧
      s.b.queue.length = s.arrivals.length % n := by
  have hi := inv_run h1 h2 as (inv_init n h1) h
  have hg := groups_eq_div n h1 h2 as s h
  have hlen : s.arrivals.length = n * s.groups + s.b.queue.length := by
    rw [hi.split, List.length_append, hi.full, List.length_map]
  refine ⟨by rw [hi.full, hg], hi.waited, ?_⟩
  have := Nat.div_add_mod s.arrivals.length n
  rw [← hg] at this
  omega

/-- Exactly one "last" (return value true) per complete group: among the return values handed to the arrivals so
far, the number of `true` equals the number of complete groups, and there is one value per arrival. -/
theorem exactly_one_last_per_group (n : Nat) (h1 : 1 ≤ n) (h2 : n < 4294967296) (as : List Aid) (s : St)
    (h : run (St.init n) as = .ok s) :
    s.lasts.length = s.arrivals.length ∧ s.lasts.count true = s.arrivals.length / n := by
  have hi := inv_run h1 h2 as (inv_init n h1) h
  exact ⟨hi.flags.1, by rw [hi.flags.2, groups_eq_div n h1 h2 as s h]⟩

theorem waitFor_completes_iff_granted (b : Bar) (a : Aid) (g : Bool) : (b.waitFor a g).2 = g := by
  unfold Bar.waitFor; cases g <;> simp

/-- acquire_async releases the whole queue or nothing (no partial group), for every state -/
theorem acquireAsync_all_or_nothing (b : Bar) (a : Aid) :
    ((b.acquireAsync a).2.2 = [] ∧ (b.acquireAsync a).1.queue = b.queue ++ [{ issuer := a }]) ∨
    ((b.acquireAsync a).2.2 = b.queue ∧ (b.acquireAsync a).1.queue = []) := by
  by_cases hc : b.queue.length < b.threshold
  · exact .inl (by rw [acquireAsync_queue a hc]; exact ⟨rfl, rfl⟩)
  · exact .inr (by rw [acquireAsync_open a hc]; exact ⟨rfl, rfl⟩)

example : ((run (St.init 2) [0, 1, 2, 3, 4]).toOption.map
    (fun s => (s.returned, s.groups, s.lasts, s.b.queue.map (·.issuer)))) =
    some ([0, 1, 2, 3], 2, [false, true, false, true, false], [4]) := by decide

example : ((run (St.init 1) [7, 7]).toOption.map (fun s => (s.returned, s.lasts))) = some ([7, 7], [true, true]) := by
  decide

/-- a blocked actor cannot arrive again -/
example : (run (St.init 3) [0, 0]).toOption.isNone = true := by decide

/-! ### the split path used under the model checker (BARRIER_ASYNC_LOCK + BARRIER_WAIT)

Defect `barrier-last-flag-mc` (repaired): s4u_Barrier.cpp set the result (`observer.set_result(was_last())`) only on the
one-simcall path and returned the never-set result of the BARRIER_WAIT observer (default `false`) on the split path, so
under simgrid-mc Barrier::wait() never returned true.  Now `was_last()` is read in the BARRIER_ASYNC_LOCK simcall and
returned after the BARRIER_WAIT. -/

theorem waitFor_preserves_wasLast (b : Bar) (a : Aid) (g : Bool) : (b.waitFor a g).1.wasLast = b.wasLast := by
  unfold Bar.waitFor Bar.wasLast
  cases g
  · simp only [Bool.false_eq_true, if_false]
    cases hq : b.queue with
    | nil => simp [markB]
    | cons x xs => simp only [markB]; split <;> simp
  · simp

/-- an acquisition that is queued (not granted) is never the last of its group: the `was_last` local of a waiter that
is released later by somebody else's BARRIER_ASYNC_LOCK is `false` (what `World.step (.barAsync ..)` answers for it) -/
theorem acquireAsync_queued_not_last (b : Bar) (a : Aid) (h : (b.acquireAsync a).2.1 = false) :
    (b.acquireAsync a).1.wasLast = false := by
  by_cases hc : b.queue.length < b.threshold
  · rw [acquireAsync_queue a hc]; simp [Bar.wasLast]
  · rw [acquireAsync_open a hc] at h; cases h

/-- an acquisition that is granted at once completed its group: `was_last` is true -/
theorem acquireAsync_granted_is_last (b : Bar) (a : Aid) (h : (b.acquireAsync a).2.1 = true) :
    (b.acquireAsync a).1.wasLast = true := by
  by_cases hc : b.queue.length < b.threshold
  · rw [acquireAsync_queue a hc] at h; cases h
  · rw [acquireAsync_open a hc]; rfl

theorem step_barAsync (w : World) (a : Aid) (b : Nat) : w.step (.barAsync a b) = .ok (barAsyncStep w a b) := rfl
theorem step_barWaitMC (w : World) (a : Aid) (b : Nat) : w.step (.barWaitMC a b) = .ok (barWaitMCStep w a b) := rfl

/-- the two steps of the split path, for an arbitrary result `r` of acquire_async -/
theorem split_path_R (w : World) (a : Aid) (b : Nat) (r : Bar × Bool × List BAcq) :
    (barAsyncStepR w a b r).2 = (r.2.2.filter (·.waited)).map (fun q => (q.issuer, Res.flag false)) ++ [(a, .unit)] ∧
    (barWaitMCStep (barAsyncStepR w a b r).1 a b).2 =
      (if (r.1.waitFor a r.2.1).2 then [(a, Res.flag (r.1.waitFor a r.2.1).1.wasLast)] else []) ∧
    (barWaitMCStep (barAsyncStepR w a b r).1 a b).1.bars b = (r.1.waitFor a r.2.1).1 := by
  obtain ⟨b1, g, rel⟩ := r
  refine ⟨rfl, ?_, ?_⟩
  · simp only [barWaitMCStep, barAsyncStepR, upd, if_true, waitFor_completes_iff_granted, waitFor_preserves_wasLast]
  · simp only [barWaitMCStep, barAsyncStepR, upd, if_true]

/-- **The split path hands out the value of the one-simcall path**: in every world, for every actor and barrier, the
BARRIER_ASYNC_LOCK releases the waiters of the completed group (`false` for each) and the BARRIER_WAIT that follows
answers the caller iff the acquisition was granted at once, with the Boolean `was_last()` evaluated after
`acquire_async` + `wait_for` — the very expression that `World.step (.barWait ..)` answers and that the history run
`C07.step` records in `lasts` (so `exactly_one_last_per_group` counts the values returned on both paths); the barrier is
left in the same state as by the one-simcall path. -/
theorem split_path_same_answer (w : World) (a : Aid) (b : Nat) :
    (barAsyncStep w a b).2 =
      (((w.bars b).acquireAsync a).2.2.filter (·.waited)).map (fun q => (q.issuer, Res.flag false)) ++ [(a, .unit)] ∧
    (barWaitMCStep (barAsyncStep w a b).1 a b).2 =
      (if (((w.bars b).acquireAsync a).1.waitFor a ((w.bars b).acquireAsync a).2.1).2
       then [(a, Res.flag (((w.bars b).acquireAsync a).1.waitFor a ((w.bars b).acquireAsync a).2.1).1.wasLast)] else []) ∧
    (barWaitMCStep (barAsyncStep w a b).1 a b).1.bars b =
      (((w.bars b).acquireAsync a).1.waitFor a ((w.bars b).acquireAsync a).2.1).1 :=
  split_path_R w a b ((w.bars b).acquireAsync a)

def w0 : World :=
  { mutexes := fun _ => { recursive := false }, sems := fun _ => { value := 0 }, conds := fun _ => {},
    bars := fun _ => { expected := 1 }, hgrant := fun _ => false }

/-- **Regression (repaired defect `barrier-last-flag-mc`).**  A lone actor on a barrier of 1: the one-simcall path answers
`true`; the split path answered `false` before the repair (literal below) and answers `true` now. -/
theorem mc_last_flag_counterexample :
    ((w0.step (.barWait 0 0)).toOption.map (·.2) = some [(0, .flag true)]) ∧
    ((w0.run [.barAsync 0 0, .barWaitMC 0 0]).toOption.map (·.2) ≠ some [(0, .unit), (0, .flag false)]) ∧   -- the old answer
    ((w0.run [.barAsync 0 0, .barWaitMC 0 0]).toOption.map (·.2) = some [(0, .unit), (0, .flag true)]) := by
  decide

/-- non-vacuity of the split path over a round of 2 with a deferred release: actor 0 locks and waits (blocked), actor 1
locks (releases 0 with `false`) and waits (gets `true`) -/
example : ((({ w0 with bars := fun _ => { expected := 2 } } : World).run
      [.barAsync 0 0, .barWaitMC 0 0, .barAsync 1 0, .barWaitMC 1 0]).toOption.map (·.2)) =
    some [(0, .unit), (0, .flag false), (1, .unit), (1, .flag true)] := by decide

/-! Whole histories of the split path (`srun`, C07/Split.lean): a BARRIER_WAIT may be executed granted (what the checker
does) or not granted (then it registers and is answered by the BARRIER_ASYNC_LOCK completing the group). -/

/-- `World.step` on the split events reads and writes exactly what the split run reads and writes, with the same
answers (the released registered waiters get `false`, the caller of BARRIER_ASYNC_LOCK gets its acquisition; a
BARRIER_WAIT returns its `was_last` local iff granted) -/
theorem split_step_is_world_step (w : World) (a : Aid) (b : Nat) :
    ((barAsyncStep w a b).1.bars b = ((w.bars b).acquireAsync a).1 ∧
     (barAsyncStep w a b).1.hgrant = upd (grantUnwaitedB w.hgrant ((w.bars b).acquireAsync a).2.2) a
        ((w.bars b).acquireAsync a).2.1 ∧
     (barAsyncStep w a b).1.hlast = upd w.hlast a ((w.bars b).acquireAsync a).1.wasLast ∧
     (barAsyncStep w a b).2 =
        (woken ((w.bars b).acquireAsync a).2.2).map (fun x => (x, Res.flag false)) ++ [(a, .unit)]) ∧
    ((barWaitMCStep w a b).1.bars b = ((w.bars b).waitFor a (w.hgrant a)).1 ∧
     (barWaitMCStep w a b).1.hgrant = w.hgrant ∧ (barWaitMCStep w a b).1.hlast = w.hlast ∧
     (barWaitMCStep w a b).2 = if ((w.bars b).waitFor a (w.hgrant a)).2 then [(a, .flag (w.hlast a))] else []) := by
  refine ⟨⟨?_, rfl, rfl, ?_⟩, ⟨?_, rfl, rfl, rfl⟩⟩
  · simp [barAsyncStep, barAsyncStepR, upd]
  · simp [barAsyncStep, barAsyncStepR, woken, List.map_map, Function.comp_def]
  · simp [barWaitMCStep, upd]

/-- split path, groups: at every point of every history #arrivals = n·g + |queue| with |queue| < n; the open group IS the
queue, in arrival order, each of its arrivals having read `was_last() = false`; and for every (actor, value): the number
of such (arrival, recorded flag) pairs among the first n·g arrivals = the number of such (actor, returned value) pairs
among the returns + 1 if that actor holds a granted acquisition on which it has not executed its BARRIER_WAIT yet. -/
theorem split_barrier_groups (n : Nat) (h1 : 1 ≤ n) (h2 : n < 4294967296) (es : List BEv) (s : SSt)
    (h : srun (SSt.init n) es = .ok s) :
    s.arrF.length = n * s.groups + s.b.queue.length ∧ s.b.queue.length < n ∧
    s.arrF.drop (n * s.groups) = s.b.queue.map (fun q => (q.issuer, false)) ∧
    ∀ x v, (s.arrF.take (n * s.groups)).count (x, v) = s.retF.count (x, v) + ind s x v :=
  let hi := sinv_run h1 h2 es (sinv_init n h1) h
  ⟨hi.len, hi.small, hi.openF, hi.cnt⟩

theorem split_groups_eq_div (n : Nat) (h1 : 1 ≤ n) (h2 : n < 4294967296) (es : List BEv) (s : SSt)
    (h : srun (SSt.init n) es = .ok s) : s.groups = s.arrF.length / n := by
  obtain ⟨hl, hs, -, -⟩ := split_barrier_groups n h1 h2 es s h
  exact groups_of_bounds (by omega) (by omega)

/-- split path, no early return: every return (actor, value) is matched — with multiplicity — by an arrival of that
actor in a COMPLETE group (one of the first n·⌊arrivals/n⌋) whose BARRIER_ASYNC_LOCK read that very value: no
BARRIER_WAIT returns before n actors (including its issuer) have arrived in its group, and it returns the `was_last()`
read at its arrival, whatever the interleaving. -/
theorem split_no_early_return (n : Nat) (h1 : 1 ≤ n) (h2 : n < 4294967296) (es : List BEv) (s : SSt)
    (h : srun (SSt.init n) es = .ok s) (p : Aid × Bool) :
    s.retF.count p ≤ (s.arrF.take (n * (s.arrF.length / n))).count p := by
  obtain ⟨x, v⟩ := p
  rw [← split_groups_eq_div n h1 h2 es s h]
  have := (split_barrier_groups n h1 h2 es s h).2.2.2 x v
  omega

/-- split path: when nobody holds a granted acquisition it has not waited on, the returns are exactly (as a multiset)
the arrivals of the complete groups with their recorded flags — everybody of a complete group has returned -/
theorem split_all_returned_when_quiescent (n : Nat) (h1 : 1 ≤ n) (h2 : n < 4294967296) (es : List BEv) (s : SSt)
    (h : srun (SSt.init n) es = .ok s) (hq : ∀ x, ¬ (s.phase x = 1 ∧ s.hgrant x = true)) (p : Aid × Bool) :
    s.retF.count p = (s.arrF.take (n * (s.arrF.length / n))).count p := by
  obtain ⟨x, v⟩ := p
  rw [← split_groups_eq_div n h1 h2 es s h]
  have := (split_barrier_groups n h1 h2 es s h).2.2.2 x v
  have hz : ind s x v = 0 := by
    simp only [ind]
    split
    · rename_i hc; exact absurd ⟨hc.1, hc.2.1⟩ (hq x)
    · rfl
  omega

/-- split path, exactly one "last" per complete group: among the `was_last()` values read by the arrivals (which are the
values their waits return, `split_no_early_return`) the number of `true` is ⌊arrivals / n⌋ -/
theorem split_exactly_one_last_per_group (n : Nat) (h1 : 1 ≤ n) (h2 : n < 4294967296) (es : List BEv) (s : SSt)
    (h : srun (SSt.init n) es = .ok s) : (s.arrF.map (·.2)).count true = s.arrF.length / n := by
  rw [← split_groups_eq_div n h1 h2 es s h]
  exact (sinv_run h1 h2 es (sinv_init n h1) h).flags

/-- split path, exactly one `true` per complete group among the RETURNED values: the number of waits that returned
`true` + the number of actors whose BARRIER_ASYNC_LOCK completed a group and that have not executed their BARRIER_WAIT
yet (`pendT`: exactly the actors holding a granted, un-waited acquisition whose recorded flag is `true`, each once)
= ⌊arrivals / n⌋; so never more `true` returns than complete groups, and exactly as many once those actors have waited -/
theorem split_one_true_return_per_group (n : Nat) (h1 : 1 ≤ n) (h2 : n < 4294967296) (es : List BEv) (s : SSt)
    (h : srun (SSt.init n) es = .ok s) :
    (s.retF.map (·.2)).count true + s.pendT.length = s.arrF.length / n ∧
    (∀ x, x ∈ s.pendT ↔ (s.phase x = 1 ∧ s.hgrant x = true ∧ s.hlast x = true)) ∧ s.pendT.Nodup := by
  have ht := sinv_run h1 h2 es (sinv_init n h1) h
  rw [← split_groups_eq_div n h1 h2 es s h]
  exact ⟨ht.tcnt, ht.pT, ht.pnd⟩

/-- split path: BARRIER_WAIT of an actor holding an un-waited acquisition completes at once iff that acquisition is
granted, iff it is not in the queue (the enabledness test of the checker) -/
theorem split_wait_enabled_iff_granted (n : Nat) (h1 : 1 ≤ n) (h2 : n < 4294967296) (es : List BEv) (s : SSt)
    (h : srun (SSt.init n) es = .ok s) (a : Aid) (hp : s.phase a = 1) :
    (s.b.waitFor a (s.hgrant a)).2 = true ↔ a ∉ s.b.queue.map (·.issuer) := by
  have hi := sinv_run h1 h2 es (sinv_init n h1) h
  rw [waitFor_completes_iff_granted]
  constructor
  · intro hg hm
    obtain ⟨q, hq, e⟩ := List.mem_map.mp hm
    exact hi.not_queued (.inr ⟨hp, hg⟩) q hq e
  · intro hn
    cases hg : s.hgrant a with
    | true => rfl
    | false => exact absurd (hi.inq a (.inr ⟨hp, hg⟩)) hn

/-- non-vacuity, split path, n = 2: 0 and 1 arrive; 1 waits first (granted: returns true), 0 waits (returns false); then
2 arrives and waits (blocks, registered), 0 arrives (completes the group: 2 is answered false) and waits (true) -/
example : ((srun (SSt.init 2) [.async 0, .async 1, .wait 1, .wait 0, .async 2, .wait 2, .async 0, .wait 0]).toOption.map
      (fun s => (s.retF, s.groups, s.arrF, s.b.queue.map (·.issuer)))) =
    some ([(1, true), (0, false), (2, false), (0, true)], 2, [(0, false), (1, true), (2, false), (0, true)], []) := by
  decide

/-- … a state in the middle: the group of 0 and 1 is complete, nobody has waited yet: both hold a granted acquisition,
nothing returned; 2 is in the open group -/
example : ((srun (SSt.init 2) [.async 0, .async 1, .async 2]).toOption.map
      (fun s => (s.retF, s.groups, [s.hgrant 0, s.hgrant 1, s.hgrant 2], s.b.queue.map (·.issuer) ++ s.pendT))) =
    some ([], 1, [true, true, false], [2, 1]) := by decide

/-- an actor inside the barrier cannot arrive again; a BARRIER_WAIT needs an acquisition -/
example : (srun (SSt.init 3) [.async 0, .async 0]).toOption.isNone = true ∧
    (srun (SSt.init 3) [.wait 0]).toOption.isNone = true := by decide

end SgVerif.C07
