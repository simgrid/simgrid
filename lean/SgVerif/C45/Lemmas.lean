import SgVerif.C45.Model
namespace SgVerif.C45

/-- `x` is a value of a 32-bit `int` -/
def isI32 (x : Int) : Prop := -2147483648 ≤ x ∧ x ≤ 2147483647

/-- number of raw values `v < n` with `v % r = k` -/
def countResidue (r k : Nat) : Nat → Nat
  | 0 => 0
  | n+1 => countResidue r k n + (if n % r = k then 1 else 0)

theorem toI32_toU64 (x : Int) (h : isI32 x) : toI32 (toU64 x) = x := by
  unfold toI32 toU64 isI32 at *
  split <;> omega

/-- the difference of the two residues mod 2^32 is the residue of the difference, which is the difference itself -/
theorem rangeOf_eq (min max : Int) (hmin : isI32 min) (hmax : isI32 max) (h : min ≤ max) :
    (rangeOf min max : Int) = max - min := by
  have e : ∀ x : Int, ((x % 4294967296).toNat : Int) = x % 4294967296 :=
    fun x => Int.toNat_of_nonneg (Int.emod_nonneg _ (by decide))
  unfold rangeOf toU32
  rw [e, e, e, ← Int.sub_emod, Int.emod_eq_of_lt (by omega) (by unfold isI32 at *; omega)]

/-- the rejection branch without the casts: the first draw below the bound, reduced modulo the range, added to `min` -/
theorem uniformInt_reject (min max : Int) (hmin : isI32 min) (hmax : isI32 max) (h : min ≤ max)
    (hne : rangeOf min max ≠ mtMax) (draws : List Nat) :
    uniformInt min max draws =
      match rejectLoop (mtMax - mtMax % (rangeOf min max + 1)) draws with
      | none => .exhausted
      | some (v, rest) => .value (min + (v % (rangeOf min max + 1) : Nat)) rest := by
  have hrg := rangeOf_eq min max hmin hmax h
  unfold uniformInt
  simp only [h, not_true_eq_false, if_false, hne]
  cases rejectLoop (mtMax - mtMax % (rangeOf min max + 1)) draws with
  | none => rfl
  | some p =>
    -- the offset is at most `max - min`, so the sum is a 32-bit `int` and survives both conversions
    have hlt := Nat.mod_lt p.1 (show 0 < rangeOf min max + 1 by omega)
    simp only
    rw [toI32_toU64 _ (by unfold isI32 at *; omega), Int.add_comm]

/-- the full-range branch without the casts -/
theorem uniformInt_full (min max : Int) (hmin : isI32 min) (hmax : isI32 max) (h : min ≤ max)
    (he : rangeOf min max = mtMax) (v : Nat) (hv : v ≤ mtMax) (rest : List Nat) :
    uniformInt min max (v :: rest) = .value (min + v) rest := by
  have hrg := rangeOf_eq min max hmin hmax h
  unfold uniformInt
  simp only [h, not_true_eq_false, if_false, he, if_true]
  rw [toI32_toU64 _ (by unfold isI32 at *; omega), Int.add_comm]

theorem sub_mod_eq (n r : Nat) : n - n % r = r * (n / r) :=
  Nat.sub_eq_of_eq_add' (Nat.mod_add_div n r).symm

theorem countResidue_block (r k : Nat) (hk : k < r) (q : Nat) : countResidue r k (r * q) = q := by
  induction q with
  | zero => simp [countResidue]
  | succ q ih =>
    have key : ∀ j, j ≤ r → countResidue r k (r * q + j) = q + (if k < j then 1 else 0) := by
      intro j
      induction j with
      | zero => intro _; simpa using ih
      | succ j ihj =>
        intro hj
        have := ihj (by omega)
        have hm : (r * q + j) % r = j := by
          rw [Nat.mul_add_mod]; exact Nat.mod_eq_of_lt (by omega)
        show countResidue r k (r * q + j) + (if (r * q + j) % r = k then 1 else 0) = _
        rw [this, hm]
        rcases Nat.lt_trichotomy k j with h | h | h
        · rw [if_pos h, if_neg (by omega), if_pos (by omega)]
        · rw [if_neg (by omega), if_pos h.symm, if_pos (by omega)]
        · rw [if_neg (by omega), if_neg (by omega), if_neg (by omega)]
    have := key r (Nat.le_refl r)
    rw [Nat.mul_succ, this]; simp [hk]

theorem rejectLoop_lt (limit : Nat) (ds : List Nat) (v : Nat) (rest : List Nat)
    (h : rejectLoop limit ds = some (v, rest)) : v < limit := by
  induction ds with
  | nil => simp [rejectLoop] at h
  | cons d ds ih =>
    unfold rejectLoop at h
    split at h
    · exact ih h
    · simp at h; omega

theorem realLoop_lt (ds : List Nat) (hd : ∀ d ∈ ds, d ≤ mtMax) (n : Nat) (rest : List Nat)
    (h : realLoop ds = some (n, rest)) : n < mtMax := by
  induction ds with
  | nil => simp [realLoop] at h
  | cons d ds ih =>
    unfold realLoop at h
    split at h
    · exact ih (fun x hx => hd x (by simp [hx])) h
    · rename_i hne
      simp at h
      have := hd d (by simp)
      omega

end SgVerif.C45
