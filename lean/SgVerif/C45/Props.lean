import SgVerif.C45.Lemmas
/-
C45 — Random draws are in range, unbiased and portable.  Property theorems.
All theorems are for every 32-bit `min ≤ max`, every range, every generator output stream: no enumeration.
-/
namespace SgVerif.C45

/-- the `xbt_assert(range <= max())` of the code can never fire -/
theorem rangeOf_le (min max : Int) : rangeOf min max ≤ mtMax := by
  unfold rangeOf toU32 mtMax
  omega

/-- the rejection bound is a positive multiple of the range: this is what makes the draw unbiased -/
theorem limit_multiple (range : Nat) (h1 : 1 ≤ range) (h2 : range ≤ mtMax) :
    (mtMax - mtMax % range) % range = 0 ∧ range ≤ mtMax - mtMax % range := by
  rw [sub_mod_eq]
  exact ⟨Nat.mul_mod_right _ _, Nat.le_mul_of_pos_right _ ((Nat.one_le_div_iff h1).mpr h2)⟩

/-- **Unbiased**: among the accepted raw values (`v < limit`) every residue `k < range` occurs exactly
`limit / range` times — for every range the code can compute (`1 ≤ range ≤ 2^32-1`). -/
theorem rejection_unbiased (range : Nat) (h1 : 1 ≤ range) (h2 : range ≤ mtMax) (k : Nat) (hk : k < range) :
    countResidue range k (mtMax - mtMax % range) = (mtMax - mtMax % range) / range := by
  rw [sub_mod_eq, countResidue_block range k hk, Nat.mul_div_cancel_left _ h1]

/-- the loop returns the *first* raw value below the limit: no accepted value is skipped or reordered -/
theorem rejectLoop_first (limit : Nat) (pre : List Nat) (v : Nat) (rest : List Nat)
    (hpre : ∀ x ∈ pre, limit ≤ x) (hv : v < limit) :
    rejectLoop limit (pre ++ v :: rest) = some (v, rest) := by
  induction pre with
  | nil => simp [rejectLoop]; omega
  | cons p pre ih =>
    have hp : limit ≤ p := hpre p (by simp)
    simp only [List.cons_append, rejectLoop, ge_iff_le, hp, if_true]
    exact ih (fun x hx => hpre x (by simp [hx]))

/-- **In range**: whatever the generator produces (every `v < 2^32`). -/
theorem uniformInt_in_range (min max : Int) (hmin : isI32 min) (hmax : isI32 max) (h : min ≤ max)
    (draws : List Nat) (hd : ∀ d ∈ draws, d ≤ mtMax) (r : Int) (rest : List Nat)
    (hr : uniformInt min max draws = .value r rest) : min ≤ r ∧ r ≤ max := by
  have hrg := rangeOf_eq min max hmin hmax h
  by_cases he : rangeOf min max = mtMax
  · cases draws with
    | nil => simp [uniformInt, h, he] at hr
    | cons v rest' =>
      have hv : v ≤ mtMax := hd v List.mem_cons_self
      rw [uniformInt_full min max hmin hmax h he v hv] at hr
      injection hr with hr _
      omega
  · rw [uniformInt_reject min max hmin hmax h he] at hr
    split at hr
    · cases hr
    · rename_i v rest' _
      injection hr with hr _
      have hlt := Nat.mod_lt v (show 0 < rangeOf min max + 1 by omega)
      omega

/-- **exactly `min + v % range`**, for the first raw value `v` below the rejection bound -/
theorem uniformInt_value (min max : Int) (hmin : isI32 min) (hmax : isI32 max) (h : min ≤ max)
    (hne : rangeOf min max ≠ mtMax) (pre : List Nat) (v : Nat) (rest : List Nat)
    (hpre : ∀ x ∈ pre, mtMax - mtMax % (rangeOf min max + 1) ≤ x)
    (hv : v < mtMax - mtMax % (rangeOf min max + 1)) :
    uniformInt min max (pre ++ v :: rest) = .value (min + (v % (rangeOf min max + 1) : Nat)) rest := by
  rw [uniformInt_reject min max hmin hmax h hne, rejectLoop_first _ pre v rest hpre hv]

/-- the full-range case (`min = INT_MIN`, `max = INT_MAX`): a bijection of the raw 32-bit value -/
theorem full_range_case (v : Nat) (hv : v ≤ mtMax) (rest : List Nat) :
    uniformInt (-2147483648) 2147483647 (v :: rest) = .value ((v : Int) - 2147483648) rest := by
  rw [uniformInt_full _ _ (by unfold isI32; omega) (by unfold isI32; omega) (by decide) (by decide) v hv]
  congr 1

theorem uniformInt_rejects_bad_order (min max : Int) (h : max < min) (draws : List Nat) :
    uniformInt min max draws = .assertMinMax := by
  unfold uniformInt
  have : ¬ min ≤ max := by omega
  simp [this]

/-- `uniform_real` in exact arithmetic lies in `[min, max)` (so in `[min, max]` as the property states) -/
theorem uniformReal_in_range (min max : Rat) (h : min < max) (draws : List Nat) (hd : ∀ d ∈ draws, d ≤ mtMax)
    (x : Rat) (rest : List Nat) (hx : uniformReal min max draws = some (x, rest)) : min ≤ x ∧ x < max := by
  unfold uniformReal at hx
  split at hx
  · cases hx
  · rename_i n rest' hl
    have hn := realLoop_lt draws hd n rest' hl
    simp only [Option.some.injEq, Prod.mk.injEq] at hx
    obtain ⟨hx, _⟩ := hx
    subst hx
    have hpos : (0 : Rat) < (mtMax : Rat) := by unfold mtMax; decide
    have hn' : (n : Rat) < (mtMax : Rat) := by exact_mod_cast hn
    have hn0 : (0 : Rat) ≤ (n : Rat) := by exact_mod_cast Nat.zero_le n
    have hd0 : 0 < max - min := by grind
    have e : (max - min) * (n : Rat) / (mtMax : Rat) = (max - min) * ((n : Rat) / (mtMax : Rat)) := by
      rw [Rat.div_def, Rat.div_def, Rat.mul_assoc]
    rw [e]
    have f0 : 0 ≤ (n : Rat) / (mtMax : Rat) := by
      rw [Rat.div_def]; exact Rat.mul_nonneg hn0 (Rat.le_of_lt (Rat.inv_pos.mpr hpos))
    have f1 : (n : Rat) / (mtMax : Rat) < 1 := by
      rw [Rat.div_lt_iff hpos]; simpa using hn'
    constructor
    · have : 0 ≤ (max - min) * ((n : Rat) / (mtMax : Rat)) := Rat.mul_nonneg (Rat.le_of_lt hd0) f0
      grind
    · have : (max - min) * ((n : Rat) / (mtMax : Rat)) < (max - min) * 1 :=
        Rat.mul_lt_mul_of_pos_left f1 hd0
      grind

example : uniformInt 3 7 [4294967295, 13, 5] = .value 6 [5] := by decide
example : uniformInt (-2147483648) 2147483647 [0] = .value (-2147483648) [] := by decide
example : isI32 (-5) ∧ isI32 12 ∧ (-5 : Int) ≤ 12 := by unfold isI32; omega
example : countResidue 5 3 (mtMax - mtMax % 5) = (mtMax - mtMax % 5) / 5 :=
  rejection_unbiased 5 (by decide) (by decide) 3 (by decide)

end SgVerif.C45
