import SgVerif.C08.Lemmas
/-
C08 — Mailbox communications are exactly-once, FIFO among accepted, and intact.  Property theorems.

Every theorem is for ALL histories `h : List Ev` of kernel calls (isend / irecv / set_receiver / cancel / finish / clear /
iprobe; any actors, payloads, sizes, match functions of the grammar, any length) on one mailbox; `run h` is the state of
the `MailboxImpl` model after them; a comm object is named by the index of the call that created it, so a smaller id means
"arrived earlier".  "Pending sends" = the sends in comm_queue_ or done_comm_queue_ (not yet given to a receiver).
-/
namespace SgVerif.C08

/-- **FIFO for a send meeting queued receives** (full strength, holds on the code as it is): if some queued receive
and the new send accept each other, the send is given to the OLDEST such receive. -/
theorem isend_fifo (h : List Ev) (a pl size : Nat) (f : Filter) (d : Option MData) (det : Bool)
    (r : Comm) (hr : r ∈ (run h).pendingRecvs) (hacc : recvAcceptable f d r = true) :
    ∃ r0 ∈ (run h).pendingRecvs, (isend (run h) a pl size f d det).2 = r0.id ∧
      recvAcceptable f d r0 = true ∧ r0.id ≤ r.id := by
  obtain ⟨hrq, hrt⟩ := mem_pendingRecvs.mp hr
  obtain ⟨r0, rest, hf, hle⟩ := findMatching_oldest (inv_run h).q hrq (accepts_recv.mpr ⟨hrt, hacc⟩)
  have h0 := accepts_recv.mp (findMatching_accepts hf)
  exact ⟨r0, mem_pendingRecvs.mpr ⟨findMatching_mem hf, h0.1⟩, by rw [isend_matched hf], h0.2, hle⟩

/-- a mailbox is *coherent* when its pending sends sit in the deque `irecv` is going to search: without a permanent
receiver nothing is in done_comm_queue_; with one, no send is left in comm_queue_. -/
def Coherent (s : Mbox) : Prop :=
  (s.perm = none → s.done = []) ∧ (s.perm ≠ none → ∀ c ∈ s.queue, c.type ≠ .send)

/-!
### FIFO for a receive meeting pending sends — FALSE at full strength on the current code (DESIGN §9-D7)

    theorem irecv_fifo (h) (a f d) (c ∈ (run h).pendingSends) (sendAcceptable f d c) :
      ∃ c0 ∈ (run h).pendingSends, (irecv (run h) a f d).2 = c0.id ∧ sendAcceptable f d c0 ∧ c0.id ≤ c.id

`CommImpl::irecv` searches done_comm_queue_ ONLY when the mailbox has a permanent receiver and that deque is not
empty, and otherwise comm_queue_ ONLY.  A send queued before `set_receiver` is then overtaken by a later eager send,
or left next to a receive that accepts it; after `set_receiver(nullptr)` the eager sends are never found.
Reproduced on the library.  Classification key: `permanent-receiver-skips-comm-queue`.
-/

/-- counterexample (one sender, no match function): send #0 is queued, actor 9 becomes the permanent receiver, send #2
goes to done_comm_queue_, the receive gets #2 although #0 is older and pending: per-sender order is lost. -/
theorem irecv_fifo_counterexample :
    ∃ (h : List Ev) (a : Nat) (c : Comm), c ∈ (run h).pendingSends ∧ sendAcceptable .none none c = true ∧
      c.src = some 1 ∧ c.id < (irecv (run h) a .none none).2 ∧
      ∃ c2 ∈ (run h).pendingSends, c2.src = some 1 ∧ c2.id = (irecv (run h) a .none none).2 :=
  ⟨[.isend 1 100 8 .none none false, .setReceiver (some 9), .isend 1 101 8 .none none false], 9,
   { id := 0, type := .send, src := some 1, payload := some 100, size := 8, sendEv := some 0 }, by decide⟩

/-- second form: the receive finds nothing it accepts in done_comm_queue_ and is queued although comm_queue_ holds a
send that both match functions accept: an acceptable pair is left unmatched. -/
theorem irecv_missed_counterexample :
    ∃ (h : List Ev) (a : Nat) (f : Filter) (d : Option MData), ∃ c ∈ (run h).pendingSends,
      sendAcceptable f d c = true ∧ (irecv (run h) a f d).2 = (run h).next :=
  ⟨[.isend 1 100 8 .all (some ⟨1, 1, 100⟩) false, .setReceiver (some 9),
    .isend 2 200 8 .all (some ⟨2, 2, 200⟩) false], 9, .tagParity 1, some ⟨9, 0, 0⟩,
   { id := 0, type := .send, src := some 1, payload := some 100, size := 8, filt := .all, sdata := some ⟨1, 1, 100⟩,
     sendEv := some 0, sfilt := .all }, by decide⟩

/-- **FIFO for a receive meeting pending sends**, what does hold: on a coherent mailbox, if some pending send and the
new receive accept each other, the receive gets the OLDEST such send. -/
theorem irecv_fifo_partial (h : List Ev) (hc : Coherent (run h)) (a : Nat) (f : Filter) (d : Option MData)
    (c : Comm) (hcp : c ∈ (run h).pendingSends) (hacc : sendAcceptable f d c = true) :
    ∃ c0 ∈ (run h).pendingSends, (irecv (run h) a f d).2 = c0.id ∧
      sendAcceptable f d c0 = true ∧ c0.id ≤ c.id := by
  obtain ⟨hcm, hct⟩ := mem_pendingSends.mp hcp
  have hca := accepts_send.mpr ⟨hct, hacc⟩
  -- every pending send is in the deque `irecv` searches
  rcases searched_eq (run h) with ⟨hp, hcond, _⟩ | ⟨hp, hcond, _⟩
  · have hcd : c ∈ (run h).done := hcm.resolve_left (fun hq => hc.2 hp c hq hct)
    obtain ⟨c0, rest, hf, hle⟩ := findMatching_oldest (inv_run h).d hcd hca
    have h0 := accepts_send.mp (findMatching_accepts hf)
    exact ⟨c0, mem_pendingSends.mpr ⟨.inr (findMatching_mem hf), h0.1⟩, by rw [irecv_eager hcond hf], h0.2, hle⟩
  · have hcq : c ∈ (run h).queue := by
      refine hcm.resolve_right (fun hd => ?_)
      rw [hp.elim hc.1 id] at hd
      cases hd
    obtain ⟨c0, rest, hf, hle⟩ := findMatching_oldest (inv_run h).q hcq hca
    have h0 := accepts_send.mp (findMatching_accepts hf)
    exact ⟨c0, mem_pendingSends.mpr ⟨.inl (findMatching_mem hf), h0.1⟩, by rw [irecv_matched hcond hf], h0.2, hle⟩

/-- **Per-sender order**, as a consequence on coherent mailboxes: of two pending sends that the receive accepts, the
one posted later is never the one received (so the messages one sender posts to one mailbox are taken in send
order by receives that accept them both). -/
theorem per_sender_order_partial (h : List Ev) (hc : Coherent (run h)) (a : Nat) (f : Filter) (d : Option MData)
    (c1 c2 : Comm) (h1 : c1 ∈ (run h).pendingSends) (_h2 : c2 ∈ (run h).pendingSends)
    (hacc1 : sendAcceptable f d c1 = true) (hlt : c1.id < c2.id) :
    (irecv (run h) a f d).2 ≠ c2.id := by
  obtain ⟨c0, _, he, _, hle⟩ := irecv_fifo_partial h hc a f d c1 h1 hacc1
  rw [he]; omega

/-- a history keeps a mailbox coherent when `set_receiver` is only called while no send is pending (typically: the
receiver declares itself before anybody sends, and never resets it while eager sends are unreceived) -/
def stepOk (s : Mbox) : Ev → Prop
  | .setReceiver _ => s.done = [] ∧ ∀ c ∈ s.queue, c.type ≠ .send
  | _ => True

def histOk : Mbox → List Ev → Prop
  | _, [] => True
  | s, e :: es => stepOk s e ∧ histOk (step s e) es

theorem coherent_step {s : Mbox} (hc : Coherent s) (e : Ev) (hok : stepOk s e) : Coherent (step s e) := by
  cases e with
  | isend a pl size f d det =>
    show Coherent (isend s a pl size f d det).1
    cases hf : findMatching .recv f d s.queue with
    | none =>
      cases hp : s.perm with
      | none => rw [isend_queued hf hp]; exact ⟨hc.1, fun hn => absurd hp hn⟩
      | some r => rw [isend_eager hf hp]; exact ⟨fun hn => absurd (hp.symm.trans hn) nofun, hc.2⟩
    | some m =>
      rw [isend_matched hf]
      exact ⟨hc.1, fun hn c hcm => hc.2 hn c ((isTakeFirst.sublist hf).subset hcm)⟩
  | irecv a f d =>
    show Coherent (irecv s a f d).1
    cases hf : findMatching .send f d s.searched with
    | none => rw [irecv_queued hf]; exact ⟨hc.1, fun hn => forall_mem_snoc (hc.2 hn) nofun⟩
    | some m =>
      rcases searched_eq s with ⟨hp, hcond, e⟩ | ⟨_, hcond, e⟩ <;> rw [e] at hf
      · rw [irecv_eager hcond hf]; exact ⟨fun hn => absurd hn hp, hc.2⟩
      · rw [irecv_matched hcond hf]
        exact ⟨hc.1, fun hn c hcm => hc.2 hn c ((isTakeFirst.sublist hf).subset hcm)⟩
  | setReceiver r => exact ⟨fun _ => hok.1, fun _ => hok.2⟩
  | cancel id =>
    show Coherent (cancel s id)
    cases hf : s.queue.find? (fun c => c.id == id) with
    | none => rw [cancel_running hf]; exact ⟨fun hn => congrArg (List.map _) (hc.1 hn), hc.2⟩
    | some c =>
      cases hd : c.detached with
      | true => rw [cancel_detached hf hd]; exact hc
      | false =>
        rw [cancel_queued hf hd]
        exact ⟨hc.1, fun hn c hcm => hc.2 hn c (List.mem_of_mem_eraseP hcm)⟩
  | finish id => exact ⟨fun hn => congrArg (List.map _) (hc.1 hn), hc.2⟩
  | clear => exact ⟨fun _ => rfl, fun _ => List.forall_mem_nil _⟩
  | iprobe f d => exact hc

theorem coherent_foldl (h : List Ev) : ∀ s, Coherent s → histOk s h → Coherent (h.foldl step s) := by
  induction h with
  | nil => intro s hc _; exact hc
  | cons e es ih => intro s hc hok; exact ih _ (coherent_step hc e hok.1) hok.2

/-- every history in which `set_receiver` is only called on a mailbox without pending sends reaches a coherent
mailbox: `irecv_fifo_partial` and `per_sender_order_partial` apply to it -/
theorem coherent_run (h : List Ev) (hok : histOk {} h) : Coherent (run h) :=
  coherent_foldl h {} ⟨fun _ => rfl, fun hn => absurd rfl hn⟩ hok

/-- **Payload and size intact, copied once.**  In every reachable state, every comm object that carries a send is tied
to ONE isend call of the history and has exactly that call's payload, size and sender; one that carries a receive is
tied to one irecv call and its receiver; what was copied to the receiver is nothing or that payload, it was copied at
most once (whatever number of `finish()` runs from both ends: the `copied_` flag), and something was copied only on an
object that has both a sender and a receiver. -/
theorem payload_intact (h : List Ev) :
    ∀ c ∈ (run h).all,
      (∀ i, c.sendEv = some i → ∃ a pl sz f d det, h[i]? = some (Ev.isend a pl sz f d det) ∧
          c.payload = some pl ∧ c.size = sz ∧ c.src = some a) ∧
      (∀ j, c.recvEv = some j → ∃ a f d, h[j]? = some (Ev.irecv a f d) ∧ c.dst = some a) ∧
      (c.delivered = none ∨ c.delivered = c.payload) ∧ c.writes ≤ 1 ∧
      (c.delivered ≠ none → c.sendEv.isSome = true ∧ c.recvEv.isSome = true) := by
  intro c hc
  have hl := link_run h
  have hok : COk h c := by
    rcases List.mem_append.mp hc with hc | hc
    · rcases List.mem_append.mp hc with hc | hc
      · exact (hl.q c hc).1
      · exact hl.d c hc
    · exact hl.o c hc
  refine ⟨hok.send, hok.recv, ?_⟩
  cases hcp : c.copied with
  | true =>
    obtain ⟨hb, hp, hdl, hw⟩ := hok.cop hcp
    exact ⟨.inr hdl, Nat.le_of_eq hw, fun _ => ⟨hok.pl hp, hok.buf hb⟩⟩
  | false =>
    obtain ⟨hdl, hw⟩ := hok.ncop hcp
    exact ⟨.inl hdl, hw ▸ Nat.zero_le 1, fun hn => absurd hdl hn⟩

/-- **A matched comm leaves the mailbox** (operational form of "each put is consumed at most once, each get is served
at most once"): the object a receive is matched with was pending, and after the call no object with its id is in
comm_queue_ or done_comm_queue_ any more — only pending objects are ever matched, so it cannot be matched again. -/
theorem irecv_consumes (h : List Ev) (a : Nat) (f : Filter) (d : Option MData)
    (hk : (irecv (run h) a f d).2 ≠ (run h).next) :
    (∃ c ∈ (run h).pendingSends, c.id = (irecv (run h) a f d).2) ∧
    ∀ x ∈ (irecv (run h) a f d).1.queue ++ (irecv (run h) a f d).1.done, x.id ≠ (irecv (run h) a f d).2 := by
  have hs := inv_run h
  cases hf : findMatching .send f d (run h).searched with
  | none => exact absurd (by rw [irecv_queued hf]) hk
  | some m =>
    have hm := findMatching_mem hf
    have ht := (accepts_send.mp (findMatching_accepts hf)).1
    rcases searched_eq (run h) with ⟨_, hc, e⟩ | ⟨_, hc, e⟩ <;> rw [e] at hf hm
    · rw [irecv_eager hc hf]
      exact ⟨⟨m.1, mem_pendingSends.mpr ⟨.inr hm, ht⟩, rfl⟩,
        List.forall_mem_append.mpr ⟨fun x hx => hs.disj x hx _ hm, findMatching_id_ne hs.d hf⟩⟩
    · rw [irecv_matched hc hf]
      exact ⟨⟨m.1, mem_pendingSends.mpr ⟨.inl hm, ht⟩, rfl⟩,
        List.forall_mem_append.mpr ⟨findMatching_id_ne hs.q hf, fun x hx e => hs.disj _ hm x hx e.symm⟩⟩

theorem isend_consumes (h : List Ev) (a pl size : Nat) (f : Filter) (d : Option MData) (det : Bool)
    (hk : (isend (run h) a pl size f d det).2 ≠ (run h).next) :
    (∃ r ∈ (run h).pendingRecvs, r.id = (isend (run h) a pl size f d det).2) ∧
    ∀ x ∈ (isend (run h) a pl size f d det).1.queue ++ (isend (run h) a pl size f d det).1.done,
      x.id ≠ (isend (run h) a pl size f d det).2 := by
  have hs := inv_run h
  cases hf : findMatching .recv f d (run h).queue with
  | none =>
    refine absurd ?_ hk
    cases hp : (run h).perm with
    | none => rw [isend_queued hf hp]
    | some r => rw [isend_eager hf hp]
  | some m =>
    have hm := findMatching_mem hf
    rw [isend_matched hf]
    exact ⟨⟨m.1, mem_pendingRecvs.mpr ⟨hm, (accepts_recv.mp (findMatching_accepts hf)).1⟩, rfl⟩,
      List.forall_mem_append.mpr ⟨findMatching_id_ne hs.q hf, fun x hx e => hs.disj _ hm x hx e.symm⟩⟩

/-- **iprobe leaves the mailbox alone; `cancel()` / `clear()` of a queued comm never dereference a null `mbox_`.**
In every reachable state (histories with any number of iprobe calls, hits or misses) every comm of comm_queue_ still has
its back pointer, so `CommImpl::cancel()` (`mbox_->remove(this)`) on any object and `MailboxImpl::clear()` are safe, and
an iprobe call changes neither deque. -/
theorem iprobe_keeps_mbox (h : List Ev) : ∀ c ∈ (run h).queue, c.mboxSet = true := (inv_run h).mbox

theorem cancel_never_crashes (h : List Ev) (id : Nat) : cancelCrashes (run h) id = false := by
  unfold cancelCrashes
  split
  · rename_i c hf
    rw [(inv_run h).mbox c (List.mem_of_find?_eq_some hf)]; simp
  · rfl

theorem clear_never_crashes (h : List Ev) : clearCrashes (run h) = false := by
  unfold clearCrashes
  rw [List.any_eq_false]
  intro c hc
  rw [(inv_run h).mbox c hc]; simp

theorem iprobe_changes_nothing (h : List Ev) (f : Filter) (d : Option MData) :
    (step (run h) (.iprobe f d)).queue = (run h).queue ∧ (step (run h) (.iprobe f d)).done = (run h).done ∧
    (step (run h) (.iprobe f d)).others = (run h).others ∧ (step (run h) (.iprobe f d)).perm = (run h).perm :=
  ⟨rfl, rfl, rfl, rfl⟩

/-- **Regression (pre-fix code).**  Before `find_matching_comm` kept `mbox_` of a comm it does not remove (`runPre`: the
same calls with `iprobeMarkPre`), a queued send hit by an iprobe made a later `cancel()` of it, or `clear()`, dereference
null — reproduced on the library (segmentation fault), key `iprobe-resets-mbox-of-queued-comm` (fixed). -/
theorem iprobe_prefix_regression :
    cancelCrashes (runPre [.isend 1 100 8 .none none false, .iprobe .none none]) 0 = true ∧
    clearCrashes (runPre [.isend 1 100 8 .none none false, .iprobe .none none]) = true ∧
    cancelCrashes (run [.isend 1 100 8 .none none false, .iprobe .none none]) 0 = false := by decide

/-- `iprobe_keeps_mbox` / `cancel_never_crashes` speak about a non-empty queue after an iprobe hit: the probe finds
payload 100, the send is still queued, and cancelling it removes it -/
example :
    let h := [Ev.isend 1 100 8 .none none false, Ev.iprobe .none none]
    (iprobeRecv (run [Ev.isend 1 100 8 .none none false]) .none none).bind (·.payload) = some 100 ∧
    (run h).queue.map (·.id) = [0] ∧ (run (h ++ [Ev.cancel 0])).queue = [] ∧
    ((run (h ++ [Ev.cancel 0])).others.map (·.state)) = [.canceled] := by decide

/-- selective receive: two queued sends with tags 1 and 2, a receive wanting an even tag takes the second one,
skipping the older send its match function refuses; payload 200 and size 8 arrive intact after `finish` -/
example :
    let h := [Ev.isend 1 100 8 .all (some ⟨1, 1, 100⟩) false, Ev.isend 2 200 8 .all (some ⟨2, 2, 200⟩) false,
              Ev.irecv 3 (.tagParity 0) (some ⟨3, 0, 0⟩), Ev.finish 1]
    ((run h).others.map (fun c => (c.id, c.sendEv, c.recvEv, c.delivered, c.size, c.writes)))
      = [(1, some 1, some 2, some 200, 8, 1)] ∧ ((run h).queue.map (·.id)) = [0] := by decide

/-- hypotheses of `irecv_fifo_partial` are satisfiable with a permanent receiver: receiver first, then two eager sends -/
example : histOk {} [Ev.setReceiver (some 9), Ev.isend 1 100 8 .none none false, Ev.isend 1 101 8 .none none true] ∧
    ((run [Ev.setReceiver (some 9), Ev.isend 1 100 8 .none none false, Ev.isend 1 101 8 .none none true]).pendingSends.map
      (·.id)) = [1, 2] := by
  refine ⟨⟨⟨rfl, by simp⟩, trivial, trivial, trivial⟩, by decide⟩

/-- `finish` from both ends copies once -/
example : ((run [Ev.irecv 3 .none none, Ev.isend 1 100 8 .none none false, Ev.finish 0, Ev.finish 0]).others.map
    (fun c => (c.delivered, c.writes))) = [(some 100, 1)] := by decide

end SgVerif.C08
