import SgVerif.C08.Model
import SgVerif.Common.Snoc
import SgVerif.Common.List
import SgVerif.Common.Fold
/-
C08 — the invariant of the two deques (`Inv`), and `Link`: every comm object is what the calls of the history made of it.
-/
namespace SgVerif.C08

section
variable {t : CType} {f : Filter} {d : Option MData} {l : List Comm} {c : Comm} {rest : List Comm}

theorem isTakeFirst : IsTakeFirst (accepts t f d) (findMatching t f d) :=
  ⟨rfl, fun x xs => by
    rw [findMatching]
    split
    · rfl
    · cases findMatching t f d xs <;> rfl⟩

theorem findMatching_mem (h : findMatching t f d l = some (c, rest)) : c ∈ l := by
  obtain ⟨pre, post, e, _⟩ := isTakeFirst.some h
  rw [e]; exact List.mem_append_right _ (List.mem_cons_self ..)

theorem findMatching_accepts (h : findMatching t f d l = some (c, rest)) : accepts t f d c = true := by
  obtain ⟨_, _, _, _, ha, _⟩ := isTakeFirst.some h
  exact ha

theorem findMatching_oldest {x : Comm} (hl : l.Pairwise (fun x y => x.id < y.id)) (hx : x ∈ l)
    (ha : accepts t f d x = true) : ∃ c rest, findMatching t f d l = some (c, rest) ∧ c.id ≤ x.id := by
  cases hf : findMatching t f d l with
  | none => rw [isTakeFirst.none.mp hf x hx] at ha; cases ha
  | some m =>
    obtain ⟨pre, post, e, _, _, hpre⟩ := isTakeFirst.some hf
    refine ⟨m.1, m.2, rfl, ?_⟩
    rw [e] at hx hl
    rcases List.mem_append.mp hx with hx | hx
    · rw [hpre x hx] at ha; cases ha
    · rcases List.mem_cons.mp hx with hx | hx
      · rw [hx]; exact Nat.le_refl _
      · exact Nat.le_of_lt (List.rel_of_pairwise_cons (List.pairwise_append.mp hl).2.1 hx)

theorem findMatching_id_ne (hl : l.Pairwise (fun x y => x.id < y.id)) (hf : findMatching t f d l = some (c, rest)) :
    ∀ x ∈ rest, x.id ≠ c.id := by
  obtain ⟨pre, post, e1, e2, _⟩ := isTakeFirst.some hf
  rw [e1] at hl
  obtain ⟨_, h2, h3⟩ := List.pairwise_append.mp hl
  intro x hx
  rw [e2] at hx
  rcases List.mem_append.mp hx with hx | hx
  · exact Nat.ne_of_lt (h3 x hx c (List.mem_cons_self ..))
  · exact Nat.ne_of_gt (List.rel_of_pairwise_cons h2 hx)

end

theorem accepts_send {f : Filter} {d : Option MData} {c : Comm} :
    accepts .send f d c = true ↔ c.type = .send ∧ sendAcceptable f d c = true := by
  unfold accepts sendAcceptable Comm.mdata
  cases c.type <;> simp

theorem accepts_recv {f : Filter} {d : Option MData} {c : Comm} :
    accepts .recv f d c = true ↔ c.type = .recv ∧ recvAcceptable f d c = true := by
  unfold accepts recvAcceptable Comm.mdata
  cases c.type <;> simp

theorem mem_pendingSends {s : Mbox} {c : Comm} :
    c ∈ s.pendingSends ↔ (c ∈ s.queue ∨ c ∈ s.done) ∧ c.type = .send := by
  simp only [Mbox.pendingSends, List.mem_filter, List.mem_append, beq_iff_eq]

theorem mem_pendingRecvs {s : Mbox} {c : Comm} : c ∈ s.pendingRecvs ↔ c ∈ s.queue ∧ c.type = .recv := by
  simp only [Mbox.pendingRecvs, List.mem_filter, beq_iff_eq]

theorem ite_id {p : Prop} [Decidable p] {a b : Comm} {n : Nat} (ha : a.id = n) (hb : b.id = n) :
    (if p then a else b).id = n :=
  ite_pred (fun x : Comm => x.id = n) ha hb

theorem copyData_id (c : Comm) : c.copyData.id = c.id := ite_id rfl rfl
theorem finish_id (c : Comm) : c.finish.id = c.id :=
  ite_id ((copyData_id _).trans (ite_id rfl rfl)) (ite_id rfl rfl)

theorem ids_map_if {l : List Comm} {b : Comm → Bool} {g : Comm → Comm} (hg : ∀ x, (g x).id = x.id) :
    ((l.map (fun c => if b c then g c else c)).map (·.id)).Sublist (l.map (·.id)) := by
  have e : (·.id) ∘ (fun c => if b c then g c else c) = (·.id) := funext fun x => ite_id (hg x) rfl
  rw [List.map_map, e]
  exact .refl _

section
variable {s : Mbox} {f : Filter} {d : Option MData} {a pl size : Nat} {det : Bool}

theorem isend_queued (hf : findMatching .recv f d s.queue = none) (hp : s.perm = none) :
    isend s a pl size f d det =
      ({ s with
          next := s.next + 1
          queue := s.queue ++ [{ id := s.next, type := .send, src := some a, payload := some pl, size := size,
                                 filt := f, sdata := d, detached := det, sendEv := some s.next, sfilt := f }] },
       s.next) := by
  simp only [isend, hf, hp]

theorem isend_eager {r : Nat} (hf : findMatching .recv f d s.queue = none)
    (hp : s.perm = some r) :
    isend s a pl size f d det =
      ({ s with
          next := s.next + 1
          done := s.done ++ [{ id := s.next, type := .send, state := .running, src := some a, dst := some r,
                               payload := some pl, size := size, filt := f, sdata := d, detached := det,
                               sendEv := some s.next, sfilt := f }] }, s.next) := by
  simp only [isend, hf, hp]

theorem isend_matched {r : Comm} {rest : List Comm}
    (hf : findMatching .recv f d s.queue = some (r, rest)) :
    isend s a pl size f d det =
      ({ s with
          next := s.next + 1
          queue := rest
          others := { r with state := .running, src := some a, payload := some pl, size := size, filt := f,
                             sdata := d, detached := r.detached || det, sendEv := some s.next,
                             sfilt := f } :: s.others }, r.id) := by
  simp only [isend, hf]

/-- the deque `irecv` searches -/
def Mbox.searched (s : Mbox) : List Comm := if s.perm.isSome && !s.done.isEmpty then s.done else s.queue

theorem searched_eq (s : Mbox) :
    (s.perm ≠ none ∧ (s.perm.isSome && !s.done.isEmpty) = true ∧ s.searched = s.done) ∨
    ((s.perm = none ∨ s.done = []) ∧ (s.perm.isSome && !s.done.isEmpty) = false ∧ s.searched = s.queue) := by
  unfold Mbox.searched
  cases hp : s.perm with
  | none => exact .inr ⟨.inl rfl, rfl, rfl⟩
  | some r =>
    cases hd : s.done with
    | nil => exact .inr ⟨.inr rfl, rfl, rfl⟩
    | cons x l => exact .inl ⟨nofun, rfl, rfl⟩

theorem irecv_queued (hf : findMatching .send f d s.searched = none) :
    irecv s a f d =
      ({ s with
          next := s.next + 1
          queue := s.queue ++ [{ id := s.next, type := .recv, dst := some a, filt := f, rdata := d, hasBuf := true,
                                 recvEv := some s.next, rfilt := f }] }, s.next) := by
  unfold irecv
  rcases searched_eq s with ⟨_, hc, e⟩ | ⟨_, hc, e⟩ <;> rw [e] at hf <;> simp only [hc, hf] <;> rfl

theorem irecv_eager {c : Comm} {rest : List Comm} (hc : (s.perm.isSome && !s.done.isEmpty) = true)
    (hf : findMatching .send f d s.done = some (c, rest)) :
    irecv s a f d =
      ({ s with
          next := s.next + 1
          done := rest
          others := { c with dst := some a, hasBuf := true, filt := f, rdata := d, recvEv := some s.next,
                             rfilt := f } :: s.others }, c.id) := by
  simp only [irecv, hc, hf, if_true]

theorem irecv_matched {c : Comm} {rest : List Comm} (hc : (s.perm.isSome && !s.done.isEmpty) = false)
    (hf : findMatching .send f d s.queue = some (c, rest)) :
    irecv s a f d =
      ({ s with
          next := s.next + 1
          queue := rest
          others := { c with state := .running, dst := some a, hasBuf := true, filt := f, rdata := d,
                             recvEv := some s.next, rfilt := f } :: s.others }, c.id) := by
  simp only [irecv, hc, hf]
  rfl

theorem cancel_detached {id : Nat} {c : Comm} (hf : s.queue.find? (fun c => c.id == id) = some c)
    (hd : c.detached = true) : cancel s id = { s with next := s.next + 1 } := by
  simp only [cancel, hf, hd, if_true]

theorem cancel_queued {id : Nat} {c : Comm} (hf : s.queue.find? (fun c => c.id == id) = some c)
    (hd : c.detached = false) :
    cancel s id = { s with
                    next := s.next + 1
                    queue := s.queue.eraseP (fun c => c.id == id)
                    others := { c with state := .canceled } :: s.others } := by
  simp only [cancel, hf, hd]
  rfl

theorem cancel_running {id : Nat} (hf : s.queue.find? (fun c => c.id == id) = none) :
    cancel s id = { s with
                    next := s.next + 1
                    done := s.done.map (fun c => if c.id == id then c.cancelRunning else c)
                    others := s.others.map (fun c => if c.id == id then c.cancelRunning else c) } := by
  simp only [cancel, hf]

end

/-- both deques are in arrival order, hold objects created before `next`, share no object, and every comm of
comm_queue_ has its back pointer `mbox_` set (what `cancel()` and `clear()` dereference) -/
structure Inv (s : Mbox) : Prop where
  q : s.queue.Pairwise (fun x y => x.id < y.id)
  d : s.done.Pairwise (fun x y => x.id < y.id)
  qlt : ∀ c ∈ s.queue, c.id < s.next
  dlt : ∀ c ∈ s.done, c.id < s.next
  disj : ∀ x ∈ s.queue, ∀ y ∈ s.done, x.id ≠ y.id
  mbox : ∀ c ∈ s.queue, c.mboxSet = true

/-- a step that only removes objects from the deques (or updates objects of done_comm_queue_ in place) -/
theorem Inv.shrink {s s' : Mbox} (hs : Inv s) (hn : s'.next = s.next + 1) (hq : s'.queue.Sublist s.queue)
    (hd : (s'.done.map (·.id)).Sublist (s.done.map (·.id))) : Inv s' := by
  have hd' : ∀ y ∈ s'.done, ∃ x ∈ s.done, x.id = y.id :=
    fun y hy => List.mem_map.mp (hd.subset (List.mem_map_of_mem hy))
  refine ⟨hs.q.sublist hq, List.pairwise_map.mp ((List.pairwise_map.mpr hs.d).sublist hd), ?_, ?_, ?_,
    fun c hc => hs.mbox c (hq.subset hc)⟩
  · intro c hc; rw [hn]; exact Nat.lt_succ_of_lt (hs.qlt c (hq.subset hc))
  · intro c hc; obtain ⟨x, hx, e⟩ := hd' c hc; rw [hn, ← e]; exact Nat.lt_succ_of_lt (hs.dlt x hx)
  · intro x hx y hy; obtain ⟨z, hz, e⟩ := hd' y hy; rw [← e]; exact hs.disj x (hq.subset hx) z hz

section
variable {s : Mbox} {c : Comm}

theorem Inv.pushQueue (hs : Inv s) (hc : c.id = s.next) (hm : c.mboxSet = true) :
    Inv { s with next := s.next + 1, queue := s.queue ++ [c] } := by
  refine ⟨pairwise_snoc hs.q (fun x hx => hc ▸ hs.qlt x hx), hs.d,
    forall_mem_snoc (fun x hx => Nat.lt_succ_of_lt (hs.qlt x hx)) (hc ▸ Nat.lt_succ_self _),
    fun x hx => Nat.lt_succ_of_lt (hs.dlt x hx), ?_, forall_mem_snoc hs.mbox hm⟩
  refine forall_mem_snoc hs.disj (fun y hy e => ?_)
  exact Nat.lt_irrefl _ (hc ▸ e ▸ hs.dlt y hy)

theorem Inv.pushDone (hs : Inv s) (hc : c.id = s.next) :
    Inv { s with next := s.next + 1, done := s.done ++ [c] } := by
  refine ⟨hs.q, pairwise_snoc hs.d (fun x hx => hc ▸ hs.dlt x hx), fun x hx => Nat.lt_succ_of_lt (hs.qlt x hx),
    forall_mem_snoc (fun x hx => Nat.lt_succ_of_lt (hs.dlt x hx)) (hc ▸ Nat.lt_succ_self _), ?_, hs.mbox⟩
  intro x hx
  refine forall_mem_snoc (hs.disj x hx) (fun e => ?_)
  exact Nat.lt_irrefl _ (hc ▸ e ▸ hs.qlt x hx)

end

/-- the comm object `c` against the calls `h`: its ghost indices point at the isend / irecv call that filled it in, and
`delivered`, `writes` follow `copied` (nothing before the copy, the payload and one write after it) -/
structure COk (h : List Ev) (c : Comm) : Prop where
  send : ∀ i, c.sendEv = some i → ∃ a pl sz f d det, h[i]? = some (Ev.isend a pl sz f d det) ∧
            c.payload = some pl ∧ c.size = sz ∧ c.src = some a
  recv : ∀ j, c.recvEv = some j → ∃ a f d, h[j]? = some (Ev.irecv a f d) ∧ c.dst = some a
  pl : c.payload.isSome = true → c.sendEv.isSome = true
  buf : c.hasBuf = true → c.recvEv.isSome = true
  cop : c.copied = true → c.hasBuf = true ∧ c.payload.isSome = true ∧ c.delivered = c.payload ∧ c.writes = 1
  ncop : c.copied = false → c.delivered = none ∧ c.writes = 0

section
variable {h : List Ev} {c : Comm} {n a : Nat} {f : Filter} {d : Option MData}

theorem COk.lift (e : Ev) (hc : COk h c) : COk (h ++ [e]) c := by
  refine ⟨?_, ?_, hc.pl, hc.buf, hc.cop, hc.ncop⟩
  · intro i hi
    obtain ⟨a, pl, sz, f, d, det, h1, h2⟩ := hc.send i hi
    exact ⟨a, pl, sz, f, d, det, getElem?_snoc_of_some h1, h2⟩
  · intro j hj
    obtain ⟨a, f, d, h1, h2⟩ := hc.recv j hj
    exact ⟨a, f, d, getElem?_snoc_of_some h1, h2⟩

theorem COk.blank (h : List Ev) (n : Nat) (t : CType) (dst : Option Nat) : COk h { id := n, type := t, dst := dst } :=
  ⟨nofun, nofun, nofun, nofun, nofun, fun _ => ⟨rfl, rfl⟩⟩

theorem COk.setState (st : CState) (hc : COk h c) : COk h { c with state := st } :=
  ⟨hc.send, hc.recv, hc.pl, hc.buf, hc.cop, hc.ncop⟩

theorem COk.isend (hc : COk h c) (hcp : c.copied = false) {pl size : Nat} {det : Bool}
    (hn : h[n]? = some (Ev.isend a pl size f d det)) (st : CState) (dt : Bool) :
    COk h { c with state := st, src := some a, payload := some pl, size := size, filt := f, sdata := d,
                   detached := dt, sendEv := some n, sfilt := f } :=
  ⟨fun _ hi => Option.some.inj hi ▸ ⟨a, pl, size, f, d, det, hn, rfl, rfl, rfl⟩, hc.recv, fun _ => rfl, hc.buf,
   fun h1 => Bool.noConfusion (hcp.symm.trans h1), fun _ => hc.ncop hcp⟩

theorem COk.irecv (hc : COk h c) (hn : h[n]? = some (Ev.irecv a f d)) (st : CState) :
    COk h { c with state := st, dst := some a, hasBuf := true, filt := f, rdata := d, recvEv := some n, rfilt := f } :=
  ⟨hc.send, fun _ hj => Option.some.inj hj ▸ ⟨a, f, d, hn, rfl⟩, hc.pl, fun _ => rfl,
   fun h1 => ⟨rfl, (hc.cop h1).2⟩, hc.ncop⟩

theorem COk.cancelRunning (hc : COk h c) : COk h c.cancelRunning :=
  ite_pred (COk h) (hc.setState _) hc

theorem COk.copyData (hc : COk h c) : COk h c.copyData := by
  unfold Comm.copyData
  split
  · exact hc
  · rename_i hcond
    simp only [Bool.or_eq_true, not_or, Bool.not_eq_true, Bool.not_eq_false', Option.isNone_eq_false_iff] at hcond
    obtain ⟨⟨hp, hb⟩, hcp⟩ := hcond
    exact ⟨hc.send, hc.recv, hc.pl, hc.buf, fun _ => ⟨hb, hp, rfl, congrArg (· + 1) (hc.ncop hcp).2⟩, nofun⟩

end

theorem COk.finish {h : List Ev} {c : Comm} (hc : COk h c) : COk h c.finish :=
  have h1 := ite_pred (c := c.state = .running) (COk h) (hc.setState .done) hc
  ite_pred (COk h) h1.copyData h1

/-- what holds of the mailbox reached by the calls `h`: the invariant of the deques, `next` counts the calls, and every
object is tied to the calls that filled it in; nothing was copied yet from an object of comm_queue_ -/
structure Link (h : List Ev) (s : Mbox) : Prop where
  inv : Inv s
  len : s.next = h.length
  q : ∀ c ∈ s.queue, COk h c ∧ c.copied = false
  d : ∀ c ∈ s.done, COk h c
  o : ∀ c ∈ s.others, COk h c

theorem link_step {h : List Ev} {s : Mbox} (e : Ev) (hl : Link h s) : Link (h ++ [e]) (step s e) := by
  have hs := hl.inv
  have hlen : s.next + 1 = (h ++ [e]).length := by rw [List.length_append, hl.len]; rfl
  have hnew : (h ++ [e])[s.next]? = some e := by rw [hl.len]; exact List.getElem?_concat_length
  have hq : ∀ c ∈ s.queue, COk (h ++ [e]) c ∧ c.copied = false := fun c hc => ⟨(hl.q c hc).1.lift e, (hl.q c hc).2⟩
  have hd : ∀ c ∈ s.done, COk (h ++ [e]) c := fun c hc => (hl.d c hc).lift e
  have ho : ∀ c ∈ s.others, COk (h ++ [e]) c := fun c hc => (hl.o c hc).lift e
  -- a call that leaves both deques alone, and one that takes an object out of comm_queue_
  have idle (p : Option Nat) : Link (h ++ [e]) { s with next := s.next + 1, perm := p } :=
    ⟨hs.shrink rfl (.refl _) (.refl _), hlen, hq, hd, ho⟩
  have take {q : List Comm} {c : Comm} (hsub : q.Sublist s.queue) (hc : COk (h ++ [e]) c) :
      Link (h ++ [e]) { s with next := s.next + 1, queue := q, others := c :: s.others } :=
    ⟨hs.shrink rfl hsub (.refl _), hlen, fun x hx => hq x (hsub.subset hx), hd, List.forall_mem_cons.mpr ⟨hc, ho⟩⟩
  cases e with
  | isend a pl size f d det =>
    show Link _ (isend s a pl size f d det).1
    cases hf : findMatching .recv f d s.queue with
    | none =>
      have new (st : CState) (dst : Option Nat) := (COk.blank _ s.next .send dst).isend rfl hnew st det
      cases hp : s.perm with
      | none => rw [isend_queued hf hp]; exact ⟨hs.pushQueue rfl rfl, hlen, forall_mem_snoc hq ⟨new _ _, rfl⟩, hd, ho⟩
      | some r => rw [isend_eager hf hp]; exact ⟨hs.pushDone rfl, hlen, hq, forall_mem_snoc hd (new _ _), ho⟩
    | some m =>
      have hm := hq m.1 (findMatching_mem hf)
      rw [isend_matched hf]
      exact take (isTakeFirst.sublist hf) (hm.1.isend hm.2 hnew _ _)
  | irecv a f d =>
    show Link _ (irecv s a f d).1
    cases hf : findMatching .send f d s.searched with
    | none =>
      rw [irecv_queued hf]
      exact ⟨hs.pushQueue rfl rfl, hlen, forall_mem_snoc hq ⟨(COk.blank _ s.next .recv none).irecv hnew _, rfl⟩, hd,
        ho⟩
    | some m =>
      rcases searched_eq s with ⟨_, hc, e⟩ | ⟨_, hc, e⟩ <;> rw [e] at hf
      · have hm := hd m.1 (findMatching_mem hf)
        rw [irecv_eager hc hf]
        exact ⟨hs.shrink rfl (.refl _) ((isTakeFirst.sublist hf).map _), hlen, hq,
          fun c hc => hd c ((isTakeFirst.sublist hf).subset hc),
          List.forall_mem_cons.mpr ⟨hm.irecv hnew _, ho⟩⟩
      · have hm := hq m.1 (findMatching_mem hf)
        rw [irecv_matched hc hf]
        exact take (isTakeFirst.sublist hf) (hm.1.irecv hnew _)
  | setReceiver r => exact idle r
  | cancel id =>
    show Link _ (cancel s id)
    cases hf : s.queue.find? (fun c => c.id == id) with
    | none =>
      rw [cancel_running hf]
      exact ⟨hs.shrink rfl (.refl _) (ids_map_if fun _ => ite_id rfl rfl), hlen, hq,
        List.forall_mem_map.mpr fun x hx => ite_pred (COk _) (hd x hx).cancelRunning (hd x hx),
        List.forall_mem_map.mpr fun x hx => ite_pred (COk _) (ho x hx).cancelRunning (ho x hx)⟩
    | some c =>
      cases hdt : c.detached with
      | true => rw [cancel_detached hf hdt]; exact idle _
      | false =>
        rw [cancel_queued hf hdt]
        exact take List.eraseP_sublist ((hq c (List.mem_of_find?_eq_some hf)).1.setState _)
  | finish id =>
    exact ⟨hs.shrink rfl (.refl _) (ids_map_if finish_id), hlen, hq,
      List.forall_mem_map.mpr fun x hx => ite_pred (COk _) (hd x hx).finish (hd x hx),
      List.forall_mem_map.mpr fun x hx => ite_pred (COk _) (ho x hx).finish (ho x hx)⟩
  | clear =>
    refine ⟨hs.shrink rfl (List.nil_sublist _) (List.nil_sublist _), hlen, List.forall_mem_nil _,
      List.forall_mem_nil _,
      List.forall_mem_append.mpr ⟨List.forall_mem_append.mpr ⟨?_, ?_⟩, ho⟩⟩
    · exact List.forall_mem_map.mpr fun x hx =>
        have hx := (hq x (List.mem_reverse.mp hx)).1
        ite_pred (COk _) hx (hx.setState _)
    · exact List.forall_mem_map.mpr fun x hx =>
        have hx := hd x (List.mem_reverse.mp hx)
        ite_pred (COk _) hx (hx.setState _)
  | iprobe f d => exact idle _

theorem link_run (h : List Ev) : Link h (run h) := by
  have h0 : Link [] {} :=
    ⟨⟨.nil, .nil, List.forall_mem_nil _, List.forall_mem_nil _, List.forall_mem_nil _, List.forall_mem_nil _⟩, rfl,
      List.forall_mem_nil _, List.forall_mem_nil _, List.forall_mem_nil _⟩
  exact foldl_snoc link_step h h0

theorem inv_run (h : List Ev) : Inv (run h) := (link_run h).inv

end SgVerif.C08
