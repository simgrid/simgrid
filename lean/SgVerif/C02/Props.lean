import SgVerif.Sched.Model
import SgVerif.Sched.Lemmas
import SgVerif.Sched.Demo
/-!
C02 — the outcome does not depend on the context factory or on the number of worker threads.

Statement at full strength (properties.jsonl): for programs whose actors share no unsynchronised memory, the simulation
produces the same observable results whichever factory (thread, raw, boost) runs the actors and whatever
contexts/nthreads ∈ {1,2,4}, contexts/synchro ∈ {futex, posix, busy_wait}.

What is PROVED here, on the round model of `SgVerif/Sched/Model.lean`, for every system (any actor code, any kernel
handlers), every state, every permutation / partition / per-sub-round scheduling policy: a factory only chooses the ORDER
(or interleaving over worker threads) in which the slices of `actors_to_run_` execute; the state after the slices, the
sequence of simcalls maestro answers, the whole sub-round and the whole run do not depend on that choice.
With C49 (each element of the array is processed exactly once by the Parmap) this is C02 for the modelled round.
NOT modelled (and so not proved): the context-switch code of the raw/boost factories, thread parking (semaphores /
futexes), the Parmap protocol itself (C49).
The one place where the real code broke the slice abstraction IS modelled (`Cfg.cleanupInSlice`): before fix 6040f7fd8e the
cancel loop of `cleanup_from_self` ran in the dying actor's context, so the order between two actors that end in the same
sub-round was the threads' order.  Consequently (a), (a'), (b) are full strength for every configuration; (c)/(d) are
`_partial` for that code (FINDING `parallel-cleanup-cancel-order`, `cleanup_race_counterexample`) and full strength for
the code as it is now.
-/
namespace SgVerif.C02
open SgVerif.Sched

variable {S : Sys}

/-- C02(a) the state after the slices of a sub-round does not depend on the order in which they execute:
    slices touch disjoint local states. -/
theorem subround_order_irrelevant (s : St S) (π : List Aid) (h : π.Perm s.toRun) :
    afterSlices { s with toRun := [] } π = afterSlices { s with toRun := [] } s.toRun :=
  afterSlices_perm _ h

/-- C02(a') … nor on how the run list is partitioned over worker threads (each thread executes its chunk; the chunks
    in any order; by (a) also any order inside a chunk). -/
theorem subround_partition_irrelevant (s : St S) (parts : List (List Aid)) (ran : List Aid)
    (h : parts.flatten.Perm ran) : parts.foldl afterSlices s = afterSlices s ran := by
  rw [← afterSlices_perm s h, afterSlices, List.foldl_flatten]
  rfl

/-- C02(b) the simcalls of a sub-round are answered in the order of `actors_that_ran_`, each actor's own request,
    whatever order `π` the slices ran in. -/
theorem thatRan_order_fixed (s : St S) (ran π : List Aid) (hn : ran.Nodup) (h : π.Perm ran) :
    answered (afterSlices s π) ran = ran.map fun a => (a, (S.slice a (s.loc a) (s.ans a)).2) := by
  have hnπ : π.Nodup := h.nodup_iff.mpr hn
  simp only [answered]
  apply filterMap_all_some
  intro a ha
  rw [afterSlices_pend s π hnπ a (h.mem_iff.mpr ha)]
  rfl

/-- order-insensitivity of the cancel loops that the dying actors of one sub-round run in their own contexts -/
def CleanupInsensitive (S : Sys) (c : Cfg) (α : Addr) : Prop :=
  ∀ (s : St S) (l1 l2 : List Aid), l1.Perm l2 → selfCleanups c α s l1 = selfCleanups c α s l2

/-- C02(c) a whole sub-round (slices in any order, then maestro alone) equals the serial sub-round — provided the
    cancel loop of `cleanup_from_self` is run by maestro (`cleanupInSlice = false`, props/C02/proposed_fix.diff) or is
    order-insensitive. -/
theorem subroundWith_perm (c : Cfg) (α : Addr) (hC : c.cleanupInSlice = true → CleanupInsensitive S c α)
    (s : St S) (π : List Aid) (h : π.Perm s.toRun) : subroundWith c α π s = subround c α s := by
  simp only [subround, subroundWith, afterSlices_perm _ h]
  cases hc : c.cleanupInSlice with
  | false => rfl
  | true => simp only [if_true]; rw [hC hc _ _ _ h]

/-
Full-strength statement of C02(d), FALSE on the code before fix 6040f7fd8e (`Cfg.preActivitiesFix.cleanupInSlice = true`):

    theorem round_deterministic : ∀ (S : Sys) α p (hp : ∀ n l, (p n l).Perm l) fuel (s : St S),
        runWith Cfg.preActivitiesFix α p fuel s = run Cfg.preActivitiesFix α fuel s

see `cleanup_race_counterexample` (replayed on the library then: corpus case `dying-owners-same-subround`, nthreads=4).
-/

/-- C02(d) `round_deterministic_partial`: whatever order the factory / the worker threads pick in each sub-round, the run
    is the serial run — under the order-insensitivity hypothesis above when the cancel loop runs in actor context.
    Missing for full strength on the code before fix 6040f7fd8e: that hypothesis, which the real `cancel` does not satisfy. -/
theorem round_deterministic_partial (c : Cfg) (α : Addr) (hC : c.cleanupInSlice = true → CleanupInsensitive S c α)
    (p : Policy) (hp : ∀ n l, (p n l).Perm l) :
    ∀ (fuel : Nat) (s : St S), runWith c α p fuel s = run c α fuel s :=
  runWith_congr c α α p (fun _ l => l) fun n s => subroundWith_perm c α hC s _ (hp n _)

/-- C02(d) at FULL STRENGTH for the code with props/C02/proposed_fix.diff (cancel loop run by maestro in
    `cleanup_from_kernel`, i.e. in run-list order): no hypothesis. -/
theorem round_deterministic_repaired (α : Addr) (p : Policy) (hp : ∀ n l, (p n l).Perm l) (fuel : Nat) (s : St S) :
    runWith Cfg.repaired α p fuel s = run Cfg.repaired α fuel s :=
  round_deterministic_partial Cfg.repaired α (fun h => by cases h) p hp fuel s

/-- **full strength, code as it is in /repo now** (cancel loop run by maestro, fix 6040f7fd8e): whatever order or
partition the worker threads execute the slices in, the run equals the serial run -/
theorem round_deterministic (α : Addr) (p : Policy) (hp : ∀ n l, (p n l).Perm l) (fuel : Nat) (s : St S) :
    runWith Cfg.current α p fuel s = run Cfg.current α fuel s :=
  round_deterministic_repaired α p hp fuel s

/-- BEFORE fix 6040f7fd8e: actors 0 and 4 end in the same sub-round, each owning activities on which other actors are blocked.
    If the threads run 0's slice first, maestro later sees the wake-ups 1, 2, 3; if they run 4's first, 3, 1, 2. -/
theorem cleanup_race_counterexample :
    (subroundWith Cfg.preActivitiesFix Demo.layoutA [0, 4] (Demo.st0 false [0, 4])).toRun = [1, 2, 3] ∧
    (subroundWith Cfg.preActivitiesFix Demo.layoutA [4, 0] (Demo.st0 false [0, 4])).toRun = [3, 1, 2] := by decide

/-- the same instance with the cancel loop run by maestro: both thread orders give the run-list order -/
example : (subroundWith Cfg.repaired Demo.layoutA [0, 4] (Demo.st0 false [0, 4])).toRun = [1, 2, 3] ∧
    (subroundWith Cfg.repaired Demo.layoutA [4, 0] (Demo.st0 false [0, 4])).toRun = [1, 2, 3] := by decide

/-! non-vacuity: on the demo system, three actors run in a different order; the state really changes and both sides agree -/
open Demo in
example : (subroundWith Cfg.repaired layoutA [3, 1, 2] (st0 false [1, 2, 3])).k.log = [101, 102, 103]
    ∧ (subroundWith Cfg.repaired layoutA [3, 1, 2] (st0 false [1, 2, 3])).toRun = [1, 2, 3]
    ∧ (subroundWith Cfg.repaired layoutA [3, 1, 2] (st0 false [1, 2, 3])).loc 2 = [1] := by decide

open Demo in
example : answered (afterSlices (st0 false []) [2, 3, 1]) [1, 2, 3] = [(1, 2), (2, 3), (3, 4)] := by decide

end SgVerif.C02
