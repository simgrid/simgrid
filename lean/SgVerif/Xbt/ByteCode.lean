/-
A cheap test to put in front of a comparison of names.  Evaluating `a == b` on strings walks their UTF-8 bytes, again
for every pair compared; the number the bytes spell is computed once per string within the evaluation of one declaration,
and two numbers compare in one step.  It pays for tables that one evaluation searches by name many times.
-/
namespace SgVerif.Xbt

def byteCode (s : String) : Nat := s.toByteArray.data.toList.foldl (fun n b => 256 * n + b.toNat) 0

theorem beq_eq_byteCode_and_beq (a b : String) : (a == b) = (byteCode a == byteCode b && a == b) := by
  by_cases h : a = b
  · subst h; simp
  · simp [h]

end SgVerif.Xbt
