import SgVerif.C11.Exec
/-
C11 — Actor lifecycle semantics.  Theorems over the model of Model.lean (a labelled transition system whose labels are
the observable lines of a run; `step s l` is the list of states the line `l` may lead to, `[]` = not allowed).

Strength (see NOTES.md): the on_exit clause is proved for every pending-callback list and every sequence of callbacks
(unbounded).  The kill-time, suspension and daemon clauses are proved twice: as properties of *every accepted line* (the
`_partial` / `_step` theorems: one-step statements about the transition relation, for every state and label) and, at
the end of the file, for every execution (`Exec`); the join clause is proved for the two places where the wake-up date
of a joiner is set.
-/
namespace SgVerif.C11

/-- **on_exit, one callback.**  When a callback of tag `g` of a dying actor is accepted, `g` is the *last registered*
user tag still pending; it is appended to what ran, and removed from what is pending. -/
theorem runCallback_reverse (s s' : Sys) (a g : Nat) (t : Rat) (x0 : Actor)
    (h : runCallback s a g t x0 = some s') :
    tagsOf x0.onExit = tagsOf (s'.acts a).onExit ++ [g] ∧ (s'.acts a).ran = x0.ran ++ [g] ∧
    (s'.acts a).registered = x0.registered := by
  obtain ⟨_, _, _, w, o, l, ht, _, e⟩ := runCallback_eff h
  rw [e]
  exact ⟨ht, rfl, rfl⟩

/-- the callbacks of one dying actor, one after the other (what `cleanup_from_self` does in one go) -/
def cleanupSeq (s : Sys) (a : Nat) (t : Rat) : List Nat → Option Sys
  | [] => some s
  | g :: gs => match runCallback s a g t (s.acts a) with
    | some s' => cleanupSeq s' a t gs
    | none => none

theorem cleanupSeq_reverse (s s' : Sys) (a : Nat) (t : Rat) (gs : List Nat) (h : cleanupSeq s a t gs = some s') :
    tagsOf (s.acts a).onExit = tagsOf (s'.acts a).onExit ++ gs.reverse ∧ (s'.acts a).ran = (s.acts a).ran ++ gs := by
  induction gs generalizing s with
  | nil => simp [cleanupSeq] at h; subst h; simp
  | cons g gs ih =>
    simp only [cleanupSeq] at h
    split at h
    · rename_i s1 h1
      have r := runCallback_reverse s s1 a g t (s.acts a) h1
      have := ih s1 h
      rw [r.1, this.1, this.2, r.2.1]
      simp
    · cases h

/-- **on_exit callbacks run exactly once, in reverse registration order.**  Whatever the registered callbacks (user
tags interleaved with the hidden callbacks of joiners), whatever the reason of the termination: if the callbacks `gs`
are accepted one after the other and none is left pending, then `gs` is exactly the list of registered tags reversed
— every tag once (the lists are equal, not merely equal as sets), none twice, none missing. -/
theorem on_exit_once_reverse_order (s s' : Sys) (a : Nat) (t : Rat) (gs : List Nat)
    (h : cleanupSeq s a t gs = some s') (hnone : tagsOf (s'.acts a).onExit = []) (hfresh : (s.acts a).ran = []) :
    gs = (tagsOf (s.acts a).onExit).reverse ∧ (s'.acts a).ran = (tagsOf (s.acts a).onExit).reverse := by
  have r := cleanupSeq_reverse s s' a t gs h
  rw [hnone] at r
  have e : gs = (tagsOf (s.acts a).onExit).reverse := by rw [r.1]; simp
  exact ⟨e, by rw [r.2, hfresh, ← e]; simp⟩

/-- a callback is refused when it is not the last registered one still pending -/
theorem on_exit_wrong_order_refused (s s' : Sys) (a g : Nat) (t : Rat) (x0 : Actor)
    (h : runCallback s a g t x0 = some s') : (tagsOf x0.onExit).getLast? = some g := by
  have := (runCallback_reverse s s' a g t x0 h).1
  rw [this]; simp

/-- **kill time (one-step form).**  While an actor with kill time `T` is live, no line of any actor can carry a date
later than `T`: the clock cannot pass `T` unless the actor dies — and the only thing the model lets it do at `T` when
nothing else is due is to run its on_exit callbacks (`step`, case `x.killAt = some t`). -/
theorem kill_time_exact_partial (s : Sys) (b : Nat) (T : Rat) (hb : b < s.k) (hl : (s.acts b).life = .live)
    (hk : (s.acts b).killAt = some T) (a i : Nat) (t : Rat) (sk : Bool) :
    (step s (.op a i t sk) ≠ [] → t ≤ T) ∧ (step s (.joined a i t) ≠ [] → t ≤ T) ∧
    (∀ g, step s (.exitCb a g t) ≠ [] → t ≤ T) := by
  obtain ⟨d, hd, hdT⟩ := due_le_killAt (s.acts b) T hl hk
  have le : ∀ l : Label, (∀ t', l ≠ .finish t') → step s l ≠ [] → l.date ≤ T := fun l hl h =>
    Rat.le_trans (timeOk_le_due s l.date b hb d hd (timeOk_of_step h hl)) hdT
  exact ⟨le (.op a i t sk) nofun, le (.joined a i t) nofun, fun g => le (.exitCb a g t) nofun⟩

/-- a set_kill_time in the past is ignored (`if (kill_time <= now) return;`) -/
theorem kill_time_in_the_past_ignored (s s1 : Sys) (a i b : Nat) (t T : Rat) (x1 : Actor) (hT : T ≤ t)
    (hset : b < s.k ∧ (s.acts b).handleSet = true) :
    applyOp s s1 a i t x1 (.killTime b T) false = some s1 := by
  simp [applyOp, hset.1, hset.2, hT]

/-- **a suspended actor makes no progress (one-step form).**  No line of a live actor that was suspended at an earlier
date is accepted: neither reaching its next op nor returning from a join, until a `resume` clears the flag. -/
theorem suspended_makes_no_progress_step (s : Sys) (a : Nat) (t : Rat) (hl : (s.acts a).life = .live)
    (hs : (s.acts a).suspended = true) (ht : (s.acts a).suspendedAt ≠ some t) (i : Nat) (sk : Bool) :
    step s (.op a i t sk) = [] ∧ step s (.joined a i t) = [] := by
  -- such a record can neither run nor be in its last slice
  have nb : ∀ x : Actor, core x = core (s.acts a) → ¬ (x.canRun t = true ∨ x.lastBreath t = true) := by
    intro x hc
    simp only [core, Prod.mk.injEq] at hc
    rw [Actor.canRun, Actor.lastBreath, hc.2.1, hl, hc.2.2.2.1, hs, hc.2.2.2.2.1]
    simp [ht]
  exact ⟨List.eq_nil_iff_forall_not_mem.mpr fun s' h => nb _ (assignHandle_core s a a) (step_rel_op h).2.1,
    List.eq_nil_iff_forall_not_mem.mpr fun s' h => nb _ rfl (step_rel_joined h).2.1⟩

/-- `resume` of an actor that is not suspended changes nothing (`if (not suspended_) return;`) -/
theorem resume_not_suspended_noop (s s1 : Sys) (a i b : Nat) (t : Rat) (x1 : Actor)
    (hset : b < s.k ∧ (s.acts b).handleSet = true) (hns : (s1.acts b).suspended = false) :
    applyOp s s1 a i t x1 (.resume b) false = some s1 := by
  simp [applyOp, hset.1, hset.2, hns]

/-- **daemons (one-step form).**  When only daemons remain, (1) the clock cannot move before the rule is applied and
(2) applying it leaves no live actor: they all die at the current date. -/
theorem daemons_killed_when_last_nondaemon_ends_partial (s : Sys) (h : s.daemonCond = true) :
    (∀ t, s.timeOk t = true → t = s.clock) ∧ (∀ i, i < s.k → ((s.daemonRule).acts i).life ≠ .live) := by
  refine ⟨fun t => timeOk_daemonCond h, fun i hi => ?_⟩
  unfold Sys.daemonCond at h
  unfold Sys.daemonRule
  dsimp only at h ⊢
  rw [if_pos ((Bool.and_eq_true _ _).mp h).1]
  dsimp only
  rw [if_pos hi]
  unfold Actor.die
  split
  · exact nofun
  · next hn => exact hn

/-- **join (the two places where the joiner's wake-up date is set).**  `join(τ)` on a target that is already gone
returns at once; otherwise the joiner sleeps until `t0 + τ` (for ever without timeout) … -/
theorem join_wake_at_start (s s1 r : Sys) (a i b : Nat) (t : Rat) (x1 : Actor) (tau : Option Rat)
    (hset : b < s.k ∧ (s.acts b).handleSet = true) (hab : a ≠ b)
    (h : applyOp s s1 a i t x1 (.join b tau) false = some r) :
    (r.acts a).wake = if (s1.acts b).life.gone then some t else tau.map (t + ·) := by
  simp only [applyOp, hset.1, hset.2] at h
  by_cases hg : (s1.acts b).life.gone = true
  · simp [hg] at h
    subst h
    simp [upd, hg]
  · simp [hg] at h
    subst h
    cases tau <;> simp [upd, hab, hg]

/-- … and the hidden callback registered in the target's on_exit list ends that sleep at the target's death date -/
theorem join_wake_at_target_exit (acts : Nat → Actor) (d : Rat) (j i : Nat)
    (hl : (acts j).life = .live) (hj : (acts j).inJoin = some i) :
    ((runHidden acts d [.joinWake j i]).1 j).wake = some d := by
  simp [runHidden, hl, hj, Life.isLive, upd]

/-! ### run-level theorems: all executions of the transition system (`Exec s ls s'` ⇔ `s' ∈ runAll [s] ls`), for every
number of actors, every program, every sequence of lines -/

/-- **kill_time_exact (run level).**  In every state `s` reachable from `init k progs` and for every actor `b` with a
kill time `T` armed (`killAt = some T`):
 * if `b` is live then `s.clock ≤ T` — no execution ever shows a live actor after its kill time;
 * if `b` is dying, it died at a date `d ≤ T` (and `d` is in the past).
Moreover, in every continuation `s ⟶* s'`: if `b` was live in `s` and is dying in `s'` with kill time `T`, its death date
satisfies `s.clock ≤ d ≤ T`.  Hence an actor that has not ended when the clock reaches its kill time (`s.clock = T`)
dies at exactly `T`; an actor that ends earlier (own end, kill, exit, maestro) dies at that earlier date.
(`finish` is only accepted when nobody is live, so a run cannot end with the actor alive; that the model's kill-time
branch of `step (.exitCb …)` is the transition taken at `T` is the one-step theorem `kill_time_exact_partial`.)
A later `set_kill_time` on the same actor overwrites `killAt`: the statement is about the kill time in force. -/
theorem kill_time_exact (k : Nat) (progs : Nat → List Op) (ls1 ls2 : List Label) (s s' : Sys)
    (h1 : Exec (init k progs) ls1 s) (h2 : Exec s ls2 s') (b : Nat) (hb : b < s.k) :
    (∀ T, (s.acts b).killAt = some T →
      ((s.acts b).life = .live → s.clock ≤ T) ∧ (∀ d, (s.acts b).life = .dying d → d ≤ T ∧ d ≤ s.clock)) ∧
    ((s.acts b).life = .live → ∀ T d, (s'.acts b).killAt = some T → (s'.acts b).life = .dying d → s.clock ≤ d ∧ d ≤ T) := by
  have i1 : KInv s := kinv_exec h1 (kinv_init k progs)
  have i2 : KInv s' := kinv_exec h2 i1
  have hb' : b < s'.k := by rw [(exec_static h2).1]; exact hb
  refine ⟨fun T hT => ⟨((i1 b hb).1 T hT).1, fun d hd => ⟨((i1 b hb).1 T hT).2 d hd, (i1 b hb).2 d hd⟩⟩, ?_⟩
  intro hl T d hT hd
  exact ⟨exec_death_after b h2 hl d hd, ((i2 b hb').1 T hT).2 d hd⟩

-- (stands here and not in Exec.lean because it rests on `suspended_makes_no_progress_step`)
theorem step_suspended {s s' : Sys} {l : Label} {a : Nat} {ts : Rat} (h : s' ∈ step s l)
    (hl : (s.acts a).life = .live) (hs : (s.acts a).suspended = true) (hat : (s.acts a).suspendedAt = some ts)
    (hnr : ∀ c i t, l = .op c i t false → opOf (s.acts c) i ≠ some (.resume a)) (hl' : (s'.acts a).life = .live) :
    (s'.acts a).suspended = true ∧ (s'.acts a).suspendedAt = some ts ∧ (∀ t, OwnLine a l t → t = ts) ∧
    ((∀ t, ¬ OwnLine a l t) → (s'.acts a).pc = (s.acts a).pc ∧ (s'.acts a).inJoin = (s.acts a).inJoin) := by
  have own : ∀ t, OwnLine a l t → t = ts := by
    intro t ho
    refine Decidable.by_contra fun hne => ?_
    have hts : (s.acts a).suspendedAt ≠ some t := fun e => hne (Option.some.inj (e.symm.trans hat))
    rcases ho with ⟨i, sk, rfl⟩ | ⟨i, rfl⟩
    · rw [(suspended_makes_no_progress_step s a t hl hs hts i sk).1] at h; cases h
    · rw [(suspended_makes_no_progress_step s a t hl hs hts i false).2] at h; cases h
  have A := (step_rel s s' l h).2.2.1.act a
  have hsus := (A.susp hl hl' hs).resolve_right fun htg => by
    cases l with
    | op c i t sk =>
      obtain ⟨o, ho, rfl, rfl⟩ := htg
      exact hnr c i t rfl ho
    | joined | exitCb | finish => exact htg
  refine ⟨hsus.1, hsus.2.trans hat, own, fun hno => (A.prog hl hl').resolve_right fun hself => ?_⟩
  cases l with
  | op c i t sk => obtain rfl := Option.some.inj hself; exact hno t (.inl ⟨i, sk, rfl⟩)
  | joined c i t => obtain rfl := Option.some.inj hself; exact hno t (.inr ⟨i, rfl⟩)
  | exitCb c g t =>
    obtain rfl := Option.some.inj hself
    have := (step_rel_exitCb h).2.2
    rw [hl'] at this
    cases this
  | finish _ => cases hself

/-- **suspended_makes_no_progress (run level, whole intervals).**  Take any execution `s ⟶* s'` that starts in a state
where actor `a` is live and suspended (by the `suspend` issued at date `ts`), and during which no line executes a
`resume a`.  If `a` is still alive at the end (it was not killed meanwhile) then
 * it is still suspended, by the same suspension;
 * every line of `a` in the execution (reaching an op, returning from a join) carries the date `ts` itself — the rest of
   the slice it was scheduled for in the scheduling round of the `suspend`, which is what SimGrid lets it finish;
 * and if the execution starts after that date (`ts < s.clock`): there is NO line of `a` at all, and its program counter
   and its pending join are the same at the end as at the start.
(If `a` is killed meanwhile, its on_exit lines are the only ones it produces: `Actor.die` clears `suspended`.) -/
theorem suspended_makes_no_progress (s s' : Sys) (ls : List Label) (a : Nat) (ts : Rat) (h : Exec s ls s')
    (hl : (s.acts a).life = .live) (hs : (s.acts a).suspended = true) (hat : (s.acts a).suspendedAt = some ts)
    (hnr : NoResume s a ls) (hl' : (s'.acts a).life = .live) :
    (s'.acts a).suspended = true ∧ (s'.acts a).suspendedAt = some ts ∧
    (∀ l, l ∈ ls → ∀ t, OwnLine a l t → t = ts) ∧
    (ts < s.clock → (s'.acts a).pc = (s.acts a).pc ∧ (s'.acts a).inJoin = (s.acts a).inJoin ∧
      ∀ l, l ∈ ls → ∀ t, ¬ OwnLine a l t) := by
  induction h with
  | nil =>
    exact ⟨hs, hat, fun l hm => (by cases hm), fun _ => ⟨rfl, rfl, fun l hm => (by cases hm)⟩⟩
  | @cons s s1 s2 l ls hst hex ih =>
    -- the actor is still live after the first line (it is live at the end)
    have hl1 : (s1.acts a).life = .live := by
      cases h1 : (s1.acts a).life with
      | live => rfl
      | absent =>
        have := ((step_rel s s1 l hst).2.2.1.act a).l_abs h1
        rw [hl] at this; cases this
      | dying d => have := (exec_gone a hex (by rw [h1]; rfl)).1; rw [hl'] at this; cases this
      | dead => have := (exec_gone a hex (by rw [h1]; rfl)).1; rw [hl'] at this; cases this
    have hst1 := step_static s s1 l hst
    obtain ⟨q1, q2, own, q4⟩ := step_suspended hst hl hs hat (fun c i t e => hnr c i t (e ▸ List.mem_cons_self)) hl1
    have hnr1 : NoResume s1 a ls := by
      intro c i t hm
      have := hnr c i t (List.mem_cons_of_mem _ hm)
      unfold opOf at this ⊢
      rw [hst1.2 c]; exact this
    obtain ⟨r1, r2, r3, r4⟩ := ih hl1 q1 q2 hnr1 hl'
    refine ⟨r1, r2, ?_, ?_⟩
    · intro l' hm t ho
      rcases List.mem_cons.mp hm with e | hm'
      · subst e; exact own t ho
      · exact r3 l' hm' t ho
    · intro hlt
      -- the date of an accepted line is not before the clock
      have hdate : ∀ t, ¬ OwnLine a l t := by
        intro t ho
        have hge : s.clock ≤ t := by
          have := (step_rel s s1 l hst).1
          rcases ho with ⟨i, sk, rfl⟩ | ⟨i, rfl⟩ <;> exact this
        exact absurd hlt (Rat.not_lt.mpr (own t ho ▸ hge))
      obtain ⟨p1, p2⟩ := q4 hdate
      obtain ⟨p3, p4, p5⟩ := r4 (Rat.not_le.mp (fun hle => Rat.not_le.mpr hlt (Rat.le_trans (step_clock_mono s s1 l hst) hle)))
      refine ⟨by rw [p3, p1], by rw [p4, p2], ?_⟩
      intro l' hm t ho
      rcases List.mem_cons.mp hm with e | hm'
      · subst e; exact hdate t ho
      · exact p5 l' hm' t ho

/-- **daemons_killed_when_last_nondaemon_ends (run level).**  In every execution that starts in a state where only
daemons remain and at least one of them is live (`daemonCond`): the clock cannot leave that date before the system has
gone through a state, at that very date, in which either no present actor is live any more — every daemon has been
killed (dying or dead) at the date the last regular actor ended — or a regular (non-daemon) actor is present again
(created by a daemon in the same scheduling round, which legitimately keeps the daemons alive). -/
theorem daemons_killed_when_last_nondaemon_ends (s s' : Sys) (ls : List Label) (h : Exec s ls s')
    (hd : s.daemonCond = true) (hlt : s.clock < s'.clock) :
    ∃ l1 l2 sm, ls = l1 ++ l2 ∧ Exec s l1 sm ∧ Exec sm l2 s' ∧ sm.clock = s.clock ∧
      ((∀ i, i < sm.k → Present sm i → (sm.acts i).life ≠ .live) ∨
       (∃ i, i < sm.k ∧ Present sm i ∧ (sm.acts i).daemon = false)) := by
  obtain ⟨l1, l2, sm, e, x1, x2, x3, x4⟩ := exec_daemon h hd hlt
  exact ⟨l1, l2, sm, e, x1, x2, x3, not_daemonCond sm x4⟩

/-- … **and in pid order**: an on_exit callback of an actor killed by maestro while it was blocked (`byMaestro`, no
last breath) is only accepted when no maestro-killed blocked actor with a smaller pid still has callbacks to run -/
theorem maestro_kills_in_pid_order (s : Sys) (a g : Nat) (t d : Rat) (hl : (s.acts a).life = .dying d)
    (hg : (s.acts a).ghost = false) (hm : (s.acts a).byMaestro = true) (hb : (s.acts a).breath = false)
    (h : step s (.exitCb a g t) ≠ []) : s.lowerMaestroPending a = false := by
  by_cases hp : s.lowerMaestroPending a = true
  · exfalso
    apply h
    simp [step, hl, hg, hm, hb, hp]
  · simpa using hp

/-! ### Non-vacuity: a real log (props/C11/corpus.txt, first case) is accepted by the model, line by line -/
def exProgs : Nat → List Op
  | 0 => [.onExit 1, .onExit 2, .create 1, .sleep 1, .kill 1, .sleep 1]
  | 1 => [.onExit 7, .sleep 4, .log]
  | _ => []
def exLog : List Label :=
  [.op 0 0 0 false, .op 0 1 0 false, .op 0 2 0 false, .op 0 3 0 false, .op 1 0 0 false, .op 1 1 0 false,
   .op 0 4 1 false, .exitCb 1 7 1, .exitCb 1 0 1, .op 0 5 1 false, .exitCb 0 2 2, .exitCb 0 1 2, .exitCb 0 0 2, .finish 2]
example : (runAll [init 2 exProgs] exLog).isEmpty = false := by decide +kernel
/-- … and the same log with the two callbacks of actor 0 swapped is refused -/
example : (runAll [init 2 exProgs] [.op 0 0 0 false, .op 0 1 0 false, .op 0 2 0 false, .op 0 3 0 false, .op 1 0 0 false,
   .op 1 1 0 false, .op 0 4 1 false, .exitCb 1 7 1, .exitCb 1 0 1, .op 0 5 1 false, .exitCb 0 1 2]).isEmpty = true := by
  decide +kernel
/-- a kill timer: actor 0 sets its kill time to 2 and sleeps until 4: it cannot wake at 4, it dies at 2 -/
example : (runAll [init 1 (fun _ => [.killTime 0 2, .sleep 4, .log])]
    [.op 0 0 0 false, .op 0 1 0 false, .exitCb 0 0 2, .finish 2]).isEmpty = false := by decide +kernel
example : (runAll [init 1 (fun _ => [.killTime 0 2, .sleep 4, .log])]
    [.op 0 0 0 false, .op 0 1 0 false, .op 0 2 4 false]).isEmpty = true := by decide +kernel

/-- non-vacuity of `kill_time_exact`: actor 0 arms its kill time 2 at date 0 and sleeps until 4: reachable state with
the timer armed, the actor live; and a continuation in which it is dying — at date 2 -/
example : ∃ s s', Exec (init 1 (fun _ => [.killTime 0 2, .sleep 4, .log])) [.op 0 0 0 false, .op 0 1 0 false] s ∧
    Exec s [.exitCb 0 0 2] s' ∧ 0 < s.k ∧ (s.acts 0).life = .live ∧ (s.acts 0).killAt = some 2 ∧
    (s'.acts 0).killAt = some 2 := by
  have h : ((runAll [init 1 (fun _ => [.killTime 0 2, .sleep 4, .log])] [.op 0 0 0 false, .op 0 1 0 false]).any (fun s =>
      (step s (.exitCb 0 0 2)).any (fun s' =>
        decide (0 < s.k ∧ (s.acts 0).life = .live ∧ (s.acts 0).killAt = some 2 ∧ (s'.acts 0).killAt = some 2)))) = true := by
    decide +kernel
  obtain ⟨s, hs, hp⟩ := List.any_eq_true.mp h
  obtain ⟨s', hs', hq⟩ := List.any_eq_true.mp hp
  have hq' := of_decide_eq_true hq
  exact ⟨s, s', .of_mem_runAll hs, .cons hs' (.nil _), hq'.1, hq'.2.1, hq'.2.2.1, hq'.2.2.2⟩

/-- non-vacuity of `suspended_makes_no_progress`: actor 0 creates actor 1 (which sleeps 2), suspends it at date 1 and
goes on; hypotheses hold in the state after the `suspend`, with a continuation in which actor 1 is still live -/
example : ∃ s s', Exec (init 2 (fun i => if i = 0 then [.create 1, .sleep 1, .suspend 1, .sleep 1, .log] else [.sleep 2, .log]))
      [.op 0 0 0 false, .op 1 0 0 false, .op 0 1 0 false, .op 0 2 1 false] s ∧
    Exec s [.op 0 3 1 false, .op 0 4 2 false] s' ∧
    (s.acts 1).life = .live ∧ (s.acts 1).suspended = true ∧ (s.acts 1).suspendedAt = some 1 ∧ (s'.acts 1).life = .live := by
  have h : ((runAll [init 2 (fun i => if i = 0 then [.create 1, .sleep 1, .suspend 1, .sleep 1, .log] else [.sleep 2, .log])]
      [.op 0 0 0 false, .op 1 0 0 false, .op 0 1 0 false, .op 0 2 1 false]).any (fun s =>
      (runAll [s] [.op 0 3 1 false, .op 0 4 2 false]).any (fun s' =>
        decide ((s.acts 1).life = .live ∧ (s.acts 1).suspended = true ∧ (s.acts 1).suspendedAt = some 1 ∧
          (s'.acts 1).life = .live)))) = true := by
    decide +kernel
  obtain ⟨s, hs, hp⟩ := List.any_eq_true.mp h
  obtain ⟨s', hs', hq⟩ := List.any_eq_true.mp hp
  have hq' := of_decide_eq_true hq
  exact ⟨s, s', .of_mem_runAll hs, .of_mem_runAll hs', hq'.1, hq'.2.1, hq'.2.2.1, hq'.2.2.2⟩

/-- non-vacuity of `daemons_killed_when_last_nondaemon_ends`: actor 1 daemonizes and sleeps for ever; when actor 0 ends
at date 1 only the daemon remains (`daemonCond`), and the run goes on to its `finish` at the same date -/
example : ((runAll [init 2 (fun i => if i = 0 then [.create 1, .sleep 1] else [.daemonize, .sleep 8, .log])]
      [.op 0 0 0 false, .op 1 0 0 false, .op 1 1 0 false, .op 0 1 0 false, .exitCb 0 0 1]).any
        (fun s => s.daemonCond)) = true := by
  decide +kernel

end SgVerif.C11
