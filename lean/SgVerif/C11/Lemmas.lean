import SgVerif.C11.Model
/-
C11: what the pieces of `step` do, before any relation: the user tags through `runHidden` / `runCallback`, and what a date
allowed by `timeOk` satisfies.
-/
namespace SgVerif.C11

/-- the user tags of an on_exit list, in order (the hidden `joinWake` entries dropped) -/
def tagsOf : List Cb → List Nat
  | [] => []
  | .tag g :: r => g :: tagsOf r
  | .joinWake _ _ :: r => tagsOf r

theorem tagsOf_eq (l : List Cb) : tagsOf l = l.filterMap fun | .tag g => some g | .joinWake _ _ => none := by
  induction l with
  | nil => rfl
  | cons c r ih => cases c <;> simp [tagsOf, ih]

theorem tagsOf_reverse (a : List Cb) : tagsOf a.reverse = (tagsOf a).reverse := by
  rw [tagsOf_eq, tagsOf_eq, List.filterMap_reverse]

theorem runHidden_wake (acts : Nat → Actor) (d : Rat) (l : List Cb) (c : Nat) :
    ∃ w, (runHidden acts d l).1 c = { acts c with wake := w } := by
  induction l generalizing acts with
  | nil => exact ⟨_, rfl⟩
  | cons cb rest ih =>
    cases cb with
    | tag g => exact ⟨_, rfl⟩
    | joinWake j i =>
      simp only [runHidden]
      split
      · obtain ⟨w, hw⟩ := ih (upd acts j { acts j with wake := some d })
        rw [hw]
        unfold upd
        split
        · next e => exact ⟨w, by rw [e]⟩
        · exact ⟨w, rfl⟩
      · exact ih acts

theorem runHidden_tags (acts : Nat → Actor) (d : Rat) (l : List Cb) : tagsOf (runHidden acts d l).2 = tagsOf l := by
  induction l generalizing acts with
  | nil => rfl
  | cons cb rest ih =>
    cases cb with
    | tag g => rfl
    | joinWake j i => exact ih _

theorem upd_same (f : Nat → Actor) (i : Nat) (x : Actor) : upd f i x i = x := by simp [upd]
theorem upd_ne {f : Nat → Actor} {i j : Nat} {x : Actor} (h : j ≠ i) : upd f i x j = f j := by simp [upd, h]

theorem runCallback_eff {s s' : Sys} {a g : Nat} {t : Rat} {x0 : Actor} (h : runCallback s a g t x0 = some s') :
    s'.clock = t ∧ s'.k = s.k ∧ (∀ j, j ≠ a → ∃ w, s'.acts j = { s.acts j with wake := w }) ∧
    ∃ w o l, tagsOf x0.onExit = tagsOf o ++ [g] ∧ (l = x0.life ∨ l = .dead) ∧
      s'.acts a = { x0 with wake := w, onExit := o, ran := x0.ran ++ [g], life := l } := by
  unfold runCallback at h
  dsimp only at h
  have t1 := runHidden_tags (upd s.acts a x0) t x0.onExit.reverse
  have H1 := runHidden_wake (upd s.acts a x0) t x0.onExit.reverse
  generalize runHidden (upd s.acts a x0) t x0.onExit.reverse = r1 at h t1 H1
  split at h
  · next g' rest hr1 =>
    split at h
    · cases h
    next hg =>
    obtain rfl : g' = g := Decidable.not_not.mp hg
    cases h
    rw [hr1, tagsOf_reverse] at t1
    obtain ⟨w1, f1⟩ := H1 a
    rw [upd_same] at f1
    generalize hB : upd r1.1 a _ = B
    have t2 := runHidden_tags B t rest
    have H2 := runHidden_wake B t rest
    generalize runHidden B t rest = r2 at t2 H2
    refine ⟨rfl, rfl, fun j hj => ?_, ?_⟩
    · obtain ⟨w, f2⟩ := H2 j
      obtain ⟨w', f1'⟩ := H1 j
      exact ⟨w, by dsimp only; rw [upd_ne hj, f2, ← hB, upd_ne hj, f1', upd_ne hj]⟩
    · obtain ⟨w, f2⟩ := H2 a
      refine ⟨w, r2.2.reverse, _, ?_, ?_, by dsimp only; rw [upd_same, f2, ← hB, upd_same, f1]⟩
      · rw [tagsOf_reverse, t2, ← List.reverse_reverse (tagsOf x0.onExit), ← t1]
        exact List.reverse_cons
      · split
        · exact .inr rfl
        · exact .inl rfl
  · cases h

theorem due_le_killAt (x : Actor) (T : Rat) (hl : x.life = .live) (hk : x.killAt = some T) :
    ∃ d, x.due = some d ∧ d ≤ T := by
  unfold Actor.due
  rw [hl, hk]
  simp only
  cases hw : (if x.suspended = true then none else x.wake) with
  | none => exact ⟨T, rfl, Rat.le_refl⟩
  | some a =>
    by_cases hab : a ≤ T
    · exact ⟨a, by simp [hab], hab⟩
    · exact ⟨T, by simp [hab], Rat.le_refl⟩

theorem timeOk_clock (s : Sys) (t : Rat) (h : s.timeOk t = true) : s.clock ≤ t := by
  unfold Sys.timeOk at h
  simp only [Bool.and_eq_true, decide_eq_true_eq] at h
  exact h.1.1

theorem timeOk_le_due (s : Sys) (t : Rat) (b : Nat) (hb : b < s.k) (d : Rat) (hd : (s.acts b).due = some d)
    (h : s.timeOk t = true) : t ≤ d := by
  unfold Sys.timeOk at h
  simp only [Bool.and_eq_true] at h
  have h2 := h.1.2
  unfold Sys.nothingDueBefore Sys.ids at h2
  rw [List.all_eq_true] at h2
  have := h2 b (List.mem_range.mpr hb)
  rw [hd] at this
  simpa using this

theorem timeOk_daemonCond {s : Sys} {t : Rat} (hd : s.daemonCond = true) (h : s.timeOk t = true) : t = s.clock := by
  unfold Sys.timeOk at h
  simp only [Bool.and_eq_true, Bool.or_eq_true, Bool.not_eq_true', hd] at h
  simpa using h.2

end SgVerif.C11
