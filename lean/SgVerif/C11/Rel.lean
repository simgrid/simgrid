import SgVerif.C11.Lemmas
import SgVerif.Common.Fold
/-
C11: a one-step relation on actor records (`AStep`) that every building block of `step` satisfies, and its lifting to
accepted lines (`step_rel`).
-/
namespace SgVerif.C11

def Label.date : Label → Rat
  | .op _ _ t _ => t
  | .joined _ _ t => t
  | .exitCb _ _ t => t
  | .finish t => t

/-- the fields the run-level theorems look at -/
def core (x : Actor) : List Op × Life × Option Rat × Bool × Option Rat × Nat × Option Nat × Bool × Nat :=
  (x.ops, x.life, x.killAt, x.suspended, x.suspendedAt, x.pc, x.inJoin, x.daemon, x.pid)

/-- what one step at date `t` may do to one actor record (`slf`: the actor is the subject of the line; `tgt`: it is the
target of the `resume` executed by the line) -/
structure AStep (t : Rat) (slf tgt : Prop) (x y : Actor) : Prop where
  ops : y.ops = x.ops
  l_abs : y.life = .absent → x.life = .absent
  l_live : y.life = .live → x.life = .live ∨ x.life = .absent
  l_dying : ∀ d, y.life = .dying d → x.life = .dying d ∨ (d = t ∧ (x.life = .live ∨ x.life = .absent))
  l_dead : x.life = .dead → y.life = .dead
  l_gone : ∀ d, x.life = .dying d → y.life = .dying d ∨ y.life = .dead
  kill : x.life ≠ .absent → (y.killAt = x.killAt ∨ ∃ kt, y.killAt = some kt ∧ t < kt)
  knew : x.life = .absent → y.life ≠ .absent → (y.killAt = none ∨ ∃ kt, y.killAt = some kt ∧ t < kt)
  susp : x.life = .live → y.life = .live → x.suspended = true →
    (y.suspended = true ∧ y.suspendedAt = x.suspendedAt) ∨ tgt
  prog : x.life = .live → y.life = .live → (y.pc = x.pc ∧ y.inJoin = x.inJoin) ∨ slf
  dmn : x.daemon = true → y.daemon = true
  pid : x.life ≠ .absent → y.pid = x.pid

theorem AStep.of_life_eq {t : Rat} {slf tgt : Prop} {x y : Actor} (hops : y.ops = x.ops) (hlife : y.life = x.life)
    (hpid : y.pid = x.pid)
    (hk : y.killAt = x.killAt ∨ (∃ kt, y.killAt = some kt ∧ t < kt))
    (hs : x.suspended = true → (y.suspended = true ∧ y.suspendedAt = x.suspendedAt) ∨ tgt)
    (hp : (y.pc = x.pc ∧ y.inJoin = x.inJoin) ∨ slf) (hd : x.daemon = true → y.daemon = true) : AStep t slf tgt x y := by
  refine ⟨hops, ?_, ?_, ?_, ?_, ?_, fun _ => hk, fun hx hy => absurd (hlife.trans hx) hy,
    fun _ _ => hs, fun _ _ => hp, hd, fun _ => hpid⟩
  · rw [hlife]; exact id
  · rw [hlife]; exact .inl
  · intro d; rw [hlife]; exact .inl
  · rw [hlife]; exact id
  · intro d; rw [hlife]; exact .inl

theorem AStep.of_core {t : Rat} {slf tgt : Prop} {x y : Actor} (h : core y = core x) : AStep t slf tgt x y := by
  simp only [core, Prod.mk.injEq] at h
  obtain ⟨h1, h2, h3, h4, h5, h6, h7, h8, h9⟩ := h
  exact .of_life_eq h1 h2 h9 (.inl h3) (fun hs => .inl ⟨h4.trans hs, h5⟩) (.inl ⟨h6, h7⟩) h8.trans

theorem AStep.refl (t : Rat) (slf tgt : Prop) (x : Actor) : AStep t slf tgt x x := AStep.of_core rfl

theorem AStep.weaken {t : Rat} {slf tgt slf' tgt' : Prop} {x y : Actor} (h : AStep t slf tgt x y)
    (h1 : slf → slf') (h2 : tgt → tgt') : AStep t slf' tgt' x y :=
  ⟨h.ops, h.l_abs, h.l_live, h.l_dying, h.l_dead, h.l_gone, h.kill, h.knew,
   fun a b c => (h.susp a b c).imp id h2, fun a b => (h.prog a b).imp id h1, h.dmn, h.pid⟩

theorem AStep.trans {t : Rat} {slf tgt : Prop} {x m y : Actor} (h1 : AStep t slf tgt x m) (h2 : AStep t slf tgt m y) :
    AStep t slf tgt x y := by
  have midlive : x.life = .live → y.life = .live → m.life = .live := by
    intro hx hy
    rcases h2.l_live hy with h | h
    · exact h
    · have := h1.l_abs h; rw [hx] at this; cases this
  refine ⟨by rw [h2.ops, h1.ops], fun h => h1.l_abs (h2.l_abs h), ?_, ?_, fun h => h2.l_dead (h1.l_dead h), ?_, ?_, ?_, ?_, ?_,
    fun h => h2.dmn (h1.dmn h), ?_⟩
  · intro h
    rcases h2.l_live h with h' | h'
    · exact h1.l_live h'
    · exact Or.inr (h1.l_abs h')
  · intro d h
    rcases h2.l_dying d h with h' | ⟨hd, h'⟩
    · exact h1.l_dying d h'
    · right
      refine ⟨hd, ?_⟩
      rcases h' with h' | h'
      · exact h1.l_live h'
      · exact Or.inr (h1.l_abs h')
  · intro d h
    rcases h1.l_gone d h with h' | h'
    · exact h2.l_gone d h'
    · exact Or.inr (h2.l_dead h')
  · intro hx
    have hm : m.life ≠ .absent := fun e => hx (h1.l_abs e)
    rcases h2.kill hm with k2 | ⟨kt, k2, hk⟩
    · rcases h1.kill hx with k1 | ⟨kt, k1, hk⟩
      · exact Or.inl (by rw [k2, k1])
      · exact Or.inr ⟨kt, by rw [k2, k1], hk⟩
    · exact Or.inr ⟨kt, k2, hk⟩
  · intro hx hy
    by_cases hm : m.life = .absent
    · exact h2.knew hm hy
    · rcases h2.kill hm with k2 | ⟨kt, k2, hk⟩
      · rcases h1.knew hx hm with k1 | ⟨kt, k1, hk⟩
        · exact Or.inl (by rw [k2, k1])
        · exact Or.inr ⟨kt, by rw [k2, k1], hk⟩
      · exact Or.inr ⟨kt, k2, hk⟩
  · intro hx hy hs
    have hm := midlive hx hy
    rcases h1.susp hx hm hs with ⟨a1, a2⟩ | a
    · rcases h2.susp hm hy a1 with ⟨b1, b2⟩ | b
      · exact Or.inl ⟨b1, by rw [b2, a2]⟩
      · exact Or.inr b
    · exact Or.inr a
  · intro hx hy
    have hm := midlive hx hy
    rcases h1.prog hx hm with ⟨a1, a2⟩ | a
    · rcases h2.prog hm hy with ⟨b1, b2⟩ | b
      · exact Or.inl ⟨by rw [b1, a1], by rw [b2, a2]⟩
      · exact Or.inr b
    · exact Or.inr a
  · intro hx
    have hm : m.life ≠ .absent := fun e => hx (h1.l_abs e)
    rw [h2.pid hm, h1.pid hx]

theorem AStep.die (t : Rat) (slf tgt : Prop) (x : Actor) (bm : Bool) : AStep t slf tgt x (x.die t bm) := by
  unfold Actor.die
  split
  · next hl =>
    refine ⟨rfl, nofun, nofun, fun d h => .inr ⟨(Life.dying.inj h).symm, .inl hl⟩, ?_, ?_, fun _ => .inl rfl, ?_, nofun,
      nofun, id, fun _ => rfl⟩
    · rw [hl]; exact nofun
    · intro d; rw [hl]; exact nofun
    · rw [hl]; exact nofun
  · exact .refl t slf tgt x

theorem AStep.callback (t : Rat) (slf tgt : Prop) {x0 y : Actor} (hd : ∃ d, x0.life = .dying d)
    (h : core y = core x0 ∨ core y = core { x0 with life := .dead }) : AStep t slf tgt x0 y := by
  rcases h with h | h
  · exact .of_core h
  · obtain ⟨d, hd⟩ := hd
    simp only [core, Prod.mk.injEq] at h
    obtain ⟨h1, h2, h3, h4, h5, h6, h7, h8, h9⟩ := h
    refine ⟨h1, ?_, ?_, ?_, fun _ => h2, fun _ _ => .inr h2, fun _ => .inl h3, ?_, ?_, ?_, h8.trans, fun _ => h9⟩
    · rw [h2]; exact nofun
    · rw [h2]; exact nofun
    · intro d'; rw [h2]; exact nofun
    · rw [hd]; exact nofun
    · rw [hd]; exact nofun
    · rw [hd]; exact nofun

structure SRel (t : Rat) (slf tgt : Nat → Prop) (s s' : Sys) : Prop where
  k : s'.k = s.k
  act : ∀ j, AStep t (slf j) (tgt j) (s.acts j) (s'.acts j)

theorem SRel.refl (t : Rat) (slf tgt : Nat → Prop) (s : Sys) : SRel t slf tgt s s := ⟨rfl, fun _ => AStep.refl _ _ _ _⟩
theorem SRel.trans {t : Rat} {slf tgt : Nat → Prop} {a b c : Sys} (h1 : SRel t slf tgt a b) (h2 : SRel t slf tgt b c) :
    SRel t slf tgt a c := ⟨by rw [h2.k, h1.k], fun j => (h1.act j).trans (h2.act j)⟩
theorem SRel.weaken {t : Rat} {slf tgt slf' tgt' : Nat → Prop} {a b : Sys} (h : SRel t slf tgt a b)
    (h1 : ∀ j, slf j → slf' j) (h2 : ∀ j, tgt j → tgt' j) : SRel t slf' tgt' a b :=
  ⟨h.k, fun j => (h.act j).weaken (h1 j) (h2 j)⟩
theorem SRel.of_core {t : Rat} {slf tgt : Nat → Prop} {a b : Sys} (hk : b.k = a.k) (h : ∀ j, core (b.acts j) = core (a.acts j)) :
    SRel t slf tgt a b := ⟨hk, fun j => AStep.of_core (h j)⟩

theorem core_upd {f : Nat → Actor} {i : Nat} {y : Actor} (h : core y = core (f i)) (j : Nat) :
    core (upd f i y j) = core (f j) := by
  unfold upd
  split
  · next e => rw [e]; exact h
  · rfl

theorem astep_upd {t : Rat} {slf tgt : Nat → Prop} (f : Nat → Actor) (b : Nat) (y : Actor)
    (h : AStep t (slf b) (tgt b) (f b) y) : ∀ j, AStep t (slf j) (tgt j) (f j) (upd f b y j) := by
  intro j
  unfold upd
  split
  · next e => rw [e]; exact h
  · exact .refl _ _ _ _

/-- an update of the subject's own record that leaves `life`, `killAt`, `suspended`, `daemon`, `pid` alone -/
theorem astep_own {t : Rat} {tgt : Nat → Prop} (f : Nat → Actor) (a : Nat) (y : Actor) (h1 : y.ops = (f a).ops)
    (h2 : y.life = (f a).life) (h3 : y.pid = (f a).pid) (h4 : y.killAt = (f a).killAt) (h5 : y.suspended = (f a).suspended)
    (h6 : y.suspendedAt = (f a).suspendedAt) (h7 : (f a).daemon = true → y.daemon = true) :
    ∀ j, AStep t (j = a) (tgt j) (f j) (upd f a y j) :=
  astep_upd _ a _ (.of_life_eq h1 h2 h3 (.inl h4) (fun hs => .inl ⟨h5.trans hs, h6⟩) (.inr rfl) h7)

theorem srel_upd_core {t : Rat} {slf tgt : Nat → Prop} (r : Sys) (a : Nat) (y : Actor) (clk : Rat) (hy : core y = core (r.acts a)) :
    SRel t slf tgt r ({ r with clock := clk, acts := upd r.acts a y } : Sys) :=
  ⟨rfl, astep_upd _ a _ (AStep.of_core hy)⟩

theorem runHidden_core (acts : Nat → Actor) (d : Rat) (l : List Cb) (c : Nat) : core ((runHidden acts d l).1 c) = core (acts c) := by
  obtain ⟨w, hw⟩ := runHidden_wake acts d l c
  rw [hw]
  rfl

theorem assignHandle_core (s : Sys) (a j : Nat) : core ((s.assignHandle a).acts j) = core (s.acts j) := by
  unfold Sys.assignHandle
  split
  · rw [core_upd, core_upd] <;> rfl
  · rfl

theorem srel_assign (s : Sys) (a : Nat) (t : Rat) (slf tgt : Nat → Prop) : SRel t slf tgt s (s.assignHandle a) :=
  .of_core (by unfold Sys.assignHandle; split <;> rfl) (assignHandle_core s a)

theorem reap_core (s : Sys) : s.reap.k = s.k ∧ s.reap.clock = s.clock ∧ ∀ j, core (s.reap.acts j) = core (s.acts j) := by
  unfold Sys.reap
  refine foldl_inv (P := fun r => r.k = s.k ∧ r.clock = s.clock ∧ ∀ j, core (r.acts j) = core (s.acts j))
    (fun r i hr => ?_) _ s ⟨rfl, rfl, fun _ => rfl⟩
  dsimp only
  split
  · split
    · refine ⟨hr.1, hr.2.1, fun j => ?_⟩
      rw [core_upd, runHidden_core]
      · exact hr.2.2 j
      · rfl
    · exact hr
  · exact hr

theorem daemonRule_rel (s : Sys) (slf tgt : Nat → Prop) :
    s.daemonRule.clock = s.clock ∧ SRel s.clock slf tgt s s.daemonRule := by
  unfold Sys.daemonRule
  dsimp only
  split
  · refine ⟨rfl, rfl, fun j => ?_⟩
    dsimp only
    split
    · exact .die _ _ _ _ _
    · exact .refl _ _ _ _
  · exact ⟨rfl, .refl _ _ _ _⟩

theorem settleL_rel (s s' : Sys) (slf tgt : Nat → Prop) (h : s' ∈ s.settleL) :
    s'.clock = s.clock ∧ SRel s.clock slf tgt s s' := by
  obtain ⟨r1, r2, r3⟩ := reap_core s
  have hr : SRel s.clock slf tgt s s.reap := .of_core r1 r3
  unfold Sys.settleL at h
  dsimp only at h
  split at h
  · rcases List.mem_cons.mp h with h | h
    · subst h
      obtain ⟨d1, d2⟩ := daemonRule_rel s.reap slf tgt
      obtain ⟨q1, q2, q3⟩ := reap_core s.reap.daemonRule
      rw [r2] at d2
      exact ⟨by rw [q2, d1, r2], hr.trans (d2.trans (.of_core q1 q3))⟩
    · cases List.mem_singleton.mp h; exact ⟨r2, hr⟩
  · cases List.mem_singleton.mp h; exact ⟨r2, hr⟩

theorem settle_compose {t : Rat} {slf tgt : Nat → Prop} {s mid s' : Sys} (h : s' ∈ mid.settleL) (hc : mid.clock = t)
    (h1 : SRel t slf tgt s mid) : s'.clock = t ∧ SRel t slf tgt s s' := by
  obtain ⟨c, r⟩ := settleL_rel mid s' slf tgt h
  rw [hc] at r
  exact ⟨c.trans hc, h1.trans r⟩

theorem callback_rel {t : Rat} {slf tgt : Nat → Prop} (s0 m : Sys) (a g : Nat) (x0 : Actor) (hd : ∃ d, x0.life = .dying d)
    (h : runCallback s0 a g t x0 = some m) (hx : AStep t (slf a) (tgt a) (s0.acts a) x0) :
    (m.clock = t ∧ SRel t slf tgt s0 m) ∧ (m.acts a).life.gone = true := by
  obtain ⟨c, k, o, w, oe, l, _, hl, e⟩ := runCallback_eff h
  -- `wake`, `onExit` and `ran` are outside the core
  refine ⟨⟨c, k, fun j => ?_⟩, ?_⟩
  · by_cases hj : j = a
    · subst hj
      rw [e]
      refine hx.trans (.callback t _ _ hd ?_)
      rcases hl with rfl | rfl
      · exact .inl rfl
      · exact .inr rfl
    · obtain ⟨w, e⟩ := o j hj
      rw [e]
      exact .of_core rfl
  · obtain ⟨d, hd⟩ := hd
    rw [e]
    rcases hl with rfl | rfl
    · exact (congrArg Life.gone hd).trans rfl
    · rfl

theorem die_dying (x : Actor) (t : Rat) (bm : Bool) (hl : x.life = .live) : ∃ d, (x.die t bm).life = .dying d := by
  unfold Actor.die; rw [hl]; exact ⟨t, rfl⟩

theorem gone_of_rel {t : Rat} {slf tgt : Prop} {x y : Actor} (h : AStep t slf tgt x y) (hx : x.life.gone = true) : y.life.gone = true := by
  cases hl : x.life with
  | absent => rw [hl] at hx; cases hx
  | live => rw [hl] at hx; cases hx
  | dying d => rcases h.l_gone d hl with h' | h' <;> (rw [h']; rfl)
  | dead => rw [h.l_dead hl]; rfl

theorem settle_gone {m s' : Sys} (a : Nat) (h : s' ∈ m.settleL) (hx : (m.acts a).life.gone = true) : (s'.acts a).life.gone = true :=
  gone_of_rel ((settleL_rel m s' (fun _ => False) (fun _ => False) h).2.act a) hx

/-- the actor is the target of the `resume` that the line executes -/
def Tgt (o : Op) (sk : Bool) (j : Nat) : Prop := sk = false ∧ o = .resume j

theorem some_guard {c : Prop} [Decidable c] {o : Option Sys} {r : Sys} (h : (if c then none else o) = some r) :
    ¬ c ∧ o = some r := by
  by_cases hc : c
  · rw [if_pos hc] at h; cases h
  · rw [if_neg hc] at h; exact ⟨hc, h⟩

/-- the ops on a target: skipped exactly when the target's handle is not assigned yet -/
theorem target_guard {c : Prop} [Decidable c] {sk : Bool} {s1 r : Sys} {o : Option Sys}
    (h : (if c then (if sk then some s1 else none) else if sk then none else o) = some r) :
    r = s1 ∨ (sk = false ∧ o = some r) := by
  cases sk <;> by_cases hc : c <;> simp only [hc, if_true, if_false, Bool.false_eq_true] at h
  · cases h
  · exact .inr ⟨rfl, h⟩
  · exact .inl (Option.some.inj h).symm
  · cases h

/-- the ops that change only the record of their target, and return early when `g` holds -/
theorem target_update_rel {c g : Prop} [Decidable c] [Decidable g] {sk : Bool} {s1 r : Sys} {b : Nat} {y : Actor} {t : Rat}
    {slf tgt : Nat → Prop}
    (h : (if c then (if sk then some s1 else none) else if sk then none else
      if g then some s1 else some { s1 with acts := upd s1.acts b y }) = some r)
    (hy : sk = false → ¬ g → AStep t (slf b) (tgt b) (s1.acts b) y) : r.clock = s1.clock ∧ SRel t slf tgt s1 r := by
  rcases target_guard h with rfl | ⟨hsk, h⟩
  · exact ⟨rfl, .refl _ _ _ _⟩
  · by_cases hg : g
    · rw [if_pos hg] at h; cases h; exact ⟨rfl, .refl _ _ _ _⟩
    · rw [if_neg hg] at h; cases h; exact ⟨rfl, rfl, astep_upd _ b _ (hy hsk hg)⟩

theorem applyOp_rel {s s1 r : Sys} {a i : Nat} {t : Rat} {x1 : Actor} {o : Op} {sk : Bool}
    (hx1 : s1.acts a = x1) (hlife : ∀ j, (s1.acts j).life = (s.acts j).life) (ha : (s.acts a).life ≠ .absent)
    (h : applyOp s s1 a i t x1 o sk = some r) :
    r.clock = s1.clock ∧ SRel t (fun j => j = a) (Tgt o sk) s1 r := by
  subst hx1
  cases o with
  | sleep d | onExit g =>
    obtain ⟨_, h⟩ := some_guard h
    cases h
    exact ⟨rfl, srel_upd_core s1 a _ _ rfl⟩
  | create c =>
    obtain ⟨hc, h⟩ := some_guard h
    cases h
    have hcl : (s.acts c).life = .absent := Decidable.not_not.mp (not_or.mp (not_or.mp hc).2).2
    have hl : (s1.acts c).life = .absent := (hlife c).trans hcl
    refine ⟨rfl, rfl, fun j => ?_⟩
    refine .trans (astep_own _ a { s1.acts a with pendingHandle := some c } rfl rfl rfl rfl rfl rfl id j)
      (astep_upd (slf := fun j => j = a) (tgt := Tgt (.create c) sk) _ c _ ?_ j)
    rw [upd_ne (show c ≠ a from fun e => ha (e ▸ hcl))]
    refine ⟨rfl, nofun, fun _ => .inr hl, nofun, ?_, ?_, fun e => absurd hl e, fun _ _ => .inl rfl, ?_, ?_, id,
      fun e => absurd hl e⟩
    · rw [hl]; exact nofun
    · intro d; rw [hl]; exact nofun
    · rw [hl]; exact nofun
    · rw [hl]; exact nofun
  | kill b =>
    rcases target_guard h with rfl | ⟨_, h⟩
    · exact ⟨rfl, .refl _ _ _ _⟩
    · cases h; exact ⟨rfl, rfl, astep_upd _ b _ (.die _ _ _ _ _)⟩
  | killAll =>
    obtain ⟨_, h⟩ := some_guard h
    cases h
    refine ⟨rfl, rfl, fun j => ?_⟩
    dsimp only
    split
    · exact .die _ _ _ _ _
    · exact .refl _ _ _ _
  | exit =>
    obtain ⟨_, h⟩ := some_guard h
    cases h
    exact ⟨rfl, rfl, astep_upd _ a _ (.die _ _ _ _ _)⟩
  | join b timeout =>
    rcases target_guard h with rfl | ⟨_, h⟩
    · exact ⟨rfl, .refl _ _ _ _⟩
    · dsimp only at h
      split at h <;> cases h
      · exact ⟨rfl, rfl, astep_own _ a _ rfl rfl rfl rfl rfl rfl id⟩
      · refine ⟨rfl, rfl, fun j => .trans ?_
          (astep_upd (slf := fun j => j = a) (tgt := Tgt (.join b timeout) sk) _ b _ ?_ j)⟩
        · exact astep_own _ a { s1.acts a with inJoin := some i, wake := _ } rfl rfl rfl rfl rfl rfl id j
        · exact .of_core rfl
  | daemonize =>
    obtain ⟨_, h⟩ := some_guard h
    cases h
    exact ⟨rfl, rfl, astep_own _ a _ rfl rfl rfl rfl rfl rfl (fun _ => rfl)⟩
  | killTime b kt =>
    exact target_update_rel h fun _ hkt =>
      .of_life_eq rfl rfl rfl (.inr ⟨kt, rfl, Rat.not_le.mp hkt⟩) (fun hs => .inl ⟨hs, rfl⟩) (.inl ⟨rfl, rfl⟩) id
  | suspend b =>
    exact target_update_rel h fun _ hns =>
      .of_life_eq rfl rfl rfl (.inl rfl) (fun hs => absurd hs hns) (.inl ⟨rfl, rfl⟩) id
  | resume b =>
    exact target_update_rel h fun hsk _ =>
      .of_life_eq rfl rfl rfl (.inl rfl) (fun _ => .inr ⟨hsk, rfl⟩) (.inl ⟨rfl, rfl⟩) id
  | yield | log =>
    obtain ⟨_, h⟩ := some_guard h
    cases h
    exact ⟨rfl, .refl _ _ _ _⟩

def Label.subject : Label → Option Nat
  | .op a _ _ _ => some a
  | .joined a _ _ => some a
  | .exitCb a _ _ => some a
  | .finish _ => none

/-- `j` is the target of the (non-skipped) `resume` that the line executes -/
def TgtOf (s : Sys) (l : Label) (j : Nat) : Prop :=
  match l with
  | .op a i _ sk => ∃ o, opOf (s.acts a) i = some o ∧ Tgt o sk j
  | _ => False

/-- peels an `if` of an unfolded `step` by unification: `split` on a hypothesis of that size is many times dearer -/
theorem mem_ite {c : Prop} [Decidable c] {l1 l2 : List Sys} {x : Sys} (h : x ∈ (if c then l1 else l2)) :
    (c ∧ x ∈ l1) ∨ (¬ c ∧ x ∈ l2) := by
  by_cases hc : c
  · rw [if_pos hc] at h; exact .inl ⟨hc, h⟩
  · rw [if_neg hc] at h; exact .inr ⟨hc, h⟩

theorem mem_guard {c : Prop} [Decidable c] {l : List Sys} {x : Sys} (h : x ∈ (if c then [] else l)) : ¬ c ∧ x ∈ l :=
  (mem_ite h).resolve_left fun h => nomatch h.2

theorem mem_then {c : Prop} [Decidable c] {l : List Sys} {x : Sys} (h : x ∈ (if c then l else [])) : x ∈ l :=
  ((mem_ite h).resolve_right fun h => nomatch h.2).2

theorem mem_flatMap_settle {o : Option Sys} {s' : Sys} (h : s' ∈ o.toList.flatMap Sys.settleL) :
    ∃ m, o = some m ∧ s' ∈ m.settleL := by
  cases o with
  | none => cases h
  | some m => exact ⟨m, rfl, by simpa using h⟩

/-- end of a last slice: the `stop` of `step`, under a name (`step_rel_op` identifies the two by unfolding) -/
def stopAt (r : Sys) (a : Nat) (b : Bool) : Sys :=
  { r with acts := upd r.acts a { (r.acts a) with breath := b, ghost := false } }

theorem stopAt_rel {t : Rat} {slf tgt : Nat → Prop} (r : Sys) (a : Nat) (b : Bool) : SRel t slf tgt r (stopAt r a b) :=
  .of_core rfl fun j => by rw [stopAt, core_upd]; rfl

/-- the `s1` of the `op` case of `step` (clock set, `pc` advanced), under a name -/
def bumpPc (s0 : Sys) (a i : Nat) (t : Rat) : Sys :=
  { s0 with clock := t, acts := upd s0.acts a { (s0.acts a) with pc := i + 1, started := true } }

theorem present_of_runs {x : Actor} {t : Rat} (h : x.canRun t = true ∨ x.lastBreath t = true) : x.life ≠ .absent := by
  intro e
  rw [Actor.canRun, Actor.lastBreath, e] at h
  rcases h with h | h <;> cases h

/-- an accepted `op` line: the actor can run, or was killed in the round in which it was scheduled -/
theorem step_rel_op {s s' : Sys} {a i : Nat} {t : Rat} {sk : Bool} (h : s' ∈ step s (.op a i t sk)) :
    s.timeOk t = true ∧
    (((s.assignHandle a).acts a).canRun t = true ∨ ((s.assignHandle a).acts a).lastBreath t = true) ∧
    s'.clock = t ∧ SRel t (fun j => j = a) (TgtOf s (.op a i t sk)) s s' := by
  rw [step] at h
  obtain ⟨hg, h⟩ := mem_guard h
  obtain ⟨_, h⟩ := mem_guard h
  refine ⟨(Decidable.not_not.mp hg).2, ?_⟩
  dsimp only at h
  split at h
  · cases h
  next o ho =>
  have r1 : SRel t (fun j => j = a) (TgtOf s (.op a i t sk)) s (bumpPc (s.assignHandle a) a i t) :=
    (srel_assign s a t _ _).trans
      ⟨rfl, astep_own _ a _ rfl rfl rfl rfl rfl rfl id⟩
  have hlife : ∀ j, ((bumpPc (s.assignHandle a) a i t).acts j).life = ((s.assignHandle a).acts j).life := by
    intro j
    dsimp only [bumpPc, upd]
    split
    · next e => rw [e]
    · rfl
  have rop : ((s.assignHandle a).acts a).life ≠ .absent → ∀ r, applyOp (s.assignHandle a) (bumpPc (s.assignHandle a) a i t)
      a i t { ((s.assignHandle a).acts a) with pc := i + 1, started := true } o sk = some r →
      r.clock = t ∧ SRel t (fun j => j = a) (TgtOf s (.op a i t sk)) s r := by
    intro hal r hr
    obtain ⟨c2, r2⟩ := applyOp_rel (upd_same _ _ _) hlife hal hr
    refine ⟨c2, r1.trans (r2.weaken (fun _ h => h) fun j hj => ⟨o, ?_, hj⟩)⟩
    unfold opOf at ho ⊢
    rw [← ho]
    exact congrArg (·[i]?) (congrArg Prod.fst (assignHandle_core s a a)).symm
  have stop : ∀ (r : Sys) b, r.clock = t → SRel t (fun j => j = a) (TgtOf s (.op a i t sk)) s r →
      s' ∈ (stopAt r a b).settleL → s'.clock = t ∧ SRel t (fun j => j = a) (TgtOf s (.op a i t sk)) s s' :=
    fun r b hc hr hm => settle_compose hm hc (hr.trans (stopAt_rel r a b))
  rcases mem_ite h with ⟨hcan, h⟩ | ⟨_, h⟩
  · refine ⟨.inl hcan, ?_⟩
    split at h
    · next r hr =>
      obtain ⟨c2, r2⟩ := rop (present_of_runs (.inl hcan)) r hr
      exact settle_compose h c2 r2
    · cases h
  · rcases mem_ite h with ⟨hlb, h⟩ | ⟨_, h⟩
    · refine ⟨.inr hlb, ?_⟩
      split at h
      · next r hr =>
        obtain ⟨c2, r2⟩ := rop (present_of_runs (.inr hlb)) r hr
        rcases mem_ite h with ⟨_, h⟩ | ⟨_, h⟩
        · rcases List.mem_append.mp h with h | h
          · exact stop r _ c2 r2 h
          · exact stop _ _ rfl r1 h
        · exact stop r _ c2 r2 h
      · exact stop _ _ rfl r1 (mem_then h)
    · cases h

theorem step_rel_joined {s s' : Sys} {a i : Nat} {t : Rat} (h : s' ∈ step s (.joined a i t)) :
    s.timeOk t = true ∧ ((s.acts a).canRun t = true ∨ (s.acts a).lastBreath t = true) ∧
    s'.clock = t ∧ SRel t (fun j => j = a) (fun _ => False) s s' := by
  rw [step] at h
  obtain ⟨hg, h⟩ := mem_guard h
  obtain ⟨hr, h⟩ := mem_guard h
  exact ⟨(Decidable.not_not.mp hg).2, (Decidable.not_not.mp hr).1, settle_compose h rfl
    ⟨rfl, astep_own _ a _ rfl rfl rfl rfl rfl rfl id⟩⟩

theorem step_rel_exitCb {s s' : Sys} {a g : Nat} {t : Rat} (h : s' ∈ step s (.exitCb a g t)) :
    s.timeOk t = true ∧ (s'.clock = t ∧ SRel t (fun j => j = a) (fun _ => False) s s') ∧ (s'.acts a).life.gone = true := by
  rw [step] at h
  obtain ⟨hg, h⟩ := mem_guard h
  have hg := Decidable.not_not.mp hg
  refine ⟨hg.2, ?_⟩
  -- every branch: from `s0` (related to `s`) the callback of the dying record `x0`, then `settleL`
  have cb : ∀ (s0 : Sys) (x0 : Actor), s' ∈ (runCallback s0 a g t x0).toList.flatMap Sys.settleL →
      SRel t (fun j => j = a) (fun _ => False) s s0 → (∃ d, x0.life = .dying d) → AStep t (a = a) False (s0.acts a) x0 →
      (s'.clock = t ∧ SRel t (fun j => j = a) (fun _ => False) s s') ∧ (s'.acts a).life.gone = true := by
    intro s0 x0 hm r0 hd hx
    obtain ⟨m, hm, hs⟩ := mem_flatMap_settle hm
    obtain ⟨⟨c, r⟩, gn⟩ := callback_rel (slf := fun j => j = a) (tgt := fun _ => False) s0 m a g x0 hd hm hx
    exact ⟨settle_compose hs c (r0.trans r), settle_gone a hs gn⟩
  dsimp only at h
  split at h
  · next d hd =>
    rcases mem_ite h with ⟨_, h⟩ | ⟨_, h⟩
    · have h := mem_then h
      exact ⟨settle_compose h rfl ⟨rfl, astep_upd _ a _ (.callback t _ _ ⟨d, hd⟩ (.inr rfl))⟩,
        settle_gone a h (by dsimp only; rw [upd_same]; rfl)⟩
    · exact cb s _ (mem_then h) (.refl _ _ _ _) ⟨d, hd⟩ (.refl _ _ _ _)
  · next hl =>
    -- live: kill timer, own end, deadlock
    rcases List.mem_append.mp h with h | h
    · rcases List.mem_append.mp h with h | h
      · exact cb s _ (mem_then h) (.refl _ _ _ _) (die_dying _ t false hl) (.die _ _ _ _ _)
      · have hl' : ((s.assignHandle a).acts a).life = .live :=
          (congrArg (·.2.1) (assignHandle_core s a a)).trans hl
        exact cb _ _ (mem_then h) (srel_assign s a t _ _) (die_dying _ t false hl') (.die _ _ _ _ _)
    · obtain ⟨_, h⟩ := mem_guard (mem_then h)
      refine cb _ _ h ⟨rfl, fun j => ?_⟩ (by rw [if_pos hg.1]; exact die_dying _ t true hl) (.refl _ _ _ _)
      dsimp only
      split
      · exact .die _ _ _ _ _
      · exact .refl _ _ _ _
  · cases h

theorem step_rel (s s' : Sys) (l : Label) (h : s' ∈ step s l) :
    s.clock ≤ l.date ∧ s'.clock = l.date ∧ SRel l.date (fun j => l.subject = some j) (TgtOf s l) s s' ∧
    ((∃ t, l = .finish t ∧ s' = s) ∨ s.timeOk l.date = true) := by
  cases l with
  | op a i t sk =>
    obtain ⟨h1, _, h2, h3⟩ := step_rel_op h
    exact ⟨timeOk_clock s t h1, h2, h3.weaken (fun j hj => congrArg some hj.symm) (fun _ h => h), .inr h1⟩
  | joined a i t =>
    obtain ⟨h1, _, h2, h3⟩ := step_rel_joined h
    exact ⟨timeOk_clock s t h1, h2, h3.weaken (fun j hj => congrArg some hj.symm) (fun _ h => h.elim), .inr h1⟩
  | exitCb a g t =>
    obtain ⟨h1, ⟨h2, h3⟩, _⟩ := step_rel_exitCb h
    exact ⟨timeOk_clock s t h1, h2, h3.weaken (fun j hj => congrArg some hj.symm) (fun _ h => h.elim), .inr h1⟩
  | finish t =>
    rw [step] at h
    split at h
    · next hc =>
      cases List.mem_singleton.mp h
      exact ⟨hc.1 ▸ Rat.le_refl, hc.1.symm, .refl _ _ _ _, .inl ⟨t, rfl, rfl⟩⟩
    · cases h

theorem timeOk_of_step {s : Sys} {l : Label} (h : step s l ≠ []) (hl : ∀ t, l ≠ .finish t) : s.timeOk l.date = true := by
  obtain ⟨s', hs'⟩ := List.exists_mem_of_ne_nil _ h
  exact (step_rel s s' l hs').2.2.2.resolve_left fun ⟨t, e, _⟩ => hl t e

end SgVerif.C11
