import SgVerif.C11.Rel
/-
C11: executions (`Exec`) and the invariants along them (kill time, death dates, the daemon rule), all derived from
`step_rel`; the suspension theorems are in Props.lean.
-/
namespace SgVerif.C11

/-- executions of the transition system: `s'' ∈ runAll [s] ls` -/
inductive Exec : Sys → List Label → Sys → Prop
  | nil (s : Sys) : Exec s [] s
  | cons {s s' s'' : Sys} {l : Label} {ls : List Label} : s' ∈ step s l → Exec s' ls s'' → Exec s (l :: ls) s''

theorem mem_runAll_iff (ls : List Label) : ∀ (ss : List Sys) (s'' : Sys), s'' ∈ runAll ss ls ↔ ∃ s, s ∈ ss ∧ Exec s ls s'' := by
  induction ls with
  | nil =>
    intro ss s''
    exact ⟨fun h => ⟨s'', h, .nil _⟩, fun ⟨s, hs, he⟩ => by cases he; exact hs⟩
  | cons l ls ih =>
    intro ss s''
    rw [runAll, ih]
    constructor
    · rintro ⟨s', hs', he⟩
      obtain ⟨s, hs, hst⟩ := List.mem_flatMap.mp hs'
      exact ⟨s, hs, .cons hst he⟩
    · rintro ⟨s, hs, he⟩
      cases he with
      | cons hst he' => exact ⟨_, List.mem_flatMap.mpr ⟨s, hs, hst⟩, he'⟩

theorem Exec.of_mem_runAll {s s' : Sys} {ls : List Label} (h : s' ∈ runAll [s] ls) : Exec s ls s' := by
  obtain ⟨s0, hs0, he⟩ := (mem_runAll_iff ls _ _).mp h
  cases List.mem_singleton.mp hs0
  exact he

/-- kill-time invariant: a live actor with kill time `T` lives in a state whose clock is `≤ T`; a dying actor died at a
date `≤ T`; death dates are in the past -/
def KInv (s : Sys) : Prop :=
  ∀ b, b < s.k →
    (∀ T, (s.acts b).killAt = some T →
      ((s.acts b).life = .live → s.clock ≤ T) ∧ (∀ d, (s.acts b).life = .dying d → d ≤ T)) ∧
    (∀ d, (s.acts b).life = .dying d → d ≤ s.clock)

theorem kinv_init (k : Nat) (progs : Nat → List Op) : KInv (init k progs) := by
  intro b _
  refine ⟨fun T h => ?_, fun d h => ?_⟩
  · simp [init] at h
  · simp only [init] at h
    split at h <;> cases h

theorem kinv_step (s s' : Sys) (l : Label) (h : s' ∈ step s l) (hi : KInv s) : KInv s' := by
  obtain ⟨hct, hc, hr, ⟨t, _, he⟩ | hto⟩ := step_rel s s' l h
  · rw [he]; exact hi
  · intro b hb
    rw [hr.k] at hb
    obtain ⟨hK, hD⟩ := hi b hb
    have A := hr.act b
    have live_le : ∀ T, (s.acts b).life = .live → (s.acts b).killAt = some T → l.date ≤ T := by
      intro T hl hk
      obtain ⟨d, hd, hdT⟩ := due_le_killAt (s.acts b) T hl hk
      exact Rat.le_trans (timeOk_le_due s l.date b hb d hd hto) hdT
    rw [hc]
    -- a kill time in force after the line was in force before it, or is later than the date of the line
    have key : ∀ T, (s'.acts b).killAt = some T → (s'.acts b).life ≠ .absent →
        ((s.acts b).life ≠ .absent ∧ (s.acts b).killAt = some T) ∨ l.date < T := by
      intro T hT hy
      by_cases hx : (s.acts b).life = .absent
      · rcases A.knew hx hy with hk | ⟨kt, hk, hlt⟩ <;> rw [hk] at hT <;> cases hT
        exact .inr hlt
      · rcases A.kill hx with hk | ⟨kt, hk, hlt⟩
        · exact .inl ⟨hx, hk ▸ hT⟩
        · rw [hk] at hT; cases hT; exact .inr hlt
    refine ⟨fun T hT => ⟨fun hy => ?_, fun d hy => ?_⟩, fun d hy => ?_⟩
    · rcases key T hT (by rw [hy]; exact nofun) with ⟨hx, hk⟩ | hlt
      · exact live_le T ((A.l_live hy).resolve_right hx) hk
      · exact Rat.le_of_lt hlt
    · rcases key T hT (by rw [hy]; exact nofun) with ⟨hx, hk⟩ | hlt <;> rcases A.l_dying d hy with hx' | ⟨rfl, hx'⟩
      · exact (hK T hk).2 d hx'
      · exact live_le T (hx'.resolve_right hx) hk
      · exact Rat.le_trans (hD d hx') (Rat.le_trans hct (Rat.le_of_lt hlt))
      · exact Rat.le_of_lt hlt
    · rcases A.l_dying d hy with hx | ⟨hd, _⟩
      · exact Rat.le_trans (hD d hx) hct
      · rw [hd]; exact Rat.le_refl

theorem kinv_exec {s s' : Sys} {ls : List Label} (h : Exec s ls s') (hi : KInv s) : KInv s' := by
  induction h with
  | nil => exact hi
  | cons hst _ ih => exact ih (kinv_step _ _ _ hst hi)

theorem step_clock_mono (s s' : Sys) (l : Label) (h : s' ∈ step s l) : s.clock ≤ s'.clock := by
  obtain ⟨hct, hc, _⟩ := step_rel s s' l h
  exact hc ▸ hct

theorem exec_clock_mono {s s' : Sys} {ls : List Label} (h : Exec s ls s') : s.clock ≤ s'.clock := by
  induction h with
  | nil => exact Rat.le_refl
  | cons hst _ ih => exact Rat.le_trans (step_clock_mono _ _ _ hst) ih

theorem step_static (s s' : Sys) (l : Label) (h : s' ∈ step s l) : s'.k = s.k ∧ ∀ j, (s'.acts j).ops = (s.acts j).ops := by
  obtain ⟨_, _, hr, _⟩ := step_rel s s' l h
  exact ⟨hr.k, fun j => (hr.act j).ops⟩

theorem exec_static {s s' : Sys} {ls : List Label} (h : Exec s ls s') : s'.k = s.k ∧ ∀ j, (s'.acts j).ops = (s.acts j).ops := by
  induction h with
  | nil => exact ⟨rfl, fun _ => rfl⟩
  | cons hst _ ih =>
    obtain ⟨a1, a2⟩ := step_static _ _ _ hst
    exact ⟨by rw [ih.1, a1], fun j => by rw [ih.2, a2]⟩

theorem step_gone (s s' : Sys) (l : Label) (b : Nat) (h : s' ∈ step s l) (hg : (s.acts b).life.gone = true) :
    (s'.acts b).life.gone = true ∧ ∀ d, (s'.acts b).life = .dying d → (s.acts b).life = .dying d := by
  obtain ⟨_, _, hr, _⟩ := step_rel s s' l h
  refine ⟨gone_of_rel (hr.act b) hg, fun d hd => ?_⟩
  rcases (hr.act b).l_dying d hd with h' | ⟨_, h' | h'⟩
  · exact h'
  · rw [h'] at hg; cases hg
  · rw [h'] at hg; cases hg

theorem exec_gone {s s' : Sys} {ls : List Label} (b : Nat) (h : Exec s ls s') (hg : (s.acts b).life.gone = true) :
    (s'.acts b).life.gone = true ∧ ∀ d, (s'.acts b).life = .dying d → (s.acts b).life = .dying d := by
  induction h with
  | nil => exact ⟨hg, fun _ h => h⟩
  | cons hst _ ih =>
    obtain ⟨g1, d1⟩ := step_gone _ _ _ b hst hg
    obtain ⟨g2, d2⟩ := ih g1
    exact ⟨g2, fun d hd => d1 d (d2 d hd)⟩

theorem exec_death_after {s s' : Sys} {ls : List Label} (b : Nat) (h : Exec s ls s') :
    (s.acts b).life = .live → ∀ d, (s'.acts b).life = .dying d → s.clock ≤ d := by
  induction h with
  | nil => intro hl d hd; rw [hl] at hd; cases hd
  | @cons s s1 s2 l ls hst hex ih =>
    intro hl d hd
    obtain ⟨hct, hc, hr, _⟩ := step_rel s s1 l hst
    cases h1 : (s1.acts b).life with
    | live => exact Rat.le_trans (hc ▸ hct) (ih h1 d hd)
    | absent => have := (hr.act b).l_abs h1; rw [hl] at this; cases this
    | dead =>
      have := (exec_gone b hex (by rw [h1]; rfl)).2 d hd
      rw [h1] at this; cases this
    | dying d1 =>
      have e := (exec_gone b hex (by rw [h1]; rfl)).2 d hd
      rw [h1] at e; cases e
      rcases (hr.act b).l_dying d h1 with h' | ⟨hd', _⟩
      · rw [hl] at h'; cases h'
      · rw [hd']; exact hct

/-- no line of `ls` is a `resume` of `a` that is executed (programs are static: read in the first state) -/
def NoResume (s : Sys) (a : Nat) (ls : List Label) : Prop :=
  ∀ c i t, Label.op c i t false ∈ ls → opOf (s.acts c) i ≠ some (.resume a)

/-- is the label a line of actor `a` other than an on_exit callback? -/
def OwnLine (a : Nat) (l : Label) (t : Rat) : Prop := (∃ i sk, l = .op a i t sk) ∨ (∃ i, l = .joined a i t)

/-- an actor that takes part in the daemon rule: created, not completely dead, not a ghost -/
def Present (s : Sys) (i : Nat) : Prop :=
  (s.acts i).life ≠ .absent ∧ (s.acts i).life ≠ .dead ∧ (s.acts i).ghost = false

theorem not_daemonCond (s : Sys) (h : s.daemonCond = false) :
    (∀ i, i < s.k → Present s i → (s.acts i).life ≠ .live) ∨ (∃ i, i < s.k ∧ Present s i ∧ (s.acts i).daemon = false) := by
  by_cases hnd : ∃ i, i < s.k ∧ Present s i ∧ (s.acts i).daemon = false
  · exact Or.inr hnd
  · left
    intro i hi hp hl
    -- a present live actor and no present regular actor: the three conjuncts of `daemonCond` hold
    have hmem : i ∈ s.ids.filter (fun i => (s.acts i).life != .absent && (s.acts i).life != .dead && !(s.acts i).ghost) := by
      simp only [Sys.ids, List.mem_filter, List.mem_range, Bool.and_eq_true, bne_iff_ne, ne_eq, Bool.not_eq_true']
      exact ⟨hi, ⟨hp.1, hp.2.1⟩, hp.2.2⟩
    have : s.daemonCond = true := by
      unfold Sys.daemonCond
      simp only [Bool.and_eq_true, Bool.not_eq_true', List.isEmpty_eq_false_iff, List.all_eq_true, List.any_eq_true]
      refine ⟨⟨List.ne_nil_of_mem hmem, ?_⟩, ⟨i, hmem, by rw [hl]; rfl⟩⟩
      intro j hj
      simp only [Sys.ids, List.mem_filter, List.mem_range, Bool.and_eq_true, bne_iff_ne, ne_eq, Bool.not_eq_true'] at hj
      by_cases hdj : (s.acts j).daemon = true
      · exact hdj
      · exact absurd ⟨j, hj.1, ⟨hj.2.1.1, hj.2.1.2, hj.2.2⟩, by simpa using hdj⟩ hnd
    rw [h] at this; cases this

theorem step_daemonCond_clock (s s' : Sys) (l : Label) (h : s' ∈ step s l) (hd : s.daemonCond = true) : s'.clock = s.clock := by
  obtain ⟨_, hc, _, ⟨t, _, he⟩ | hto⟩ := step_rel s s' l h
  · rw [he]
  · rw [hc]; exact timeOk_daemonCond hd hto

theorem exec_daemon {s s' : Sys} {ls : List Label} (h : Exec s ls s') :
    s.daemonCond = true → s.clock < s'.clock →
    ∃ l1 l2 sm, ls = l1 ++ l2 ∧ Exec s l1 sm ∧ Exec sm l2 s' ∧ sm.clock = s.clock ∧ sm.daemonCond = false := by
  induction h with
  | nil => intro _ hlt; exact absurd hlt (Rat.lt_irrefl)
  | @cons s s1 s2 l ls hst hex ih =>
    intro hd hlt
    have hc := step_daemonCond_clock s s1 l hst hd
    by_cases hd1 : s1.daemonCond = true
    · obtain ⟨l1, l2, sm, e, x1, x2, x3, x4⟩ := ih hd1 (by rw [hc]; exact hlt)
      exact ⟨l :: l1, l2, sm, by rw [e]; rfl, Exec.cons hst x1, x2, by rw [x3, hc], x4⟩
    · exact ⟨[l], ls, s1, rfl, Exec.cons hst (Exec.nil _), hex, hc, by simpa using hd1⟩

end SgVerif.C11
