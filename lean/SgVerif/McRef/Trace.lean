/-
Mazurkiewicz traces over an arbitrary alphabet with a dependency relation, and labelled transition systems with
independent transitions that commute.  Shared by C38 (soundness of partial-order reduction) and C40 (classes).
Core-only.
-/
namespace SgVerif.McRef

/-- Trace equivalence: the congruence generated by swapping two adjacent independent letters
(same shape as `List.Perm`, with the side condition on `swap`). -/
inductive TraceEq {α : Type} (dep : α → α → Bool) : List α → List α → Prop
  | nil : TraceEq dep [] []
  | cons (a : α) {u v : List α} : TraceEq dep u v → TraceEq dep (a :: u) (a :: v)
  | swap (x y : α) (u : List α) : dep x y = false → TraceEq dep (x :: y :: u) (y :: x :: u)
  | trans {u v w : List α} : TraceEq dep u v → TraceEq dep v w → TraceEq dep u w

namespace TraceEq
variable {α : Type} {dep : α → α → Bool}

theorem refl : ∀ u : List α, TraceEq dep u u
  | [] => .nil
  | a :: u => .cons a (refl u)

theorem symm (hsym : ∀ x y, dep x y = dep y x) {u v : List α} (h : TraceEq dep u v) : TraceEq dep v u := by
  induction h with
  | nil => exact .nil
  | cons a _ ih => exact .cons a ih
  | swap x y u hxy => exact .swap y x u (by rw [hsym]; exact hxy)
  | trans _ _ ih1 ih2 => exact .trans ih2 ih1

theorem perm {u v : List α} (h : TraceEq dep u v) : u.Perm v := by
  induction h with
  | nil => exact .nil
  | cons a _ ih => exact .cons a ih
  | swap x y u _ => exact .swap y x u
  | trans _ _ ih1 ih2 => exact ih1.trans ih2

theorem length_eq {u v : List α} (h : TraceEq dep u v) : u.length = v.length := h.perm.length_eq

theorem append_left (p : List α) {u v : List α} (h : TraceEq dep u v) : TraceEq dep (p ++ u) (p ++ v) := by
  induction p with
  | nil => exact h
  | cons a p ih => exact .cons a ih

theorem adjacent_swap (p : List α) (x y : α) (s : List α) (h : dep x y = false) :
    TraceEq dep (p ++ x :: y :: s) (p ++ y :: x :: s) :=
  append_left p (.swap x y s h)

end TraceEq

/-- `Front dep a u r`: the word `u` holds the letter `a` behind letters that are all independent of it, so that it can be
moved to the front, and `r` is `u` without that occurrence -/
inductive Front {α : Type} (dep : α → α → Bool) (a : α) : List α → List α → Prop
  | here (s : List α) : Front dep a (a :: s) s
  | skip {b : α} {u r : List α} : dep b a = false → Front dep a u r → Front dep a (b :: u) (b :: r)

namespace Front
variable {α : Type} {dep : α → α → Bool} {a : α}

theorem move {u r : List α} (h : Front dep a u r) : TraceEq dep u (a :: r) := by
  induction h with
  | here s => exact .refl _
  | skip hb _ ih => exact .trans (.cons _ ih) (.swap _ a _ hb)

/-- Levi-style lemma: a letter that can be moved to the front of a word can be moved to the front of every equivalent
word, and the remainders are equivalent. -/
theorem split (hsym : ∀ x y, dep x y = dep y x) {u v : List α} (h : TraceEq dep u v) :
    ∀ {r : List α}, Front dep a u r → ∃ r', Front dep a v r' ∧ TraceEq dep r r' := by
  induction h with
  | nil => intro r f; cases f
  | @cons b u v huv ih =>
    intro r f
    cases f with
    | here => exact ⟨v, .here v, huv⟩
    | skip hb f =>
      obtain ⟨r', f', heq⟩ := ih f
      exact ⟨b :: r', .skip hb f', .cons b heq⟩
  | swap x y t hxy =>
    intro r f
    cases f with
    | here => exact ⟨y :: t, .skip ((hsym _ _).trans hxy) (.here t), .refl _⟩
    | skip hx f =>
      cases f with
      | here => exact ⟨x :: t, .here _, .refl _⟩
      | skip hy f => exact ⟨_, .skip hy (.skip hx f), .swap x y _ hxy⟩
  | trans _ _ ih1 ih2 =>
    intro r f
    obtain ⟨r1, f1, h1⟩ := ih1 f
    obtain ⟨r2, f2, h2⟩ := ih2 f1
    exact ⟨r2, f2, .trans h1 h2⟩

/-- the first occurrence of `a` in the word is the one that can be moved -/
theorem erase [DecidableEq α] (hrefl : ∀ x, dep x x = true) {u r : List α} (f : Front dep a u r) : u.erase a = r := by
  induction f with
  | here s => exact List.erase_cons_head ..
  | skip hb _ ih => rw [List.erase_cons_tail (by rintro h; rw [beq_iff_eq.1 h, hrefl] at hb; cases hb), ih]

end Front

namespace TraceEq
variable {α : Type} {dep : α → α → Bool}

theorem cons_cancel (hrefl : ∀ x, dep x x = true) (hsym : ∀ x y, dep x y = dep y x)
    {a : α} {u v : List α} (h : TraceEq dep (a :: u) (a :: v)) : TraceEq dep u v := by
  obtain ⟨r', f, heq⟩ := Front.split hsym h (.here u)
  cases f with
  | here => exact heq
  | skip hb _ => rw [hrefl] at hb; cases hb

end TraceEq

structure LTS (σ τ : Type) where
  enabled : σ → τ → Bool
  exec : σ → τ → σ

namespace LTS
variable {σ τ : Type}

/-- Executing a word of transitions from `s`: `none` as soon as one of them is not enabled. -/
def run (L : LTS σ τ) : σ → List τ → Option σ
  | s, [] => some s
  | s, t :: u => if L.enabled s t then run L (L.exec s t) u else none

def Terminal (L : LTS σ τ) (s : σ) : Prop := ∀ t, L.enabled s t = false

/-- `u` is a maximal (complete) execution from `s`, ending in `s'`. -/
def Complete (L : LTS σ τ) (s : σ) (u : List τ) (s' : σ) : Prop := L.run s u = some s' ∧ L.Terminal s'

/-- The commutation hypothesis on a dependency relation: independent transitions neither enable nor disable each other
and commute.  For SimGrid's `Transition::depends` this is the theorem of C39 (`indep_commute`), strengthened with
"does not enable" (needed to swap two *consecutive* transitions of an execution, where the second one is only known to
be enabled after the first). -/
structure Commutes (L : LTS σ τ) (dep : τ → τ → Bool) : Prop where
  sym : ∀ x y, dep x y = dep y x
  persist : ∀ s x y, dep x y = false → L.enabled s x = true → L.enabled (L.exec s x) y = L.enabled s y
  comm : ∀ s x y, dep x y = false → L.enabled s x = true → L.enabled s y = true →
    L.exec (L.exec s x) y = L.exec (L.exec s y) x

end LTS
end SgVerif.McRef
