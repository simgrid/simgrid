/-
McRef — `modifyAt` is `List.modify` (`modifyAt_eq_modify`), hence what it does to the entries of a list and to a sum over it.
-/
import SgVerif.McRef.Model
namespace SgVerif.McRef

theorem modifyAt_eq_modify {α : Type} (f : α → α) : ∀ (l : List α) (i : Nat), modifyAt l i f = l.modify i f
  | [], 0 => rfl
  | [], _ + 1 => rfl
  | _ :: _, 0 => rfl
  | a :: t, i + 1 => by rw [modifyAt, modifyAt_eq_modify f t i, List.modify_succ_cons]

theorem modifyAt_get_ne {α : Type} (f : α → α) : ∀ (l : List α) (i j : Nat), i ≠ j → (modifyAt l i f)[j]? = l[j]? :=
  fun l i _ h => modifyAt_eq_modify f l i ▸ List.getElem?_modify_ne f l h

theorem modifyAt_get_eq {α : Type} (f : α → α) : ∀ (l : List α) (i : Nat), (modifyAt l i f)[i]? = (l[i]?).map f :=
  fun l i => modifyAt_eq_modify f l i ▸ List.getElem?_modify_eq f i l

theorem modifyAt_congr {α : Type} (f g : α → α) : ∀ (l : List α) (i : Nat) (x : α), l[i]? = some x → f x = g x →
    modifyAt l i f = modifyAt l i g := by
  intro l i x h hx
  obtain ⟨hi, rfl⟩ := List.getElem?_eq_some_iff.mp h
  rw [modifyAt_eq_modify, modifyAt_eq_modify, List.modify_eq_take_cons_drop hi, List.modify_eq_take_cons_drop hi, hx]

theorem modifyAt_self {α : Type} : ∀ (l : List α) (i : Nat) (x : α), l[i]? = some x → modifyAt l i (fun _ => x) = l :=
  fun l i x h => (modifyAt_congr (fun _ => x) id l i x h rfl).trans (by rw [modifyAt_eq_modify, List.modify_id])

theorem get_modifyAt_ite {γ β : Type} (g : Option γ → β) (l : List γ) {k : Nat} (x : γ) (hk : k < l.length) (j : Nat) :
    g ((modifyAt l k (fun _ => x))[j]?) = if j = k then g (some x) else g (l[j]?) := by
  by_cases e : j = k
  · rw [if_pos e, e, modifyAt_get_eq, List.getElem?_eq_getElem hk]; rfl
  · rw [if_neg e, modifyAt_get_ne _ _ _ _ (Ne.symm e)]

theorem sum_modifyAt {α : Type} (w : α → Nat) (f : α → α) : ∀ (l : List α) (i : Nat) (x : α), l[i]? = some x →
    ((modifyAt l i f).map w).sum + w x = (l.map w).sum + w (f x) := by
  intro l i x h
  obtain ⟨hi, hx⟩ := List.getElem?_eq_some_iff.mp h
  -- `l` itself as `take i ++ x :: drop (i + 1)`: the identity modification in the same form
  have e := List.modify_eq_take_cons_drop (f := id) hi
  rw [List.modify_id, hx] at e
  rw [modifyAt_eq_modify, List.modify_eq_take_cons_drop hi, hx]
  conv => rhs; rw [e]
  simp only [List.map_append, List.map_cons, List.sum_append, List.sum_cons, id]
  omega

end SgVerif.McRef
