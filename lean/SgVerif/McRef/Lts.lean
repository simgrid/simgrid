/- The reference semantics as a labelled transition system (shared by C38 and C41). Core-only. -/
import SgVerif.McRef.Model
import SgVerif.McRef.Trace
namespace SgVerif.McRef

/-- The reference semantics as an LTS over labels: a label is enabled when it is the label of the enabled transition
(issuer pid, times_considered) in that state. -/
def mcLTS : LTS State Label where
  enabled s l := match indexOfPid s l.aid with
    | some i => labelAt s i l.tc == some l
    | none => false
  exec s l := match indexOfPid s l.aid with
    | some i => step s i l.tc
    | none => s

end SgVerif.McRef
