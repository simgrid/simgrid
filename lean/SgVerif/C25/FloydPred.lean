import SgVerif.C25.Lemmas
/-
The predecessor table of the in-place Floyd–Warshall triple loop of FloydZone::do_seal.  `PredInv` holds at the boundaries
of the outer loop only: inside an iteration the cell (a, pred) may not have been relaxed through the pivot yet, hence
`IterRel`.  With the minimality of the final cost table its inequalities become equalities (`floyd_pred_invariant` in
`Props`); since every declared route has at least one link, the cost then strictly decreases along the predecessor walk,
which visits distinct nodes < n, so the fuel n + 1 of `floydRoute` is enough (`floydWalk_ok` in `Props`, `Fuel`).
-/
namespace SgVerif.C25
open SgVerif.C24 (Lk)

/-- relation between the table `T0` at the start of iteration `c` of the outer loop and a table `s` later in the same
iteration: links, column c, row c of the costs and row c of the predecessors are as in `T0`; every cell is either
untouched or was relaxed through `c` with the values of `T0` -/
structure IterRel (c : Nat) (T0 s : FloydSt) : Prop where
  link : s.link = T0.link
  col : ∀ x, s.cost x c = T0.cost x c
  row : ∀ y, s.cost c y = T0.cost c y
  prow : ∀ y, s.pred c y = T0.pred c y
  cell : ∀ a b, (s.cost a b = T0.cost a b ∧ s.pred a b = T0.pred a b) ∨
    (∃ x y, T0.cost a c = some x ∧ T0.cost c b = some y ∧ s.cost a b = some (x + y) ∧ s.pred a b = T0.pred c b)

theorem IterRel.step {c : Nat} {T0 s : FloydSt} (h : IterRel c T0 s) (a b : Nat) : IterRel c T0 (relaxStep c a b s) := by
  rcases relaxStep_eq c a b s with ⟨he, _⟩ | ⟨x, y, hx, hy, hbet, _, he⟩
  · rw [he]; exact h
  · -- an update: neither a nor b is the pivot
    have hbc : b ≠ c := by
      intro e; subst e
      have := hbet x hx; omega
    have hac : a ≠ c := by
      intro e; subst e
      have := hbet y hy; omega
    rw [he]
    refine ⟨h.link, fun u => (Tbl.set_ne _ _ fun e => hbc e.2.symm).trans (h.col u),
      fun v => (Tbl.set_ne _ _ fun e => hac e.1.symm).trans (h.row v),
      fun v => (Tbl.set_ne _ _ fun e => hac e.1.symm).trans (h.prow v), ?_⟩
    intro u v
    by_cases huv : u = a ∧ v = b
    · obtain ⟨rfl, rfl⟩ := huv
      exact Or.inr ⟨x, y, (h.col u) ▸ hx, (h.row v) ▸ hy, Tbl.set_eq .., (Tbl.set_eq ..).trans (h.prow v)⟩
    · simp only [Tbl.set, huv, if_false]; exact h.cell u v

theorem floydIter_rel (n c : Nat) (s : FloydSt) : IterRel c s (floydIter n c s) :=
  List.foldlRecOn (pairs n) _ ⟨rfl, fun _ => rfl, fun _ => rfl, fun _ => rfl, fun _ _ => Or.inl ⟨rfl, rfl⟩⟩
    fun _ h p _ => h.step p.1 p.2

theorem relaxVal_le (T : Tbl Nat) (c a b v : Nat) (h : T a b = some v) : ∃ v', relaxVal T c a b = some v' ∧ v' ≤ v :=
  optLe_some (h ▸ optMin_le_left _ _)

theorem relaxVal_le_sum (T : Tbl Nat) (c a b x y : Nat) (hx : T a c = some x) (hy : T c b = some y) :
    ∃ v', relaxVal T c a b = some v' ∧ v' ≤ x + y :=
  optLe_some (by unfold relaxVal; rw [hx, hy]; exact optMin_le_right _ _)

/-- every finite `cost a b` has a predecessor `p < n` with a declared hop p → b that fits under it: `|link p b| ≤ cost a b`
when p = a, `cost a p + |link p b| ≤ cost a b` otherwise -/
def PredInv (n : Nat) (s : FloydSt) : Prop :=
  ∀ a b, a < n → b < n → ∀ c, s.cost a b = some c →
    ∃ p l, s.pred a b = some p ∧ p < n ∧ s.link p b = some l ∧
      ((p = a ∧ l.length ≤ c) ∨ (p ≠ a ∧ ∃ cp, s.cost a p = some cp ∧ cp + l.length ≤ c))

theorem predInv_iter (n c : Nat) (hc : c < n) (s : FloydSt) (h0 : PredInv n s) : PredInv n (floydIter n c s) := by
  have hrel := floydIter_rel n c s
  have hcost : ∀ x y, x < n → y < n → (floydIter n c s).cost x y = relaxVal s.cost c x y := by
    intro x y hx hy; rw [floydIter_cost]; simp [hx, hy]
  intro a b ha hb c' hc'
  rcases hrel.cell a b with ⟨h1, h2⟩ | ⟨x, y, hx, hy, hcst, hprd⟩
  · -- the cell was not written
    obtain ⟨p, l, hp, hpn, hl, hor⟩ := h0 a b ha hb c' (h1 ▸ hc')
    refine ⟨p, l, h2 ▸ hp, hpn, hrel.link ▸ hl, ?_⟩
    rcases hor with hor | ⟨hpa, cp, hcp, hle⟩
    · exact Or.inl hor
    · obtain ⟨v, hv, hvle⟩ := relaxVal_le s.cost c a p cp hcp
      exact Or.inr ⟨hpa, v, by rw [hcost a p ha hpn, hv], by omega⟩
  · -- the cell was relaxed through c: cost = x + y, pred = pred c b
    rw [hcst] at hc'; cases hc'
    obtain ⟨p, l, hp, hpn, hl, hor⟩ := h0 c b hc hb y hy
    refine ⟨p, l, hprd ▸ hp, hpn, hrel.link ▸ hl, ?_⟩
    by_cases hpa : p = a
    · left
      refine ⟨hpa, ?_⟩
      rcases hor with ⟨_, h⟩ | ⟨_, cp, _, h⟩ <;> omega
    · right
      refine ⟨hpa, ?_⟩
      rcases hor with ⟨hpc, h⟩ | ⟨hpc, cp, hcp, h⟩
      · -- p = c: column c is unchanged
        subst hpc
        exact ⟨x, by rw [hrel.col a, hx], by omega⟩
      · obtain ⟨v, hv, hvle⟩ := relaxVal_le_sum s.cost c a p x cp hx hcp
        exact ⟨v, by rw [hcost a p ha hpn, hv], by omega⟩

theorem predInv_loops (n : Nat) (s : FloydSt) (h0 : PredInv n s) : PredInv n (floydLoops n s) :=
  List.foldlRecOn (List.range n) _ h0 fun s hs c hc => predInv_iter n c (List.mem_range.mp hc) s hs

theorem floydLoops_link (n : Nat) (s : FloydSt) : (floydLoops n s).link = s.link :=
  List.foldlRecOn (motive := fun s' => s'.link = s.link) (List.range n) _ rfl
    fun s' hs c _ => (floydIter_rel n c s').link.trans hs

/-- ULONG_MAX cost ⇒ predecessor -1 -/
def NoneInv (s : FloydSt) : Prop := ∀ a b, s.cost a b = none → s.pred a b = none

theorem noneInv_loops (n : Nat) (s : FloydSt) (h : NoneInv s) : NoneInv (floydLoops n s) :=
  List.foldlRecOn (List.range n) _ h fun s hs c _ a b hc => by
    rcases (floydIter_rel n c s).cell a b with ⟨h1, h2⟩ | ⟨_, _, _, _, h3, _⟩
    · rw [h2]; exact hs a b (h1 ▸ hc)
    · rw [h3] at hc; cases hc

/-- what add_route and the loopback step of do_seal establish: cost = link count and predecessor = source of every
declared one-hop route (nothing else is set), every declared route has at least one link
(`xbt_enforce(not link_list.empty(), "Empty route … forbidden")` in `add_route_check_params`; the loopback route has
one link), netpoint ids are < n -/
structure WellDecl (n : Nat) (s : FloydSt) : Prop where
  cost : ∀ a b, s.cost a b = (s.link a b).map List.length
  pred : ∀ a b, s.pred a b = (s.link a b).map fun _ => a
  pos : ∀ a b l, s.link a b = some l → l ≠ []
  inside : ∀ a b, (n ≤ a ∨ n ≤ b) → s.link a b = none

theorem wellDecl_init (n : Nat) : WellDecl n FloydSt.init :=
  ⟨fun _ _ => rfl, fun _ _ => rfl, fun _ _ _ h => (by cases h), fun _ _ _ => rfl⟩

/-- the three entries `add_route` writes for one direction (the loopback step of do_seal: with the link list `[0]`) -/
def FloydSt.setRoute (s : FloydSt) (a b : Nat) (l : List Lk) : FloydSt :=
  { cost := s.cost.set a b (some l.length), pred := s.pred.set a b (some a), link := s.link.set a b (some l) }

theorem floydAddRoute_eq {s s' : FloydSt} {src dst : Nat} {links : List Lk} {sym : Bool}
    (h : floydAddRoute s src dst links sym = some s') :
    s' = if sym then (s.setRoute src dst links).setRoute dst src links.reverse else s.setRoute src dst links := by
  unfold floydAddRoute at h
  by_cases c1 : (s.link src dst).isSome = true
  · rw [if_pos c1] at h; cases h
  rw [if_neg c1] at h
  cases sym
  · exact (Option.some.inj h).symm
  · simp only [if_true] at h
    by_cases c2 : ((s.link.set src dst (some links)) dst src).isSome = true
    · rw [if_pos c2] at h; cases h
    · rw [if_neg c2] at h; exact (Option.some.inj h).symm

theorem setRoute_cost (s : FloydSt) (a b : Nat) (l : List Lk)
    (h : ∀ x y, s.cost x y = (s.link x y).map List.length) (x y : Nat) :
    (s.setRoute a b l).cost x y = ((s.setRoute a b l).link x y).map List.length := by
  simp only [FloydSt.setRoute, Tbl.set]
  split
  · rfl
  · exact h x y

theorem wellDecl_set (n : Nat) (s : FloydSt) (h : WellDecl n s) (a b : Nat) (l : List Lk) (ha : a < n) (hb : b < n)
    (hl : l ≠ []) : WellDecl n (s.setRoute a b l) := by
  refine ⟨setRoute_cost s a b l h.cost, ?_, ?_, ?_⟩
  · intro u v; simp only [FloydSt.setRoute, Tbl.set]
    split
    · rename_i huv; rw [huv.1]; rfl
    · exact h.pred u v
  · intro u v l'; simp only [FloydSt.setRoute, Tbl.set]
    split
    · intro e; cases e; exact hl
    · exact h.pos u v l'
  · intro u v huv; simp only [FloydSt.setRoute, Tbl.set]
    split
    · rename_i e; omega
    · exact h.inside u v huv

theorem wellDecl_add (n : Nat) (s s' : FloydSt) (src dst : Nat) (links : List Lk) (sym : Bool) (h : WellDecl n s)
    (hs : src < n) (hd : dst < n) (hl : links ≠ []) (hadd : floydAddRoute s src dst links sym = some s') :
    WellDecl n s' := by
  have h1 := wellDecl_set n s h src dst links hs hd hl
  rw [floydAddRoute_eq hadd]
  cases sym
  · exact h1
  · exact wellDecl_set n _ h1 dst src links.reverse hd hs (by simpa using hl)

theorem wellDecl_loopback (n : Nat) (s : FloydSt) (h : WellDecl n s) : WellDecl n (floydLoopback n s) :=
  List.foldlRecOn (List.range n) _ h fun s hs i hi => by
    have hi := List.mem_range.mp hi
    split
    · exact hs
    · exact wellDecl_set n s hs i i [0] hi hi (by simp)

/-- the declarations as the driver replays them: a fold of `floydAddRoute` over a list of routes -/
theorem wellDecl_routes (n : Nat) : ∀ (routes : List (Nat × Nat × Bool × List Lk)) (s0 s : FloydSt), WellDecl n s0 →
    (∀ r ∈ routes, r.1 < n ∧ r.2.1 < n ∧ r.2.2.2 ≠ []) →
    routes.foldl (fun acc r => acc.bind fun st => floydAddRoute st r.1 r.2.1 r.2.2.2 r.2.2.1) (some s0) = some s →
    WellDecl n s :=
  foldl_bind_inv (fun st (r : Nat × Nat × Bool × List Lk) => floydAddRoute st r.1 r.2.1 r.2.2.2 r.2.2.1) (WellDecl n)
    (fun r => r.1 < n ∧ r.2.1 < n ∧ r.2.2.2 ≠ [])
    (fun s0 _ s1 h hr hadd => wellDecl_add n s0 s1 _ _ _ _ h hr.1 hr.2.1 hr.2.2 hadd)

theorem WellDecl.insideCost {n : Nat} {s : FloydSt} (h : WellDecl n s) : Inside n s.cost := by
  intro a b hab; rw [h.cost, h.inside a b hab]; rfl

theorem WellDecl.predInv {n : Nat} {s : FloydSt} (h : WellDecl n s) : PredInv n s := by
  intro a b ha _ c hc
  rw [h.cost] at hc
  cases hl : s.link a b with
  | none => rw [hl] at hc; cases hc
  | some l =>
    rw [hl] at hc; simp only [Option.map_some, Option.some.injEq] at hc
    exact ⟨a, l, by rw [h.pred, hl]; rfl, ha, hl, Or.inl ⟨rfl, by omega⟩⟩

theorem WellDecl.noneInv {n : Nat} {s : FloydSt} (h : WellDecl n s) : NoneInv s := by
  intro a b hc
  rw [h.cost] at hc
  rw [h.pred]
  cases hl : s.link a b with
  | none => rfl
  | some l => rw [hl] at hc; cases hc

def hopsLen (hops : List (Nat × Nat × List Lk)) : Nat := (hops.flatMap fun h => h.2.2).length

theorem hopsLen_cons (h : Nat × Nat × List Lk) (hs : List (Nat × Nat × List Lk)) :
    hopsLen (h :: hs) = h.2.2.length + hopsLen hs := by
  simp [hopsLen]

theorem hopsLen_nil : hopsLen [] = 0 := rfl

theorem hopsLen_append (h1 h2 : List (Nat × Nat × List Lk)) : hopsLen (h1 ++ h2) = hopsLen h1 + hopsLen h2 := by
  simp [hopsLen]

/-- the hops (p, q, l) are stored one-hop routes (`link p q = some l`) leading, each from where the previous one ends,
from `a` to `b` -/
def HopChain (link : Tbl (List Lk)) : Nat → List (Nat × Nat × List Lk) → Nat → Prop
  | a, [], b => a = b
  | a, (p, q, l) :: hs, b => p = a ∧ link p q = some l ∧ HopChain link q hs b

theorem hopChain_walkCost (n : Nat) (s : FloydSt) (h : WellDecl n s) : ∀ (hops : List (Nat × Nat × List Lk)) (a b : Nat),
    hops ≠ [] → HopChain s.link a hops b →
    ∃ mid, (∀ m ∈ mid, m < n) ∧ walkCost s.cost a mid b = some (hopsLen hops) := by
  intro hops
  induction hops with
  | nil => intro a b hne _; exact absurd rfl hne
  | cons x xs ih =>
    intro a b _ hc
    obtain ⟨p, q, l⟩ := x
    obtain ⟨hp, hl, hrest⟩ := hc
    subst hp
    have hw : s.cost p q = some l.length := by rw [h.cost, hl]; rfl
    cases xs with
    | nil =>
      simp only [HopChain] at hrest
      subst hrest
      exact ⟨[], by simp, by simp [walkCost, hw, hopsLen]⟩
    | cons y ys =>
      obtain ⟨mid, hm, hwc⟩ := ih q b (by simp) hrest
      have hq : q < n := by
        apply Nat.lt_of_not_le
        intro hge
        rw [h.inside p q (Or.inr hge)] at hl; cases hl
      refine ⟨q :: mid, ?_, ?_⟩
      · intro m hm'
        rcases List.mem_cons.mp hm' with e | e
        · omega
        · exact hm m e
      · simp only [walkCost, hw, hwc, optAdd, hopsLen_cons]

end SgVerif.C25
