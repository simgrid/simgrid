import SgVerif.C25.FloydPred
import SgVerif.C25.DijkstraTerm
import SgVerif.C24.FullZone
/-
C25 — Shortest-path zones compute minimal routes.
Every theorem is for every number of nodes, every set of declared routes (any link lists, symmetric or one-way).
-/
namespace SgVerif.C25
open SgVerif.C24 (Lk fullAddRoute fullLocal tableGet Table newExtendedRoute fullAddRoute_eq tableGet_cons fullLocal_of_get)

/-- **Floyd: the cost table after do_seal is the minimal total link count over all chains of declared routes,
and it is realised by a chain** — for every n and every table `s` built before the loops whose entries are inside
`0..n-1`.  (`walkCost s.cost a mid b` = Σ of the costs of the one-hop routes a→m₁→…→b; `CostIsLen` below
says those costs are the link counts of the declared routes.)  Classical induction on the pivot `k`, for the in-place
loop as written (row and column `c` do not change during iteration `c`). -/
theorem floyd_minimal (n : Nat) (s : FloydSt) (hn : Inside n s.cost) (a b : Nat) :
    (∀ c, (floydLoops n s).cost a b = some c →
        ∃ mid, (∀ m ∈ mid, m < n) ∧ walkCost s.cost a mid b = some c) ∧
    (∀ mid, (∀ m ∈ mid, m < n) → optLe ((floydLoops n s).cost a b) (walkCost s.cost a mid b)) := by
  rw [loops_cost_fw n s hn]
  exact ⟨fun c hc => fw_sound s.cost n a b c hc, fun mid hm => fw_le_walk s.cost n mid a b hm⟩

/-- unreachable pairs keep ULONG_MAX: if no chain exists the cost stays `none` (and get_local_route throws) -/
theorem floyd_unreachable (n : Nat) (s : FloydSt) (hn : Inside n s.cost) (a b : Nat)
    (h : ∀ mid, (∀ m ∈ mid, m < n) → walkCost s.cost a mid b = none) : (floydLoops n s).cost a b = none := by
  cases hc : (floydLoops n s).cost a b with
  | none => rfl
  | some c =>
    obtain ⟨mid, hm, hw⟩ := (floyd_minimal n s hn a b).1 c hc
    rw [h mid hm] at hw; cases hw

/-- the weights are link counts: cost_table_ entry = size of the declared link list, an invariant of add_route and of
the loopback step -/
def CostIsLen (s : FloydSt) : Prop := ∀ a b, s.cost a b = (s.link a b).map List.length

theorem costIsLen_init : CostIsLen FloydSt.init := by intro a b; rfl

theorem floydAddRoute_costIsLen (s s' : FloydSt) (src dst : Nat) (links : List Lk) (sym : Bool)
    (hs : CostIsLen s) (h : floydAddRoute s src dst links sym = some s') : CostIsLen s' := by
  rw [floydAddRoute_eq h]
  cases sym
  · exact setRoute_cost s src dst links hs
  · exact setRoute_cost _ dst src links.reverse (setRoute_cost s src dst links hs)

/-- **a declared one-hop route is stored as declared (and reversed for the opposite direction when symmetrical)** -/
theorem floyd_stores_declared (s s' : FloydSt) (src dst : Nat) (links : List Lk) (sym : Bool) (hne : src ≠ dst)
    (h : floydAddRoute s src dst links sym = some s') :
    s'.link src dst = some links ∧ s'.pred src dst = some src ∧
    (sym = true → s'.link dst src = some links.reverse ∧ s'.pred dst src = some dst) := by
  rw [floydAddRoute_eq h]
  cases sym
  · exact ⟨if_pos ⟨rfl, rfl⟩, if_pos ⟨rfl, rfl⟩, nofun⟩
  · have hn : ¬ (src = dst ∧ dst = src) := fun e => hne e.1
    exact ⟨(if_neg hn).trans (if_pos ⟨rfl, rfl⟩), (if_neg hn).trans (if_pos ⟨rfl, rfl⟩),
      fun _ => ⟨if_pos ⟨rfl, rfl⟩, if_pos ⟨rfl, rfl⟩⟩⟩

/-- **Floyd: whatever get_local_route returns is a chain of declared one-hop routes from src to dst** (the walk of
the predecessor table pushes `link_table_[pred][cur]` and stops at `src`) — every table, every fuel. -/
theorem floyd_path_valid (s : FloydSt) (src dst : Nat) : ∀ (f cur : Nat) (acc hops : List (Nat × Nat × List Lk)),
    HopChain s.link cur acc dst → floydWalk s src f cur acc = .ok hops → HopChain s.link src hops dst := by
  intro f
  induction f with
  | zero => intro cur acc hops _ h; simp [floydWalk] at h
  | succ f ih =>
    intro cur acc hops hc h
    unfold floydWalk at h
    split at h
    · cases h
    · rename_i p hp
      split at h
      · cases h
      · rename_i l hl
        have hc' : HopChain s.link p ((p, cur, l) :: acc) dst := ⟨rfl, hl, hc⟩
        by_cases hps : p = src
        · simp only [hps, ne_eq, not_true_eq_false, if_false, Except.ok.injEq] at h
          subst h; rw [hps] at hc'; exact hc'
        · simp only [hps, ne_eq, not_false_eq_true, if_true] at h
          exact ih p _ hops hc' h

/-- **Floyd: the predecessor table after do_seal** — for every n and every table `s` built by add_route
(`WellDecl n s`; `wellDecl_init`, `wellDecl_add`, `wellDecl_routes`, `wellDecl_loopback` show that add_route and the
loopback step establish it):
for every pair with a finite cost, the predecessor `p` of `b` on the way from `a` is a node < n, the one-hop route
p → b is declared, and the cost is exactly the link count of that route (p = a) or the cost of (a, p) plus that link
count; a pair with cost ULONG_MAX has predecessor -1; the link table is the declared one. -/
theorem floyd_pred_invariant (n : Nat) (s : FloydSt) (h : WellDecl n s) :
    (floydSeal n s).link = (floydLoopback n s).link ∧
    (∀ a b, a < n → b < n → ∀ c, (floydSeal n s).cost a b = some c →
      ∃ p l, (floydSeal n s).pred a b = some p ∧ p < n ∧ (floydSeal n s).link p b = some l ∧
        ((p = a ∧ l.length = c) ∨ (p ≠ a ∧ ∃ cp, (floydSeal n s).cost a p = some cp ∧ cp + l.length = c))) ∧
    (∀ a b, (floydSeal n s).cost a b = none → (floydSeal n s).pred a b = none) := by
  have h0 := wellDecl_loopback n s h
  have hlink : (floydSeal n s).link = (floydLoopback n s).link := floydLoops_link n _
  refine ⟨hlink, ?_, noneInv_loops n _ h0.noneInv⟩
  unfold floydSeal at hlink ⊢
  have hfw := loops_cost_fw n _ h0.insideCost
  intro a b ha hb c hc
  obtain ⟨p, l, hp, hpn, hl, hor⟩ := predInv_loops n _ h0.predInv a b ha hb c hc
  refine ⟨p, l, hp, hpn, hl, ?_⟩
  -- the final costs are minimal: the chain through the predecessor cannot be longer than the cost
  have hw : (floydLoopback n s).cost p b = some l.length := by rw [h0.cost, ← hlink, hl]; rfl
  rw [hfw] at hc
  rcases hor with ⟨hpa, hle⟩ | ⟨hpa, cp, hcp, hle⟩
  · left
    refine ⟨hpa, ?_⟩
    have := fw_le_walk (floydLoopback n s).cost n [] a b (by simp)
    rw [hc] at this
    simp only [walkCost] at this
    rw [← hpa, hw] at this
    simp only [optLe] at this
    omega
  · right
    refine ⟨hpa, cp, hcp, ?_⟩
    rw [hfw] at hcp
    obtain ⟨mid, hm, hwc⟩ := fw_sound (floydLoopback n s).cost n a p cp hcp
    have := fw_le_walk (floydLoopback n s).cost n (mid ++ [p]) a b (by
      intro m hm'
      rcases List.mem_append.mp hm' with h' | h'
      · exact hm m h'
      · simp at h'; omega)
    rw [hc, walkCost_append, hwc] at this
    simp only [walkCost, hw, optAdd, optLe] at this
    omega

/-- **the walk terminates within the fuel and collects exactly `cost src cur` links**: the cost from `src` is the
rank that decreases along it -/
theorem floydWalk_ok (n : Nat) (s : FloydSt) (h : WellDecl n s) (src : Nat) (hs : src < n) :
    ∀ (f cur : Nat) (acc : List (Nat × Nat × List Lk)) (seen : List Nat) (c : Nat), cur < n →
      (floydSeal n s).cost src cur = some c →
      Fuel n (fun x => ((floydSeal n s).cost src x).getD 0) f seen (((floydSeal n s).cost src cur).getD 0) →
      ∃ hops, floydWalk (floydSeal n s) src f cur acc = .ok (hops ++ acc) ∧ hopsLen hops = c := by
  obtain ⟨hlink, hex, _⟩ := floyd_pred_invariant n s h
  intro f
  induction f with
  | zero => intro cur acc seen c hcur _ hF; exact absurd rfl (hF.pos hcur)
  | succ f ih =>
    intro cur acc seen c hcur hc hF
    obtain ⟨p, l, hp, hpn, hl, hor⟩ := hex src cur hs hcur c hc
    unfold floydWalk
    simp only [hp, hl]
    rcases hor with ⟨hps, hlen⟩ | ⟨hps, cp, hcp, hlen⟩
    · simp only [hps, ne_eq, not_true_eq_false, if_false]
      exact ⟨[(src, cur, l)], by simp, by simp [hopsLen, hlen]⟩
    · simp only [hps, ne_eq, not_false_eq_true, if_true]
      have hlpos : 0 < l.length :=
        List.length_pos_iff.mpr ((wellDecl_loopback n s h).pos p cur l (hlink ▸ hl))
      obtain ⟨hops, hw, hlen'⟩ := ih p ((p, cur, l) :: acc) (cur :: seen) cp hpn hcp
        (hF.step hcur (by simp only [hcp, hc, Option.getD_some]; omega))
      refine ⟨hops ++ [(p, cur, l)], by simpa using hw, ?_⟩
      rw [hopsLen_append, hlen']
      simp only [hopsLen_cons, hopsLen_nil]; omega

/-- **Floyd: get_local_route returns a route of exactly `cost_table_[src][dst]` links** — the walk of the predecessor
table terminates (within the model's fuel n + 1: it visits distinct nodes, because the cost from src strictly decreases
along it), hits neither "No route" nor a null entry, and what it returns is a chain of declared one-hop routes from src
to dst whose total link count is the entry of the cost table.  Every n, every set of declared routes. -/
theorem floyd_route_length (n : Nat) (s : FloydSt) (h : WellDecl n s) (src dst c : Nat) (hs : src < n) (hd : dst < n)
    (hc : (floydSeal n s).cost src dst = some c) :
    ∃ hops, floydWalk (floydSeal n s) src (n + 1) dst [] = .ok hops ∧
      HopChain (floydLoopback n s).link src hops dst ∧
      floydRoute n (floydSeal n s) src dst = .ok (hops.flatMap fun h => h.2.2) ∧
      (hops.flatMap fun h => h.2.2).length = c := by
  have hlink : (floydSeal n s).link = (floydLoopback n s).link := floydLoops_link n _
  obtain ⟨hops, hw, hlen⟩ := floydWalk_ok n s h src hs (n + 1) dst [] [] c hd hc (Fuel.init ..)
  simp only [List.append_nil] at hw
  refine ⟨hops, hw, ?_, by simp [floydRoute, hw], hlen⟩
  have := floyd_path_valid (floydSeal n s) src dst (n + 1) dst [] hops rfl hw
  rw [hlink] at this; exact this

/-- **Floyd: the route returned is minimal** — whenever some non-empty chain of declared one-hop routes (incl. the
loopbacks added by do_seal) leads from src to dst, get_local_route returns a route, that route is itself such a chain,
and its link count is ≤ the link count of every such chain.  Every n, every set of declared routes. -/
theorem floyd_route_minimal (n : Nat) (s : FloydSt) (h : WellDecl n s) (src dst : Nat) (hs : src < n) (hd : dst < n)
    (hops' : List (Nat × Nat × List Lk)) (hne : hops' ≠ []) (hch : HopChain (floydLoopback n s).link src hops' dst) :
    ∃ hops, HopChain (floydLoopback n s).link src hops dst ∧
      floydRoute n (floydSeal n s) src dst = .ok (hops.flatMap fun h => h.2.2) ∧
      (hops.flatMap fun h => h.2.2).length ≤ (hops'.flatMap fun h => h.2.2).length ∧
      ∀ hops'', hops'' ≠ [] → HopChain (floydLoopback n s).link src hops'' dst →
        (hops.flatMap fun h => h.2.2).length ≤ (hops''.flatMap fun h => h.2.2).length := by
  have h0 := wellDecl_loopback n s h
  have hmin : ∀ hops'', hops'' ≠ [] → HopChain (floydLoopback n s).link src hops'' dst →
      optLe ((floydSeal n s).cost src dst) (some (hopsLen hops'')) := by
    intro hops'' hne'' hch''
    obtain ⟨mid, hm, hwc⟩ := hopChain_walkCost n _ h0 hops'' src dst hne'' hch''
    have := (floyd_minimal n (floydLoopback n s) h0.insideCost src dst).2 mid hm
    rw [hwc] at this; exact this
  cases hc : (floydSeal n s).cost src dst with
  | none => have := hmin hops' hne hch; rw [hc] at this; simp [optLe] at this
  | some c =>
    obtain ⟨hops, _, hchain, hroute, hlen⟩ := floyd_route_length n s h src dst c hs hd hc
    have hle : ∀ hops'', hops'' ≠ [] → HopChain (floydLoopback n s).link src hops'' dst →
        (hops.flatMap fun h => h.2.2).length ≤ (hops''.flatMap fun h => h.2.2).length := by
      intro hops'' hne'' hch''
      have := hmin hops'' hne'' hch''
      rw [hc] at this
      simp only [optLe, hopsLen] at this
      omega
    exact ⟨hops, hchain, hroute, hle hops' hne hch, hle⟩

/-- **Floyd: "No route" exactly when there is none** — a pair whose cost stayed ULONG_MAX (equivalently, by
`floyd_unreachable` / `floyd_minimal`: no chain of declared routes leads from src to dst) gets the "No route" exception
at the first step of the walk (predecessor -1), never a null dereference or an endless walk. -/
theorem floyd_no_route (n : Nat) (s : FloydSt) (h : WellDecl n s) (src dst : Nat)
    (hc : (floydSeal n s).cost src dst = none) : floydRoute n (floydSeal n s) src dst = .error .noRoute := by
  have hp := (floyd_pred_invariant n s h).2.2 src dst hc
  simp [floydRoute, floydWalk, hp]

/-- the same from the specification side: no chain of declared routes ⇒ "No route" -/
theorem floyd_unreachable_no_route (n : Nat) (s : FloydSt) (h : WellDecl n s) (src dst : Nat)
    (hno : ∀ mid, (∀ m ∈ mid, m < n) → walkCost (floydLoopback n s).cost src mid dst = none) :
    floydRoute n (floydSeal n s) src dst = .error .noRoute :=
  floyd_no_route n s h src dst (floyd_unreachable n _ (wellDecl_loopback n s h).insideCost src dst hno)

/-- **Full: get_local_route returns exactly the declared route**, and declaring it leaves every other entry alone -/
theorem full_returns_declared (t t' : Table) (src dst : Nat) (links : List Lk) (sym : Bool) (hne : src ≠ dst)
    (h : fullAddRoute false t src dst none none links sym = some t') :
    (fullLocal t' src dst).links = links ∧
    (sym = true → (fullLocal t' dst src).links = links.reverse) ∧
    (∀ a b, (a, b) ≠ (src, dst) → (a, b) ≠ (dst, src) → tableGet t' a b = tableGet t a b) := by
  have e := fullAddRoute_eq h
  have hne' : (dst, src) ≠ (src, dst) := fun e => hne (Prod.mk.inj e).2
  cases sym
  · rw [if_neg (by simp)] at e
    subst e
    refine ⟨by rw [fullLocal_of_get (by rw [tableGet_cons, if_pos rfl])]; rfl, (fun h => nomatch h), ?_⟩
    intro a b h1 _
    rw [tableGet_cons, if_neg (Ne.symm h1)]
  · rw [if_pos (by simp [hne])] at e
    subst e
    refine ⟨by rw [fullLocal_of_get (by rw [tableGet_cons, if_neg hne', tableGet_cons, if_pos rfl])]; rfl,
      fun _ => by rw [fullLocal_of_get (by rw [tableGet_cons, if_pos rfl])]; rfl, ?_⟩
    intro a b h1 h2
    rw [tableGet_cons, if_neg (Ne.symm h2), tableGet_cons, if_neg (Ne.symm h1)]

/-- the links of one hop as variant `V` of the code emits them -/
def hopLinks (V : DVar) (l : List Lk) : List Lk := if V.hop then l else l.reverse

/-- whatever the route composition returns is made of the graph's edges, forming a chain from src to dst, hop after
hop in order — for both variants of the code, every graph, every predecessor array (even a corrupted one), every
fuel, every accumulated suffix.  Each hop's links come out as `hopLinks V` (reversed before the fix). -/
theorem dijkstraWalk_chain (V : DVar) (g : DGraph) (pred : List Nat) (src : Nat) : ∀ (f v : Nat) (acc r : List Lk),
    dijkstraWalk V g pred src f v acc = .ok r →
    ∃ es, EdgeChain g src es v ∧ r = es.flatMap (fun e => hopLinks V e.links) ++ acc := by
  intro f
  induction f with
  | zero => intro v acc r h; simp [dijkstraWalk] at h
  | succ f ih =>
    intro v acc r h
    unfold dijkstraWalk at h
    by_cases hv : v = src
    · simp only [hv, if_true, Except.ok.injEq] at h
      exact ⟨[], hv.symm ▸ rfl, by simp [h]⟩
    · simp only [hv, if_false] at h
      split at h
      · cases h
      split at h
      · cases h
      · rename_i e he
        obtain ⟨hmem, hsrc, hdst⟩ := findEdge_some he
        obtain ⟨es, hc, hr⟩ := ih _ _ r h
        refine ⟨es ++ [e], ?_, ?_⟩
        · have := edgeChain_snoc g e hmem es src (hsrc ▸ hc)
          rw [hdst] at this; exact this
        · rw [hr]; simp [insertFront, hopLinks]

/-- **Dijkstra, full strength for the composition: a returned route is the concatenation of the *declared* link
lists (each in the order it was declared) along a chain of graph edges from src to dst** — for every graph, every
predecessor array (even a corrupted one), every fuel.  (The code before the fix `dijkstra-multilink-hop-reversed`,
`DVar.old`, satisfies it only on graphs whose hops are palindromes: `dijkstra_path_valid_prefix_partial`.) -/
theorem dijkstra_path_valid (g : DGraph) (pred : List Nat) (src : Nat) (f v : Nat) (acc r : List Lk)
    (h : dijkstraWalk DVar.now g pred src f v acc = .ok r) :
    ∃ es, EdgeChain g src es v ∧ r = es.flatMap (fun e => e.links) ++ acc := by
  obtain ⟨es, hc, hr⟩ := dijkstraWalk_chain DVar.now g pred src f v acc r h
  exact ⟨es, hc, by simpa [hopLinks, DVar.now, fixedHopOrder] using hr⟩

/-- the same at the level of `DijkstraZone::get_local_route` (node lookup, self edge when src = dst, Dijkstra's
loop, composition): **every route returned between two netpoints is a chain of declared one-hop routes between their
graph nodes, links in declared order** — every graph, every fuel. -/
theorem dijkstra_route_is_chain (g : DGraph) (fuel srcId dstId : Nat) (r : List Lk)
    (h : dijkstraRoute g fuel srcId dstId = .ok r) :
    ∃ s d es, g.nodeIdx srcId = some s ∧ g.nodeIdx dstId = some d ∧ EdgeChain g s es d ∧
      r = es.flatMap (fun e => e.links) := by
  unfold dijkstraRoute dijkstraRouteV at h
  split at h
  · rename_i s d hs hd
    refine ⟨s, d, ?_⟩
    by_cases hsd : s = d
    · subst hsd
      simp only [if_true] at h
      cases he : g.findEdge s s with
      | none => simp [he] at h
      | some e =>
        simp only [he] at h
        cases hp : dijkstraPreds DVar.now g fuel s with
        | none => simp [hp] at h
        | some pred =>
          simp only [hp] at h
          -- the walk starts at v = src: it returns the accumulated self edge at once
          unfold dijkstraWalk at h
          simp only [if_true, Except.ok.injEq] at h
          refine ⟨[e], hs, hd, findEdge_some he, ?_⟩
          rw [← h]; simp [insertFront, DVar.now, fixedHopOrder]
    · simp only [hsd, if_false] at h
      cases hp : dijkstraPreds DVar.now g fuel s with
      | none => simp [hp] at h
      | some pred =>
        simp only [hp] at h
        obtain ⟨es, hc, hr⟩ := dijkstra_path_valid g pred s _ d [] r h
        exact ⟨es, hs, hd, hc, by simpa using hr⟩
  · cases h

/-- **an unreachable destination never gets a route**: when no chain of graph edges leads from src to dst, the
answer is an error (the check's monitor and the correspondence tie it to the "No route" exception of the library; before
the fix `dijkstra-unreachable-node-wraps` the library did not answer at all) -/
theorem dijkstra_unreachable_no_route (g : DGraph) (fuel srcId dstId s d : Nat)
    (hs : g.nodeIdx srcId = some s) (hd : g.nodeIdx dstId = some d)
    (hno : ∀ es, ¬ EdgeChain g s es d) : ∃ e, dijkstraRoute g fuel srcId dstId = .error e := by
  cases h : dijkstraRoute g fuel srcId dstId with
  | error e => exact ⟨e, rfl⟩
  | ok r =>
    obtain ⟨s', d', es, hs', hd', hc, _⟩ := dijkstra_route_is_chain g fuel srcId dstId r h
    rw [hs] at hs'; rw [hd] at hd'
    cases hs'; cases hd'
    exact absurd hc (hno es)

/-- regression: for the code before the fix `dijkstra-multilink-hop-reversed` (`DVar.old`)
the result is the concatenation of the declared link lists only when no hop has two different links in a row
(e.g. single-link routes) -/
theorem dijkstra_path_valid_prefix_partial (g : DGraph) (pred : List Nat) (src : Nat) (f v : Nat) (r : List Lk)
    (hp : ∀ e ∈ g.edges, e.links.reverse = e.links)
    (h : dijkstraWalk DVar.old g pred src f v [] = .ok r) :
    ∃ es, EdgeChain g src es v ∧ r = es.flatMap (fun e => e.links) := by
  obtain ⟨es, hc, hr⟩ := dijkstraWalk_chain DVar.old g pred src f v [] r h
  refine ⟨es, hc, ?_⟩
  rw [hr, List.append_nil, List.flatMap_def, List.flatMap_def]
  exact congrArg List.flatten (List.map_congr_left fun e he => hp e (hc.mem e he))

/-
Hypotheses of the theorems below about the priority-queue loop, both guaranteed by the code for graphs built by add_route/new_edge/do_seal
(`graphOK_empty`, `graphOK_addRoute`, `graphOK_seal`, `graphOK_routes`):
* `GraphOK g`: edge extremities are graph nodes, at most one edge between two nodes (`new_edge` throws otherwise), no
  empty link list (`add_route_check_params`: "Empty route … forbidden"; the loopback edge has one link);
* `NoOverflow g M`: every edge has at most M links and (number of nodes) · M < ULONG_MAX = 2^64 − 1 — what keeps
  `cost_v_u + cost_arr[v]` from wrapping around (the model computes it `% 2^64` like the code).
src = dst is excluded as in the statements above (finding `self-route-longer-than-cycle`: the declared self edge is
returned without looking further). -/

/-- **Dijkstra: the relaxation invariant holds at every point of the loop** (`DCore`, spelled out in the last clause):
after the initialisation, after every single iteration of the `foreach (outedges)` body, after every iteration of the
`while` loop (pop, `continue` or relax); and when the loop is left the queue is empty.  Every graph, every source,
every fuel. -/
theorem dijkstra_relaxation_invariant (g : DGraph) (M src : Nat) (hg : GraphOK g) (ho : NoOverflow g M)
    (hs : src < g.nodes.length) :
    DInv g M src (dijkstraInit g src) ∧
    (∀ st v e, DCore g M src st → v < g.nodes.length → st.c v ≠ ULONG_MAX → e ∈ g.edges → e.src = v →
      DCore g M src (relaxOne v st e)) ∧
    (∀ f st st', DInv g M src st → dijkstraLoop DVar.now g f st = some st' → DInv g M src st' ∧ st'.queue = []) ∧
    (∀ st, DCore g M src st →
      st.c src = 0 ∧
      (∀ u, u < g.nodes.length → u ≠ src → st.c u ≠ ULONG_MAX →
        st.p u < g.nodes.length ∧ st.c (st.p u) ≠ ULONG_MAX ∧
        ∃ e ∈ g.edges, e.src = st.p u ∧ e.dst = u ∧ st.c (st.p u) + e.links.length ≤ st.c u) ∧
      (∀ u, u < g.nodes.length → st.c u = ULONG_MAX → st.p u = ULONG_MAX)) :=
  ⟨dijkstraInit_inv g M src hs,
   fun _ _ _ h hv hf he hsrc => h.relaxOne hg ho hv hf he hsrc,
   fun f st st' hinv hl => dijkstraLoop_spec g M src hg ho f st st' hinv hl,
   fun _ h => ⟨h.src0, h.tree, h.unre⟩⟩

theorem DFinal.reach_src {g : DGraph} {M src : Nat} {st : DState} (h : DFinal g M src st) (hg : GraphOK g)
    (ho : NoOverflow g M) (hs : src < g.nodes.length) (es : List DEdge) (v : Nat) (hc : EdgeChain g src es v) :
    v < g.nodes.length ∧ st.c v ≠ ULONG_MAX ∧ st.c v ≤ chainLen es := by
  have := h.reach hg ho es src v hs (by rw [h.core.src0]; decide) hc
  rw [h.core.src0, Nat.zero_add] at this
  exact this

theorem DFinal.route {g : DGraph} {M src : Nat} {st : DState} (h : DFinal g M src st) (hg : GraphOK g)
    (ho : NoOverflow g M) (v : Nat) (hv : v < g.nodes.length) (hf : st.c v ≠ ULONG_MAX) :
    ∃ es, EdgeChain g src es v ∧ chainLen es = st.c v ∧
      dijkstraWalk DVar.now g st.pred src (g.nodes.length + 1) v [] = .ok (es.flatMap fun e => e.links) := by
  obtain ⟨links, hw, hlen⟩ := dijkstraWalk_ok g M src st hg ho h (g.nodes.length + 1) v [] [] hv hf (Fuel.init ..)
  obtain ⟨es, hc, hr⟩ := dijkstra_path_valid g st.pred src _ v [] _ hw
  simp only [List.append_nil] at hr hw
  subst hr
  exact ⟨es, hc, hlen, hw⟩

/-- **Dijkstra: the loop stops after at most (nodes + edges) pops, and what it leaves is exact** — with more fuel than
that (the driver's 100000 covers every graph with nodes + edges < 100000) the loop returns a state `st'` in which:
the predecessor of every node with a finite cost (≠ src) is a node with a finite cost, the edge pred → node is in
the graph and cost[node] = cost[pred] + |links of that edge|; a node has a finite cost iff some chain of edges leads
to it from src; that cost is the link count of such a chain and ≤ the link count of every such chain; a node with cost
ULONG_MAX has pred ULONG_MAX.  Every graph, every source. -/
theorem dijkstra_final_state (g : DGraph) (M src fuel : Nat) (hg : GraphOK g) (ho : NoOverflow g M)
    (hs : src < g.nodes.length) (hf : g.nodes.length + g.edges.length < fuel) :
    ∃ st', dijkstraLoop DVar.now g fuel (dijkstraInit g src) = some st' ∧
      dijkstraPreds DVar.now g fuel src = some st'.pred ∧ st'.c src = 0 ∧
      (∀ u, u < g.nodes.length → u ≠ src → st'.c u ≠ ULONG_MAX →
        st'.p u < g.nodes.length ∧ st'.c (st'.p u) ≠ ULONG_MAX ∧
        ∃ e ∈ g.edges, e.src = st'.p u ∧ e.dst = u ∧ st'.c (st'.p u) + e.links.length = st'.c u) ∧
      (∀ v es, EdgeChain g src es v → v < g.nodes.length ∧ st'.c v ≠ ULONG_MAX ∧ st'.c v ≤ chainLen es) ∧
      (∀ v, v < g.nodes.length → st'.c v ≠ ULONG_MAX → ∃ es, EdgeChain g src es v ∧ chainLen es = st'.c v) ∧
      (∀ v, v < g.nodes.length → st'.c v = ULONG_MAX → st'.p v = ULONG_MAX) := by
  obtain ⟨st', hl⟩ := dijkstraLoop_terminates g M src hg ho hs fuel hf
  obtain ⟨hinv, hq⟩ := dijkstraLoop_spec g M src hg ho fuel _ st' (dijkstraInit_inv g M src hs) hl
  have hfin := hinv.final hg hq
  refine ⟨st', hl, by rw [dijkstraPreds_now, hl]; rfl, hfin.core.src0, fun u hu hus hfu => hfin.tree_eq u hu hus hfu,
    fun v es hc => hfin.reach_src hg ho hs es v hc, ?_, hfin.core.unre⟩
  intro v hv hfv
  obtain ⟨es, hc, hlen, _⟩ := hfin.route hg ho v hv hfv
  exact ⟨es, hc, hlen⟩

/-- **Dijkstra answers whenever a chain exists, with the minimal link count** — src ≠ dst, fuel > nodes + edges: if
some chain of graph edges leads from src to dst, `get_local_route` returns a route (no exception, the composition
loop terminates), the route is the concatenation of the declared link lists along a chain of edges from src to dst,
and its link count is ≤ the link count of every chain of edges from src to dst (general Dijkstra minimality: edge
weights = link counts, lazy deletion).  Every graph. -/
theorem dijkstra_route_minimal (g : DGraph) (M fuel srcId dstId s d : Nat) (hg : GraphOK g) (ho : NoOverflow g M)
    (hf : g.nodes.length + g.edges.length < fuel) (hs : g.nodeIdx srcId = some s) (hd : g.nodeIdx dstId = some d)
    (hsd : s ≠ d) (es0 : List DEdge) (hch : EdgeChain g s es0 d) :
    ∃ es, EdgeChain g s es d ∧ dijkstraRoute g fuel srcId dstId = .ok (es.flatMap fun e => e.links) ∧
      chainLen es ≤ chainLen es0 ∧ ∀ es', EdgeChain g s es' d → chainLen es ≤ chainLen es' := by
  have hsn := nodeIdx_lt g srcId s hs
  obtain ⟨st', _, hfin, hroute⟩ := dijkstraRoute_final g M hg ho fuel srcId dstId s d hf hs hd hsd
  obtain ⟨hdn, hfd, _⟩ := hfin.reach_src hg ho hsn es0 d hch
  obtain ⟨es, hc, hcl, hw⟩ := hfin.route hg ho d hdn hfd
  have hmin : ∀ es', EdgeChain g s es' d → chainLen es ≤ chainLen es' :=
    fun es' hc' => hcl ▸ (hfin.reach_src hg ho hsn es' d hc').2.2
  exact ⟨es, hc, by unfold dijkstraRoute; rw [hroute, hw], hmin es0 hch, hmin⟩

/-- **Dijkstra: "No route" exactly when there is none** — src ≠ dst, fuel > nodes + edges: when no chain of graph
edges leads from src to dst the answer is the "No route" exception (not a spin, not a null dereference); with
`dijkstra_route_minimal`: a route is returned iff a chain exists. -/
theorem dijkstra_no_route_exact (g : DGraph) (M fuel srcId dstId s d : Nat) (hg : GraphOK g) (ho : NoOverflow g M)
    (hf : g.nodes.length + g.edges.length < fuel) (hs : g.nodeIdx srcId = some s) (hd : g.nodeIdx dstId = some d)
    (hsd : s ≠ d) (hno : ∀ es, ¬ EdgeChain g s es d) : dijkstraRoute g fuel srcId dstId = .error .noRoute := by
  have hsn := nodeIdx_lt g srcId s hs
  have hdn := nodeIdx_lt g dstId d hd
  obtain ⟨st', hl, hfin, hroute⟩ := dijkstraRoute_final g M hg ho fuel srcId dstId s d hf hs hd hsd
  unfold dijkstraRoute
  rw [hroute]
  by_cases hfd : st'.c d = ULONG_MAX
  · exact dijkstraWalk_noRoute g M s st' hfin _ d [] hdn (fun e => hsd e.symm) hfd
  · obtain ⟨es, hc, _⟩ := hfin.route hg ho d hdn hfd
    exact absurd hc (hno es)

/-- the sealed graph of: route 0→1 with links [1, 2] (one-way) -/
def g16 : DGraph := dijkstraSeal ((dijkstraAddRoute { nodes := [], edges := [] } 0 1 [1, 2] false).getD { nodes := [], edges := [] })

/-- **(D16) regression witness of the fixed defect `dijkstra-multilink-hop-reversed`**: before the fix a declared
two-link route `1 2` was returned as `2 1` by a Dijkstra zone (`insert_link_latency` inserted `rbegin..rend`); the
code as it is now returns `1 2`.  Corpus case `d16` replays it on the library. -/
theorem dijkstra_multilink_hop_reversed_prefix_witness :
    (g16.findEdge 0 1).map (·.links) = some [1, 2] ∧ dijkstraRouteV DVar.old g16 100 0 1 = .ok [2, 1] ∧
    dijkstraRoute g16 100 0 1 = .ok [1, 2] := by
  refine ⟨?_, ?_, ?_⟩ <;> decide

/-- the sealed graph of: s=0 → u=1 (link 1, one-way), x=2 → u=1 (link 2, one-way) -/
def g15 : DGraph :=
  dijkstraSeal (((dijkstraAddRoute { nodes := [], edges := [] } 0 1 [1] false).bind
    (fun g => dijkstraAddRoute g 2 1 [2] false)).getD { nodes := [], edges := [] })

/-- the same declarations in a Floyd zone -/
def f15 : FloydSt :=
  floydSeal 3 (((floydAddRoute FloydSt.init 0 1 [1] false).bind (fun s => floydAddRoute s 2 1 [2] false)).getD FloydSt.init)

/-- **(D15) regression witness of the fixed defect `dijkstra-unreachable-node-wraps`**: with one-way routes, a node
that cannot be reached from the source was popped with cost ULONG_MAX; `cost_v_u + ULONG_MAX` wrapped to
`cost_v_u - 1`, which beat the cost of a reachable neighbour and overwrote its predecessor.  s→u is declared (Floyd
answers `1`); before the fix Dijkstra's predecessor walk never reached s (the library span in the composition loop
until memory was exhausted).  The code as it is now answers `1`, and "No route" for the unreachable destinations
s→x and u→s, like Floyd.  Corpus case `d15` replays it on the library. -/
theorem dijkstra_unreachable_wrap_prefix_witness :
    floydRoute 3 f15 0 1 = .ok [1] ∧ dijkstraRouteV DVar.old g15 100 0 1 = .error .loops ∧
    dijkstraRoute g15 100 0 1 = .ok [1] ∧
    dijkstraRoute g15 100 0 2 = .error .noRoute ∧ floydRoute 3 f15 0 2 = .error .noRoute ∧
    dijkstraRoute g15 100 1 0 = .error .noRoute ∧ floydRoute 3 f15 1 0 = .error .noRoute := by
  refine ⟨?_, ?_, ?_, ?_, ?_, ?_, ?_⟩ <;> decide

/-- the sealed graph of: 0 ↔ 1 (link 1, symmetrical) and a declared self route 1 → 1 of three links [2, 3, 4] -/
def gSelf : DGraph :=
  dijkstraSeal (((dijkstraAddRoute { nodes := [], edges := [] } 0 1 [1] true).bind
    (fun g => dijkstraAddRoute g 1 1 [2, 3, 4] false)).getD { nodes := [], edges := [] })

def fSelf : FloydSt :=
  floydSeal 2 (((floydAddRoute FloydSt.init 0 1 [1] true).bind (fun s => floydAddRoute s 1 1 [2, 3, 4] false)).getD FloydSt.init)

/-- **counterexample to "minimal link count / equal link counts" for src = dst** (on the current code; key
`self-route-longer-than-cycle`, not fixed: which of the two answers is meant is a design decision).  A declared self
route longer than a cycle through a neighbour: Floyd's triple loop replaces it by the cycle there and back (`1 1`, 2
links), `DijkstraZone::get_local_route` returns the declared self edge (`2 3 4`, 3 links) without looking further.
Until the fix of D16 this was hidden behind the reversed hop (`4 3 2`). -/
theorem dijkstra_self_route_not_minimal_counterexample :
    floydRoute 2 fSelf 1 1 = .ok [1, 1] ∧ dijkstraRoute gSelf 100 1 1 = .ok [2, 3, 4] ∧
    (minCosts 2 (fun p q => (gSelf.findEdge p q).map (·.links.length)) 1).getD 1 none = some 2 := by
  refine ⟨?_, ?_, ?_⟩ <;> decide

/-- non-vacuity of `dijkstra_route_is_chain`: a two-hop route through multi-link hops, each hop in declared order
(0 →[3,4] 1 →[1,2] 2, symmetrical: back `2 1 4 3`) -/
example : ∃ g, ((dijkstraAddRoute { nodes := [], edges := [] } 0 1 [3, 4] true).bind
      (fun g => dijkstraAddRoute g 1 2 [1, 2] true)).map dijkstraSeal = some g ∧
    dijkstraRoute g 100 0 2 = .ok [3, 4, 1, 2] ∧ dijkstraRoute g 100 2 0 = .ok [2, 1, 4, 3] ∧
    dijkstraRoute g 100 1 1 = .ok [0] := ⟨_, rfl, by decide, by decide, by decide⟩

/-- non-vacuity of `floyd_minimal` / `floyd_path_valid`: 0 →[1,2] 1 →[3] 2 and a direct 0 →[4,5,6,7] 2: the two-hop
chain (3 links) beats the direct route (4 links) -/
def fEx : FloydSt :=
  floydLoopback 3 ((((floydAddRoute FloydSt.init 0 1 [1, 2] true).bind (fun s => floydAddRoute s 1 2 [3] true)).bind
    (fun s => floydAddRoute s 0 2 [4, 5, 6, 7] false)).getD FloydSt.init)

example : (floydLoops 3 fEx).cost 0 2 = some 3 ∧ floydRoute 3 (floydLoops 3 fEx) 0 2 = .ok [1, 2, 3] ∧
    floydRoute 3 (floydLoops 3 fEx) 2 0 = .ok [3, 2, 1] ∧ walkCost fEx.cost 0 [1] 2 = some 3 := by
  refine ⟨by decide, by decide, by decide, by decide⟩

/-- non-vacuity of `floyd_pred_invariant`, `floyd_route_length`, `floyd_route_minimal`: the declarations of `fEx`
replayed as the driver does (`wellDecl_routes`); 0 → 2 has the non-empty chains `[4,5,6,7]` (direct) and `[1,2] [3]`;
the route returned has the 3 links of the cost table -/
def fDecl : List (Nat × Nat × Bool × List Lk) := [(0, 1, true, [1, 2]), (1, 2, true, [3]), (0, 2, false, [4, 5, 6, 7])]

def replay (routes : List (Nat × Nat × Bool × List Lk)) : Option FloydSt :=
  routes.foldl (fun acc r => acc.bind fun st => floydAddRoute st r.1 r.2.1 r.2.2.2 r.2.2.1) (some FloydSt.init)

example : ∃ s, replay fDecl = some s ∧
    WellDecl 3 s ∧ (floydSeal 3 s).cost 0 2 = some 3 ∧ (floydSeal 3 s).pred 0 2 = some 1 ∧
    floydRoute 3 (floydSeal 3 s) 0 2 = .ok [1, 2, 3] ∧
    HopChain (floydLoopback 3 s).link 0 [(0, 2, [4, 5, 6, 7])] 2 ∧
    HopChain (floydLoopback 3 s).link 0 [(0, 1, [1, 2]), (1, 2, [3])] 2 :=
  ⟨_, rfl, wellDecl_routes 3 fDecl FloydSt.init _ (wellDecl_init 3) (by decide) rfl, by decide, by decide, by decide,
   ⟨rfl, by decide, rfl⟩, ⟨rfl, by decide, rfl, by decide, rfl⟩⟩

/-- non-vacuity of `floyd_no_route`: one-way routes 0 → 1 and 2 → 1; nothing leads from 0 to 2 -/
def fDecl15 : List (Nat × Nat × Bool × List Lk) := [(0, 1, false, [1]), (2, 1, false, [2])]

example : ∃ s, replay fDecl15 = some s ∧
    WellDecl 3 s ∧ (floydSeal 3 s).cost 0 2 = none ∧ floydRoute 3 (floydSeal 3 s) 0 2 = .error .noRoute :=
  ⟨_, rfl, wellDecl_routes 3 fDecl15 FloydSt.init _ (wellDecl_init 3) (by decide) rfl, by decide, by decide⟩

/-- non-vacuity of `dijkstra_relaxation_invariant`, `dijkstra_final_state`, `dijkstra_route_minimal`: 0 ↔ 1 `3 4`,
1 ↔ 2 `1 2`, 0 → 2 `5 6 7 8 9` replayed as the driver does, then sealed (`graphOK_routes`): the graph satisfies the
hypotheses (3 nodes, 8 edges, ≤ 5 links per edge), 0 → 2 has the direct chain of 5 links and the route returned has 4 -/
def dDecl : List (Nat × Nat × Bool × List Lk) := [(0, 1, true, [3, 4]), (1, 2, true, [1, 2]), (0, 2, false, [5, 6, 7, 8, 9])]

def replayD (routes : List (Nat × Nat × Bool × List Lk)) : Option DGraph :=
  routes.foldl (fun acc r => acc.bind fun g => dijkstraAddRoute g r.1 r.2.1 r.2.2.2 r.2.2.1)
    (some { nodes := [], edges := [] })

example : ∃ g0, replayD dDecl = some g0 ∧ GraphOK (dijkstraSeal g0) ∧ NoOverflow (dijkstraSeal g0) 5 ∧
    (dijkstraSeal g0).nodes.length + (dijkstraSeal g0).edges.length < 100 ∧
    (dijkstraSeal g0).nodeIdx 0 = some 0 ∧ (dijkstraSeal g0).nodeIdx 2 = some 2 ∧
    EdgeChain (dijkstraSeal g0) 0 [{ src := 0, dst := 2, links := [5, 6, 7, 8, 9] }] 2 ∧
    dijkstraRoute (dijkstraSeal g0) 100 0 2 = .ok [3, 4, 1, 2] :=
  ⟨_, rfl, graphOK_routes dDecl _ _ graphOK_empty (by decide) rfl, ⟨by decide, by decide⟩, by decide, by decide,
   by decide, ⟨by decide, rfl, rfl⟩, by decide⟩

/-- non-vacuity of `dijkstra_no_route_exact`: one-way routes 0 → 1 and 2 → 1: no chain leads from 0 to 2 (if one did,
`dijkstra_route_minimal` would give a route, but the answer is "No route") -/
def g15d : DGraph := dijkstraSeal ((replayD fDecl15).getD { nodes := [], edges := [] })

example : GraphOK g15d ∧ NoOverflow g15d 1 ∧ g15d.nodes.length + g15d.edges.length < 100 ∧
    g15d.nodeIdx 0 = some 0 ∧ g15d.nodeIdx 2 = some 2 ∧
    (∀ es, ¬ EdgeChain g15d 0 es 2) ∧ dijkstraRoute g15d 100 0 2 = .error .noRoute := by
  have hg : GraphOK g15d := graphOK_routes fDecl15 _ ((replayD fDecl15).getD { nodes := [], edges := [] })
    graphOK_empty (by decide) rfl
  have hn : dijkstraRoute g15d 100 0 2 = .error .noRoute := by decide
  refine ⟨hg, ⟨by decide, by decide⟩, by decide, by decide, by decide, ?_, hn⟩
  intro es hc
  obtain ⟨es', _, hr, _⟩ := dijkstra_route_minimal g15d 1 100 0 2 0 2 hg ⟨by decide, by decide⟩ (by decide)
    (by decide) (by decide) (by decide) es hc
  rw [hn] at hr; cases hr

example : ∃ t', fullAddRoute false [] 3 4 none none [7, 8] true = some t' ∧ (fullLocal t' 3 4).links = [7, 8] ∧
    (fullLocal t' 4 3).links = [8, 7] := ⟨_, rfl, by decide, by decide⟩

end SgVerif.C25
