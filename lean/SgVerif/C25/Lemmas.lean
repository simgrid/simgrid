import SgVerif.C25.Model
/-
The Floyd–Warshall recurrence `fw` is minimal over all chains (`walkCost`) and realised by one; the in-place triple loop of
FloydZone::do_seal computes it, because row and column `c` do not change during iteration `c` (`iter_cost`).  `Fuel` is
what the two predecessor walks (Floyd's table, Dijkstra's array) share.  First, `foldl_bind_inv`: an invariant along the
declarations as the driver replays them (`wellDecl_routes` in `FloydPred`, `graphOK_routes` in `DijkstraInv`).
-/
namespace SgVerif.C25
open SgVerif.C24 (Lk)

theorem foldl_bind_none {α β : Type} (f : α → β → Option α) (l : List β) :
    l.foldl (fun acc r => acc.bind fun a => f a r) none = none := by
  induction l with
  | nil => rfl
  | cons _ _ ih => simpa using ih

theorem foldl_bind_inv {α β : Type} (f : α → β → Option α) (I : α → Prop) (ok : β → Prop)
    (step : ∀ a b a', I a → ok b → f a b = some a' → I a') : ∀ (l : List β) (a0 a : α), I a0 → (∀ b ∈ l, ok b) →
    l.foldl (fun acc r => acc.bind fun a => f a r) (some a0) = some a → I a := by
  intro l
  induction l with
  | nil => intro a0 a h _ he; cases he; exact h
  | cons b bs ih =>
    intro a0 a h hok he
    obtain ⟨hb, hok'⟩ := List.forall_mem_cons.mp hok
    rw [List.foldl_cons, Option.bind_some] at he
    cases hf : f a0 b with
    | none => rw [hf, foldl_bind_none] at he; cases he
    | some a1 =>
      rw [hf] at he
      exact ih a1 a (step a0 b a1 h hb hf) hok' he

/-- what the two predecessor walks (Floyd's table, Dijkstra's array) rest on: the nodes `seen` so far are distinct
nodes `< n` of rank above `r`, the rank of the current node, and the fuel `f` left covers the nodes not seen yet.  The
rank strictly decreases along a walk, so the current node is never among those seen and the fuel cannot run out. -/
structure Fuel (n : Nat) (rk : Nat → Nat) (f : Nat) (seen : List Nat) (r : Nat) : Prop where
  nodup : seen.Nodup
  above : ∀ x ∈ seen, x < n ∧ r < rk x
  enough : n ≤ f + seen.length

theorem Fuel.init (n : Nat) (rk : Nat → Nat) (r : Nat) : Fuel n rk (n + 1) [] r :=
  ⟨List.nodup_nil, nofun, Nat.le_succ _⟩

theorem Fuel.not_mem {n f : Nat} {rk : Nat → Nat} {seen : List Nat} {v : Nat} (h : Fuel n rk f seen (rk v)) :
    v ∉ seen := fun hm => Nat.lt_irrefl _ (h.above v hm).2

/-- pigeonhole: `v :: seen` are distinct nodes `< n` -/
theorem Fuel.pos {n f : Nat} {rk : Nat → Nat} {seen : List Nat} {v : Nat} (h : Fuel n rk f seen (rk v)) (hv : v < n) :
    f ≠ 0 := by
  have := List.Nodup.length_le_of_subset (List.nodup_cons.mpr ⟨h.not_mem, h.nodup⟩) (l₂ := List.range n)
    (fun x hx => List.mem_range.mpr ((List.mem_cons.mp hx).elim (· ▸ hv) fun hx => (h.above x hx).1))
  rw [List.length_cons, List.length_range] at this
  have := h.enough
  omega

theorem Fuel.step {n f : Nat} {rk : Nat → Nat} {seen : List Nat} {v r : Nat} (h : Fuel n rk (f + 1) seen (rk v))
    (hv : v < n) (hr : r < rk v) : Fuel n rk f (v :: seen) r :=
  ⟨List.nodup_cons.mpr ⟨h.not_mem, h.nodup⟩,
    fun x hx => (List.mem_cons.mp hx).elim (fun e => e ▸ ⟨hv, hr⟩)
      fun hx => ⟨(h.above x hx).1, Nat.lt_trans hr (h.above x hx).2⟩,
    by have := h.enough; rw [List.length_cons]; omega⟩

theorem Tbl.set_eq {α : Type} (T : Tbl α) (a b : Nat) (v : Option α) : T.set a b v a b = v := if_pos ⟨rfl, rfl⟩

theorem Tbl.set_ne {α : Type} (T : Tbl α) {a b x y : Nat} (v : Option α) (h : ¬ (x = a ∧ y = b)) :
    T.set a b v x y = T x y := if_neg h

theorem optLe_refl (x : Option Nat) : optLe x x := by cases x <;> simp [optLe]

theorem optLe_some {x : Option Nat} {v : Nat} (h : optLe x (some v)) : ∃ v', x = some v' ∧ v' ≤ v := by
  cases x with
  | none => exact h.elim
  | some w => exact ⟨w, rfl, h⟩

theorem optLe_trans {x y z : Option Nat} (h1 : optLe x y) (h2 : optLe y z) : optLe x z := by
  cases x <;> cases y <;> cases z <;> simp_all [optLe] <;> omega

theorem optMin_le_left (x y : Option Nat) : optLe (optMin x y) x := by
  cases x <;> cases y <;> simp [optLe, optMin] <;> omega

theorem optMin_le_right (x y : Option Nat) : optLe (optMin x y) y := by
  cases x <;> cases y <;> simp [optLe, optMin] <;> omega

theorem optAdd_mono {a b c d : Option Nat} (h1 : optLe a c) (h2 : optLe b d) : optLe (optAdd a b) (optAdd c d) := by
  cases a <;> cases b <;> cases c <;> cases d <;> simp_all [optLe, optAdd] <;> omega

theorem optAdd_assoc (a b c : Option Nat) : optAdd (optAdd a b) c = optAdd a (optAdd b c) := by
  cases a <;> cases b <;> cases c <;> simp [optAdd]; omega

theorem optMin_eq_left {x y : Option Nat} (h : optLe x y) : optMin x y = x := by
  cases x <;> cases y <;> simp_all [optLe, optMin]

theorem optLe_add_left (x c : Option Nat) : optLe x (optAdd c x) := by
  cases x <;> cases c <;> simp [optLe, optAdd]

theorem optLe_add_right (x c : Option Nat) : optLe x (optAdd x c) := by
  cases x <;> cases c <;> simp [optLe, optAdd]

theorem optMin_eq_some {x y : Option Nat} {c : Nat} (h : optMin x y = some c) : x = some c ∨ y = some c := by
  cases x with
  | none => exact Or.inr h
  | some p =>
    cases y with
    | none => exact Or.inl h
    | some q =>
      simp only [optMin, Option.some.injEq] at h ⊢
      omega

theorem optAdd_eq_some {x y : Option Nat} {c : Nat} (h : optAdd x y = some c) :
    ∃ p q, x = some p ∧ y = some q ∧ p + q = c := by
  cases x with
  | none => cases h
  | some p =>
    cases y with
    | none => cases h
    | some q => exact ⟨p, q, rfl, rfl, Option.some.inj h⟩

theorem walkCost_append (w : Tbl Nat) (pre : List Nat) : ∀ (a k : Nat) (post : List Nat) (b : Nat),
    walkCost w a (pre ++ k :: post) b = optAdd (walkCost w a pre k) (walkCost w k post b) := by
  induction pre with
  | nil => intro a k post b; simp [walkCost]
  | cons m ms ih => intro a k post b; simp [walkCost, ih, optAdd_assoc]

/-- the cell (a, b) relaxed through `c`: what the body of the triple loop writes, and the step of `fw` -/
def relaxVal (T : Tbl Nat) (c a b : Nat) : Option Nat := optMin (T a b) (optAdd (T a c) (T c b))

theorem relaxVal_col (T : Tbl Nat) (c a : Nat) : relaxVal T c a c = T a c :=
  optMin_eq_left (optLe_add_right _ _)

theorem relaxVal_row (T : Tbl Nat) (c b : Nat) : relaxVal T c c b = T c b :=
  optMin_eq_left (optLe_add_left _ _)

theorem fw_succ (w : Tbl Nat) (k a b : Nat) : fw w (k+1) a b = relaxVal (fw w k) k a b := rfl

theorem fw_succ_le (w : Tbl Nat) (k a b : Nat) : optLe (fw w (k+1) a b) (fw w k a b) := optMin_le_left _ _

theorem fw_pivot_row (w : Tbl Nat) (k b : Nat) : fw w (k+1) k b = fw w k k b := relaxVal_row ..

theorem fw_pivot_col (w : Tbl Nat) (k a : Nat) : fw w (k+1) a k = fw w k a k := relaxVal_col ..

theorem fw_le_walk (w : Tbl Nat) : ∀ (k : Nat) (mid : List Nat) (a b : Nat), (∀ m ∈ mid, m < k) →
    optLe (fw w k a b) (walkCost w a mid b) := by
  intro k
  induction k with
  | zero =>
    intro mid a b h
    cases mid with
    | nil => exact optLe_refl _
    | cons m ms => exact absurd (h m (List.mem_cons_self ..)) (Nat.not_lt_zero m)
  | succ k ihk =>
    intro mid
    -- a chain through `k` splits at its first visit of `k`; what follows is a shorter chain
    induction hL : mid.length using Nat.strongRecOn generalizing mid with
    | _ L ihL =>
      intro a b hb
      by_cases hk : k ∈ mid
      · obtain ⟨pre, post, he, hn⟩ := List.eq_append_cons_of_mem hk
        subst he
        have hp : ∀ m ∈ pre, m < k := fun m hm =>
          Nat.lt_of_le_of_ne (Nat.le_of_lt_succ (hb m (List.mem_append_left _ hm))) fun e => hn (e ▸ hm)
        rw [walkCost_append]
        have h2 := ihL post.length (by rw [← hL, List.length_append, List.length_cons]; omega) post rfl k b
          (fun m hm => hb m (List.mem_append_right _ (List.mem_cons_of_mem _ hm)))
        rw [fw_pivot_row] at h2
        exact optLe_trans (optMin_le_right _ _) (optAdd_mono (ihk pre a k hp) h2)
      · exact optLe_trans (fw_succ_le w k a b) (ihk mid a b fun m hm =>
          Nat.lt_of_le_of_ne (Nat.le_of_lt_succ (hb m hm)) fun e => hk (e ▸ hm))

theorem fw_sound (w : Tbl Nat) : ∀ (k a b c : Nat), fw w k a b = some c →
    ∃ mid, (∀ m ∈ mid, m < k) ∧ walkCost w a mid b = some c := by
  intro k
  induction k with
  | zero => intro a b c h; exact ⟨[], nofun, h⟩
  | succ k ih =>
    intro a b c h
    rcases optMin_eq_some h with h | h
    · obtain ⟨mid, hm, hc⟩ := ih a b c h
      exact ⟨mid, fun m hm' => Nat.lt_succ_of_lt (hm m hm'), hc⟩
    · obtain ⟨p, q, h1, h2, rfl⟩ := optAdd_eq_some h
      obtain ⟨m1, hm1, hc1⟩ := ih a k p h1
      obtain ⟨m2, hm2, hc2⟩ := ih k b q h2
      refine ⟨m1 ++ k :: m2, ?_, by rw [walkCost_append, hc1, hc2]; rfl⟩
      intro m hm
      rcases List.mem_append.mp hm with h' | h'
      · exact Nat.lt_succ_of_lt (hm1 m h')
      · rcases List.mem_cons.mp h' with h'' | h''
        · omega
        · exact Nat.lt_succ_of_lt (hm2 m h'')

theorem relaxStep_eq (c a b : Nat) (s : FloydSt) :
    (relaxStep c a b s = s ∧ relaxVal s.cost c a b = s.cost a b) ∨
    ∃ x y, s.cost a c = some x ∧ s.cost c b = some y ∧ (∀ z, s.cost a b = some z → x + y < z) ∧
      relaxVal s.cost c a b = some (x + y) ∧
      relaxStep c a b s = { s with cost := s.cost.set a b (some (x + y)), pred := s.pred.set a b (s.pred c b) } := by
  unfold relaxStep relaxVal
  cases h1 : s.cost a c with
  | none => left; exact ⟨rfl, by cases s.cost a b <;> rfl⟩
  | some x =>
    cases h2 : s.cost c b with
    | none => left; exact ⟨rfl, by cases s.cost a b <;> rfl⟩
    | some y =>
      cases h3 : s.cost a b with
      | none => right; exact ⟨x, y, rfl, rfl, nofun, rfl, rfl⟩
      | some z =>
        by_cases hlt : x + y < z
        · right
          refine ⟨x, y, rfl, rfl, fun z' hz' => Option.some.inj hz' ▸ hlt, ?_, by simp [hlt]⟩
          simp only [optMin, optAdd, Option.some.injEq]; omega
        · left
          refine ⟨by simp [hlt], ?_⟩
          simp only [optMin, optAdd, Option.some.injEq]; omega

theorem relaxStep_cost (c a b : Nat) (s : FloydSt) (x y : Nat) :
    (relaxStep c a b s).cost x y = if x = a ∧ y = b then relaxVal s.cost c a b else s.cost x y := by
  rcases relaxStep_eq c a b s with ⟨he, hv⟩ | ⟨p, q, _, _, _, hv, he⟩
  · rw [he, hv]
    split
    · rename_i h; rw [h.1, h.2]
    · rfl
  · rw [he, hv]; rfl

theorem mem_pairs (n x y : Nat) : (x, y) ∈ pairs n ↔ x < n ∧ y < n := by
  simp [pairs, List.mem_flatMap, List.mem_map, List.mem_range]

/-- one outer iteration, on any list of cells: processed cells are relaxed through `c` *from the table at the start
of the iteration*, the others are untouched.  The invariant (every cell is still as at the start or already relaxed)
also says that row `c` and column `c` do not change, since relaxing them through `c` changes nothing. -/
theorem iter_cost (c : Nat) (T0 : Tbl Nat) : ∀ (ps : List (Nat × Nat)) (s : FloydSt),
    (∀ u v, s.cost u v = T0 u v ∨ s.cost u v = relaxVal T0 c u v) →
    ∀ x y, (ps.foldl (fun s p => relaxStep c p.1 p.2 s) s).cost x y =
      if (x, y) ∈ ps then relaxVal T0 c x y else s.cost x y := by
  intro ps
  induction ps with
  | nil => intro s _ x y; simp
  | cons p ps ih =>
    intro s hun x y
    obtain ⟨a, b⟩ := p
    rw [List.foldl_cons]
    have hcol : ∀ u, s.cost u c = T0 u c := fun u => (hun u c).elim id (·.trans (relaxVal_col ..))
    have hrow : ∀ v, s.cost c v = T0 c v := fun v => (hun c v).elim id (·.trans (relaxVal_row ..))
    have hval : relaxVal s.cost c a b = relaxVal T0 c a b := by
      unfold relaxVal
      rw [hcol a, hrow b]
      rcases hun a b with h | h
      · rw [h]
      · rw [h]; exact optMin_eq_left (optMin_le_right _ _)
    have hs' : ∀ u v, (relaxStep c a b s).cost u v = if u = a ∧ v = b then relaxVal T0 c a b else s.cost u v :=
      fun u v => by rw [relaxStep_cost, hval]
    have hun' : ∀ u v, (relaxStep c a b s).cost u v = T0 u v ∨ (relaxStep c a b s).cost u v = relaxVal T0 c u v := by
      intro u v
      rw [hs']; split
      · rename_i h; exact Or.inr (by rw [h.1, h.2])
      · exact hun u v
    rw [ih (relaxStep c a b s) hun' x y, hs']
    by_cases hmem : (x, y) ∈ ps
    · simp [hmem]
    · by_cases hxy : x = a ∧ y = b
      · simp [hxy]
      · have : (x, y) ≠ (a, b) := by intro e; injection e with e1 e2; exact hxy ⟨e1, e2⟩
        simp [hmem, hxy, this]

/-- nodes are < n: nothing is declared outside -/
def Inside (n : Nat) (w : Tbl Nat) : Prop := ∀ a b, (n ≤ a ∨ n ≤ b) → w a b = none

theorem fw_outside (n : Nat) (w : Tbl Nat) (hn : Inside n w) : ∀ k a b, (n ≤ a ∨ n ≤ b) → fw w k a b = none := by
  intro k
  induction k with
  | zero => intro a b h; exact hn a b h
  | succ k ih =>
    intro a b h
    simp only [fw]
    rw [ih a b h]
    rcases h with h | h
    · rw [ih a k (Or.inl h)]; simp [optAdd, optMin]
    · rw [ih k b (Or.inr h)]; cases fw w k a k <;> simp [optAdd, optMin]

theorem floydIter_cost (n c : Nat) (s : FloydSt) (x y : Nat) :
    (floydIter n c s).cost x y = if x < n ∧ y < n then relaxVal s.cost c x y else s.cost x y := by
  unfold floydIter
  rw [iter_cost c s.cost (pairs n) s (fun _ _ => Or.inl rfl) x y]
  simp [mem_pairs]

theorem floydLoops_cost (n : Nat) (s : FloydSt) (hn : Inside n s.cost) :
    ∀ k, k ≤ n → ∀ x y, ((List.range k).foldl (fun s c => floydIter n c s) s).cost x y = fw s.cost k x y := by
  intro k
  induction k with
  | zero => intro _ x y; simp [fw]
  | succ k ih =>
    intro hk x y
    rw [List.range_succ, List.foldl_append]
    simp only [List.foldl_cons, List.foldl_nil]
    rw [floydIter_cost]
    have ihk := ih (by omega)
    by_cases hin : x < n ∧ y < n
    · rw [if_pos hin, fw_succ]
      simp only [relaxVal, ihk]
    · simp only [hin, if_false, ihk]
      have hout : n ≤ x ∨ n ≤ y := by omega
      rw [fw_outside n s.cost hn (k+1) x y hout, fw_outside n s.cost hn k x y hout]

theorem loops_cost_fw (n : Nat) (s : FloydSt) (hn : Inside n s.cost) (a b : Nat) :
    (floydLoops n s).cost a b = fw s.cost n a b :=
  floydLoops_cost n s hn n (Nat.le_refl _) a b

end SgVerif.C25
