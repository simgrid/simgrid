import SgVerif.C25.Lemmas
import SgVerif.Common.List
/-
The priority-queue loop of DijkstraZone::get_local_route as written (variant `DVar.now`).  `DCore`, the relaxation
invariant, holds at every point of the loop, also between two edges of the `foreach`; its bound on the finite costs
(≤ (number of finite entries − 1) · M) is what excludes the 64-bit wrap under `NoOverflow g M`.  `Clean` (a node with a
finite cost has all its out-edges relaxed or still has an entry in the queue) gives, once the queue is empty, that no edge is
tense: finite cost ⇔ reachable, cost = minimal link count.  None of this depends on the order in which `popMin` returns
the entries; only the number of iterations does (`DijkstraTerm`).
-/
namespace SgVerif.C25
open SgVerif.C24 (Lk)

theorem now_guard : DVar.now.guard = true := rfl
theorem now_hop : DVar.now.hop = true := rfl
theorem insertFront_now (acc l : List Lk) : insertFront DVar.now acc l = l ++ acc := by simp [insertFront, now_hop]

theorem getD_set (l : List Nat) (i j a : Nat) (h : i < l.length) :
    (l.set i a).getD j 0 = if j = i then a else l.getD j 0 := by
  rw [List.getD_eq_getElem?_getD, List.getD_eq_getElem?_getD, List.getElem?_set]
  by_cases hj : i = j
  · subst hj; simp [h]
  · rw [if_neg hj, if_neg (Ne.symm hj)]

/-- what add_route/new_edge/do_seal guarantee about the route graph: edge extremities are graph nodes, at most one
edge between two nodes (`new_edge` throws "already exists"), no empty link list (`add_route_check_params`:
"Empty route … forbidden"; the loopback edge has one link) -/
structure GraphOK (g : DGraph) : Prop where
  bound : ∀ e ∈ g.edges, e.src < g.nodes.length ∧ e.dst < g.nodes.length
  uniq : ∀ e ∈ g.edges, g.findEdge e.src e.dst = some e
  pos : ∀ e ∈ g.edges, e.links ≠ []

/-- no 64-bit wrap-around: every edge has at most `M` links and (number of nodes) · M < ULONG_MAX -/
structure NoOverflow (g : DGraph) (M : Nat) : Prop where
  wle : ∀ e ∈ g.edges, e.links.length ≤ M
  small : g.nodes.length * M < ULONG_MAX

def DState.c (st : DState) (u : Nat) : Nat := st.cost.getD u 0
def DState.p (st : DState) (u : Nat) : Nat := st.pred.getD u 0
/-- number of finite entries of cost_arr -/
def DState.nfin (st : DState) : Nat := st.cost.countP fun x => x != ULONG_MAX

/-- one iteration of the `xbt_dynar_foreach (outedges)` body -/
def relaxOne (v : Nat) (st : DState) (e : DEdge) : DState :=
  let sum := (e.links.length + st.cost.getD v 0) % U64
  if sum < st.cost.getD e.dst 0 then
    { cost := st.cost.set e.dst sum, pred := st.pred.set e.dst v, queue := (sum, e.dst) :: st.queue }
  else st

theorem relaxEdges_cons (v : Nat) (st : DState) (e : DEdge) (es : List DEdge) :
    relaxEdges v st (e :: es) = relaxEdges v (relaxOne v st e) es := by
  simp only [relaxEdges, relaxOne]
  split <;> rfl

/-- the relaxation invariant: the costs are upper bounds witnessed by the predecessor array (`tree`: a finite node other
than `src` hangs from a finite predecessor by a graph edge, cost ≥ cost of the predecessor + links of the edge) -/
structure DCore (g : DGraph) (M src : Nat) (st : DState) : Prop where
  lenC : st.cost.length = g.nodes.length
  lenP : st.pred.length = g.nodes.length
  src0 : st.c src = 0
  -- a finite cost is ≤ (nfin − 1) · M, `nfin` = number of finite entries: with `NoOverflow` the 64-bit sum cannot wrap
  bnd : ∀ u, u < g.nodes.length → st.c u = ULONG_MAX ∨ st.c u + M ≤ st.nfin * M
  tree : ∀ u, u < g.nodes.length → u ≠ src → st.c u ≠ ULONG_MAX →
    st.p u < g.nodes.length ∧ st.c (st.p u) ≠ ULONG_MAX ∧
    ∃ e ∈ g.edges, e.src = st.p u ∧ e.dst = u ∧ st.c (st.p u) + e.links.length ≤ st.c u
  unre : ∀ u, u < g.nodes.length → st.c u = ULONG_MAX → st.p u = ULONG_MAX

theorem DCore.room {g : DGraph} {M src : Nat} {st : DState} (h : DCore g M src st) (ho : NoOverflow g M)
    (v : Nat) (hv : v < g.nodes.length) (hf : st.c v ≠ ULONG_MAX) (e : DEdge) (he : e ∈ g.edges) :
    st.c v + e.links.length ≤ st.nfin * M ∧ st.nfin * M < ULONG_MAX := by
  have h1 := h.bnd v hv
  have h2 := ho.wle e he
  have h3 : st.nfin * M ≤ g.nodes.length * M := Nat.mul_le_mul_right _ (h.lenC ▸ List.countP_le_length)
  have h4 := ho.small
  rcases h1 with h1 | h1
  · exact absurd h1 hf
  · omega

def DState.upd (st : DState) (u c v : Nat) : DState :=
  { cost := st.cost.set u c, pred := st.pred.set u v, queue := (c, u) :: st.queue }

theorem upd_c (st : DState) (u c v x : Nat) (hu : u < st.cost.length) :
    (st.upd u c v).c x = if x = u then c else st.c x :=
  getD_set st.cost u x c hu

theorem upd_p (st : DState) (u c v x : Nat) (hu : u < st.pred.length) :
    (st.upd u c v).p x = if x = u then v else st.p x :=
  getD_set st.pred u x v hu

theorem upd_nfin (st : DState) (u c v : Nat) (hu : u < st.cost.length) (hc : c ≠ ULONG_MAX) :
    (st.upd u c v).nfin = if st.c u = ULONG_MAX then st.nfin + 1 else st.nfin := by
  have hle := List.boole_getElem_le_countP (p := fun x => x != ULONG_MAX) hu
  have hcu : st.c u = st.cost[u] := by simp [DState.c, List.getD_eq_getElem?_getD, hu]
  simp only [DState.nfin, DState.upd, List.countP_set hu, hcu, bne_iff_ne, ne_eq, hc, not_false_eq_true,
    if_true] at hle ⊢
  by_cases hinf : st.cost[u] = ULONG_MAX
  · simp only [hinf, not_true_eq_false, if_false, if_true]; omega
  · simp only [hinf, not_false_eq_true, if_true, if_false] at hle ⊢; omega

theorem relaxOne_cases (g : DGraph) (M src v : Nat) (st : DState) (e : DEdge) (h : DCore g M src st)
    (ho : NoOverflow g M) (hv : v < g.nodes.length) (hf : st.c v ≠ ULONG_MAX) (he : e ∈ g.edges) :
    (relaxOne v st e = st ∧ st.c e.dst ≤ st.c v + e.links.length) ∨
    (st.c v + e.links.length < st.c e.dst ∧ e.dst ≠ v ∧ e.dst ≠ src ∧
      relaxOne v st e = st.upd e.dst (st.c v + e.links.length) v) := by
  obtain ⟨hr1, hr2⟩ := h.room ho v hv hf e he
  have hs0 := h.src0
  simp only [DState.c] at hr1 hs0
  have hmod : (e.links.length + st.cost.getD v 0) % U64 = st.cost.getD v 0 + e.links.length := by
    rw [show U64 = ULONG_MAX + 1 from rfl, Nat.mod_eq_of_lt (by omega)]; omega
  unfold relaxOne
  simp only [hmod, DState.c]
  by_cases hlt : st.cost.getD v 0 + e.links.length < st.cost.getD e.dst 0
  · right
    refine ⟨hlt, ?_, ?_, by rw [if_pos hlt]; rfl⟩
    · intro e'; rw [e'] at hlt; omega
    · intro e'; rw [e'] at hlt; omega
  · left
    exact ⟨by rw [if_neg hlt], by omega⟩

/-- how the state `st'` reached by relaxing some out-edges of `v` relates to the state `st` before: costs only go
down, not below the cost of `v`; the queue only grows, by entries `(new cost, node)` with keys ≥ the cost of `v` -/
structure Relaxed (g : DGraph) (v : Nat) (st st' : DState) : Prop where
  cv : st'.c v = st.c v
  mono : ∀ x, st'.c x ≤ st.c x
  keep : ∀ q ∈ st.queue, q ∈ st'.queue
  fresh : ∀ q ∈ st'.queue, q ∈ st.queue ∨ (q.2 < g.nodes.length ∧ st.c v ≤ q.1 ∧ st'.c q.2 ≤ q.1)
  moved : ∀ x, st'.c x = st.c x ∨ (st'.c x, x) ∈ st'.queue
  low : ∀ x, st.c x ≤ st.c v → st'.c x = st.c x

theorem Relaxed.refl (g : DGraph) (v : Nat) (st : DState) : Relaxed g v st st :=
  ⟨rfl, fun _ => Nat.le_refl _, fun _ h => h, fun _ h => Or.inl h, fun _ => Or.inl rfl, fun _ _ => rfl⟩

theorem Relaxed.trans {g : DGraph} {v : Nat} {st st1 st2 : DState} (h1 : Relaxed g v st st1)
    (h2 : Relaxed g v st1 st2) : Relaxed g v st st2 := by
  refine ⟨h2.cv.trans h1.cv, fun x => Nat.le_trans (h2.mono x) (h1.mono x), fun q hq => h2.keep q (h1.keep q hq),
    ?_, ?_, ?_⟩
  · intro q hq
    rcases h2.fresh q hq with h' | ⟨hb, h', h''⟩
    · rcases h1.fresh q h' with h3 | ⟨hb, h3, h4⟩
      · exact Or.inl h3
      · exact Or.inr ⟨hb, h3, Nat.le_trans (h2.mono q.2) h4⟩
    · exact Or.inr ⟨hb, h1.cv ▸ h', h''⟩
  · intro x
    rcases h2.moved x with e2 | m2
    · rcases h1.moved x with e1 | m1
      · exact Or.inl (e2.trans e1)
      · exact Or.inr (e2 ▸ h2.keep _ m1)
    · exact Or.inr m2
  · intro x hx
    have e1 := h1.low x hx
    rw [h2.low x (by rw [e1, h1.cv]; exact hx), e1]

theorem relaxOne_rel (g : DGraph) (M src v : Nat) (st : DState) (e : DEdge) (h : DCore g M src st)
    (hg : GraphOK g) (ho : NoOverflow g M) (hv : v < g.nodes.length) (hf : st.c v ≠ ULONG_MAX) (he : e ∈ g.edges) :
    Relaxed g v st (relaxOne v st e) ∧ (relaxOne v st e).c e.dst ≤ st.c v + e.links.length ∧
    (relaxOne v st e).queue.length ≤ st.queue.length + 1 ∧
    (st.c e.dst ≤ st.c v + e.links.length → relaxOne v st e = st) := by
  rcases relaxOne_cases g M src v st e h ho hv hf he with ⟨heq, hle⟩ | ⟨hlt, huv, hus, heq⟩
  · rw [heq]; exact ⟨.refl g v st, hle, Nat.le_succ _, fun _ => rfl⟩
  · have hu : e.dst < g.nodes.length := (hg.bound e he).2
    have hcu := fun x => upd_c st e.dst (st.c v + e.links.length) v x (h.lenC ▸ hu)
    rw [heq]
    refine ⟨⟨by rw [hcu, if_neg (Ne.symm huv)], ?_, fun q hq => List.mem_cons_of_mem _ hq, ?_, ?_, ?_⟩,
      by rw [hcu, if_pos rfl]; exact Nat.le_refl _, Nat.le_refl _, fun hle => by omega⟩
    · intro x; rw [hcu]; split
      · rename_i hx; rw [hx]; omega
      · exact Nat.le_refl _
    · intro q hq
      rcases List.mem_cons.mp hq with rfl | hq
      · exact Or.inr ⟨hu, Nat.le_add_right .., by rw [hcu, if_pos rfl]; exact Nat.le_refl _⟩
      · exact Or.inl hq
    · intro x
      by_cases hx : x = e.dst
      · right; rw [hcu, if_pos hx, hx]; exact List.mem_cons_self ..
      · left; rw [hcu, if_neg hx]
    · intro x hx
      rw [hcu]; split
      · rename_i hxu; rw [hxu] at hx; omega
      · rfl

theorem DCore.relaxOne {g : DGraph} {M src v : Nat} {st : DState} {e : DEdge} (h : DCore g M src st)
    (hg : GraphOK g) (ho : NoOverflow g M) (hv : v < g.nodes.length) (hf : st.c v ≠ ULONG_MAX) (he : e ∈ g.edges)
    (hsrc : e.src = v) : DCore g M src (SgVerif.C25.relaxOne v st e) := by
  rcases relaxOne_cases g M src v st e h ho hv hf he with ⟨heq, _⟩ | ⟨hlt, huv, hus, heq⟩
  · rw [heq]; exact h
  · obtain ⟨hr1, hr2⟩ := h.room ho v hv hf e he
    have hu : e.dst < g.nodes.length := (hg.bound e he).2
    have huC : e.dst < st.cost.length := h.lenC ▸ hu
    have R := (relaxOne_rel g M src v st e h hg ho hv hf he).1
    rw [heq] at R ⊢
    have hcu := fun x => upd_c st e.dst (st.c v + e.links.length) v x huC
    have hpu := fun x => upd_p st e.dst (st.c v + e.links.length) v x (h.lenP ▸ hu)
    have hn := upd_nfin st e.dst (st.c v + e.links.length) v huC (by omega)
    -- the count of finite entries does not go down, and the new cost fits under it
    have hN : st.nfin * M ≤ (st.upd e.dst (st.c v + e.links.length) v).nfin * M := by
      apply Nat.mul_le_mul_right; rw [hn]; split <;> omega
    have hnew : st.c v + e.links.length + M ≤ (st.upd e.dst (st.c v + e.links.length) v).nfin * M := by
      rw [hn]; split
      · rw [Nat.add_mul, Nat.one_mul]; omega
      · rename_i hfin
        have := (h.bnd e.dst hu).resolve_left hfin
        omega
    have hfin : ∀ y, st.c y ≠ ULONG_MAX → (st.upd e.dst (st.c v + e.links.length) v).c y ≠ ULONG_MAX := by
      intro y hy; rw [hcu]; split
      · omega
      · exact hy
    refine ⟨by simp [DState.upd, h.lenC], by simp [DState.upd, h.lenP], ?_, ?_, ?_, ?_⟩
    · rw [hcu, if_neg (Ne.symm hus)]; exact h.src0
    · intro x hx
      rw [hcu]; split
      · exact Or.inr hnew
      · exact (h.bnd x hx).imp_right fun h' => Nat.le_trans h' hN
    · intro x hx hxs hfx
      rw [hpu]
      by_cases hxu : x = e.dst
      · rw [if_pos hxu, R.cv, hxu, hcu, if_pos rfl]
        exact ⟨hv, hf, e, he, hsrc, rfl, Nat.le_refl _⟩
      · rw [if_neg hxu]
        rw [hcu, if_neg hxu] at hfx
        obtain ⟨h1, h2, e', he', hs', hd', hle'⟩ := h.tree x hx hxs hfx
        refine ⟨h1, hfin _ h2, e', he', hs', hd', ?_⟩
        rw [hcu x, if_neg hxu]; exact Nat.le_trans (Nat.add_le_add_right (R.mono _) _) hle'
    · intro x hx hinf
      rw [hcu] at hinf
      rw [hpu]
      by_cases hxu : x = e.dst
      · rw [if_pos hxu] at hinf; omega
      · rw [if_neg hxu] at hinf ⊢; exact h.unre x hx hinf

/-- every node in `P` with a finite cost has all its out-edges relaxed or still has an entry in the queue -/
def Clean (g : DGraph) (st : DState) (P : Nat → Prop) : Prop :=
  ∀ x, x < g.nodes.length → P x → st.c x ≠ ULONG_MAX →
    (∀ e ∈ g.edges, e.src = x → st.c e.dst ≤ st.c x + e.links.length) ∨ ∃ k, (k, x) ∈ st.queue

theorem Clean.relaxed {g : DGraph} {v : Nat} {st st' : DState} {P : Nat → Prop} (hcl : Clean g st P)
    (R : Relaxed g v st st') : Clean g st' P := by
  intro x hx hP hfx
  rcases R.moved x with e | hq
  · rw [e] at hfx ⊢
    rcases hcl x hx hP hfx with hl | ⟨k, hk⟩
    · exact Or.inl fun e' he' hs' => Nat.le_trans (R.mono e'.dst) (hl e' he' hs')
    · exact Or.inr ⟨k, R.keep _ hk⟩
  · exact Or.inr ⟨_, hq⟩

theorem relaxEdges_spec (g : DGraph) (M src v : Nat) (hg : GraphOK g) (ho : NoOverflow g M) (hv : v < g.nodes.length) :
    ∀ (es : List DEdge) (st : DState), (∀ e ∈ es, e ∈ g.edges ∧ e.src = v) → DCore g M src st →
    st.c v ≠ ULONG_MAX →
    DCore g M src (relaxEdges v st es) ∧ Relaxed g v st (relaxEdges v st es) ∧
    (∀ e ∈ es, (relaxEdges v st es).c e.dst ≤ st.c v + e.links.length) ∧
    (relaxEdges v st es).queue.length ≤ st.queue.length + es.length ∧
    ((∀ e ∈ es, st.c e.dst ≤ st.c v + e.links.length) → relaxEdges v st es = st) := by
  intro es
  induction es with
  | nil => intro st _ h _; exact ⟨h, .refl g v st, nofun, Nat.le_refl _, fun _ => rfl⟩
  | cons e es ih =>
    intro st hes h hf
    obtain ⟨⟨he, hsrc⟩, hes'⟩ := List.forall_mem_cons.mp hes
    rw [relaxEdges_cons]
    obtain ⟨R1, f3, f5, f6⟩ := relaxOne_rel g M src v st e h hg ho hv hf he
    obtain ⟨r1, R2, r4, r5, r6⟩ := ih (relaxOne v st e) hes'
      (h.relaxOne hg ho hv hf he hsrc) (by rw [R1.cv]; exact hf)
    refine ⟨r1, R1.trans R2, ?_, by rw [List.length_cons]; omega, ?_⟩
    · intro e' he'
      rcases List.mem_cons.mp he' with rfl | h'
      · exact Nat.le_trans (R2.mono _) f3
      · rw [← R1.cv]; exact r4 e' h'
    · intro hall
      obtain ⟨h1, hall'⟩ := List.forall_mem_cons.mp hall
      rw [f6 h1] at r6 ⊢
      exact r6 hall'

theorem popMin_none (q : List (Nat × Nat)) : popMin q = none ↔ q = [] := by
  cases q with
  | nil => simp [popMin]
  | cons x xs =>
    simp only [popMin]
    cases popMin xs with
    | none => simp
    | some mr => obtain ⟨m, rest⟩ := mr; simp only []; split <;> simp

/-- `popMin` removes one entry of the queue, one with the smallest key (that it is the smallest matters for the
running time only) -/
theorem popMin_perm : ∀ (q : List (Nat × Nat)) (m : Nat × Nat) (rest : List (Nat × Nat)), popMin q = some (m, rest) →
    (m :: rest).Perm q ∧ ∀ x ∈ q, m.1 ≤ x.1
  | [], _, _, h => nomatch h
  | x :: xs, m, rest, h => by
    rw [popMin] at h
    cases hp : popMin xs with
    | none =>
      rw [hp] at h; cases h
      rw [(popMin_none xs).mp hp]
      exact ⟨.refl _, fun y hy => by rw [List.mem_singleton.mp hy]; exact Nat.le_refl _⟩
    | some mr =>
      obtain ⟨m', rest'⟩ := mr
      obtain ⟨ih1, ih2⟩ := popMin_perm xs m' rest' hp
      rw [hp] at h
      simp only at h
      by_cases hc : x.1 < m'.1 ∨ (x.1 = m'.1 ∧ x.2 ≤ m'.2)
      · rw [if_pos hc] at h; cases h
        refine ⟨.refl _, fun y hy => ?_⟩
        rcases List.mem_cons.mp hy with rfl | hy
        · exact Nat.le_refl _
        · have := ih2 y hy; omega
      · rw [if_neg hc] at h; cases h
        refine ⟨(List.Perm.swap ..).trans (ih1.cons x), fun y hy => ?_⟩
        rcases List.mem_cons.mp hy with rfl | hy
        · omega
        · exact ih2 y hy

theorem popMin_mem_rest {q rest : List (Nat × Nat)} {k v k' x : Nat} (hp : popMin q = some ((k, v), rest))
    (hm : (k', x) ∈ q) (hxv : x ≠ v) : (k', x) ∈ rest :=
  (List.mem_cons.mp ((popMin_perm _ _ _ hp).1.mem_iff.mpr hm)).resolve_left fun e => hxv (Prod.mk.inj e).2

theorem Clean.pop {g : DGraph} {st : DState} {k v : Nat} {rest : List (Nat × Nat)} (hcl : Clean g st fun _ => True)
    (hp : popMin st.queue = some ((k, v), rest)) : Clean g { st with queue := rest } fun x => x ≠ v := by
  intro x hx hxv hfx
  rcases hcl x hx trivial hfx with hl | ⟨k', hk'⟩
  · exact Or.inl hl
  · exact Or.inr ⟨k', popMin_mem_rest hp hk' hxv⟩

/-- the loop invariant: relaxation invariant + every finite node is clean or queued + queue entries are graph nodes -/
structure DInv (g : DGraph) (M src : Nat) (st : DState) : Prop where
  core : DCore g M src st
  clean : Clean g st fun _ => True
  qb : ∀ q ∈ st.queue, q.2 < g.nodes.length

theorem DCore.setQueue {g : DGraph} {M src : Nat} {st : DState} (h : DCore g M src st) (q : List (Nat × Nat)) :
    DCore g M src { st with queue := q } :=
  ⟨h.lenC, h.lenP, h.src0, h.bnd, h.tree, h.unre⟩

theorem mem_outEdges (g : DGraph) (v : Nat) (e : DEdge) : e ∈ g.outEdges v ↔ e ∈ g.edges ∧ e.src = v := by
  simp only [DGraph.outEdges, List.mem_filter, decide_eq_true_eq]

/-- a popped entry whose node has cost ULONG_MAX: `continue` -/
theorem DInv.skip {g : DGraph} {M src : Nat} {st : DState} (hinv : DInv g M src st) (k v : Nat)
    (rest : List (Nat × Nat)) (hp : popMin st.queue = some ((k, v), rest)) (hinf : st.c v = ULONG_MAX) :
    DInv g M src { st with queue := rest } :=
  ⟨hinv.core.setQueue rest, fun x hx _ hfx => hinv.clean.pop hp x hx (fun e => hfx (e ▸ hinf)) hfx,
    fun q hq => hinv.qb q ((popMin_perm _ _ _ hp).1.subset (List.mem_cons_of_mem _ hq))⟩

/-- a popped entry whose node has a finite cost: all its out-edges are relaxed -/
theorem DInv.process {g : DGraph} {M src : Nat} {st : DState} (hinv : DInv g M src st) (hg : GraphOK g)
    (ho : NoOverflow g M) (k v : Nat) (rest : List (Nat × Nat)) (hp : popMin st.queue = some ((k, v), rest))
    (hfin : st.c v ≠ ULONG_MAX) : DInv g M src (relaxEdges v { st with queue := rest } (g.outEdges v)) := by
  have hP := (popMin_perm _ _ _ hp).1.subset
  have hv : v < g.nodes.length := hinv.qb (k, v) (hP (List.mem_cons_self ..))
  have hcore1 : DCore g M src { st with queue := rest } := hinv.core.setQueue rest
  have hqb1 : ∀ q ∈ rest, q.2 < g.nodes.length := fun q hq => hinv.qb q (hP (List.mem_cons_of_mem _ hq))
  obtain ⟨r1, R, r6, _⟩ := relaxEdges_spec g M src v hg ho hv (g.outEdges v)
    { st with queue := rest } (fun e he => (mem_outEdges g v e).mp he) hcore1 hfin
  refine ⟨r1, ?_, fun q hq => (R.fresh q hq).elim (hqb1 q) (·.1)⟩
  intro x hx _ hfx
  by_cases hxv : x = v
  · left
    intro e he hs
    rw [hxv, R.cv]
    exact r6 e ((mem_outEdges g v e).mpr ⟨he, hxv ▸ hs⟩)
  · exact ((hinv.clean.pop hp).relaxed R) x hx hxv hfx

theorem dijkstraLoop_spec (g : DGraph) (M src : Nat) (hg : GraphOK g) (ho : NoOverflow g M) :
    ∀ (f : Nat) (st st' : DState), DInv g M src st → dijkstraLoop DVar.now g f st = some st' →
      DInv g M src st' ∧ st'.queue = [] := by
  intro f
  induction f with
  | zero => intro st st' _ h; simp [dijkstraLoop] at h
  | succ f ih =>
    intro st st' hinv h
    unfold dijkstraLoop at h
    cases hp : popMin st.queue with
    | none =>
      rw [hp] at h
      simp only [Option.some.injEq] at h
      subst h
      exact ⟨hinv, (popMin_none _).mp hp⟩
    | some mr =>
      obtain ⟨⟨k, v⟩, rest⟩ := mr
      rw [hp] at h
      simp only [now_guard, Bool.true_and, decide_eq_true_eq] at h
      split at h
      · rename_i hinf
        exact ih _ st' (hinv.skip k v rest hp hinf) h
      · rename_i hfin
        exact ih _ st' (hinv.process hg ho k v rest hp hfin) h

/-- cost_arr / pred_arr / pqueue before the loop (code as it is now: `pred_arr[i] = ULONG_MAX`) -/
def dijkstraInit (g : DGraph) (src : Nat) : DState :=
  let n := g.nodes.length
  let cost := (List.range n).map fun i => if i = src then 0 else ULONG_MAX
  { cost := cost, pred := List.replicate n ULONG_MAX, queue := (List.range n).map fun i => (cost.getD i 0, i) }

theorem dijkstraPreds_now (g : DGraph) (fuel src : Nat) :
    dijkstraPreds DVar.now g fuel src = (dijkstraLoop DVar.now g fuel (dijkstraInit g src)).map (·.pred) := by
  simp [dijkstraPreds, dijkstraInit, DVar.now, fixedUnreachableGuard]

theorem dijkstraInit_inv (g : DGraph) (M src : Nat) (hs : src < g.nodes.length) : DInv g M src (dijkstraInit g src) := by
  have hc : ∀ u, u < g.nodes.length → (dijkstraInit g src).c u = if u = src then 0 else ULONG_MAX :=
    fun u hu => getD_map_range _ _ _ hu
  have hp : ∀ u, u < g.nodes.length → (dijkstraInit g src).p u = ULONG_MAX := by
    intro u hu
    show (List.replicate g.nodes.length ULONG_MAX).getD u 0 = ULONG_MAX
    rw [List.getD_eq_getElem?_getD, List.getElem?_replicate, if_pos hu]; rfl
  have hn : 1 ≤ (dijkstraInit g src).nfin :=
    List.countP_pos_iff.mpr ⟨0, List.mem_map.mpr ⟨src, List.mem_range.mpr hs, if_pos rfl⟩, by decide⟩
  refine ⟨⟨(List.length_map _).trans List.length_range, List.length_replicate, by rw [hc src hs, if_pos rfl],
    ?_, ?_, fun u hu _ => hp u hu⟩, ?_, ?_⟩
  · intro u hu
    rw [hc u hu]
    by_cases hus : u = src
    · right; rw [if_pos hus]
      have := Nat.mul_le_mul_right M hn
      omega
    · left; rw [if_neg hus]
  · intro u hu hus hf
    rw [hc u hu, if_neg hus] at hf
    exact absurd rfl hf
  · intro x hx _ hfx
    rw [hc x hx] at hfx
    exact Or.inr ⟨_, List.mem_map.mpr ⟨x, List.mem_range.mpr hx, rfl⟩⟩
  · intro q hq
    obtain ⟨i, hi, he⟩ := List.mem_map.mp hq
    rw [← he]; exact List.mem_range.mp hi

/-- `es` are graph edges leading, each from where the previous one ends, from `a` to `b` -/
def EdgeChain (g : DGraph) : Nat → List DEdge → Nat → Prop
  | a, [], b => a = b
  | a, e :: es, b => e ∈ g.edges ∧ e.src = a ∧ EdgeChain g e.dst es b

theorem findEdge_some {g : DGraph} {a b : Nat} {e : DEdge} (h : g.findEdge a b = some e) :
    e ∈ g.edges ∧ e.src = a ∧ e.dst = b :=
  ⟨List.mem_of_find?_eq_some h, by simpa using List.find?_some h⟩

theorem EdgeChain.mem {g : DGraph} : ∀ {es : List DEdge} {a v : Nat}, EdgeChain g a es v → ∀ e ∈ es, e ∈ g.edges
  | [], _, _, _, _, he => nomatch he
  | _ :: _, _, _, hc, e, he => (List.mem_cons.mp he).elim (· ▸ hc.1) (EdgeChain.mem hc.2.2 e)

theorem edgeChain_snoc (g : DGraph) (e : DEdge) (he : e ∈ g.edges) : ∀ (es : List DEdge) (a : Nat),
    EdgeChain g a es e.src → EdgeChain g a (es ++ [e]) e.dst := by
  intro es
  induction es with
  | nil => intro a h; simp only [EdgeChain] at h; exact ⟨he, h.symm, rfl⟩
  | cons x xs ih => intro a h; exact ⟨h.1, h.2.1, ih x.dst h.2.2⟩

def chainLen (es : List DEdge) : Nat := (es.flatMap fun e => e.links).length

theorem chainLen_cons (e : DEdge) (es : List DEdge) : chainLen (e :: es) = e.links.length + chainLen es := by
  simp [chainLen]

/-- the state when the loop is left: the invariant, and no edge out of a finite node is tense -/
structure DFinal (g : DGraph) (M src : Nat) (st : DState) : Prop where
  core : DCore g M src st
  relaxed : ∀ e ∈ g.edges, st.c e.src ≠ ULONG_MAX → st.c e.dst ≤ st.c e.src + e.links.length

theorem DInv.final {g : DGraph} {M src : Nat} {st : DState} (h : DInv g M src st) (hg : GraphOK g)
    (hq : st.queue = []) : DFinal g M src st := by
  refine ⟨h.core, ?_⟩
  intro e he hf
  rcases h.clean e.src (hg.bound e he).1 trivial hf with hl | ⟨k, hk⟩
  · exact hl e he rfl
  · rw [hq] at hk; cases hk

theorem DFinal.reach {g : DGraph} {M src : Nat} {st : DState} (h : DFinal g M src st) (hg : GraphOK g)
    (ho : NoOverflow g M) : ∀ (es : List DEdge) (a v : Nat), a < g.nodes.length → st.c a ≠ ULONG_MAX →
    EdgeChain g a es v → v < g.nodes.length ∧ st.c v ≠ ULONG_MAX ∧ st.c v ≤ st.c a + chainLen es := by
  intro es
  induction es with
  | nil =>
    intro a v ha hf hc
    simp only [EdgeChain] at hc
    subst hc
    exact ⟨ha, hf, by simp [chainLen]⟩
  | cons e es ih =>
    intro a v ha hf hc
    obtain ⟨he, hs, hrest⟩ := hc
    subst hs
    have hle := h.relaxed e he hf
    obtain ⟨hr1, hr2⟩ := h.core.room ho e.src ha hf e he
    obtain ⟨i1, i2, i3⟩ := ih e.dst v (hg.bound e he).2 (by omega) hrest
    exact ⟨i1, i2, by rw [chainLen_cons]; omega⟩

theorem DFinal.tree_eq {g : DGraph} {M src : Nat} {st : DState} (h : DFinal g M src st) (u : Nat)
    (hu : u < g.nodes.length) (hus : u ≠ src) (hf : st.c u ≠ ULONG_MAX) :
    st.p u < g.nodes.length ∧ st.c (st.p u) ≠ ULONG_MAX ∧
    ∃ e ∈ g.edges, e.src = st.p u ∧ e.dst = u ∧ st.c (st.p u) + e.links.length = st.c u := by
  obtain ⟨h1, h2, e, he, hs, hd, hle⟩ := h.core.tree u hu hus hf
  refine ⟨h1, h2, e, he, hs, hd, ?_⟩
  have := h.relaxed e he (by rw [hs]; exact h2)
  rw [hs, hd] at this
  omega

/-- the cost is the rank that decreases along the predecessor walk -/
theorem dijkstraWalk_ok (g : DGraph) (M src : Nat) (st : DState) (hg : GraphOK g) (ho : NoOverflow g M)
    (h : DFinal g M src st) : ∀ (f v : Nat) (acc : List Lk) (seen : List Nat), v < g.nodes.length →
      st.c v ≠ ULONG_MAX → Fuel g.nodes.length st.c f seen (st.c v) →
      ∃ links, dijkstraWalk DVar.now g st.pred src f v acc = .ok (links ++ acc) ∧ links.length = st.c v := by
  intro f
  induction f with
  | zero => intro v acc seen hv _ hF; exact absurd rfl (hF.pos hv)
  | succ f ih =>
    intro v acc seen hv hfin hF
    unfold dijkstraWalk
    by_cases hvs : v = src
    · subst hvs
      exact ⟨[], if_pos rfl, h.core.src0.symm⟩
    · simp only [hvs, if_false]
      obtain ⟨hp1, hp2, e, he, hs, hd, heq⟩ := h.tree_eq v hv hvs hfin
      have hpos : 0 < e.links.length := List.length_pos_iff.mpr (hg.pos e he)
      have hM := ho.wle e he
      have hsmall := ho.small
      have hpm : st.pred.getD v 0 ≠ ULONG_MAX := by
        intro e'
        have h1 : st.p v < g.nodes.length := hp1
        unfold DState.p at h1
        have : g.nodes.length ≤ g.nodes.length * M := Nat.le_mul_of_pos_right _ (by omega)
        omega
      have hfe : g.findEdge (st.pred.getD v 0) v = some e := by
        have := hg.uniq e he
        rw [hs, hd] at this; exact this
      simp only [now_guard, Bool.true_and, decide_eq_true_eq, hpm, if_false, hfe]
      obtain ⟨links, hw, hlen⟩ := ih (st.p v) (insertFront DVar.now acc e.links) (v :: seen) hp1 hp2
        (hF.step hv (by omega))
      refine ⟨links ++ e.links, ?_, by simp [hlen]; omega⟩
      rw [insertFront_now] at hw ⊢
      rw [List.append_assoc]; exact hw

theorem dijkstraWalk_noRoute (g : DGraph) (M src : Nat) (st : DState) (h : DFinal g M src st) (f v : Nat)
    (acc : List Lk) (hv : v < g.nodes.length) (hvs : v ≠ src) (hinf : st.c v = ULONG_MAX) :
    dijkstraWalk DVar.now g st.pred src (f + 1) v acc = .error .noRoute := by
  have := h.core.unre v hv hinf
  unfold DState.p at this
  unfold dijkstraWalk
  simp only [hvs, if_false, now_guard, Bool.true_and, decide_eq_true_eq, this, if_true]

theorem nodeIdx_lt (g : DGraph) (id i : Nat) (h : g.nodeIdx id = some i) : i < g.nodes.length := by
  simp only [DGraph.nodeIdx, List.idxOf?] at h
  obtain ⟨hlt, _⟩ := List.findIdx?_eq_some_iff_getElem.mp h
  exact hlt

theorem graphOK_empty : GraphOK { nodes := [], edges := [] } :=
  ⟨fun _ h => (by cases h), fun _ h => (by cases h), fun _ h => (by cases h)⟩

theorem GraphOK.addEdge {g : DGraph} (h : GraphOK g) (a b : Nat) (l : List Lk) (ha : a < g.nodes.length)
    (hb : b < g.nodes.length) (hnone : g.findEdge a b = none) (hl : l ≠ []) :
    GraphOK { g with edges := g.edges ++ [{ src := a, dst := b, links := l }] } := by
  refine ⟨?_, ?_, ?_⟩
  · intro e hmem
    rcases List.mem_append.mp hmem with h' | h'
    · exact h.bound e h'
    · rw [List.mem_singleton.mp h']; exact ⟨ha, hb⟩
  · intro e hmem
    simp only [DGraph.findEdge, List.find?_append]
    rcases List.mem_append.mp hmem with h' | h'
    · rw [show g.edges.find? _ = some e from h.uniq e h']; rfl
    · rw [List.mem_singleton.mp h', show g.edges.find? _ = none from hnone]; simp
  · intro e hmem
    rcases List.mem_append.mp hmem with h' | h'
    · exact h.pos e h'
    · rw [List.mem_singleton.mp h']; exact hl

/-- new_edge's "create the node if needed": the edges stay, the nodes already there keep their indices -/
theorem GraphOK.addNode {g : DGraph} (h : GraphOK g) (id : Nat) :
    GraphOK (if g.nodes.contains id then g else { g with nodes := g.nodes ++ [id] }) := by
  split
  · exact h
  · exact ⟨fun e he => by have := h.bound e he; simp only [List.length_append, List.length_singleton]; omega,
      h.uniq, h.pos⟩

theorem graphOK_newEdge (g g' : DGraph) (a b : Nat) (l : List Lk) (h : GraphOK g) (hl : l ≠ [])
    (hn : g.newEdge a b l = some g') : GraphOK g' := by
  unfold DGraph.newEdge at hn
  extract_lets g1 g2 at hn
  have h2 : GraphOK g2 := (h.addNode a).addNode b
  cases hx : g2.nodeIdx a with
  | none => rw [hx] at hn; cases hn
  | some x =>
    cases hy : g2.nodeIdx b with
    | none => rw [hx, hy] at hn; cases hn
    | some y =>
      rw [hx, hy] at hn
      simp only at hn
      by_cases hf : (g2.findEdge x y).isSome = true
      · rw [if_pos hf] at hn; cases hn
      · rw [if_neg hf] at hn
        cases hn
        exact h2.addEdge x y l (nodeIdx_lt g2 a x hx) (nodeIdx_lt g2 b y hy) (by simpa using hf) hl

theorem graphOK_addRoute (g g' : DGraph) (a b : Nat) (l : List Lk) (sym : Bool) (h : GraphOK g) (hl : l ≠ [])
    (hn : dijkstraAddRoute g a b l sym = some g') : GraphOK g' := by
  unfold dijkstraAddRoute at hn
  split at hn
  · cases hn
  · rename_i g1 h1
    have hg1 := graphOK_newEdge g g1 a b l h hl h1
    cases sym
    · simp only [Bool.false_eq_true, if_false, Option.some.injEq] at hn; subst hn; exact hg1
    · simp only [if_true] at hn
      exact graphOK_newEdge g1 g' b a l.reverse hg1 (by simpa using hl) hn

theorem graphOK_seal (g : DGraph) (h : GraphOK g) : GraphOK (dijkstraSeal g) ∧ (dijkstraSeal g).nodes = g.nodes :=
  List.foldlRecOn (motive := fun g' => GraphOK g' ∧ g'.nodes = g.nodes) (List.range g.nodes.length) _ ⟨h, rfl⟩
    fun g' hg' i hi => by
      split
      · exact hg'
      · rename_i hnone
        have hi' : i < g'.nodes.length := hg'.2 ▸ List.mem_range.mp hi
        exact ⟨hg'.1.addEdge i i [0] hi' hi' (by simpa using hnone) (by simp), hg'.2⟩

/-- the declarations as the driver replays them, then do_seal -/
theorem graphOK_routes : ∀ (routes : List (Nat × Nat × Bool × List Lk)) (g0 g : DGraph), GraphOK g0 →
    (∀ r ∈ routes, r.2.2.2 ≠ []) →
    routes.foldl (fun acc r => acc.bind fun g => dijkstraAddRoute g r.1 r.2.1 r.2.2.2 r.2.2.1) (some g0) = some g →
    GraphOK (dijkstraSeal g) :=
  fun routes g0 g h hr he => (graphOK_seal g (foldl_bind_inv
    (fun g (r : Nat × Nat × Bool × List Lk) => dijkstraAddRoute g r.1 r.2.1 r.2.2.2 r.2.2.1) GraphOK (fun r => r.2.2.2 ≠ [])
    (fun g0 _ g1 h hr hadd => graphOK_addRoute g0 g1 _ _ _ _ h hr hadd) routes g0 g h hr he)).1

end SgVerif.C25
