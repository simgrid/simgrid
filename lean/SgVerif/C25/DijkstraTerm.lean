import SgVerif.C25.DijkstraInv
/-
The priority-queue loop of DijkstraZone::get_local_route stops after at most (number of nodes) + (number of edges) pops:
Dijkstra's order argument for the loop as written (lazy deletion: a node can be popped several times; stale entries are not
recognised, the node is simply relaxed from again, which changes nothing).  In `OInv st S d`, S = the nodes already relaxed
from, d = the last finite key popped.  `popMin` returns the entry with the smallest key, hence a node of S is never lowered
again, a second pop of it pushes nothing, and every edge is pushed for at most once: potential = queue length + number of
edges whose source is not in S.
-/
namespace SgVerif.C25
open SgVerif.C24 (Lk)

/-- number of edges whose source has not been relaxed from yet -/
def unsettled (g : DGraph) (S : List Nat) : Nat := g.edges.countP fun e => !S.contains e.src

theorem unsettled_cons (g : DGraph) (S : List Nat) (v : Nat) (hv : v ∉ S) :
    unsettled g S = unsettled g (v :: S) + (g.outEdges v).length := by
  unfold unsettled DGraph.outEdges
  rw [← List.countP_eq_length_filter]
  induction g.edges with
  | nil => rfl
  | cons e es ih =>
    simp only [List.countP_cons, ih]
    -- an edge out of `v` counts on the left (`v ∉ S`) and in `outEdges v`; any other edge counts the same for `S` and `v :: S`
    by_cases hev : e.src = v <;> simp [hev, hv] <;> omega

/-- the order invariant: queue keys are ≥ `d` and ≥ the current cost of their node; a node of `S` has cost ≤ `d` and no
tense out-edge; every other finite node has the entry (its cost, itself) in the queue -/
structure OInv (g : DGraph) (st : DState) (S : List Nat) (d : Nat) : Prop where
  keys : ∀ q ∈ st.queue, d ≤ q.1 ∧ st.c q.2 ≤ q.1
  settled : ∀ x ∈ S, x < g.nodes.length ∧ st.c x ≠ ULONG_MAX ∧ st.c x ≤ d ∧
    ∀ e ∈ g.edges, e.src = x → st.c e.dst ≤ st.c x + e.links.length
  queued : ∀ x, x < g.nodes.length → st.c x ≠ ULONG_MAX → x ∉ S → (st.c x, x) ∈ st.queue

theorem OInv.pop {g : DGraph} {st : DState} {S : List Nat} {d k v : Nat} {rest : List (Nat × Nat)}
    (hord : OInv g st S d) (hp : popMin st.queue = some ((k, v), rest))
    (hv : ∀ x, st.c x ≠ ULONG_MAX → x ∉ S → x ≠ v) : OInv g { st with queue := rest } S d :=
  ⟨fun q hq => hord.keys q ((popMin_perm _ _ _ hp).1.subset (List.mem_cons_of_mem _ hq)), hord.settled,
    fun x hx hfx hxS => popMin_mem_rest hp (hord.queued x hx hfx hxS) (hv x hfx hxS)⟩

/-- the first pop of `v`: its key is its cost, the smallest key of the queue, and once its out-edges are relaxed
(`st'`) it joins the nodes relaxed from -/
theorem OInv.settle {g : DGraph} {st st' : DState} {S : List Nat} {d k v : Nat} {rest : List (Nat × Nat)}
    (hord : OInv g st S d) (hp : popMin st.queue = some ((k, v), rest)) (hv : v < g.nodes.length)
    (hfin : st.c v ≠ ULONG_MAX) (hvS : v ∉ S) (R : Relaxed g v { st with queue := rest } st')
    (hrel : ∀ e ∈ g.outEdges v, st'.c e.dst ≤ st.c v + e.links.length) : OInv g st' (v :: S) k := by
  obtain ⟨hP, pmin⟩ := popMin_perm _ _ _ hp
  have p1 := hP.subset (List.mem_cons_self ..)
  have p3 : ∀ q ∈ rest, q ∈ st.queue := fun q hq => hP.subset (List.mem_cons_of_mem _ hq)
  have hkv : k = st.c v :=
    Nat.le_antisymm (pmin _ (hord.queued v hv hfin hvS)) (hord.keys _ p1).2
  have hdk : d ≤ k := (hord.keys _ p1).1
  have hcv : st'.c v = st.c v := R.cv
  have hlow : ∀ x, st.c x ≤ st.c v → st'.c x = st.c x := R.low
  refine ⟨?_, ?_, ?_⟩
  · intro q hq
    rcases R.fresh q hq with h' | ⟨_, h', h''⟩
    · exact ⟨pmin q (p3 q h'), Nat.le_trans (R.mono q.2) (hord.keys q (p3 q h')).2⟩
    · exact ⟨hkv ▸ h', h''⟩
  · intro x hx
    rcases List.mem_cons.mp hx with h' | h'
    · subst h'
      exact ⟨hv, hcv ▸ hfin, by omega, fun e he hs => hcv ▸ hrel e ((mem_outEdges g x e).mpr ⟨he, hs⟩)⟩
    · obtain ⟨s1, s2, s3, s4⟩ := hord.settled x h'
      rw [hlow x (by omega)]
      exact ⟨s1, s2, by omega, fun e he hs => Nat.le_trans (R.mono e.dst) (s4 e he hs)⟩
  · intro x hx hfx hxS
    obtain ⟨hxv, hxS'⟩ := List.ne_and_not_mem_of_not_mem_cons hxS
    rcases R.moved x with h' | h'
    · rw [h'] at hfx ⊢
      exact R.keep _ (popMin_mem_rest hp (hord.queued x hx hfx hxS') hxv)
    · exact h'

theorem dijkstraLoop_terminates_aux (g : DGraph) (M src : Nat) (hg : GraphOK g) (ho : NoOverflow g M) :
    ∀ (f : Nat) (st : DState) (S : List Nat) (d : Nat), DInv g M src st → OInv g st S d →
      st.queue.length + unsettled g S < f → ∃ st', dijkstraLoop DVar.now g f st = some st' := by
  intro f
  induction f with
  | zero => intro st S d _ _ h; omega
  | succ f ih =>
    intro st S d hinv hord hΦ
    unfold dijkstraLoop
    cases hp : popMin st.queue with
    | none => exact ⟨st, rfl⟩
    | some mr =>
      obtain ⟨⟨k, v⟩, rest⟩ := mr
      simp only [now_guard, Bool.true_and, decide_eq_true_eq]
      obtain ⟨hP, _⟩ := popMin_perm _ _ _ hp
      have p4 : rest.length + 1 = st.queue.length := hP.length_eq
      have hv : v < g.nodes.length := hinv.qb (k, v) (hP.subset (List.mem_cons_self ..))
      by_cases hinf : st.c v = ULONG_MAX
      · have : ({ st with queue := rest } : DState).cost.getD v 0 = ULONG_MAX := hinf
        rw [if_pos this]
        exact ih _ S d (hinv.skip k v rest hp hinf) (hord.pop hp fun x hfx _ e => hfx (e ▸ hinf))
          (by simp only []; omega)
      · have : ¬ ({ st with queue := rest } : DState).cost.getD v 0 = ULONG_MAX := hinf
        rw [if_neg this]
        have hes : ∀ e ∈ g.outEdges v, e ∈ g.edges ∧ e.src = v := fun e he => (mem_outEdges g v e).mp he
        obtain ⟨_, R, hrel, r5, r7⟩ := relaxEdges_spec g M src v hg ho hv (g.outEdges v)
          { st with queue := rest } hes (hinv.core.setQueue rest) hinf
        have hinv' := hinv.process hg ho k v rest hp hinf
        by_cases hvS : v ∈ S
        · -- a second pop of a node already relaxed from: nothing changes
          obtain ⟨_, _, _, hclean⟩ := hord.settled v hvS
          have hsame := r7 (fun e he => hclean e (hes e he).1 (hes e he).2)
          rw [hsame] at hinv' ⊢
          exact ih _ S d hinv' (hord.pop hp fun x _ hxS e => hxS (e ▸ hvS)) (by simp only []; omega)
        · have hΦ' := unsettled_cons g S v hvS
          exact ih _ (v :: S) k hinv' (hord.settle hp hv hinf hvS R hrel) (by simp only [] at r5; omega)

theorem dijkstraInit_ord (g : DGraph) (src : Nat) : OInv g (dijkstraInit g src) [] 0 := by
  refine ⟨?_, fun x hx => (by cases hx), ?_⟩
  · intro q hq
    simp only [dijkstraInit, List.mem_map, List.mem_range] at hq
    obtain ⟨i, _, he⟩ := hq
    rw [← he]
    exact ⟨Nat.zero_le _, Nat.le_refl _⟩
  · intro x hx _ _
    simp only [dijkstraInit, DState.c, List.mem_map, List.mem_range]
    exact ⟨x, hx, rfl⟩

theorem dijkstraLoop_terminates (g : DGraph) (M src : Nat) (hg : GraphOK g) (ho : NoOverflow g M)
    (hs : src < g.nodes.length) (f : Nat) (hf : g.nodes.length + g.edges.length < f) :
    ∃ st', dijkstraLoop DVar.now g f (dijkstraInit g src) = some st' := by
  apply dijkstraLoop_terminates_aux g M src hg ho f _ [] 0 (dijkstraInit_inv g M src hs) (dijkstraInit_ord g src)
  have h1 : (dijkstraInit g src).queue.length = g.nodes.length := by simp [dijkstraInit]
  have h2 : unsettled g [] = g.edges.length := by
    simp [unsettled]
  omega

theorem dijkstraRoute_final (g : DGraph) (M : Nat) (hg : GraphOK g) (ho : NoOverflow g M) (fuel srcId dstId s d : Nat)
    (hf : g.nodes.length + g.edges.length < fuel) (hs : g.nodeIdx srcId = some s) (hd : g.nodeIdx dstId = some d)
    (hsd : s ≠ d) :
    ∃ st', dijkstraLoop DVar.now g fuel (dijkstraInit g s) = some st' ∧ DFinal g M s st' ∧
      dijkstraRouteV DVar.now g fuel srcId dstId = dijkstraWalk DVar.now g st'.pred s (g.nodes.length + 1) d [] := by
  have hsn := nodeIdx_lt g srcId s hs
  obtain ⟨st', hl⟩ := dijkstraLoop_terminates g M s hg ho hsn fuel hf
  obtain ⟨hinv, hq⟩ := dijkstraLoop_spec g M s hg ho fuel _ st' (dijkstraInit_inv g M s hsn) hl
  refine ⟨st', hl, hinv.final hg hq, ?_⟩
  unfold dijkstraRouteV
  simp only [hs, hd, hsd, if_false, dijkstraPreds_now, hl, Option.map_some]

end SgVerif.C25
