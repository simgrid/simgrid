import SgVerif.C31.Lemmas
import SgVerif.Xbt.ByteCode
/-
C31 — Predefined reduction operators compute MPI results.  The operator table (`allRows`, 376 rows) is generated from
smpi_op.cpp on every run.  Facts about the table are finite and proved by evaluation ("finite table"); everything about
values is ∀ widths, values and array lengths (Lemmas.lean), lifted over the table through `table_rows_checked`.
-/
namespace SgVerif.C31

/-- the size in bytes of a C type name (LP64), `none` for an unknown name -/
def sizeOfC (s : String) : Option Nat := (ctyOf s).map CTy.size

/-- `lookupDt` with the numbers the names' bytes spell compared first: what the sweeps below evaluate -/
theorem lookupDt_eq (s : String) : lookupDt s =
    Gen.datatypes.find? (fun p => Xbt.byteCode p.name == Xbt.byteCode s && p.name == s) := by
  simp only [lookupDt, ← Xbt.beq_eq_byteCode_and_beq]

/-- the spec kind of the row's datatype and the C type of the row agree whenever MPI defines the operator there -/
def Row.typed (r : Row) : Bool :=
  match opKind r.op, ctyOf r.cty with
  | some k, some t => !specDefined k (mpiKind r.dt) || tyMatches (mpiKind r.dt) t
  | _, _ => false

/-- the row's C type has the size of the C type its datatype is declared with; with `Row.wellFormed` (Model.lean) and
    `Row.typed` the three row checks of `table_rows_checked` -/
def Row.sameWidth (r : Row) : Bool :=
  match lookupDt r.dt with
  | some d => (sizeOfC r.cty).isSome && sizeOfC r.cty == sizeOfC d.ctype
  | none => false

/-- (finite table) The row checks and the count of rows on which MPI defines the operator and CHECK_OP lets it through
    are stated together because all of them look up the names of the rows, which is where the evaluation spends its
    time, and what the kernel has worked out about a name it remembers for one declaration only. -/
theorem table_rows_checked :
    allRows.all (fun r => r.wellFormed && r.typed && r.sameWidth) = true ∧
    (allRows.filter (fun r => match opKind r.op with
      | some k => specDefined k (mpiKind r.dt) && r.reachable
      | none => false)).length = 312 := by
  simp only [Row.sameWidth, Row.reachable, lookupDt_eq]
  decide +kernel

/-- no predefined datatype is a "(re, im) struct" complex (the Fortran complex types are C complex types since
    props/C31/fix_series/02): the exclusion of `canon_eq_spec` is void for every datatype name -/
theorem mpiKind_ne_fcomplex (dt : String) : mpiKind dt ≠ .fcomplex := by
  unfold mpiKind
  split <;> simp

theorem row_elem_spec (r : Row) (hr : r ∈ allRows) (k : OpK) (t : CTy)
    (hk : opKind r.op = some k) (ht : ctyOf r.cty = some t) (hdef : specDefined k (mpiKind r.dt) = true)
    (a b : Val) (ha : a.hasTy t = true) (hb : b.hasTy t = true) :
    execBody t a b r.body = Spec.elem k (mpiKind r.dt) t a b ∧ (Spec.elem k (mpiKind r.dt) t a b).isSome = true := by
  -- what the table check says of this row: its body is the canonical one and its C type is of the datatype's kind
  have h := List.all_eq_true.mp table_rows_checked.1 r hr
  simp only [Bool.and_eq_true, Row.wellFormed, Row.typed, hk, ht, hdef, beq_iff_eq, Bool.not_true, Bool.false_or] at h
  rw [h.1.1]
  exact canon_eq_spec k _ t hdef h.1.2 (fun h => mpiKind_ne_fcomplex r.dt h.2) a b ha hb

/-- FULL STRENGTH: ∀ row of the table on which MPI defines the operator, ∀ arrays: the loop computes the element-wise
    MPI result.  ∀ rows, ∀ element widths, ∀ values, ∀ array lengths.  (Before props/C31/fix_series/02
    MPI_PROD on MPI_COMPLEX8/16/32 had to be excluded: see `op_elementwise_spec_prefix_regression`.) -/
theorem op_elementwise_spec (r : Row) (hr : r ∈ allRows) (k : OpK) (t : CTy)
    (hk : opKind r.op = some k) (ht : ctyOf r.cty = some t)
    (hdef : specDefined k (mpiKind r.dt) = true)
    (a b : List Val) (ha : ∀ v ∈ a, v.hasTy t = true) (hb : ∀ v ∈ b, v.hasTy t = true) (hl : a.length = b.length) :
    applyLoop t r.body a b = Spec.arrays k (mpiKind r.dt) t a b ∧ (Spec.arrays k (mpiKind r.dt) t a b).isSome = true :=
  applyLoop_eq_spec k (mpiKind r.dt) t _ (row_elem_spec r hr k t hk ht hdef) a b ha hb hl

/-- the element-wise definition: result i is `a[i] ∘ b[i]`, same length -/
theorem op_elementwise_spec_pointwise (k : OpK) (mk : MKind) (t : CTy) (a b r : List Val)
    (h : Spec.arrays k mk t a b = some r) :
    r.length = a.length ∧ ∀ i (h1 : i < a.length) (h2 : i < b.length) (h3 : i < r.length),
      Spec.elem k mk t a[i] b[i] = some r[i] := by
  induction a generalizing b r with
  | nil => cases b <;> simp [Spec.arrays] at h; subst h; simp
  | cons x xs ih =>
    cases b with
    | nil => simp [Spec.arrays] at h
    | cons y ys =>
      simp only [Spec.arrays] at h
      split at h
      · rename_i e rs he hrs
        injection h with h; subst h
        have ih := ih ys rs hrs
        refine ⟨by simp [ih.1], ?_⟩
        intro i h1 h2 h3
        cases i with
        | zero => simpa using he
        | succ i => simpa using ih.2 i (by simpa using h1) (by simpa using h2) (by simpa using h3)
      · cases h

/-- REGRESSION (the code before props/C31/fix_series/02): MPI_PROD on MPI_COMPLEX8 was the row
    `("MPI_COMPLEX8", "float_float", PROD_OP_COMPLEX)` of the pair loop, and (1+i)·(1+i) gave 1+i instead of 2i.  That row is
    no longer in the table; the row that replaced it (`float _Complex`, `PROD_OP`) is reachable and gives 2i. -/
theorem op_elementwise_spec_prefix_regression :
    let old : Row := ⟨"MPI_PROD", "MPI_COMPLEX8", "float_float", canonBody .prod (.pair (.flt .f32) (.flt .f32))⟩
    let t : CTy := .pair (.flt .f32) (.flt .f32)
    let z : Val := .pair (.flt 1) (.flt 1)
    ctyOf old.cty = some t ∧
    applyLoop t old.body [z] [z] = some [.pair (.flt 1) (.flt 1)] ∧
    Spec.arrays .prod .fcomplex t [z] [z] = some [.pair (.flt 0) (.flt 2)] ∧
    old ∉ allRows ∧
    (let new : Row := ⟨"MPI_PROD", "MPI_COMPLEX8", "float _Complex", canonBody .prod (.cplx .f32)⟩
     new ∈ allRows ∧ new.reachable = true ∧ mpiKind new.dt = .complex ∧
     applyLoop (.cplx .f32) new.body [.cplx 1 1] [.cplx 1 1] = some [.cplx 0 2]) := by
  decide +kernel

/-- MINLOC / MAXLOC rows: every such row of the table, on every well-typed pair of (value, index) pairs, computes
    MPI's definition `Spec.locOp` (which is total on them) -/
theorem minloc_maxloc_spec (r : Row) (hr : r ∈ allRows) (isMax : Bool)
    (hop : opKind r.op = some (if isMax then .maxloc else .minloc)) (t : CTy) (ht : ctyOf r.cty = some t)
    (hdef : mpiKind r.dt = .locpair)
    (a b : Val) (ha : a.hasTy t = true) (hb : b.hasTy t = true) :
    execBody t a b r.body = Spec.elem (if isMax then .maxloc else .minloc) .locpair t a b ∧
    (Spec.elem (if isMax then .maxloc else .minloc) .locpair t a b).isSome = true := by
  have h := row_elem_spec r hr _ t hop ht (by rw [hdef]; cases isMax <;> rfl) a b ha hb
  rwa [hdef] at h

/-- ties go to the lowest index; otherwise the pair holding the min (MINLOC) / max (MAXLOC) value wins.
    ∀ widths, ∀ signedness, ∀ values (integer value and index; same statement holds for float members by `Spec.locOp`) -/
theorem minloc_maxloc_lowest_index (isMax sgv sgi : Bool) (wv wi : Nat) (u v : BitVec wv) (i j : BitVec wi) :
    let res := Spec.locOp isMax sgv sgi (.int wv u) (.int wi i) (.int wv v) (.int wi j)
    (ival sgv u = ival sgv v → res = some (.pair (.int wv u) (.int wi (if ival sgi i < ival sgi j then i else j)))) ∧
    (ival sgv u < ival sgv v → res = some (if isMax then .pair (.int wv v) (.int wi j) else .pair (.int wv u) (.int wi i))) ∧
    (ival sgv v < ival sgv u → res = some (if isMax then .pair (.int wv u) (.int wi i) else .pair (.int wv v) (.int wi j))) := by
  refine ⟨fun h => ?_, fun h => ?_, fun h => ?_⟩
  · have h1 : ¬ ival sgv u < ival sgv v := by omega
    have h2 : ¬ ival sgv v < ival sgv u := by omega
    by_cases h3 : ival sgi i < ival sgi j <;> simp [Spec.locOp, Spec.sLt, h1, h2, h3]
  · cases isMax <;> simp [Spec.locOp, Spec.sLt, h]
  · have h1 : ¬ ival sgv u < ival sgv v := by omega
    cases isMax <;> simp [Spec.locOp, Spec.sLt, h, h1]

/-- SUM / PROD are exact whenever the exact result is representable in the element type -/
theorem sum_prod_exact_when_representable (sg : Bool) (w : Nat) (x y : BitVec w) :
    (∀ z : BitVec w, ival sg z = ival sg x + ival sg y → Spec.intOp .sum sg x y = some z) ∧
    (∀ z : BitVec w, ival sg z = ival sg x * ival sg y → Spec.intOp .prod sg x y = some z) := by
  constructor <;> intro z hz <;> simp [Spec.intOp, ← hz, ofInt_ival]

/-- commutativity of the ten integer operators: ∀ width, signedness, values -/
theorem op_comm (k : OpK) (sg : Bool) (w : Nat) (x y : BitVec w) : Spec.intOp k sg x y = Spec.intOp k sg y x := by
  cases k <;> simp only [Spec.intOp]
  case max | min =>
    by_cases h1 : ival sg x < ival sg y <;> by_cases h2 : ival sg y < ival sg x <;> simp [h1, h2]
    · omega
    · cases ival_inj sg x y (by omega); rfl
  case sum => rw [Int.add_comm]
  case prod => rw [Int.mul_comm]
  case land => simp [and_comm]
  case lor => simp [or_comm]
  case lxor => by_cases hx : x = 0#w <;> by_cases hy : y = 0#w <;> simp [hx, hy]
  case band => rw [BitVec.and_comm]
  case bor => rw [BitVec.or_comm]
  case bxor => rw [BitVec.xor_comm]

theorem ofNat_one_ne_zero {w : Nat} (hw : w ≠ 0) : BitVec.ofNat w 1 ≠ 0#w :=
  mt BitVec.one_eq_zero_iff.mp hw

/-- associativity of the ten integer operators (SUM/PROD with wrap-around): ∀ width, signedness, values -/
theorem op_assoc (k : OpK) (sg : Bool) (w : Nat) (x y z : BitVec w) :
    (Spec.intOp k sg x y).bind (fun r => Spec.intOp k sg r z) = (Spec.intOp k sg y z).bind (fun r => Spec.intOp k sg x r) := by
  by_cases hw : w = 0
  · subst hw
    cases k <;> simp only [Spec.intOp, Option.bind_some, Option.bind_none] <;> exact congrArg some (Subsingleton.elim _ _)
  have one := ofNat_one_ne_zero hw
  cases k <;> simp only [Spec.intOp, Option.bind_some, Option.bind_none]
  case max | min =>
    by_cases h1 : ival sg x < ival sg y <;> by_cases h2 : ival sg y < ival sg z <;>
      by_cases h3 : ival sg x < ival sg z <;> simp [h1, h2, h3] <;> omega
  case sum => simp only [BitVec.ofInt_add, ofInt_ival, BitVec.add_assoc]
  case prod => simp only [BitVec.ofInt_mul, ofInt_ival, BitVec.mul_assoc]
  case land | lor | lxor =>
    by_cases hx : x = 0#w <;> by_cases hy : y = 0#w <;> by_cases hz : z = 0#w <;> simp [hx, hy, hz, one]
  case band => rw [BitVec.and_assoc]
  case bor => rw [BitVec.or_assoc]
  case bxor => rw [BitVec.xor_assoc]

/-- "supported" = CHECK_OP lets the pair through and the operator function has an entry for the datatype -/
def supported (o : OpDecl) (d : DtDecl) : Bool :=
  checkOp o d && match lookupFunc o.func with
    | some (.loops es) => (findEntry es d.name).isSome
    | some _ => true
    | none => false

/-- an unsupported (operator, datatype) pair never yields a computed result: `MPI_Reduce_local` returns MPI_ERR_OP
    leaving the buffer untouched (CHECK_OP: MPI_REPLACE / MPI_NO_OP outside RMA, or datatype family not allowed), or the
    operator function aborts the simulation (`xbt_die("Failed to apply ...")`); with `count = 0` nothing is applied.
    ∀ operator / datatype names, ∀ buffers. -/
theorem unsupported_rejected (op dt : String) (o : OpDecl) (d : DtDecl) (ho : lookupOp op = some o)
    (hd : lookupDt dt = some d) (hdn : d.name = dt) (hns : supported o d = false) (a b : List Val) (out : Outcome)
    (h : reduceLocal op dt a b = some out) :
    out = .errOp ∨ out = .errType ∨ out = .die ∨ (a.length = 0 ∧ out = .ok b) := by
  simp only [reduceLocal, ho, hd] at h
  split at h
  · cases h; simp
  split at h
  · cases h; simp
  split at h
  · rename_i hl; cases h; simp at hl; simp [hl]
  rename_i hc _
  have hc' : checkOp o d = true := by simpa using hc
  simp only [supported, hc', Bool.true_and] at hns
  cases hf : lookupFunc o.func with
  | none => simp [hf] at h
  | some f =>
    cases f <;> simp [hf] at hns h
    -- an operator function without an entry for the datatype: `xbt_die`
    simp [applyFunc, hdn ▸ hns] at h
    simp [← h]

/-- (finite table) MPI_REPLACE and MPI_NO_OP are rejected by `MPI_Reduce_local` for every datatype -/
theorem replace_noop_rejected : Gen.datatypes.all (fun d => Gen.ops.all (fun o =>
    !(o.name == "MPI_REPLACE" || o.name == "MPI_NO_OP") || !checkOp o d)) = true := by decide +kernel

/-- (finite table) internal consistency: the C element type used by every row of
    every operator function has the size of the C type the MPI datatype was declared with (CREATE_MPI_DATATYPE) -/
theorem table_types_have_matching_width : allRows.all (fun r =>
    match lookupDt r.dt with
    | some d => (sizeOfC r.cty).isSome && sizeOfC r.cty == sizeOfC d.ctype
    | none => false) = true := by
  refine List.all_eq_true.mpr fun r hr => ?_
  have h := List.all_eq_true.mp table_rows_checked.1 r hr
  rw [Bool.and_eq_true] at h
  exact h.2

/-- FULL STRENGTH (finite table): every predefined datatype whose size MPI fixes has that size.  (Before
    props/C31/fix_series/01 and 03 MPI_INTEGER1 and MPI_COMPLEX32 had to be excluded.) -/
theorem table_types_have_mpi_width : Gen.datatypes.all (fun d =>
    match mpiFixedSize d.name with
    | some n => sizeOfC d.ctype == some n
    | none => true) = true := by decide +kernel

/-- REGRESSION (the declarations before the fixes): MPI_INTEGER1 was declared and reduced as `int` (4 bytes, MPI: 1) and
    MPI_COMPLEX32 as `double_double` (16 bytes, MPI: 32); the current declarations have the MPI sizes. -/
theorem table_types_have_mpi_width_prefix_regression :
    sizeOfC "int" = some 4 ∧ mpiFixedSize "MPI_INTEGER1" = some 1 ∧
    sizeOfC "double_double" = some 16 ∧ mpiFixedSize "MPI_COMPLEX32" = some 32 ∧
    (lookupDt "MPI_INTEGER1").bind (fun d => sizeOfC d.ctype) = some 1 ∧
    (lookupDt "MPI_COMPLEX32").bind (fun d => sizeOfC d.ctype) = some 32 := by
  decide +kernel

/-- `op_elementwise_spec` is not vacuous: on 312 rows of the table MPI defines the operator and CHECK_OP lets it through -/
example : (allRows.filter (fun r => match opKind r.op with
    | some k => specDefined k (mpiKind r.dt) && r.reachable
    | none => false)).length = 312 := table_rows_checked.2

/-- a concrete instance of `op_elementwise_spec`: MPI_MAX on MPI_SHORT, signed comparison -/
example : applyLoop (.int 16 true) (canonBody .max (.int 16 true))
    [.int 16 0xFFFF#16, .int 16 5#16] [.int 16 1#16, .int 16 7#16] = some [.int 16 1#16, .int 16 7#16] := by decide

/-- `unsupported_rejected` is not vacuous: MPI_MAXLOC on MPI_INT is unsupported and rejected with MPI_ERR_OP;
    MPI_LAND on MPI_CXX_BOOL passes CHECK_OP but has no entry: the simulation dies -/
example : reduceLocal "MPI_MAXLOC" "MPI_INT" [.int 32 1#32] [.int 32 2#32] = some .errOp ∧
    reduceLocal "MPI_LAND" "MPI_CXX_BOOL" [.bool true] [.bool true] = some .die := by decide +kernel

end SgVerif.C31
