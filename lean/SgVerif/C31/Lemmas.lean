import SgVerif.C31.Model
/-
C31 — helper lemmas: the C++ semantics (`execBody`) of each expected macro expansion (`canonBody`) equals the MPI
definition (`Spec.*`) for every value of every width; lifting to arrays.
-/
namespace SgVerif.C31

theorem hasTy_inv {v : Val} {t : CTy} (h : v.hasTy t = true) :
    match t with
    | .int w _ => ∃ x : BitVec w, v = .int w x
    | .bool => ∃ q, v = .bool q
    | .flt _ => ∃ q, v = .flt q
    | .cplx _ => ∃ r i, v = .cplx r i
    | .pair tv ti => ∃ x i, v = .pair x i ∧ x.hasTy tv = true ∧ i.hasTy ti = true := by
  cases t <;> cases v <;> simp [Val.hasTy] at h
  · subst h; exact ⟨_, rfl⟩
  · exact ⟨_, rfl⟩
  · exact ⟨_, rfl⟩
  · exact ⟨_, _, rfl⟩
  · exact ⟨_, _, rfl, h⟩

theorem toNat_bne_zero {w : Nat} (x : BitVec w) : (x.toNat != 0) = decide (x ≠ 0#w) := by
  simp only [bne, BitVec.toNat_eq, BitVec.toNat_ofNat, Nat.zero_mod, ne_eq, decide_not]
  rfl

theorem ofNat_and {w : Nat} (x y : BitVec w) : BitVec.ofNat w (x.toNat &&& y.toNat) = x &&& y := by
  rw [← BitVec.toNat_and, BitVec.ofNat_toNat, BitVec.setWidth_eq]

theorem ofNat_or {w : Nat} (x y : BitVec w) : BitVec.ofNat w (x.toNat ||| y.toNat) = x ||| y := by
  rw [← BitVec.toNat_or, BitVec.ofNat_toNat, BitVec.setWidth_eq]

theorem ofNat_xor {w : Nat} (x y : BitVec w) : BitVec.ofNat w (x.toNat ^^^ y.toNat) = x ^^^ y := by
  rw [← BitVec.toNat_xor, BitVec.ofNat_toNat, BitVec.setWidth_eq]

theorem ofInt_ival {w : Nat} (sg : Bool) (x : BitVec w) : BitVec.ofInt w (ival sg x) = x := by
  cases sg <;> simp [ival]

theorem ival_inj {w : Nat} (sg : Bool) (x y : BitVec w) (h : ival sg x = ival sg y) : x = y := by
  rw [← ofInt_ival sg x, ← ofInt_ival sg y, h]

theorem evalEx_a (t : CTy) (a b : Val) : evalEx t a b .a = some (t, a) := rfl
theorem evalEx_b (t : CTy) (a b : Val) : evalEx t a b .b = some (t, b) := rfl

theorem convert_of_hasTy {t : CTy} {v : Val} (h : v.hasTy t = true) : convert t v = some v := by
  unfold convert
  split <;> first | cases h | exact if_pos h

theorem execBody_set (t : CTy) (a b : Val) (rhs : Ex) :
    execBody t a b [⟨.set, .b, rhs⟩] =
      (evalEx t a b rhs).bind fun p => if t = p.1 then convert t p.2 else none := by
  simp only [execBody, execSt, getL]
  cases evalEx t a b rhs with
  | none => rfl
  | some p =>
    simp only [Option.bind_some]
    by_cases h : t = p.1
    · rw [if_pos h]; cases convert t p.2 <;> rfl
    · rw [if_neg h]

theorem evalEx_cond (t : CTy) (a b : Val) (c : Ex) (p : Bool) (h : evalEx t a b c = some (.bool, .bool p))
    (x y : Ex) : evalEx t a b (.cond c x y) = if p then evalEx t a b x else evalEx t a b y := by
  simp only [evalEx, h, truthy]
  cases p <;> rfl

theorem cmpLt_int {w : Nat} (sg : Bool) (x y : BitVec w) :
    cmpLt (.int w sg) (.int w x) (.int w sg) (.int w y) = some (decide (ival sg x < ival sg y)) :=
  if_neg (fun h => h rfl)

theorem cmpLt_flt (fk : FK) (x y : Int) : cmpLt (.flt fk) (.flt x) (.flt fk) (.flt y) = some (decide (x < y)) :=
  if_neg (fun h => h rfl)

theorem hasTy_of_convert {t : CTy} {v v' : Val} (h : convert t v = some v') : v'.hasTy t = true := by
  unfold convert at h
  split at h
  · cases h; exact beq_self_eq_true _
  · cases h; rfl
  · split at h
    · cases h; assumption
    · cases h

/-- `y = static_cast<T>(e)`: the conversion of the assignment finds a value of type `T` already -/
theorem execBody_castB (t : CTy) (a b : Val) (e : Ex) :
    execBody t a b [⟨.set, .b, .castB e⟩] = (evalEx t a b e).bind fun p => convert t p.2 := by
  rw [execBody_set]
  simp only [evalEx]
  cases evalEx t a b e with
  | none => rfl
  | some p =>
    simp only [Option.bind_some]
    cases h : convert t p.2 with
    | none => rfl
    | some v' => exact (if_pos rfl).trans (convert_of_hasTy (hasTy_of_convert h))

/-- `y op= x` -/
theorem execBody_arith {op : AOp} (h : op ≠ .set) (t : CTy) (a b : Val) :
    execBody t a b [⟨op, .b, .a⟩] = arith op t b t a := by
  cases op
  case set => exact absurd rfl h
  all_goals
    simp only [execBody, execSt, getL, evalEx, setL]
    cases arith _ t b t a <;> rfl

/-- `y = x < y ? y : x` and `y = x < y ? x : y` -/
theorem execBody_max_min {t : CTy} {a b : Val} {c : Bool} (h : cmpLt t a t b = some c)
    (ha : a.hasTy t = true) (hb : b.hasTy t = true) :
    execBody t a b (canonBody .max t) = some (if c then b else a) ∧
    execBody t a b (canonBody .min t) = some (if c then a else b) := by
  have hc := evalEx_cond t a b (.lt .a .b) c (by simp only [evalEx, h, Option.map_some])
  cases c <;> simp [canonBody, execBody_set, hc, evalEx_a, evalEx_b, convert_of_hasTy ha, convert_of_hasTy hb]

/-- `y = static_cast<T>(x && y)` and its like -/
theorem execBody_logical {t : CTy} {a b : Val} {p q : Bool} (ha : truthy a = some p) (hb : truthy b = some q) :
    execBody t a b (canonBody .land t) = convert t (.bool (p && q)) ∧
    execBody t a b (canonBody .lor t) = convert t (.bool (p || q)) ∧
    execBody t a b (canonBody .lxor t) = convert t (.bool (p != q)) := by
  simp [canonBody, execBody_castB, evalEx, ha, hb, cmpEq, bne]

/-- the Fortran complex types were (re, im) structs in SMPI: PROD applied member-wise is NOT the complex product -/
theorem fcomplex_prod_exec (fk fk' : FK) (xr xi yr yi : Int) :
    execBody (.pair (.flt fk) (.flt fk')) (.pair (.flt xr) (.flt xi)) (.pair (.flt yr) (.flt yi))
        (canonBody .prod (.pair (.flt fk) (.flt fk'))) = some (.pair (.flt (yr * xr)) (.flt (yi * xi))) := by
  simp [canonBody, execBody, execSt, getL, evalEx, setL, arith]

def isOrdScalar : CTy → Bool
  | .int _ _ => true
  | .flt _ => true
  | _ => false

/-- what comparisons see of a member of a (value, index) pair: its mathematical value, on which `<` and `==` of C and
    the order of MPI agree, and which determines the member -/
theorem ord_cmp {t : CTy} (ht : isOrdScalar t = true) :
    ∃ K : Val → Int, ∀ x y, x.hasTy t = true → y.hasTy t = true →
      cmpLt t x t y = some (decide (K x < K y)) ∧ cmpEq t x t y = some (decide (K x = K y)) ∧
      Spec.sLt (Spec.sgOf t) x y = some (decide (K x < K y)) ∧ (K x = K y → x = y) := by
  refine ⟨fun | .int _ x => ival (Spec.sgOf t) x | .flt q => q | _ => 0, fun x y hx hy => ?_⟩
  cases t <;> simp only [isOrdScalar, Bool.false_eq_true] at ht
  · obtain ⟨x, rfl⟩ := hasTy_inv hx; obtain ⟨y, rfl⟩ := hasTy_inv hy
    exact ⟨if_neg (fun h => h rfl), if_neg (fun h => h rfl), rfl, fun h => congrArg _ (ival_inj _ x y h)⟩
  · obtain ⟨x, rfl⟩ := hasTy_inv hx; obtain ⟨y, rfl⟩ := hasTy_inv hy
    exact ⟨if_neg (fun h => h rfl), if_neg (fun h => h rfl), rfl, fun h => congrArg _ h⟩

theorem loc_exec (isMax : Bool) (tv ti : CTy) (htv : isOrdScalar tv = true) (hti : isOrdScalar ti = true)
    (u i v j : Val) (hu : u.hasTy tv = true) (hi : i.hasTy ti = true) (hv : v.hasTy tv = true) (hj : j.hasTy ti = true) :
    execBody (.pair tv ti) (.pair u i) (.pair v j) (canonBody (if isMax then .maxloc else .minloc) (.pair tv ti)) =
      Spec.locOp isMax (Spec.sgOf tv) (Spec.sgOf ti) u i v j
    ∧ (Spec.locOp isMax (Spec.sgOf tv) (Spec.sgOf ti) u i v j).isSome = true := by
  obtain ⟨K, hK⟩ := ord_cmp htv
  obtain ⟨L, hL⟩ := ord_cmp hti
  obtain ⟨luv, euv, suv, inj⟩ := hK u v hu hv
  obtain ⟨-, -, svu, -⟩ := hK v u hv hu
  obtain ⟨lij, -, sij, -⟩ := hL i j hi hj
  have cond := evalEx_cond (.pair tv ti) (.pair u i) (.pair v j)
  have c1 := cond (.lt (.value .a) (.value .b)) (decide (K u < K v)) (by simp only [evalEx, luv, Option.map_some])
  have c2 := cond (.eq (.value .a) (.value .b)) (decide (K u = K v)) (by simp only [evalEx, euv, Option.map_some])
  have c3 := cond (.lt (.index .a) (.index .b)) (decide (L i < L j)) (by simp only [evalEx, lij, Option.map_some])
  have ha := convert_of_hasTy (t := .pair tv ti) (v := .pair u i) (by simp only [Val.hasTy, hu, hi, Bool.and_self])
  have hb := convert_of_hasTy (t := .pair tv ti) (v := .pair v j) (by simp only [Val.hasTy, hv, hj, Bool.and_self])
  simp only [Spec.locOp, suv, svu, sij]
  rcases Int.lt_trichotomy (K u) (K v) with h | h | h
  · cases isMax <;> simp [canonBody, execBody_set, c1, evalEx_a, evalEx_b, ha, hb, h]
  · -- equal values: the members are equal, and the result keeps the lower index
    cases inj h
    by_cases h3 : L i < L j <;> cases isMax <;>
      simp [canonBody, execBody_set, c1, c2, c3, evalEx_a, evalEx_b, ha, hb, h3]
  · have h' := Int.lt_asymm h
    cases isMax <;> simp [canonBody, execBody_set, c1, c2, evalEx_a, evalEx_b, ha, hb, h, h', Int.ne_of_gt h]

theorem canon_eq_spec (k : OpK) (mk : MKind) (t : CTy) (hd : specDefined k mk = true) (hm : tyMatches mk t = true)
    (hx : ¬ (k = .prod ∧ mk = .fcomplex)) (a b : Val) (ha : a.hasTy t = true) (hb : b.hasTy t = true) :
    execBody t a b (canonBody k t) = Spec.elem k mk t a b ∧ (Spec.elem k mk t a b).isSome = true := by
  cases mk
  case integer sg =>
    cases t <;> simp [tyMatches] at hm
    subst hm
    obtain ⟨x, rfl⟩ := hasTy_inv ha; obtain ⟨y, rfl⟩ := hasTy_inv hb
    cases k <;> simp only [specDefined, Bool.false_eq_true] at hd
    case max | min =>
      by_cases h : ival sg x < ival sg y <;> simp [h, execBody_max_min (cmpLt_int sg x y) ha hb, Spec.elem, Spec.intOp]
    case sum | prod | band | bor | bxor =>
      simp [canonBody, execBody_arith, arith, Spec.elem, Spec.intOp, Int.add_comm, Int.mul_comm, BitVec.and_comm,
        BitVec.or_comm, BitVec.xor_comm]
    case land | lor | lxor =>
      simp [execBody_logical (a := .int _ x) (b := .int _ y) rfl rfl, convert, Spec.elem, Spec.intOp, toNat_bne_zero,
        Bool.toNat, cond_eq_ite, Decidable.not_iff_not]
  case fp =>
    cases t <;> simp [tyMatches] at hm
    obtain ⟨x, rfl⟩ := hasTy_inv ha; obtain ⟨y, rfl⟩ := hasTy_inv hb
    cases k <;> simp only [specDefined, Bool.false_eq_true] at hd
    case max | min => by_cases h : x < y <;> simp [h, execBody_max_min (cmpLt_flt _ x y) ha hb, Spec.elem, Spec.fltOp]
    case sum | prod => simp [canonBody, execBody_arith, arith, Spec.elem, Spec.fltOp, Int.add_comm, Int.mul_comm]
  case logical =>
    cases t <;> simp [tyMatches] at hm
    obtain ⟨x, rfl⟩ := hasTy_inv ha; obtain ⟨y, rfl⟩ := hasTy_inv hb
    cases k <;> simp only [specDefined, Bool.false_eq_true] at hd
    all_goals simp [execBody_logical (a := .bool x) (b := .bool y) rfl rfl, convert, Val.hasTy, Spec.elem, Spec.boolOp]
  case complex =>
    cases t <;> simp [tyMatches] at hm
    obtain ⟨xr, xi, rfl⟩ := hasTy_inv ha; obtain ⟨yr, yi, rfl⟩ := hasTy_inv hb
    cases k <;> simp only [specDefined, Bool.false_eq_true] at hd
    all_goals simp [canonBody, execBody_arith, arith, Spec.elem, Spec.cplxOp, Int.add_comm, Int.mul_comm]
  case fcomplex =>
    -- SUM applied member-wise to a (re, im) struct is the complex sum
    cases k <;> simp only [specDefined, Bool.false_eq_true] at hd
    case prod => exact absurd ⟨rfl, rfl⟩ hx
    cases t <;> try (simp [tyMatches] at hm; done)
    rename_i tv ti
    cases tv <;> try (simp [tyMatches] at hm; done)
    cases ti <;> try (simp [tyMatches] at hm; done)
    obtain ⟨u, i, rfl, hu, hi⟩ := hasTy_inv ha; obtain ⟨v, j, rfl, hv, hj⟩ := hasTy_inv hb
    obtain ⟨xr, rfl⟩ := hasTy_inv hu; obtain ⟨xi, rfl⟩ := hasTy_inv hi
    obtain ⟨yr, rfl⟩ := hasTy_inv hv; obtain ⟨yi, rfl⟩ := hasTy_inv hj
    simp [canonBody, execBody, execSt, getL, evalEx, setL, arith, Spec.elem, Spec.cplxOp]
    exact ⟨Int.add_comm _ _, Int.add_comm _ _⟩
  case locpair =>
    cases t <;> try (simp [tyMatches] at hm; done)
    rename_i tv ti
    have hs : isOrdScalar tv = true ∧ isOrdScalar ti = true := by
      cases tv <;> cases ti <;> simp [tyMatches, isOrdScalar] at hm ⊢
    obtain ⟨u, i, rfl, hu, hi⟩ := hasTy_inv ha; obtain ⟨v, j, rfl, hv, hj⟩ := hasTy_inv hb
    cases k <;> simp only [specDefined, Bool.false_eq_true] at hd
    · exact loc_exec false tv ti hs.1 hs.2 u i v j hu hi hv hj
    · exact loc_exec true tv ti hs.1 hs.2 u i v j hu hi hv hj
  case other => simp [specDefined] at hd

theorem applyLoop_eq_spec (k : OpK) (mk : MKind) (t : CTy) (body : List St)
    (h : ∀ a b : Val, a.hasTy t = true → b.hasTy t = true →
      execBody t a b body = Spec.elem k mk t a b ∧ (Spec.elem k mk t a b).isSome = true) :
    ∀ (a b : List Val), (∀ v ∈ a, v.hasTy t = true) → (∀ v ∈ b, v.hasTy t = true) → a.length = b.length →
      applyLoop t body a b = Spec.arrays k mk t a b ∧ (Spec.arrays k mk t a b).isSome = true
  | [], [], _, _, _ => by simp [applyLoop, Spec.arrays]
  | x :: xs, y :: ys, ha, hb, hl => by
    have h1 := h x y (ha x (by simp)) (hb y (by simp))
    have ih := applyLoop_eq_spec k mk t body h xs ys (fun v hv => ha v (by simp [hv])) (fun v hv => hb v (by simp [hv]))
      (by simpa using hl)
    simp only [applyLoop, Spec.arrays, h1.1, ih.1]
    obtain ⟨r, hr⟩ := Option.isSome_iff_exists.mp h1.2
    obtain ⟨rs, hrs⟩ := Option.isSome_iff_exists.mp ih.2
    simp [hr, hrs]

end SgVerif.C31
