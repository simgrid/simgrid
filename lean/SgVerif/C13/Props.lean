import SgVerif.C13.Lemmas
/-
C13 — Workflow dependencies are respected.  Property theorems over the model of `Activity::{add_successor,
remove_successor, start, complete, release_dependencies}` and the resource setters (Model.lean).

Quantification: every number of activities, every kind/duration table, every *history* `h : List Label` of API calls
(`add_successor`, `remove_successor`, `set_host/set_disk/set_source/set_destination`, `start`) interleaved in any order
with clock jumps and kernel completions.  No bound on sizes or lengths.

`run`  accepts every history inside the property's domain (see `step`: no new predecessor for a started activity, no
       restart of a started activity, no Exec migration);
`runL` further forbids `remove_successor` and a dependency declared on an already finished activity; the theorems over `runL`
       also start from comms of positive size (`remPos := fun _ => true` in their `init`): the three things that can leave a
       startable activity waiting for ever in the code as it is (see NOTES.md).
-/
namespace SgVerif.C13

/-- **Safety.**  Whenever an activity has started (its `on_start` fired, at date `t`), it is assigned to its resources
and every predecessor declared for it has finished, at a date `≤ t`.  Every valid history. -/
theorem starts_after_preds_and_assigned (n : Nat) (kind : Nat → Kind) (dur : Nat → Rat) (remPos : Nat → Bool)
    (h : List Label) (s : Sys) (hr : run (init n kind dur remPos) h = .ok s) (b : Nat)
    (hb : (s.acts b).state = .started ∨ (s.acts b).state = .finished) :
    ∃ t, (s.acts b).tStart = some t ∧ (s.acts b).assigned = true ∧
      ∀ a ∈ (s.acts b).preds, (s.acts a).state = .finished ∧ ∃ tf, (s.acts a).tFinish = some tf ∧ tf ≤ t := by
  have inv := (run_inv (init_inv n kind dur remPos) hr).1
  obtain ⟨t, ht⟩ := inv.started_t b hb
  have := inv.start_ok b t ht
  exact ⟨t, ht, this.2.1, this.2.2.2⟩

/-- a started activity never has an unfinished dependency left, and a finished one ended exactly `dur` after its start -/
theorem finish_eq_start_plus_dur (n : Nat) (kind : Nat → Kind) (dur : Nat → Rat) (remPos : Nat → Bool)
    (h : List Label) (s : Sys) (hr : run (init n kind dur remPos) h = .ok s) (a : Nat) (tf : Rat)
    (hf : (s.acts a).tFinish = some tf) : ∃ ts, (s.acts a).tStart = some ts ∧ tf = ts + (s.acts a).dur := by
  exact (((run_inv (init_inv n kind dur remPos) hr).1).fin_eq a tf hf).2

/-- **Liveness.**  In an acyclic workflow (the predecessor relation of the final state is well-founded — the induction
below *is* the termination argument), if every activity of the workflow was eventually assigned and `start()` was
called on each, nothing was removed / declared late, and the run went on until no activity is running any more, then
every activity has FINISHED. -/
theorem all_finish (n : Nat) (kind : Nat → Kind) (dur : Nat → Rat) (h : List Label) (s : Sys)
    (hr : runL (init n kind dur (fun _ => true)) h = .ok s)
    (hacyc : WellFounded (fun a b => a ∈ (s.acts b).preds))
    (hasg : ∀ b, b < n → (s.acts b).assigned = true)
    (hreq : ∀ b, b < n → Label.start b ∈ h)
    (hquiet : ∀ b, b < n → (s.acts b).state ≠ .started) :
    ∀ b, b < n → (s.acts b).state = .finished := by
  have hrun := runL_run hr
  obtain ⟨iS, iL⟩ := runL_inv (init_inv n kind dur _) (initL_inv n kind dur) hr
  have hn : s.n = n := (run_inv (init_inv n kind dur _) hrun).2
  intro b
  induction b using hacyc.induction with
  | _ b ih =>
    intro hb
    have hdeps : (s.acts b).deps = [] := List.eq_nil_iff_forall_not_mem.mpr fun a ha =>
      have hap := iL.deps_preds a b ha
      iL.deps_unfinished a b ha (ih a hap (hn ▸ iS.preds_lt a b hap))
    have h1 := started_by_user (init_inv n kind dur _) hrun b (Or.inr (hreq b hb))
    have h2 := hquiet b hb
    have h3 := iS.reach b
    have h4 := iL.no_stuck b
    have h5 := hasg b hb
    cases hst : (s.acts b).state with
    | inited => exact absurd hst h1
    | starting => exact absurd ⟨hdeps, h5⟩ (h4 hst)
    | started => exact absurd hst h2
    | failed => exact absurd hst h3.1
    | canceled => exact absurd hst h3.2
    | finished => rfl

/-- `t` is the greatest element of the set `S` of dates -/
def IsMaxOf (t : Rat) (S : Rat → Prop) : Prop := S t ∧ ∀ q, S q → q ≤ t

/-- **Start date.**  The date at which an activity starts is exactly the latest of: the finish dates of its
predecessors, the date at which it became assigned, and the date of its own (first effective) `start()` call.
No acyclicity or completeness hypothesis is needed: it holds for every started activity of every live history. -/
theorem start_eq_max_pred_finish (n : Nat) (kind : Nat → Kind) (dur : Nat → Rat) (h : List Label) (s : Sys)
    (hr : runL (init n kind dur (fun _ => true)) h = .ok s) (b : Nat) (t : Rat)
    (ht : (s.acts b).tStart = some t) :
    IsMaxOf t (fun q => (∃ a ∈ (s.acts b).preds, (s.acts a).tFinish = some q) ∨
                        (s.acts b).tAssigned = some q ∨ (s.acts b).tReq = some q) := by
  obtain ⟨iS, iL⟩ := runL_inv (init_inv n kind dur _) (initL_inv n kind dur) hr
  have h7 := iL.start_is b t ht
  have h9 := iS.start_ok b t ht
  refine ⟨h7.1, ?_⟩
  intro q hq
  rcases hq with ⟨a, ha, haq⟩ | hq | hq
  · obtain ⟨_, tf, h1, h2⟩ := h9.2.2.2 a ha
    rw [h1] at haq; cases haq; exact h2
  · exact h7.2 q (Or.inl hq)
  · exact h7.2 q (Or.inr hq)

/-- every predecessor of a started activity does have a finish date (so the set above contains all of them) -/
theorem preds_have_finish_dates (n : Nat) (kind : Nat → Kind) (dur : Nat → Rat) (h : List Label) (s : Sys)
    (hr : runL (init n kind dur (fun _ => true)) h = .ok s) (b : Nat) (t : Rat)
    (ht : (s.acts b).tStart = some t) :
    ∀ a ∈ (s.acts b).preds, ∃ ts, (s.acts a).tStart = some ts ∧ (s.acts a).tFinish = some (ts + (s.acts a).dur) ∧
      ts + (s.acts a).dur ≤ t := by
  obtain ⟨iS, _⟩ := runL_inv (init_inv n kind dur _) (initL_inv n kind dur) hr
  intro a ha
  obtain ⟨_, tf, h1, h2⟩ := (iS.start_ok b t ht).2.2.2 a ha
  obtain ⟨_, ts, h3, h4⟩ := iS.fin_eq a tf h1
  subst h4
  exact ⟨ts, h3, h1, h2⟩

/-! ### Non-vacuity: a concrete history (Exec → Comm → Io, late assignment by an actor at t = 1/2) satisfies the
hypotheses of the three theorems, and the dates are the expected ones. -/

def exLabels : List Label :=
  [.addSucc 0 1, .addSucc 1 2, .assign 0 .host, .assign 1 .src, .start 0, .start 2, .start 1, .advance (1/2),
   .assign 1 .dst, .assign 2 .host, .complete 0, .complete 1, .complete 2]
def exInit : Sys :=
  init 3 (fun i => if i = 1 then .comm else if i = 2 then .io else .exec) (fun i => (i : Rat) + 1) (fun _ => true)
def stateOf (r : Except Err Sys) (b : Nat) : Option St :=
  match r with | .ok s => some (s.acts b).state | .error _ => none
def startOf (r : Except Err Sys) (b : Nat) : Option Rat :=
  match r with | .ok s => (s.acts b).tStart | .error _ => none

example : stateOf (runL exInit exLabels) 0 = some .finished ∧ stateOf (runL exInit exLabels) 1 = some .finished ∧
    stateOf (runL exInit exLabels) 2 = some .finished := by decide +kernel
example : startOf (runL exInit exLabels) 1 = some 1 ∧ startOf (runL exInit exLabels) 2 = some 3 := by decide +kernel
/-- the three quirks excluded by `runL` are real: a dependency declared on a finished activity blocks its successor
for ever (`run` accepts the history, activity 1 stays STARTING although everything it waits for is finished). -/
example : stateOf (run (init 2 (fun _ => .exec) (fun _ => 1) (fun _ => true))
    [.assign 0 .host, .assign 1 .host, .start 0, .complete 0, .addSucc 0 1, .start 1]) 1 = some .starting := by
  decide +kernel

end SgVerif.C13
