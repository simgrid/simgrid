import SgVerif.C28.Model
import SgVerif.Common.List
/-
C28: what the matching spec keeps (`Inv`) and the `message_id_` bookkeeping of the mechanism (`Counters`).
-/
namespace SgVerif.C28

theorem isTakeFirst {β : Type} {p : β → Bool} : IsTakeFirst p (takeFirst p) := ⟨rfl, fun _ _ => rfl⟩

theorem takeFirst_of_split {β : Type} (p : β → Bool) (pre post : List β) (x : β) (hpre : ∀ y ∈ pre, p y = false)
    (hx : p x = true) : takeFirst p (pre ++ x :: post) = some (x, pre ++ post) := by
  induction pre with
  | nil => simp [takeFirst, hx]
  | cons y pre ih =>
    have hy : p y = false := hpre y (by simp)
    have := ih (fun z hz => hpre z (by simp [hz]))
    simp [takeFirst, hy, this]

theorem takeFirst_congr {β : Type} (p q : β → Bool) (l : List β) (h : ∀ y ∈ l, p y = q y) :
    takeFirst p l = takeFirst q l := by
  induction l with
  | nil => rfl
  | cons y l ih =>
    have hy := h y (by simp)
    have := ih (fun z hz => h z (by simp [hz]))
    simp [takeFirst, hy, this]

theorem specStep_send_some {st st' : SpecState} {m m' : Msg} {r : Rcv}
    (h : specStep st (.send m) = (st', some (r, m'))) :
    m' = m ∧ ∃ pre post, st.posted = pre ++ r :: post ∧ (∀ r1 ∈ pre, compat r1 m = false) ∧ compat r m = true := by
  simp only [specStep] at h
  cases ht : takeFirst (fun r => compat r m) st.posted with
  | none => simp only [ht] at h; cases h
  | some v =>
    obtain ⟨r0, rest⟩ := v
    simp only [ht] at h
    cases h
    obtain ⟨pre, post, h1, _, h3, h4⟩ := isTakeFirst.some ht
    exact ⟨rfl, pre, post, h1, h4, h3⟩

theorem specStep_post_some {st st' : SpecState} {r r' : Rcv} {m : Msg}
    (h : specStep st (.post r) = (st', some (r', m))) :
    r' = r ∧ ∃ pre post, st.unexp = pre ++ m :: post ∧ (∀ m1 ∈ pre, compat r m1 = false) ∧ compat r m = true := by
  simp only [specStep] at h
  cases ht : takeFirst (fun m => compat r m) st.unexp with
  | none => simp only [ht] at h; cases h
  | some v =>
    obtain ⟨m0, rest⟩ := v
    simp only [ht] at h
    cases h
    obtain ⟨pre, post, h1, _, h3, h4⟩ := isTakeFirst.some ht
    exact ⟨rfl, pre, post, h1, h4, h3⟩

/-- what the spec keeps: no posted receive is compatible with a pending message (they would have been matched) -/
def Inv (st : SpecState) : Prop := ∀ r ∈ st.posted, ∀ m ∈ st.unexp, compat r m = false

theorem inv_step (st : SpecState) (e : Event) (hi : Inv st) : Inv (specStep st e).1 := by
  cases e with
  | send m =>
    simp only [specStep]
    cases ht : takeFirst (fun r => compat r m) st.posted with
    | none =>
      intro r hr m' hm'
      simp only [List.mem_append, List.mem_singleton] at hm'
      rcases hm' with hm' | rfl
      · exact hi r hr m' hm'
      · exact isTakeFirst.none.mp ht r hr
    | some v => exact fun r hr m' hm' => hi r ((isTakeFirst.sublist ht).subset hr) m' hm'
  | post r =>
    simp only [specStep]
    cases ht : takeFirst (fun m => compat r m) st.unexp with
    | none =>
      intro r' hr' m hm
      simp only [List.mem_append, List.mem_singleton] at hr'
      rcases hr' with hr' | rfl
      · exact hi r' hr' m hm
      · exact isTakeFirst.none.mp ht m hm
    | some v => exact fun r' hr' m hm => hi r' hr' m ((isTakeFirst.sublist ht).subset hm)

theorem inv_run (st : SpecState) (h : List Event) (hi : Inv st) : Inv (specRun st h).1 := by
  induction h generalizing st with
  | nil => exact hi
  | cons e es ih =>
    simp only [specRun]
    exact ih _ (inv_step st e hi)

theorem inv_init : Inv {} := by intro r hr; cases hr

theorem get_empty (t : Nat) (sn : List ((Nat × Nat) × Nat)) (w : Which) :
    ({ thresh := t, sent := sn } : Mech).get w = {} := by cases w <;> rfl

abbrev Key := Nat × Nat
def Msg.key (m : Msg) : Key := (m.src, m.tag)
def MSend.key (s : MSend) : Key := (s.m.src, s.m.tag)

theorem compat_key (r : Rcv) {m1 m2 : Msg} (h : m1.key = m2.key) : compat r m1 = compat r m2 := by
  simp only [Msg.key, Prod.mk.injEq] at h
  simp [compat, h.1, h.2]

theorem compat_src {r : Rcv} {m1 m2 : Msg} (hs : r.src ≠ none) (h1 : compat r m1 = true) (h2 : compat r m2 = true) :
    m1.src = m2.src := by
  obtain ⟨s, hs⟩ := Option.ne_none_iff_exists'.mp hs
  unfold compat at h1 h2
  rw [hs, Bool.and_eq_true, beq_iff_eq] at h1 h2
  exact h1.1.symm.trans h2.1

theorem compat_tag {r : Rcv} {m1 m2 : Msg} (ht : r.tag ≠ none) (h1 : compat r m1 = true) (h2 : compat r m2 = true) :
    m1.tag = m2.tag := by
  obtain ⟨t, ht⟩ := Option.ne_none_iff_exists'.mp ht
  unfold compat at h1 h2
  rw [ht, Bool.and_eq_true, beq_iff_eq] at h1 h2
  exact h1.2.symm.trans h2.2

theorem lookup_filter_ne (l : List (Key × Nat)) (k k' : Key) (h : k' ≠ k) :
    (l.filter (fun e => e.1 != k)).lookup k' = l.lookup k' := by
  induction l with
  | nil => rfl
  | cons e l ih =>
    obtain ⟨a, b⟩ := e
    by_cases ha : a = k
    · subst ha
      have h1 : (k' == a) = false := by simpa using h
      simp [List.lookup_cons, h1, ih]
    · have h1 : (a != k) = true := by simpa using ha
      simp only [List.filter_cons, h1, if_true, List.lookup_cons, ih]

/-- the counter update of `comm_->increment_{sent,received}_messages_count` -/
theorem cnt_incr (l : List (Key × Nat)) (k k' : Key) : cnt (incr l k) k' = cnt l k' + if k = k' then 1 else 0 := by
  unfold incr
  by_cases h : k' = k
  · subst h
    simp [cnt]
  · have h1 : (k' == k) = false := by simpa using h
    simp only [cnt, List.lookup_cons, h1, if_neg (Ne.symm h)]
    rw [lookup_filter_ne l k k' h]
    rfl

theorem split_append {γ : Type} {l₁ l₂ p q : List γ} {t : γ} (h : l₁ ++ l₂ = p ++ t :: q) :
    (∃ q', l₁ = p ++ t :: q' ∧ q = q' ++ l₂) ∨ ∃ p', p = l₁ ++ p' ∧ l₂ = p' ++ t :: q := by
  rcases List.append_eq_append_iff.mp h with ⟨a', h1, h2⟩ | ⟨c', h1, h2⟩
  · exact Or.inr ⟨a', h1, h2⟩
  · cases c' with
    | nil => exact Or.inr ⟨[], by rw [List.append_nil] at h1 ⊢; exact h1.symm, h2.symm⟩
    | cons x c' => cases h2; exact Or.inl ⟨c', h1, rfl⟩

/-- the `message_id_` bookkeeping against the queued sends `l` (arrival order): the id of a queued send is the
received-counter of its key plus the number of sends of that key queued before it, and the sent-counter of a key is its
received-counter plus the number of its queued sends -/
structure Counters (sent recvd : List (Key × Nat)) (l : List MSend) : Prop where
  seq : ∀ pre s post, l = pre ++ s :: post → s.seq = cnt recvd s.key + pre.countP (·.key = s.key)
  sent : ∀ k, cnt sent k = cnt recvd k + l.countP (·.key = k)

theorem Counters.init : Counters [] [] [] := ⟨fun pre _ _ h => (by cases pre <;> cases h), fun _ => rfl⟩

theorem Counters.enqueue {sent recvd : List (Key × Nat)} {l : List MSend} (h : Counters sent recvd l) (s : MSend)
    (hs : s.seq = cnt sent s.key) : Counters (incr sent s.key) recvd (l ++ [s]) := by
  refine ⟨fun pre t post ht => ?_, fun k => ?_⟩
  · rcases split_append ht with ⟨q', h1, _⟩ | ⟨p', h1, h2⟩
    · exact h.seq pre t q' h1
    · cases p' with
      | nil => cases h2; rw [h1, List.append_nil, hs, h.sent]
      | cons _ p' => cases p' <;> cases h2
  · rw [cnt_incr, List.countP_append, List.countP_singleton, h.sent]
    simp only [decide_eq_true_eq]
    omega

/-- a send of a key that is not queued is matched on arrival: both counters of the key move -/
theorem Counters.pass {sent recvd : List (Key × Nat)} {l : List MSend} (h : Counters sent recvd l) {k : Key}
    (hk : ∀ y ∈ l, y.key ≠ k) : Counters (incr sent k) (incr recvd k) l := by
  refine ⟨fun pre t post ht => ?_, fun k' => ?_⟩
  · rw [cnt_incr, if_neg fun e => hk t (ht ▸ List.mem_append_cons_self) e.symm]; exact h.seq pre t post ht
  · rw [cnt_incr, cnt_incr, h.sent]
    omega

/-- the first queued send of its key is received -/
theorem Counters.remove {sent recvd : List (Key × Nat)} {pre post : List MSend} {s : MSend}
    (h : Counters sent recvd (pre ++ s :: post)) (hpre : ∀ y ∈ pre, y.key ≠ s.key) :
    Counters sent (incr recvd s.key) (pre ++ post) := by
  refine ⟨fun p t q ht => ?_, fun k => ?_⟩
  · rw [cnt_incr]
    rcases split_append ht with ⟨q', h1, h2⟩ | ⟨p', h1, h2⟩
    · -- `t` is queued before `s`: another key, same predecessors
      rw [if_neg fun e => hpre t (h1 ▸ List.mem_append_cons_self) e.symm]
      exact h.seq p t (q' ++ s :: post) (by rw [h1, List.append_assoc]; rfl)
    · -- `t` is queued after `s`: one predecessor less if it has the key of `s`, and then a received-counter one higher
      have := h.seq (pre ++ s :: p') t q (by rw [h2, List.append_assoc]; rfl)
      rw [this, h1, List.countP_append, List.countP_append, List.countP_cons]
      simp only [decide_eq_true_eq]
      omega
  · rw [cnt_incr, h.sent, List.countP_append, List.countP_append, List.countP_cons]
    simp only [decide_eq_true_eq]
    omega

end SgVerif.C28
