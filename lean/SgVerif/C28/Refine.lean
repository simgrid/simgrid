import SgVerif.C28.Lemmas
/-
C28: refinement of the SMPI two-mailbox mechanism to the MPI matching spec.  An `Abs` (posted receives, a ghost queue of all
unmatched sends in ARRIVAL order labelled with their mailbox, the counter tables) builds both states; one event takes both to
the states of one `a'` with the same match, provided `Request::start` picks the right mailbox (`SendOK`, `PostOK`).  The
construction puts ALL posted receives in ONE mailbox `wr` (no refinement is claimed for runs that spread them).  That holds
when every size is on one side of the threshold (`one_side_run`) and when every receive's compatible messages share one
(src,tag) key and receive buffers are `≥ thresh` (`kd_run`: the `message_id_` test singles out the oldest send).
-/
namespace SgVerif.C28

def Event.size : Event → Nat
  | .send m => m.size
  | .post r => r.size

/-- all messages that a receive of the history can match have one (src,tag) key -/
def KeyDetermined (h : List Event) : Prop :=
  ∀ r m1 m2, Event.post r ∈ h → Event.send m1 ∈ h → Event.send m2 ∈ h → compat r m1 = true → compat r m2 = true →
    m1.src = m2.src ∧ m1.tag = m2.tag

def other : Which → Which
  | .small => .large
  | .large => .small

theorem other_ne (w : Which) : other w ≠ w := by cases w <;> simp [other]

/-- the send request of message `m`: `message_id_` = sent-counter of its key -/
abbrev sendReq (st : Mech) (m : Msg) : MSend := { m := m, seq := cnt st.sent (m.src, m.tag) }
/-- the state after the sent-counter increment -/
abbrev afterSent (st : Mech) (m : Msg) : Mech := { st with sent := incr st.sent (m.src, m.tag) }

/-- what the refinement tracks: the posted receives, the unmatched sends in ARRIVAL order, each labelled with the mailbox it
sits in, and the two counter tables -/
structure Abs where
  posted : List Rcv
  q : List (Which × MSend)
  sent : List (Key × Nat)
  recvd : List (Key × Nat)

/-- mailbox `w` when receives wait in mailbox `wr` -/
def Abs.mbox (a : Abs) (wr w : Which) : Mbox :=
  { sends := (a.q.filter (fun e => decide (e.1 = w))).map (·.2), recvs := if w = wr then a.posted else [] }

def Abs.mech (a : Abs) (wr : Which) (thresh : Nat) : Mech :=
  { thresh := thresh, small := a.mbox wr .small, large := a.mbox wr .large, sent := a.sent, recvd := a.recvd }

def Abs.spec (a : Abs) : SpecState := { posted := a.posted, unexp := a.q.map (·.2.m) }

/-- what every step keeps: the ids of the queued sends are consecutive per (src,tag) key (`Counters`), and no posted receive
is compatible with a queued send (`Inv`: they would have been matched) -/
structure Abs.Ok (a : Abs) : Prop where
  counters : Counters a.sent a.recvd (a.q.map (·.2))
  inv : Inv a.spec

theorem mech_get (a : Abs) (wr : Which) (t : Nat) (w : Which) : (a.mech wr t).get w = a.mbox wr w := by
  cases w <;> rfl

theorem mech_take_recv (a : Abs) (wr : Which) (t : Nat) (x : List Rcv) (rc : List (Key × Nat)) :
    ({ ((a.mech wr t).set wr { (a.mech wr t).get wr with recvs := x }) with recvd := rc } : Mech)
      = Abs.mech ⟨x, a.q, a.sent, rc⟩ wr t := by
  cases wr <;> rfl

theorem mech_enqueue (a : Abs) (wr : Which) (t : Nat) (w : Which) (s : MSend) :
    (a.mech wr t).set w { (a.mech wr t).get w with sends := ((a.mech wr t).get w).sends ++ [s] }
      = Abs.mech ⟨a.posted, a.q ++ [(w, s)], a.sent, a.recvd⟩ wr t := by
  cases w <;> simp [Abs.mech, Abs.mbox, Mech.set, Mech.get, List.filter_append]

theorem mech_take_send (a : Abs) (wr : Which) (t : Nat) (pre post : List (Which × MSend)) (wi : Which) (si : MSend)
    (hq : a.q = pre ++ (wi, si) :: post) (rc : List (Key × Nat)) :
    ({ ((a.mech wr t).set wi { (a.mech wr t).get wi with
          sends := ((pre ++ post).filter (fun e => decide (e.1 = wi))).map (·.2) }) with recvd := rc } : Mech)
      = Abs.mech ⟨a.posted, pre ++ post, a.sent, rc⟩ wr t := by
  cases wi <;> simp [Abs.mech, Abs.mbox, Mech.set, Mech.get, hq, List.filter_append]

theorem mech_post (a : Abs) (wr : Which) (t : Nat) (r : Rcv) :
    (a.mech wr t).set wr { (a.mech wr t).get wr with recvs := ((a.mech wr t).get wr).recvs ++ [r] }
      = Abs.mech ⟨a.posted ++ [r], a.q, a.sent, a.recvd⟩ wr t := by
  cases wr <;> rfl

theorem matchBoth_compat {st : Mech} {r : Rcv} {s : MSend} (h : compat r s.m = false) : matchBoth st r s = false := by
  simp [matchBoth, h]

/-- the queue entry that `Request::start` makes of an arriving message: the mailbox it picks and the send request -/
def Abs.entry (a : Abs) (wr : Which) (t : Nat) (m : Msg) : Which × MSend :=
  (sendMailbox (afterSent (a.mech wr t) m) (sendReq (a.mech wr t) m), sendReq (a.mech wr t) m)

/-- when a compatible receive is posted, `Request::start` sends to the mailbox where receives live -/
def SendOK (wr : Which) (t : Nat) (a : Abs) (m : Msg) : Prop :=
  (∃ r0 ∈ a.posted, compat r0 m = true) → (a.entry wr t m).1 = wr

/-- `Request::start` probes its way to the mailbox of the oldest compatible queued send, and to the receives' mailbox
when there is none -/
structure PostOK (wr : Which) (t : Nat) (a : Abs) (r : Rcv) : Prop where
  some : ∀ pre wi si post, a.q = pre ++ (wi, si) :: post → (∀ e ∈ pre, compat r e.2.m = false) →
    compat r si.m = true → recvMailbox (a.mech wr t) r = wi
  none : (∀ e ∈ a.q, compat r e.2.m = false) → recvMailbox (a.mech wr t) r = wr

theorem nokey_of_posted {a : Abs} (h : a.Ok) {m : Msg} (hex : ∃ r0 ∈ a.posted, compat r0 m = true) :
    ∀ y ∈ a.q.map (·.2), y.key ≠ (m.src, m.tag) := by
  obtain ⟨r0, hr0, hc0⟩ := hex
  refine List.forall_mem_map.mpr fun e he hk => ?_
  have h1 := h.inv r0 hr0 e.2.m (List.mem_map.mpr ⟨e, he, rfl⟩)
  rw [compat_key r0 hk, hc0] at h1
  cases h1

theorem matchBoth_send {a : Abs} (h : a.Ok) (wr : Which) (t : Nat) {m : Msg} (hex : ∃ r0 ∈ a.posted, compat r0 m = true)
    (r : Rcv) : matchBoth (afterSent (a.mech wr t) m) r (sendReq (a.mech wr t) m) = compat r m := by
  have hseq : cnt a.sent (m.src, m.tag) = cnt a.recvd (m.src, m.tag) := by
    rw [h.counters.sent, List.countP_eq_zero.mpr fun y hy => by simpa using nokey_of_posted h hex y hy]
    rfl
  unfold matchBoth
  rw [show (sendReq (a.mech wr t) m).seq = cnt a.sent (m.src, m.tag) from rfl, hseq]
  show (compat r m && cnt a.recvd (m.src, m.tag) == cnt a.recvd (m.src, m.tag)) = _
  rw [beq_self_eq_true, Bool.and_true]

/-- **one arrival: mechanism and spec move to the states of one `a'` and make the same match** -/
theorem send_step (a : Abs) (wr : Which) (t : Nat) (h : a.Ok) (m : Msg) (hw : SendOK wr t a m) :
    ∃ (a' : Abs) (mt : Option (Rcv × Msg)), mechStep (a.mech wr t) (.send m) = (a'.mech wr t, mt) ∧
      specStep a.spec (.send m) = (a'.spec, mt) ∧ a'.Ok ∧
      ∀ e ∈ a'.q, e ∈ a.q ∨ e = a.entry wr t m := by
  have hinv := inv_step a.spec (.send m) h.inv
  -- `Request::start` runs in the state whose sent-counter has moved
  have hS : afterSent (a.mech wr t) m = Abs.mech ⟨a.posted, a.q, incr a.sent (m.src, m.tag), a.recvd⟩ wr t := rfl
  cases ht : takeFirst (fun r => compat r m) a.posted with
  | none =>
    have hnc := isTakeFirst.none.mp ht
    have hmn : takeFirst (fun r => matchBoth (afterSent (a.mech wr t) m) r (sendReq (a.mech wr t) m))
        ((afterSent (a.mech wr t) m).get (sendMailbox (afterSent (a.mech wr t) m) (sendReq (a.mech wr t) m))).recvs = none := by
      apply isTakeFirst.none.mpr
      intro r hr
      rw [hS, mech_get, Abs.mbox] at hr
      split at hr
      · exact matchBoth_compat (hnc r hr)
      · cases hr
    have hsp : specStep a.spec (.send m)
        = (Abs.spec ⟨a.posted, a.q ++ [a.entry wr t m], incr a.sent (m.src, m.tag), a.recvd⟩, none) := by
      simp only [specStep, Abs.spec, Abs.entry, ht, List.map_append, List.map_cons, List.map_nil]
    rw [hsp] at hinv
    refine ⟨_, none, ?_, hsp, ⟨?_, hinv⟩, ?_⟩
    · simp only [mechStep, hmn]
      exact congrArg (·, none) (mech_enqueue ⟨a.posted, a.q, incr a.sent (m.src, m.tag), a.recvd⟩ wr t _ _)
    · rw [List.map_append]; exact h.counters.enqueue (sendReq (a.mech wr t) m) rfl
    · intro e he
      rcases List.mem_append.mp he with h | h
      · exact Or.inl h
      · exact Or.inr (List.mem_singleton.mp h)
  | some v =>
    obtain ⟨r0, rest⟩ := v
    obtain ⟨pre0, post0, hp1, _, hp3, _⟩ := isTakeFirst.some ht
    have hex : ∃ r0 ∈ a.posted, compat r0 m = true := ⟨r0, hp1 ▸ List.mem_append_cons_self, hp3⟩
    have hms : takeFirst (fun r => matchBoth (afterSent (a.mech wr t) m) r (sendReq (a.mech wr t) m))
        ((afterSent (a.mech wr t) m).get wr).recvs = some (r0, rest) := by
      rw [hS, mech_get, Abs.mbox, if_pos rfl, ← ht]
      exact takeFirst_congr _ _ _ fun r _ => matchBoth_send h wr t hex r
    have hsp : specStep a.spec (.send m)
        = (Abs.spec ⟨rest, a.q, incr a.sent (m.src, m.tag), incr a.recvd (m.src, m.tag)⟩, some (r0, m)) := by
      simp only [specStep, Abs.spec, ht]
    rw [hsp] at hinv
    refine ⟨_, _, ?_, hsp, ⟨h.counters.pass (nokey_of_posted h hex), hinv⟩, fun e he => Or.inl he⟩
    have hwr : sendMailbox (afterSent (a.mech wr t) m) (sendReq (a.mech wr t) m) = wr := hw hex
    simp only [mechStep, hwr, hms]
    exact congrArg (·, some (r0, m)) (mech_take_recv ⟨a.posted, a.q, incr a.sent (m.src, m.tag), a.recvd⟩ wr t rest _)

/-- the first compatible queued send is the oldest of its key: its `message_id_` is the received-counter -/
theorem matchBoth_first {a : Abs} (h : a.Ok) (wr : Which) (t : Nat) {pre post : List (Which × MSend)} {wi : Which}
    {si : MSend} {r : Rcv} (hq : a.q = pre ++ (wi, si) :: post)
    (hpre : ∀ e ∈ pre, compat r e.2.m = false) (hsi : compat r si.m = true) :
    (∀ y ∈ pre.map (·.2), y.key ≠ si.key) ∧ matchBoth (a.mech wr t) r si = true := by
  have hnokey : ∀ y ∈ pre.map (·.2), y.key ≠ si.key := by
    refine List.forall_mem_map.mpr fun e he hk => ?_
    have := hpre e he
    rw [compat_key r hk, hsi] at this
    cases this
  refine ⟨hnokey, ?_⟩
  have h1 := h.counters.seq (pre.map (·.2)) si (post.map (·.2)) (by rw [hq, List.map_append, List.map_cons])
  rw [List.countP_eq_zero.mpr fun y hy => by simpa using hnokey y hy] at h1
  unfold matchBoth
  rw [hsi, h1]
  exact (Bool.true_and _).trans (beq_self_eq_true _)

/-- a later queued send with the same key carries a larger id: `match_recv` rejects it -/
theorem matchBoth_later {a : Abs} (h : a.Ok) (wr : Which) (t : Nat) {pre post : List (Which × MSend)} {wi : Which}
    {si : MSend} (hq : a.q = pre ++ (wi, si) :: post) (r : Rcv) {e : Which × MSend} (he : e ∈ post)
    (hk : e.2.key = si.key) : matchBoth (a.mech wr t) r e.2 = false := by
  obtain ⟨p1, p2, hp⟩ := List.append_of_mem he
  have h1 := h.counters.seq ((pre ++ (wi, si) :: p1).map (·.2)) e.2 (p2.map (·.2)) (by rw [hq, hp]; simp)
  have h2 : 0 < ((pre ++ (wi, si) :: p1).map (·.2)).countP (·.key = e.2.key) :=
    List.countP_pos_iff.mpr ⟨si, by simp, by simpa using hk.symm⟩
  unfold matchBoth
  have : (e.2.seq == cnt a.recvd (e.2.m.src, e.2.m.tag)) = false := by
    rw [show cnt a.recvd (e.2.m.src, e.2.m.tag) = cnt a.recvd e.2.key from rfl, beq_eq_false_iff_ne]
    omega
  rw [show (a.mech wr t).recvd = a.recvd from rfl, this, Bool.and_false]

/-- **one posted receive: mechanism and spec move to the states of one `a'` and make the same match** -/
theorem post_step (a : Abs) (wr : Which) (t : Nat) (h : a.Ok) (r : Rcv) (hok : PostOK wr t a r) :
    ∃ (a' : Abs) (mt : Option (Rcv × Msg)), mechStep (a.mech wr t) (.post r) = (a'.mech wr t, mt) ∧
      specStep a.spec (.post r) = (a'.spec, mt) ∧ a'.Ok ∧ ∀ e ∈ a'.q, e ∈ a.q := by
  have hinv := inv_step a.spec (.post r) h.inv
  cases hq : takeFirst (fun e : Which × MSend => compat r e.2.m) a.q with
  | none =>
    have hnc := isTakeFirst.none.mp hq
    have hmn : takeFirst (fun s => matchBoth (a.mech wr t) r s) ((a.mech wr t).get wr).sends = none := by
      rw [mech_get, Abs.mbox]
      exact isTakeFirst.none.mpr
        (List.forall_mem_map.mpr fun e he => matchBoth_compat (hnc e (List.mem_filter.mp he).1))
    have hsp : specStep a.spec (.post r) = (Abs.spec ⟨a.posted ++ [r], a.q, a.sent, a.recvd⟩, none) := by
      simp only [specStep, Abs.spec, isTakeFirst.none.mpr (List.forall_mem_map.mpr hnc)]
    rw [hsp] at hinv
    refine ⟨_, none, ?_, hsp, ⟨h.counters, hinv⟩, fun e he => he⟩
    simp only [mechStep, hok.none hnc, hmn]
    exact congrArg (·, none) (mech_post a wr t r)
  | some v =>
    obtain ⟨⟨wi, si⟩, q'⟩ := v
    obtain ⟨pre, post, hq1, hq2, hq3, hq4⟩ := isTakeFirst.some hq
    obtain ⟨hnokey, hmb⟩ := matchBoth_first h wr t hq1 hq4 hq3
    have hsp : specStep a.spec (.post r)
        = (Abs.spec ⟨a.posted, pre ++ post, a.sent, incr a.recvd (si.m.src, si.m.tag)⟩, some (r, si.m)) := by
      simp only [specStep, Abs.spec, hq1, List.map_append, List.map_cons]
      rw [takeFirst_of_split _ _ _ _ (List.forall_mem_map.mpr hq4) hq3]
    have hms : takeFirst (fun s => matchBoth (a.mech wr t) r s) ((a.mech wr t).get wi).sends
        = some (si, ((pre ++ post).filter (fun e => decide (e.1 = wi))).map (·.2)) := by
      simp only [mech_get, Abs.mbox, hq1, List.filter_append, List.filter_cons, decide_true, if_true, List.map_append,
        List.map_cons]
      exact takeFirst_of_split _ _ _ _
        (List.forall_mem_map.mpr fun e he => matchBoth_compat (hq4 e (List.mem_filter.mp he).1)) hmb
    have hcnt := h.counters
    rw [hq1, List.map_append, List.map_cons] at hcnt
    rw [hsp] at hinv
    refine ⟨_, _, ?_, hsp, ⟨by rw [List.map_append]; exact hcnt.remove hnokey, hinv⟩,
      fun e he => (isTakeFirst.sublist hq).subset (hq2 ▸ he)⟩
    simp only [mechStep, hok.some pre wi si post hq1 hq4 hq3, hms]
    exact congrArg (·, some (r, si.m)) (mech_take_send a wr t pre post wi si hq1 _)

theorem mechRun_cons (st : Mech) (e : Event) (es : List Event) :
    (mechRun st (e :: es)).2 =
      match (mechStep st e).2 with
      | some x => x :: (mechRun (mechStep st e).1 es).2
      | none => (mechRun (mechStep st e).1 es).2 := rfl

theorem specRun_cons (sp : SpecState) (e : Event) (es : List Event) :
    (specRun sp (e :: es)).2 =
      match (specStep sp e).2 with
      | some x => x :: (specRun (specStep sp e).1 es).2
      | none => (specRun (specStep sp e).1 es).2 := rfl

/-- the two steps along a history: `Pr` is what the run keeps true of the queued sends -/
theorem rel_run (wr : Which) (t : Nat) (Pr : Which × MSend → Prop) (h : List Event)
    (hS : ∀ m, Event.send m ∈ h → ∀ a : Abs, a.Ok → (∀ e ∈ a.q, Pr e) → SendOK wr t a m ∧
      Pr (a.entry wr t m))
    (hP : ∀ r, Event.post r ∈ h → ∀ a : Abs, a.Ok → (∀ e ∈ a.q, Pr e) → PostOK wr t a r) :
    ∀ a : Abs, a.Ok → (∀ e ∈ a.q, Pr e) → (mechRun (a.mech wr t) h).2 = (specRun a.spec h).2 := by
  induction h with
  | nil => intro _ _ _; rfl
  | cons e es ih =>
    intro a ha hl
    have ih := ih (fun m hm => hS m (List.mem_cons_of_mem _ hm)) (fun r hr => hP r (List.mem_cons_of_mem _ hr))
    rw [mechRun_cons, specRun_cons]
    cases e with
    | send m =>
      obtain ⟨hw, hp⟩ := hS m List.mem_cons_self a ha hl
      obtain ⟨a', mt, h1, h2, ha', hq'⟩ := send_step a wr t ha m hw
      rw [h1, h2, ih a' ha' fun e he => (hq' e he).elim (hl e) fun h => h ▸ hp]
    | post r =>
      obtain ⟨a', mt, h1, h2, ha', hq'⟩ := post_step a wr t ha r (hP r List.mem_cons_self a ha hl)
      rw [h1, h2, ih a' ha' fun e he => hl e (hq' e he)]

theorem run_init (wr : Which) (t : Nat) (Pr : Which × MSend → Prop) (h : List Event)
    (H : ∀ a : Abs, a.Ok → (∀ e ∈ a.q, Pr e) → (mechRun (a.mech wr t) h).2 = (specRun a.spec h).2) :
    (mechRun { thresh := t } h).2 = (specRun {} h).2 := by
  -- the empty `Abs` is `Ok` and builds the two initial states
  have := H ⟨[], [], [], []⟩ ⟨Counters.init, inv_init⟩ (fun _ he => nomatch he)
  cases wr <;> exact this

theorem sendMailbox_large (st : Mech) (s : MSend) (h : st.thresh ≤ s.m.size) : sendMailbox st s = .large := by
  unfold sendMailbox
  by_cases h0 : st.thresh = 0
  · rw [if_pos h0]
  · rw [if_neg h0, if_neg (by omega)]

theorem sendMailbox_small (st : Mech) (s : MSend) (h : s.m.size < st.thresh) (hr : st.large.recvs = [])
    (hs : s.ssend = false) : sendMailbox st s = .small := by
  unfold sendMailbox
  have hp : probeRecv st st.large s = false := by simp [probeRecv, hr]
  rw [if_neg (by omega), if_pos h, hp]
  simp [hs]

theorem sendMailbox_probed (st : Mech) (s : MSend) (hp : probeRecv st st.large s = true) : sendMailbox st s = .large := by
  unfold sendMailbox
  rw [hp, if_pos rfl, ite_self, ite_self]

theorem recvMailbox_large (st : Mech) (r : Rcv) (h : st.thresh ≤ r.size) (hs : st.small.sends = []) :
    recvMailbox st r = .large := by
  unfold recvMailbox
  by_cases h0 : st.thresh = 0
  · rw [if_pos h0]
  · have hp : probeSend st st.small r = false := by simp [probeSend, hs]
    rw [if_neg h0, if_neg (by omega), hp]
    simp

theorem recvMailbox_small (st : Mech) (r : Rcv) (h : r.size < st.thresh) (hs : st.large.sends = []) :
    recvMailbox st r = .small := by
  unfold recvMailbox
  have hp : probeSend st st.large r = false := by simp [probeSend, hs]
  rw [if_neg (by omega), if_pos h, hp]
  cases probeSend st st.small r <;> simp

theorem one_side_run (wr : Which) (t : Nat) (h : List Event)
    (hS : ∀ m, Event.send m ∈ h → ∀ st : Mech, st.thresh = t → (st.get (other wr)).recvs = [] →
      sendMailbox (afterSent st m) (sendReq st m) = wr)
    (hP : ∀ r, Event.post r ∈ h → ∀ st : Mech, st.thresh = t → (st.get (other wr)).sends = [] →
      recvMailbox st r = wr) :
    ∀ a : Abs, a.Ok → (∀ e ∈ a.q, e.1 = wr) → (mechRun (a.mech wr t) h).2 = (specRun a.spec h).2 := by
  refine rel_run wr t (fun e => e.1 = wr) h ?_ ?_
  · intro m hm a _ _
    have hwm := hS m hm (a.mech wr t) rfl (by rw [mech_get, Abs.mbox, if_neg (other_ne wr)])
    exact ⟨fun _ => hwm, hwm⟩
  · intro r hr a _ hl
    have hwr := hP r hr (a.mech wr t) rfl (by
      rw [mech_get, Abs.mbox, List.filter_eq_nil_iff.mpr fun e he => by simp [hl e he, (other_ne wr).symm]]
      rfl)
    exact ⟨fun pre wi si post hq _ _ => hwr.trans (hl (wi, si) (hq ▸ List.mem_append_cons_self)).symm, fun _ => hwr⟩

theorem kd_run (t : Nat) (hpos : 0 < t) (h : List Event) (hk : KeyDetermined h)
    (hbuf : ∀ r, Event.post r ∈ h → t ≤ r.size) :
    ∀ a : Abs, a.Ok → (∀ e ∈ a.q, Event.send e.2.m ∈ h) → (mechRun (a.mech .large t) h).2 = (specRun a.spec h).2 := by
  refine rel_run .large t (fun e => Event.send e.2.m ∈ h) h ?_ ?_
  · intro m hm a ha _
    refine ⟨fun ⟨r0, hr0, hc0⟩ => ?_, hm⟩
    exact sendMailbox_probed _ _
      (List.any_eq_true.mpr ⟨r0, hr0, (matchBoth_send ha .large t ⟨r0, hr0, hc0⟩ r0).trans hc0⟩)
  · intro r hr a ha hq
    have hrm : recvMailbox (a.mech .large t) r
        = if (a.q.filter (fun e => decide (e.1 = .small))).any (fun e => matchBoth (a.mech .large t) r e.2) then .small
          else .large := by
      unfold recvMailbox probeSend
      have := hbuf r hr
      rw [show (a.mech .large t).thresh = t from rfl, if_neg (show ¬ t = 0 by omega), if_neg (show ¬ r.size < t by omega),
        show (a.mech .large t).small.sends = (a.q.filter (fun e => decide (e.1 = .small))).map (·.2) from rfl, List.any_map]
      rfl
    constructor
    · intro pre wi si post hq1 hpre hsi
      obtain ⟨_, hmb⟩ := matchBoth_first ha .large t hq1 hpre hsi
      rw [hrm]
      cases wi with
      | small =>
        rw [List.any_eq_true.mpr ⟨(.small, si), List.mem_filter.mpr ⟨hq1 ▸ List.mem_append_cons_self, by simp⟩, hmb⟩]
        rfl
      | large =>
        -- sends queued in the small mailbox: older ones are incompatible, younger compatible ones have a later id
        rw [List.any_eq_false.mpr fun e he => ?_]
        · rfl
        obtain ⟨heq, hlab⟩ := List.mem_filter.mp he
        have hlab' : e.1 = .small := by simpa using hlab
        rw [hq1] at heq
        rcases List.mem_append.mp heq with h1 | h1
        · rw [matchBoth_compat (hpre e h1)]; simp
        · rcases List.mem_cons.mp h1 with h1 | h1
          · rw [h1] at hlab'; cases hlab'
          · by_cases hc : compat r e.2.m = true
            · have hkk := hk r si.m e.2.m hr (hq (.large, si) (hq1 ▸ List.mem_append_cons_self))
                (hq e (by rw [hq1]; exact List.mem_append_right _ (List.mem_cons_of_mem _ h1))) hsi hc
              have hkey : e.2.key = si.key := by
                simp only [MSend.key, Prod.mk.injEq]; exact ⟨hkk.1.symm, hkk.2.symm⟩
              rw [matchBoth_later ha .large t hq1 r h1 hkey]; simp
            · rw [matchBoth_compat (by simpa using hc)]; simp
    · intro hnc
      rw [hrm, List.any_eq_false.mpr fun e he => by rw [matchBoth_compat (hnc e (List.mem_filter.mp he).1)]; simp]
      rfl

end SgVerif.C28
