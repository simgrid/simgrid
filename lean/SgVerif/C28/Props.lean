import SgVerif.C28.Refine
/-
C28 — MPI point-to-point matching and non-overtaking.  The spec theorems hold for every history.  The full refinement
`∀ thresh h, (mechRun {thresh := thresh} h).2 = (specRun {} h).2` is FALSE on the code (`smpi_refines_spec_counterexample`,
replayed on the library by props/C28/corpus.txt); it is proved for ALL histories of two classes (`smpi_refines_spec_one_side`,
`smpi_refines_spec_key_determined` with two corollaries).  Outside them: receives with buffers on both sides of the threshold,
and wildcard receives whose compatible messages have several keys with sizes on both sides — the classes in which the library
misbehaves (findings 1–3 of props/C28/NOTES.md).
-/
namespace SgVerif.C28

/-- **Non-overtaking, for every history — a message arrives.**  After any history `h` (any interleaving of arrivals
and posts, any wildcards), if the arriving message `m` is matched with the posted receive `r`, then
* `r` is the FIRST posted receive that matches `m` (receives are satisfied in posting order), and
* no message still pending (all of them arrived before `m`) matches `r`: `m` overtakes nothing. -/
theorem spec_non_overtaking_send (h : List Event) (m : Msg) (r : Rcv) (st' : SpecState)
    (hstep : specStep (specRun {} h).1 (.send m) = (st', some (r, m))) :
    (∃ pre post, (specRun {} h).1.posted = pre ++ r :: post ∧ ∀ r1 ∈ pre, compat r1 m = false) ∧
    (∀ m1 ∈ (specRun {} h).1.unexp, compat r m1 = false) := by
  obtain ⟨_, pre, post, h1, h4, _⟩ := specStep_send_some hstep
  exact ⟨⟨pre, post, h1, h4⟩, fun m1 hm1 =>
    inv_run {} h inv_init r (h1 ▸ List.mem_append_right _ (List.mem_cons_self ..)) m1 hm1⟩

/-- **Non-overtaking, for every history — a receive is posted.**  If the posted receive `r` is matched with the
pending message `m`, then
* `m` is the FIRST pending message (arrival order) that matches `r`: among the messages of one sender that match `r`
  the first one sent is received — whatever the sizes —, and
* no receive still pending (all posted before `r`) matches `m`. -/
theorem spec_non_overtaking_post (h : List Event) (m : Msg) (r : Rcv) (st' : SpecState)
    (hstep : specStep (specRun {} h).1 (.post r) = (st', some (r, m))) :
    (∃ pre post, (specRun {} h).1.unexp = pre ++ m :: post ∧ ∀ m1 ∈ pre, compat r m1 = false) ∧
    (∀ r1 ∈ (specRun {} h).1.posted, compat r1 m = false) := by
  obtain ⟨_, pre, post, h1, h4, _⟩ := specStep_post_some hstep
  exact ⟨⟨pre, post, h1, h4⟩, fun r1 hr1 =>
    inv_run {} h inv_init r1 hr1 m (h1 ▸ List.mem_append_right _ (List.mem_cons_self ..))⟩

/-- every match made by the spec is between compatible partners (communicator, source, tag, wildcards) -/
theorem spec_match_compat (st : SpecState) (e : Event) (st' : SpecState) (r : Rcv) (m : Msg)
    (hstep : specStep st e = (st', some (r, m))) : compat r m = true := by
  cases e with
  | send m' =>
    obtain ⟨rfl, _, _, _, _, h3⟩ := specStep_send_some hstep
    exact h3
  | post r' =>
    obtain ⟨rfl, _, _, _, _, h3⟩ := specStep_post_some hstep
    exact h3

/-- the witness: threshold 256; rank 1 sends a 3000-byte message with tag 1 (rendezvous: large mailbox) and then a
17-byte message with tag 2 (eager: small mailbox); the receiver then posts `Recv(src 1, MPI_ANY_TAG)` with a
3000-byte buffer.  `Request::start` probes the SMALL mailbox first and the per-(src,dst,tag) `message_id_` test
passes (each tag has its own counter). -/
def witness : List Event :=
  [.send { mid := 0, src := 1, tag := 1, size := 3000 }, .send { mid := 1, src := 1, tag := 2, size := 17 },
   .post { rid := 0, src := some 1, tag := none, size := 3000 }]

/-- FULL-STRENGTH STATEMENT (false on the current code):
`∀ thresh h, (mechRun {thresh := thresh} h).2 = (specRun {} h).2`.
The mechanism hands the receive the SECOND message (mid 1), the spec the first (mid 0). -/
theorem smpi_refines_spec_counterexample :
    ((mechRun { thresh := 256 } witness).2.map fun (r, m) => (r.rid, m.mid)) = [(0, 1)] ∧
    ((specRun {} witness).2.map fun (r, m) => (r.rid, m.mid)) = [(0, 0)] := by
  decide

/-- with the same tag the `message_id_` counters restore the order (the mechanism and the spec agree on the witness
with tag 2 replaced by tag 1) — the defect needs a wildcard tag (or receives spread over both mailboxes) -/
theorem same_tag_witness_agrees :
    let w : List Event :=
      [.send { mid := 0, src := 1, tag := 1, size := 3000 }, .send { mid := 1, src := 1, tag := 1, size := 17 },
       .post { rid := 0, src := some 1, tag := some 1, size := 3000 }]
    ((mechRun { thresh := 256 } w).2.map fun (r, m) => (r.rid, m.mid)) = ((specRun {} w).2.map fun (r, m) => (r.rid, m.mid)) := by
  decide

/-- `smpi_refines_spec_partial`: one step from the empty state (nothing queued anywhere): mechanism and spec agree —
they both queue the event and match nothing — for every threshold and every size.  (The general refinement is false,
see above.) -/
theorem smpi_refines_spec_partial (thresh : Nat) (e : Event) :
    (mechStep { thresh := thresh } e).2 = (specStep {} e).2 := by
  cases e with
  | send m => simp only [mechStep, specStep, get_empty, takeFirst]
  | post r => simp only [mechStep, specStep, get_empty, takeFirst]

/-- **Refinement, all sizes on one side of the eager threshold — every history.**  If every message and every
receive buffer is `≥ thresh` (rendezvous side; includes `thresh = 0`, the default, where there is one mailbox) or every
one is `< thresh` (eager side), the mechanism makes exactly the matches of the MPI spec, in the same order, whatever
the interleaving of arrivals and posts and whatever the wildcards. -/
theorem smpi_refines_spec_one_side (thresh : Nat) (h : List Event)
    (hs : (∀ e ∈ h, thresh ≤ e.size) ∨ (∀ e ∈ h, e.size < thresh)) :
    (mechRun { thresh := thresh } h).2 = (specRun {} h).2 := by
  rcases hs with hs | hs
  · exact run_init .large thresh _ h (one_side_run .large thresh h
      (fun m hm st ht _ => sendMailbox_large _ _ (ht ▸ hs _ hm))
      (fun r hr st ht hemp => recvMailbox_large st r (ht ▸ hs _ hr) hemp))
  · exact run_init .small thresh _ h (one_side_run .small thresh h
      (fun m hm st ht hemp => sendMailbox_small _ _ (ht ▸ hs _ hm) hemp rfl)
      (fun r hr st ht hemp => recvMailbox_small st r (ht ▸ hs _ hr) hemp))

/-- **Refinement, messages of ANY size — every history.**  Sends sit in both mailboxes (eager ones in the small one,
rendezvous ones in the large one); if receive buffers are `≥ thresh` and all messages that a receive can match have the
same (src,tag), the `message_id_` test of `match_recv` makes the receive skip a younger eager message and take the
oldest one, wherever it is: same matches as the MPI spec. -/
theorem smpi_refines_spec_key_determined (thresh : Nat) (h : List Event) (hk : KeyDetermined h)
    (hbuf : ∀ r, Event.post r ∈ h → thresh ≤ r.size) :
    (mechRun { thresh := thresh } h).2 = (specRun {} h).2 := by
  by_cases h0 : thresh = 0
  · subst h0
    exact smpi_refines_spec_one_side 0 h (Or.inl fun _ _ => Nat.zero_le _)
  · exact run_init .large thresh _ h (kd_run thresh (by omega) h hk hbuf)

/-- corollary: one tag per source and receives that name their source (MPI_ANY_TAG allowed) — the general form of
`same_tag_witness_agrees` -/
theorem smpi_refines_spec_single_tag (thresh : Nat) (h : List Event)
    (htag : ∀ m1 m2, Event.send m1 ∈ h → Event.send m2 ∈ h → m1.src = m2.src → m1.tag = m2.tag)
    (hsrc : ∀ r, Event.post r ∈ h → r.src ≠ none) (hbuf : ∀ r, Event.post r ∈ h → thresh ≤ r.size) :
    (mechRun { thresh := thresh } h).2 = (specRun {} h).2 := by
  apply smpi_refines_spec_key_determined thresh h _ hbuf
  intro r m1 m2 hr h1 h2 c1 c2
  have hsrc12 : m1.src = m2.src := compat_src (hsrc r hr) c1 c2
  exact ⟨hsrc12, htag m1 m2 h1 h2 hsrc12⟩

/-- corollary: no wildcard receive (any number of tags per source, any message sizes) -/
theorem smpi_refines_spec_no_wildcard (thresh : Nat) (h : List Event)
    (hnw : ∀ r, Event.post r ∈ h → r.src ≠ none ∧ r.tag ≠ none) (hbuf : ∀ r, Event.post r ∈ h → thresh ≤ r.size) :
    (mechRun { thresh := thresh } h).2 = (specRun {} h).2 := by
  apply smpi_refines_spec_key_determined thresh h _ hbuf
  intro r m1 m2 hr _ _ c1 c2
  exact ⟨compat_src (hnw r hr).1 c1 c2, compat_tag (hnw r hr).2 c1 c2⟩

/-- the hypothesis `hbuf` of the three theorems above cannot be dropped: a receive whose buffer is below the threshold
waits in the small mailbox and never sees a rendezvous message (no wildcard, one tag): the spec matches them (and MPI
then reports MPI_ERR_TRUNCATE), the mechanism never does (finding 3 of NOTES.md; replayed on the library) -/
theorem smpi_refines_spec_small_buffer_counterexample :
    let w : List Event :=
      [.post { rid := 0, src := some 1, tag := some 1, size := 16 }, .send { mid := 0, src := 1, tag := 1, size := 3000 }]
    (mechRun { thresh := 256 } w).2.length = 0 ∧ ((specRun {} w).2.map fun (r, m) => (r.rid, m.mid)) = [(0, 0)] := by
  decide

example : (specStep (specRun {} [.send { mid := 0, src := 1, tag := 1, size := 8 },
    .send { mid := 1, src := 1, tag := 2, size := 8 }]).1 (.post { rid := 0, src := some 1, tag := none, size := 8 })).2
    = some ({ rid := 0, src := some 1, tag := none, size := 8 }, { mid := 0, src := 1, tag := 1, size := 8 }) := by
  decide

example : (specStep (specRun {} [.post { rid := 0, src := none, tag := some 2, size := 8 },
    .post { rid := 1, src := none, tag := none, size := 8 }]).1 (.send { mid := 0, src := 3, tag := 1, size := 8 })).2
    = some ({ rid := 1, src := none, tag := none, size := 8 }, { mid := 0, src := 3, tag := 1, size := 8 }) := by
  decide

/-- non-vacuity of `smpi_refines_spec_one_side`: 8 events on the rendezvous side with wildcards, queued receives and
queued sends; 4 matches -/
def hOneSide : List Event :=
  [.post { rid := 0, src := none, tag := some 2, size := 4096 }, .send { mid := 0, src := 1, tag := 1, size := 3000 },
   .send { mid := 1, src := 1, tag := 2, size := 3000 }, .send { mid := 2, src := 2, tag := 1, size := 5000 },
   .post { rid := 1, src := some 1, tag := none, size := 4096 }, .post { rid := 2, src := none, tag := none, size := 8192 },
   .post { rid := 3, src := some 2, tag := some 7, size := 8192 }, .send { mid := 3, src := 2, tag := 7, size := 3000 }]

example : (∀ e ∈ hOneSide, 256 ≤ e.size) ∧
    ((specRun {} hOneSide).2.map fun (r, m) => (r.rid, m.mid)) = [(0, 1), (1, 0), (2, 2), (3, 3)] := by
  decide

example : ((mechRun { thresh := 256 } hOneSide).2.map fun (r, m) => (r.rid, m.mid)) = [(0, 1), (1, 0), (2, 2), (3, 3)] := by
  decide

/-- non-vacuity of `smpi_refines_spec_single_tag` / `_key_determined`: threshold 256, messages of one tag per source on
BOTH sides of the threshold (sends queued in both mailboxes), ANY_TAG receives naming their source, large buffers -/
def hSingleTag : List Event :=
  [.send { mid := 0, src := 1, tag := 1, size := 3000 }, .send { mid := 1, src := 1, tag := 1, size := 17 },
   .send { mid := 2, src := 2, tag := 5, size := 17 }, .send { mid := 3, src := 1, tag := 1, size := 3000 },
   .post { rid := 0, src := some 1, tag := none, size := 4096 }, .post { rid := 1, src := some 1, tag := some 1, size := 4096 },
   .post { rid := 2, src := some 2, tag := none, size := 4096 }, .post { rid := 3, src := some 1, tag := none, size := 4096 },
   .post { rid := 4, src := some 2, tag := some 5, size := 4096 }, .send { mid := 4, src := 2, tag := 5, size := 3000 }]

example : (∀ m1 m2, Event.send m1 ∈ hSingleTag → Event.send m2 ∈ hSingleTag → m1.src = m2.src → m1.tag = m2.tag) ∧
    (∀ r, Event.post r ∈ hSingleTag → r.src ≠ none) ∧ (∀ r, Event.post r ∈ hSingleTag → 256 ≤ r.size) := by
  -- a concrete history: both facts are checked event by event
  have hsend : ∀ e ∈ hSingleTag, ∀ e' ∈ hSingleTag,
      (match e, e' with
        | .send m1, .send m2 => decide (m1.src = m2.src → m1.tag = m2.tag)
        | _, _ => true) = true := by decide
  have hpost : ∀ e ∈ hSingleTag,
      (match e with
        | .post r => decide (r.src ≠ none ∧ 256 ≤ r.size)
        | _ => true) = true := by decide
  exact ⟨fun m1 m2 h1 h2 => of_decide_eq_true (hsend _ h1 _ h2), fun r hr => (of_decide_eq_true (hpost _ hr)).1,
    fun r hr => (of_decide_eq_true (hpost _ hr)).2⟩

/-- on this history the mechanism really uses both mailboxes and the ids restore the order: 5 matches, as in the spec -/
example : ((mechRun { thresh := 256 } hSingleTag).2.map fun (r, m) => (r.rid, m.mid)) = [(0, 0), (1, 1), (2, 2), (3, 3), (4, 4)] ∧
    (mechRun { thresh := 256 } (hSingleTag.take 4)).1.small.sends.length = 2 ∧
    (mechRun { thresh := 256 } (hSingleTag.take 4)).1.large.sends.length = 2 := by
  decide

/-- non-vacuity of `smpi_refines_spec_no_wildcard`: two tags per source, sizes on both sides -/
def hNoWild : List Event :=
  [.send { mid := 0, src := 1, tag := 1, size := 3000 }, .send { mid := 1, src := 1, tag := 2, size := 17 },
   .send { mid := 2, src := 1, tag := 1, size := 17 }, .post { rid := 0, src := some 1, tag := some 1, size := 4096 },
   .post { rid := 1, src := some 1, tag := some 1, size := 4096 }, .post { rid := 2, src := some 1, tag := some 2, size := 4096 }]

example : (∀ r, Event.post r ∈ hNoWild → r.src ≠ none ∧ r.tag ≠ none) ∧ (∀ r, Event.post r ∈ hNoWild → 256 ≤ r.size) ∧
    ((mechRun { thresh := 256 } hNoWild).2.map fun (r, m) => (r.rid, m.mid)) = [(0, 0), (1, 2), (2, 1)] := by
  have hpost : ∀ e ∈ hNoWild,
      (match e with
        | .post r => decide ((r.src ≠ none ∧ r.tag ≠ none) ∧ 256 ≤ r.size)
        | _ => true) = true := by decide
  exact ⟨fun r hr => (of_decide_eq_true (hpost _ hr)).1, fun r hr => (of_decide_eq_true (hpost _ hr)).2, by decide⟩

end SgVerif.C28
