import SgVerif.C09.Lemmas
/-
C09 — Message queues are exactly-once and FIFO.  Property theorems.

Every theorem is for ALL histories `h : List Ev` of kernel calls (iput / iget / cancel / a later wait() or test() on a
finished exchange, any actors, any payloads, any length) on a message queue; `run h` is the state of the
`MessageQueueImpl` model after them.  A call is named by its index in `h`.  `pairs s` lists the completed exchanges as
(index of the iput call, index of the iget call) in completion order.  Timed waits (`wait_for`) do not appear: in the code a timeout only unregisters the waiting
simcall and leaves the `MessImpl` queued, so it is not a step of the queue (the driver checks that against the
library, including the D11 witness).
-/
namespace SgVerif.C09

/-- **Exactly once.**  No iput call is consumed twice, no iget call is served twice, and every completed exchange is
one iput call and one iget call of the history; the object carries exactly that put's payload, and when the getter
gave a buffer the payload written to it is that payload. -/
theorem mq_exactly_once (h : List Ev) :
    ((pairs (run h)).map Prod.fst).Nodup ∧ ((pairs (run h)).map Prod.snd).Nodup ∧
    ∀ pg ∈ pairs (run h), ∃ m ∈ (run h).fin, m.state = .done ∧ m.putEv = some pg.1 ∧ m.getEv = some pg.2 ∧
      ∃ a pl det b buf, h[pg.1]? = some (Ev.iput a pl det) ∧ h[pg.2]? = some (Ev.iget b buf) ∧
        m.src = some a ∧ m.dst = some b ∧ m.payload = some pl ∧ (buf = true → m.delivered = some pl) := by
  have hf := (inv_run h).pfifo
  refine ⟨?_, ?_, ?_⟩
  · rw [List.Nodup, List.pairwise_map]
    exact hf.imp (fun hab => by omega)
  · rw [List.Nodup, List.pairwise_map]
    exact hf.imp (fun hab => by omega)
  · intro pg hpg
    obtain ⟨m, hm, hd, hp, hg⟩ := mem_pairs.mp hpg
    have hok := (link_run h).f m hm
    obtain ⟨a, pl, det, h1, h2, h3⟩ := hok.put _ hp
    obtain ⟨b, buf, h4, h5, h6⟩ := hok.get _ hg
    refine ⟨m, hm, hd, hp, hg, a, pl, det, b, buf, h1, h4, h3, h5, h2, ?_⟩
    intro hb
    rw [← h2]
    exact (hok.cop ((hok.done hd).2.2.2 (h6.trans hb))).1

/-- every object that reached DONE has both ends (so `pairs` misses nothing), and nothing is ever written to a
getter's buffer except the payload of the put it was matched with -/
theorem mq_done_has_both_ends (h : List Ev) :
    ∀ m ∈ (run h).fin, (m.state = .done → ∃ p g, m.putEv = some p ∧ m.getEv = some g ∧ (p, g) ∈ pairs (run h)) ∧
      (m.delivered = none ∨ m.delivered = m.payload) := by
  intro m hm
  have hok := (link_run h).f m hm
  refine ⟨?_, hok.delivered⟩
  intro hd
  obtain ⟨h1, h2, _⟩ := hok.done hd
  obtain ⟨p, hp⟩ := Option.isSome_iff_exists.mp h1
  obtain ⟨g, hg⟩ := Option.isSome_iff_exists.mp h2
  exact ⟨p, g, hp, hg, mem_pairs.mpr ⟨m, hm, hd, hp, hg⟩⟩

/-- **FIFO.**  In completion order both the iput indices and the iget indices increase strictly: the k-th completed
exchange pairs a later put with a later get than the (k-1)-th — payloads are delivered in the order the puts were
issued, to the gets in the order they were issued. -/
theorem mq_fifo (h : List Ev) :
    (pairs (run h)).Pairwise (fun x y => x.1 < y.1 ∧ x.2 < y.2) := (inv_run h).pfifo

/-- **Nothing pending is overtaken.**  A put still queued is newer than every put already delivered, a get still
queued is newer than every get already served; and the queue is in arrival order. -/
theorem mq_no_overtake (h : List Ev) :
    (∀ m ∈ (run h).queue, ∀ pg ∈ pairs (run h),
      (m.type = .put → pg.1 < m.id) ∧ (m.type = .get → pg.2 < m.id)) ∧
    (run h).queue.Pairwise (fun x y => x.id < y.id) := ⟨(inv_run h).noover, (inv_run h).sorted⟩

/-- **No pending pair.**  A queued put and a queued get never coexist (a get is pending only when no put is, and
conversely), so a get that can be served is served. -/
theorem mq_no_pending_pair (h : List Ev) :
    ∀ m1 ∈ (run h).queue, ∀ m2 ∈ (run h).queue, m1.type = m2.type := (inv_run h).homog

/-- **A get takes the oldest pending put** (and symmetrically a put serves the oldest pending get): in every
reachable state, if some put is queued the new get is matched with the one of smallest id. -/
theorem iget_takes_oldest (h : List Ev) (a : Nat) (buf : Bool) (m : Mess) (hm : m ∈ (run h).queue)
    (ht : m.type = .put) :
    ∃ p ∈ (run h).queue, p.type = .put ∧ (iget (run h) a buf).2 = p.id ∧
      (∀ x ∈ (run h).queue, p.id ≤ x.id) ∧ p.putEv = some p.id ∧
      (p.id, (run h).next) ∈ pairs (iget (run h) a buf).1 := by
  have hi := inv_run h
  cases hf : findMatching .put (run h).queue with
  | none => exact absurd ht (of_decide_eq_false (isTakeFirst.none.mp hf m hm))
  | some pr =>
    obtain ⟨hq, hpm, hpt⟩ := findMatching_head hi hf
    have hpev := (hi.qput _ hpm hpt).1
    rw [iget_matched hf]
    exact ⟨pr.1, hpm, hpt, rfl, hi.head_le hq, hpev, mem_pairs_cons (pairOf_finish hpev rfl)⟩

theorem iput_serves_oldest (h : List Ev) (a pl : Nat) (det : Bool) (m : Mess) (hm : m ∈ (run h).queue)
    (ht : m.type = .get) :
    ∃ g ∈ (run h).queue, g.type = .get ∧ (iput (run h) a pl det).2 = g.id ∧
      (∀ x ∈ (run h).queue, g.id ≤ x.id) ∧ ((run h).next, g.id) ∈ pairs (iput (run h) a pl det).1 := by
  have hi := inv_run h
  cases hf : findMatching .get (run h).queue with
  | none => exact absurd ht (of_decide_eq_false (isTakeFirst.none.mp hf m hm))
  | some pr =>
    obtain ⟨hq, hgm, hgt⟩ := findMatching_head hi hf
    rw [iput_matched hf]
    exact ⟨pr.1, hgm, hgt, rfl, hi.head_le hq, mem_pairs_cons (pairOf_finish rfl (hi.qget _ hgm hgt).1)⟩

/-- **The payload is written into the getter's buffer once**, whatever the number of later `wait()/test()` calls of
either side on the finished exchange (`refinish` steps: `ActivityImpl::wait_for/test` run `MessImpl::finish()` again on an
object that is not WAITING/RUNNING any more).  This is what "every get returns the payload of exactly one put" needs at
the level of the buffer: the getter's buffer is a local variable of `MessageQueue::get<T>()`, dead once the get
returned.  Holds since `finish()` resets `dst_buff_` with the copy. -/
theorem mq_written_once (h : List Ev) : ∀ m ∈ (run h).fin, m.writes ≤ 1 :=
  fun m hm => ((link_run h).f m hm).writes_le

/-- a later `wait()/test()` on an exchange that already left the queue changes neither the queue nor any finished
object (in particular it writes nobody's buffer) -/
theorem mq_refinish_noop (h : List Ev) (id : Nat) :
    (refinish (run h) id).fin = (run h).fin ∧ (refinish (run h) id).queue = (run h).queue :=
  ⟨refinish_fin (link_run h).f id, rfl⟩

/-- a queued (unmatched) object has not been copied to: nothing is written before the exchange is matched -/
theorem mq_queued_unwritten (h : List Ev) : ∀ m ∈ (run h).queue, m.writes = 0 ∧ m.delivered = none :=
  fun m hm => (((link_run h).q m hm).1.ncop ((link_run h).q m hm).2).symm

/-- **Regression (pre-fix code).**  Before `finish()` reset `dst_buff_` (`runPre`: the same calls with
`Mess.refinishPre`), `mq_written_once` was false: a get with a buffer is queued, a put is matched with it (first write),
then the putter waits on its already-DONE put and `finish()` writes the getter's buffer a second time — reproduced on the
library (stack of the getter overwritten -> segmentation fault; heap buffer refilled), key
`mess-finish-recopies-payload` (fixed).  On the fixed model the same history writes once. -/
theorem mq_written_once_prefix_regression :
    (∃ m ∈ (runPre [.iget 1 true, .iput 2 70 false, .refinish 0]).fin, m.state = .done ∧ m.writes = 2) ∧
    ((run [.iget 1 true, .iput 2 70 false, .refinish 0]).fin.map (·.writes)) = [1] := by decide

/-- two puts then two gets: delivered in order, payloads 70 then 71 -/
example : pairs (run [.iput 1 70 false, .iput 1 71 false, .iget 2 true, .iget 3 true]) = [(0, 2), (1, 3)] ∧
    ((run [.iput 1 70 false, .iput 1 71 false, .iget 2 true, .iget 3 true]).fin.map (·.delivered))
      = [some 71, some 70] := by decide

/-- gets first (one of them cancelled while queued), then puts: the cancelled get is never served -/
example : pairs (run [.iget 2 true, .iget 3 true, .cancel 0, .iput 1 70 true, .iput 1 71 false]) = [(3, 1)] ∧
    ((run [.iget 2 true, .iget 3 true, .cancel 0, .iput 1 70 true, .iput 1 71 false]).queue.map (·.id)) = [4] := by
  decide

/-- `mq_written_once` is not vacuous: the buffer is written (once), also with later wait()/test() calls of both sides -/
example : ((run [.iget 1 true, .iput 2 70 false, .refinish 0, .refinish 0, .iput 2 71 false, .iget 1 true, .refinish 2]).fin.map
    (fun m => (m.writes, m.delivered))) = [(1, some 71), (1, some 70)] := by decide

/-- hypotheses of `iget_takes_oldest` are satisfiable -/
example : ∃ m ∈ (run [.iput 1 70 false, .iput 4 71 true]).queue, m.type = .put := by decide

end SgVerif.C09
