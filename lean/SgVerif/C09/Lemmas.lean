import SgVerif.C09.Model
import SgVerif.Common.Snoc
import SgVerif.Common.List
/-
C09 — the invariant of one message queue (`Inv`), and `Link`: every object is what the calls of the history made of it.
-/
namespace SgVerif.C09

theorem isTakeFirst {t : MType} : IsTakeFirst (fun m => decide (m.type = t)) (findMatching t) :=
  ⟨rfl, fun x xs => by
    rw [findMatching]
    by_cases h : x.type = t
    · rw [if_pos h, if_pos (decide_eq_true h)]
    · rw [if_neg h, if_neg (by simpa using h)]; cases findMatching t xs <;> rfl⟩

section
variable {s : MQ} {a pl : Nat} {det buf : Bool}

theorem iput_queued (hf : findMatching .get s.queue = none) :
    iput s a pl det =
      ({ next := s.next + 1
         queue := s.queue ++ [{ id := s.next, type := .put, src := some a, payload := some pl, detached := det,
                                putEv := some s.next }]
         fin := s.fin }, s.next) := by
  simp only [iput, hf]

theorem iput_matched {g : Mess} {rest : List Mess}
    (hf : findMatching .get s.queue = some (g, rest)) :
    iput s a pl det =
      ({ next := s.next + 1
         queue := rest
         fin := ({ g with src := some a, payload := some pl, detached := g.detached || det,
                          putEv := some s.next }).finish :: s.fin }, g.id) := by
  simp only [iput, hf]

theorem iget_queued (hf : findMatching .put s.queue = none) :
    iget s a buf =
      ({ next := s.next + 1
         queue := s.queue ++ [{ id := s.next, type := .get, dst := some a, hasBuf := buf, getEv := some s.next }]
         fin := s.fin }, s.next) := by
  simp only [iget, hf]

theorem iget_matched {p : Mess} {rest : List Mess}
    (hf : findMatching .put s.queue = some (p, rest)) :
    iget s a buf =
      ({ next := s.next + 1
         queue := rest
         fin := ({ p with dst := some a, hasBuf := buf, getEv := some s.next }).finish :: s.fin }, p.id) := by
  simp only [iget, hf]

theorem cancel_queued {id : Nat} {m : Mess} (hf : s.queue.find? (fun m => m.id == id) = some m) :
    cancel s id = { next := s.next + 1
                    queue := s.queue.eraseP (fun m => m.id == id)
                    fin := { m with state := .canceled } :: s.fin } := by
  simp only [cancel, hf]

theorem cancel_other {id : Nat} (hf : s.queue.find? (fun m => m.id == id) = none) :
    cancel s id = { s with next := s.next + 1 } := by
  simp only [cancel, hf]

end

theorem finish_eq (m : Mess) :
    m.finish = { m with state := .done, delivered := m.finish.delivered, writes := m.finish.writes,
                        copied := m.finish.copied } := by
  unfold Mess.finish
  simp only []
  split <;> rfl

theorem pairOf_eq_some {m : Mess} {pg : Nat × Nat} :
    pairOf m = some pg ↔ m.state = .done ∧ m.putEv = some pg.1 ∧ m.getEv = some pg.2 := by
  unfold pairOf
  split
  · rename_i hd
    split
    · rename_i hp hg
      simp only [Option.some.injEq, Prod.ext_iff, hd, hp, hg, true_and]
    · rename_i hno
      exact iff_of_false nofun fun ⟨_, hp, hg⟩ => hno _ _ hp hg
  · rename_i hd
    exact iff_of_false nofun fun h => hd h.1

theorem mem_pairs {s : MQ} {pg : Nat × Nat} :
    pg ∈ pairs s ↔ ∃ m ∈ s.fin, m.state = .done ∧ m.putEv = some pg.1 ∧ m.getEv = some pg.2 := by
  simp only [pairs, List.mem_filterMap, List.mem_reverse, pairOf_eq_some]

theorem pairs_cons (n : Nat) (q : List Mess) (m : Mess) (f : List Mess) :
    pairs { next := n, queue := q, fin := m :: f } =
      pairs { next := n, queue := q, fin := f } ++ (pairOf m).toList := by
  unfold pairs
  simp only [List.reverse_cons, List.filterMap_append]
  cases h : pairOf m <;> simp [h]

theorem mem_pairs_cons {n : Nat} {q f : List Mess} {m : Mess} {pg : Nat × Nat} (h : pairOf m = some pg) :
    pg ∈ pairs { next := n, queue := q, fin := m :: f } := by
  rw [pairs_cons, h]
  exact List.mem_append_right _ (List.mem_singleton_self _)

theorem pairs_indep (n n' : Nat) (q q' : List Mess) (f : List Mess) :
    pairs { next := n, queue := q, fin := f } = pairs { next := n', queue := q', fin := f } := rfl

theorem pairOf_finish {m : Mess} {p g : Nat} (hp : m.putEv = some p) (hg : m.getEv = some g) :
    pairOf m.finish = some (p, g) := by
  rw [finish_eq]
  exact pairOf_eq_some.mpr ⟨rfl, hp, hg⟩

/-- the queue holds WAITING objects of ONE type in arrival order (`homog`: hence `findMatching` always takes the head,
`findMatching_head`, and FIFO is immediate); the completed pairs are older than everything queued (`noover`) -/
structure Inv (s : MQ) : Prop where
  qid : ∀ m ∈ s.queue, m.id < s.next
  qstate : ∀ m ∈ s.queue, m.state = .waiting
  qput : ∀ m ∈ s.queue, m.type = .put → m.putEv = some m.id ∧ m.getEv = none
  qget : ∀ m ∈ s.queue, m.type = .get → m.getEv = some m.id ∧ m.putEv = none
  sorted : s.queue.Pairwise (fun x y => x.id < y.id)
  homog : ∀ m1 ∈ s.queue, ∀ m2 ∈ s.queue, m1.type = m2.type
  plt : ∀ pg ∈ pairs s, pg.1 < s.next ∧ pg.2 < s.next
  pfifo : (pairs s).Pairwise (fun x y => x.1 < y.1 ∧ x.2 < y.2)
  noover : ∀ m ∈ s.queue, ∀ pg ∈ pairs s, (m.type = .put → pg.1 < m.id) ∧ (m.type = .get → pg.2 < m.id)

section
variable {s : MQ} {m : Mess} {rest : List Mess}

theorem findMatching_head {t : MType} (hi : Inv s)
    (h : findMatching t s.queue = some (m, rest)) : s.queue = m :: rest ∧ m ∈ s.queue ∧ m.type = t := by
  obtain ⟨pre, post, e1, e2, e3, e4⟩ := isTakeFirst.some h
  have e3 := of_decide_eq_true e3
  cases pre with
  | nil => exact ⟨e2 ▸ e1, e1 ▸ List.mem_cons_self .., e3⟩
  | cons x xs =>
    have := hi.homog x (e1 ▸ List.mem_cons_self ..) m (e1 ▸ List.mem_append_right _ (List.mem_cons_self ..))
    exact absurd (this.trans e3) (of_decide_eq_false (e4 x (List.mem_cons_self ..)))

theorem Inv.head_le (hi : Inv s) (hq : s.queue = m :: rest) :
    ∀ x ∈ s.queue, m.id ≤ x.id := by
  have hs := hq ▸ hi.sorted
  rw [hq]
  exact List.forall_mem_cons.mpr ⟨Nat.le_refl _, fun x hx => Nat.le_of_lt (List.rel_of_pairwise_cons hs hx)⟩

theorem Inv.shrink {s s' : MQ} (hi : Inv s) (hn : s'.next = s.next + 1) (hq : s'.queue.Sublist s.queue)
    (hp : pairs s' = pairs s) : Inv s' where
  qid m hm := hn ▸ Nat.lt_succ_of_lt (hi.qid m (hq.subset hm))
  qstate m hm := hi.qstate m (hq.subset hm)
  qput m hm := hi.qput m (hq.subset hm)
  qget m hm := hi.qget m (hq.subset hm)
  sorted := hi.sorted.sublist hq
  homog a ha b hb := hi.homog a (hq.subset ha) b (hq.subset hb)
  plt pg hpg := hn ▸ ⟨Nat.lt_succ_of_lt (hi.plt pg (hp ▸ hpg)).1, Nat.lt_succ_of_lt (hi.plt pg (hp ▸ hpg)).2⟩
  pfifo := hp ▸ hi.pfifo
  noover m hm pg hpg := hi.noover m (hq.subset hm) pg (hp ▸ hpg)

theorem Inv.push (hi : Inv s) (hid : m.id = s.next) (hst : m.state = .waiting)
    (hty : ∀ x ∈ s.queue, x.type = m.type)
    (hp : m.type = .put → m.putEv = some m.id ∧ m.getEv = none)
    (hg : m.type = .get → m.getEv = some m.id ∧ m.putEv = none) :
    Inv { next := s.next + 1, queue := s.queue ++ [m], fin := s.fin } where
  qid := forall_mem_snoc (fun x hx => Nat.lt_succ_of_lt (hi.qid x hx)) (hid ▸ Nat.lt_succ_self _)
  qstate := forall_mem_snoc hi.qstate hst
  qput := forall_mem_snoc hi.qput hp
  qget := forall_mem_snoc hi.qget hg
  sorted := pairwise_snoc hi.sorted (fun x hx => hid ▸ hi.qid x hx)
  homog := forall_mem_snoc (fun x hx => forall_mem_snoc (hi.homog x hx) (hty x hx))
    (forall_mem_snoc (fun y hy => (hty y hy).symm) rfl)
  plt pg hpg := ⟨Nat.lt_succ_of_lt (hi.plt pg hpg).1, Nat.lt_succ_of_lt (hi.plt pg hpg).2⟩
  pfifo := hi.pfifo
  noover := forall_mem_snoc hi.noover
    (fun pg hpg => ⟨fun _ => hid ▸ (hi.plt pg hpg).1, fun _ => hid ▸ (hi.plt pg hpg).2⟩)

/-- the head `m` of the queue is matched by the call number `next`: the exchange `pg` made of the two call numbers is
completed -/
theorem Inv.take (hi : Inv s) {m' : Mess} (hq : s.queue = m :: rest) {pg : Nat × Nat}
    (hm' : pairOf m' = some pg)
    (hpg : (m.type = .put ∧ pg = (m.id, s.next)) ∨ (m.type = .get ∧ pg = (s.next, m.id))) :
    Inv { next := s.next + 1, queue := rest, fin := m' :: s.fin } := by
  have hsub : ∀ x ∈ rest, x ∈ s.queue := fun x hx => hq ▸ List.mem_cons_of_mem _ hx
  have hmq : m ∈ s.queue := hq ▸ List.mem_cons_self ..
  have hsorted := hq ▸ hi.sorted
  have hpairs : pairs { next := s.next + 1, queue := rest, fin := m' :: s.fin } = pairs s ++ [pg] := by
    rw [pairs_cons, hm']; rfl
  have hlt := hi.qid m hmq
  refine ⟨fun x hx => Nat.lt_succ_of_lt (hi.qid x (hsub x hx)), fun x hx => hi.qstate x (hsub x hx),
    fun x hx => hi.qput x (hsub x hx), fun x hx => hi.qget x (hsub x hx), (List.pairwise_cons.mp hsorted).2,
    fun x hx y hy => hi.homog x (hsub x hx) y (hsub y hy), ?_, ?_, ?_⟩
  · rw [hpairs]
    refine forall_mem_snoc (fun o ho => ⟨Nat.lt_succ_of_lt (hi.plt o ho).1, Nat.lt_succ_of_lt (hi.plt o ho).2⟩) ?_
    rcases hpg with ⟨_, rfl⟩ | ⟨_, rfl⟩
    · exact ⟨Nat.lt_succ_of_lt hlt, Nat.lt_succ_self _⟩
    · exact ⟨Nat.lt_succ_self _, Nat.lt_succ_of_lt hlt⟩
  · rw [hpairs]
    refine pairwise_snoc hi.pfifo (fun o ho => ?_)
    rcases hpg with ⟨ht, rfl⟩ | ⟨ht, rfl⟩
    · exact ⟨(hi.noover m hmq o ho).1 ht, (hi.plt o ho).2⟩
    · exact ⟨(hi.plt o ho).1, (hi.noover m hmq o ho).2 ht⟩
  · intro x hx
    rw [hpairs]
    refine forall_mem_snoc (hi.noover x (hsub x hx)) ?_
    have hxt := hi.homog x (hsub x hx) m hmq
    have hlt := List.rel_of_pairwise_cons hsorted hx
    rcases hpg with ⟨ht, rfl⟩ | ⟨ht, rfl⟩
    · exact ⟨fun _ => hlt, fun h => absurd (h.symm.trans (hxt.trans ht)) nofun⟩
    · exact ⟨fun h => absurd (h.symm.trans (hxt.trans ht)) nofun, fun _ => hlt⟩

theorem type_cases (m : Mess) : m.type = .put ∨ m.type = .get := by
  cases m.type
  · exact .inl rfl
  · exact .inr rfl

theorem pairOf_refinish (m : Mess) : pairOf m.refinish = pairOf m := by
  unfold Mess.refinish
  split <;> rfl

theorem pairs_refinish (s : MQ) (id : Nat) : pairs (refinish s id) = pairs s := by
  unfold pairs refinish
  simp only [← List.map_reverse, List.filterMap_map]
  congr 1
  funext m
  simp only [Function.comp]
  split
  · exact pairOf_refinish m
  · rfl

end

/-- `writes` is 1 exactly when `dst_buff_` was reset after the copy; a DONE object has both ends, and if the getter gave
a buffer it has been copied to (so `finish()` running again finds `dst_buff_ == nullptr`) -/
structure MOk (h : List Ev) (m : Mess) : Prop where
  put : ∀ p, m.putEv = some p → ∃ a pl det, h[p]? = some (Ev.iput a pl det) ∧ m.payload = some pl ∧ m.src = some a
  get : ∀ g, m.getEv = some g → ∃ a buf, h[g]? = some (Ev.iget a buf) ∧ m.dst = some a ∧ m.hasBuf = buf
  cop : m.copied = true → m.delivered = m.payload ∧ m.writes = 1
  ncop : m.copied = false → m.delivered = none ∧ m.writes = 0
  done : m.state = .done →
    m.putEv.isSome = true ∧ m.getEv.isSome = true ∧ m.payload.isSome = true ∧ (m.hasBuf = true → m.copied = true)

section
variable {h : List Ev} {m : Mess}

theorem MOk.lift (e : Ev) (hm : MOk h m) : MOk (h ++ [e]) m := by
  refine ⟨?_, ?_, hm.cop, hm.ncop, hm.done⟩
  · intro p hp
    obtain ⟨a, pl, det, h1, h2⟩ := hm.put p hp
    exact ⟨a, pl, det, getElem?_snoc_of_some h1, h2⟩
  · intro g hg
    obtain ⟨a, buf, h1, h2⟩ := hm.get g hg
    exact ⟨a, buf, getElem?_snoc_of_some h1, h2⟩

theorem MOk.blank (h : List Ev) (n : Nat) (t : MType) : MOk h { id := n, type := t } :=
  ⟨nofun, nofun, nofun, fun _ => ⟨rfl, rfl⟩, nofun⟩

theorem MOk.iput (hm : MOk h m) (hc : m.copied = false) (hst : m.state = .waiting)
    {n a pl : Nat} {det : Bool} (hn : h[n]? = some (Ev.iput a pl det)) (dt : Bool) :
    MOk h { m with src := some a, payload := some pl, detached := dt, putEv := some n } :=
  ⟨fun _ hp => Option.some.inj hp ▸ ⟨a, pl, det, hn, rfl, rfl⟩, hm.get, fun h1 => absurd (hc.symm.trans h1) nofun,
   fun _ => hm.ncop hc, fun h1 => absurd (hst.symm.trans h1) nofun⟩

theorem MOk.iget (hm : MOk h m) (hst : m.state = .waiting)
    {n a : Nat} {buf : Bool} (hn : h[n]? = some (Ev.iget a buf)) :
    MOk h { m with dst := some a, hasBuf := buf, getEv := some n } :=
  ⟨hm.put, fun _ hg => Option.some.inj hg ▸ ⟨a, buf, hn, rfl, rfl⟩, hm.cop, hm.ncop,
   fun h1 => absurd (hst.symm.trans h1) nofun⟩

theorem MOk.cancel (hm : MOk h m) : MOk h { m with state := .canceled } :=
  ⟨hm.put, hm.get, hm.cop, hm.ncop, nofun⟩

theorem MOk.finish (hm : MOk h m) (hc : m.copied = false) (hp : m.putEv.isSome = true)
    (hg : m.getEv.isSome = true) (hpl : m.payload.isSome = true) : MOk h m.finish := by
  unfold Mess.finish
  simp only []
  split
  · exact ⟨hm.put, hm.get, fun _ => ⟨rfl, congrArg (· + 1) (hm.ncop hc).2⟩, nofun,
      fun _ => ⟨hp, hg, hpl, fun _ => rfl⟩⟩
  · rename_i hb
    refine ⟨hm.put, hm.get, hm.cop, hm.ncop, fun _ => ⟨hp, hg, hpl, fun hbuf => ?_⟩⟩
    exact absurd (by rw [hpl, hc, show m.hasBuf = true from hbuf]; rfl) hb

theorem MOk.refinish_eq (hm : MOk h m) : m.refinish = m := by
  unfold Mess.refinish
  split
  · rename_i hb
    simp only [Bool.and_eq_true, decide_eq_true_eq, Bool.not_eq_true'] at hb
    exact absurd ((hm.done hb.1.1.1).2.2.2 hb.1.2) (by rw [hb.2]; nofun)
  · rfl

theorem MOk.writes_le (hm : MOk h m) : m.writes ≤ 1 := by
  cases hc : m.copied with
  | false => exact (hm.ncop hc).2 ▸ Nat.zero_le 1
  | true => exact Nat.le_of_eq (hm.cop hc).2

theorem MOk.delivered (hm : MOk h m) : m.delivered = none ∨ m.delivered = m.payload := by
  cases hc : m.copied with
  | false => exact .inl (hm.ncop hc).1
  | true => exact .inr (hm.cop hc).1

end

/-- what holds of the queue reached by the calls `h`: the invariant, `next` counts the calls, every object is tied to the
calls that filled it in, and nothing was copied yet to an object still queued -/
structure Link (h : List Ev) (s : MQ) : Prop where
  inv : Inv s
  len : s.next = h.length
  q : ∀ m ∈ s.queue, MOk h m ∧ m.copied = false
  f : ∀ m ∈ s.fin, MOk h m

theorem refinish_fin {h : List Ev} {s : MQ} (hf : ∀ m ∈ s.fin, MOk h m) (id : Nat) : (refinish s id).fin = s.fin := by
  show s.fin.map _ = s.fin
  conv => rhs; rw [← List.map_id s.fin]
  refine List.map_congr_left (fun m hm => ?_)
  split
  · exact (hf m hm).refinish_eq
  · rfl

theorem link_step {h : List Ev} {s : MQ} (e : Ev) (hl : Link h s) : Link (h ++ [e]) (step s e) := by
  have hi := hl.inv
  have hlen : s.next + 1 = (h ++ [e]).length := by rw [List.length_append, hl.len]; rfl
  have hnew : (h ++ [e])[s.next]? = some e := by rw [hl.len]; exact List.getElem?_concat_length
  have hq : ∀ m ∈ s.queue, MOk (h ++ [e]) m ∧ m.copied = false := fun m hm => ⟨(hl.q m hm).1.lift e, (hl.q m hm).2⟩
  have hf : ∀ m ∈ s.fin, MOk (h ++ [e]) m := fun m hm => (hl.f m hm).lift e
  cases e with
  | iput a pl det =>
    show Link _ (iput s a pl det).1
    cases hfm : findMatching .get s.queue with
    | none =>
      rw [iput_queued hfm]
      exact ⟨hi.push rfl rfl (fun x hx => (type_cases x).resolve_right (of_decide_eq_false (isTakeFirst.none.mp hfm x hx)))
          (fun _ => ⟨rfl, rfl⟩) nofun,
        hlen, forall_mem_snoc hq ⟨(MOk.blank _ _ _).iput rfl rfl hnew _, rfl⟩, hf⟩
    | some m =>
      obtain ⟨hqe, hmq, ht⟩ := findMatching_head hi hfm
      have hm := hq m.1 hmq
      have hg := (hi.qget _ hmq ht).1
      rw [iput_matched hfm]
      refine ⟨hi.take hqe (pairOf_finish rfl hg) (.inr ⟨ht, rfl⟩), hlen,
        fun x hx => hq x (hqe ▸ List.mem_cons_of_mem _ hx), List.forall_mem_cons.mpr ⟨?_, hf⟩⟩
      exact (hm.1.iput hm.2 (hi.qstate _ hmq) hnew _).finish hm.2 rfl (hg ▸ rfl) rfl
  | iget a buf =>
    show Link _ (iget s a buf).1
    cases hfm : findMatching .put s.queue with
    | none =>
      rw [iget_queued hfm]
      exact ⟨hi.push rfl rfl (fun x hx => (type_cases x).resolve_left (of_decide_eq_false (isTakeFirst.none.mp hfm x hx))) nofun
          (fun _ => ⟨rfl, rfl⟩),
        hlen, forall_mem_snoc hq ⟨(MOk.blank _ _ _).iget rfl hnew, rfl⟩, hf⟩
    | some m =>
      obtain ⟨hqe, hmq, ht⟩ := findMatching_head hi hfm
      have hm := hq m.1 hmq
      have hp := (hi.qput _ hmq ht).1
      obtain ⟨_, pl, _, _, hpl, _⟩ := hm.1.put _ hp
      rw [iget_matched hfm]
      refine ⟨hi.take hqe (pairOf_finish hp rfl) (.inl ⟨ht, rfl⟩), hlen,
        fun x hx => hq x (hqe ▸ List.mem_cons_of_mem _ hx), List.forall_mem_cons.mpr ⟨?_, hf⟩⟩
      exact (hm.1.iget (hi.qstate _ hmq) hnew).finish hm.2 (hp ▸ rfl) rfl (hpl ▸ rfl)
  | cancel id =>
    show Link _ (cancel s id)
    cases hfm : s.queue.find? (fun m => m.id == id) with
    | none => rw [cancel_other hfm]; exact ⟨hi.shrink rfl (.refl _) rfl, hlen, hq, hf⟩
    | some m =>
      rw [cancel_queued hfm]
      exact ⟨hi.shrink rfl List.eraseP_sublist (by rw [pairs_cons]; exact List.append_nil _), hlen,
        fun x hx => hq x (List.mem_of_mem_eraseP hx),
        List.forall_mem_cons.mpr ⟨(hq m (List.mem_of_find?_eq_some hfm)).1.cancel, hf⟩⟩
  | refinish id =>
    exact ⟨hi.shrink rfl (.refl _) (pairs_refinish s id), hlen, hq, (refinish_fin hf id).symm ▸ hf⟩

theorem link_run (h : List Ev) : Link h (run h) := by
  have h0 : Link [] {} :=
    ⟨⟨List.forall_mem_nil _, List.forall_mem_nil _, List.forall_mem_nil _, List.forall_mem_nil _, .nil,
      List.forall_mem_nil _, List.forall_mem_nil _, .nil, List.forall_mem_nil _⟩, rfl, List.forall_mem_nil _,
      List.forall_mem_nil _⟩
  exact foldl_snoc link_step h h0

theorem inv_run (h : List Ev) : Inv (run h) := (link_run h).inv

theorem run_snoc (h : List Ev) (e : Ev) : run (h ++ [e]) = step (run h) e := by
  simp [run, List.foldl_append]

end SgVerif.C09
