import SgVerif.C10.Finish
/-
C10: `cancel`, `ActorImpl::exit`, `kill`, the phases of `Host::turn_off`, `Link::turn_off`, `handle_ended_actions`:
which relations between the state before and the state after they respect (`Simp a`, the one of the functions that
neither answer nor unregister, is defined here); `Host::turn_off` kills every live actor of the host.
-/
namespace SgVerif.C10

/-- `Simp` for "simple" (nothing to do with `simp`): what a function that neither answers nor unregisters anybody does,
seen from actor `a` (only `core` depends on `a`) -/
structure Simp (a : Nat) (t t' : St) : Prop where
  ext : Ext t t'
  core : coreOf t' a = coreOf t a
  simc : ∀ j, (t'.acts j).simcalls = (t.acts j).simcalls
  stat : ∀ j, StatLe (t.acts j) (t'.acts j)
  fq : ∀ j, j ∈ t.failedQ → j ∈ t'.failedQ

theorem Simp.refl (a : Nat) (t : St) : Simp a t t := ⟨Ext.refl t, rfl, fun _ => rfl, fun _ => StatLe.refl _, fun _ h => h⟩
theorem Simp.trans {a : Nat} {t t1 t2 : St} (h1 : Simp a t t1) (h2 : Simp a t1 t2) : Simp a t t2 :=
  ⟨h1.ext.trans h2.ext, by rw [h2.core, h1.core], fun j => by rw [h2.simc, h1.simc],
   fun j => (h1.stat j).trans (h2.stat j), fun j h => h2.fq j (h1.fq j h)⟩
theorem Simp.pre (a : Nat) : Pre (Simp a) := ⟨Simp.refl a, Simp.trans⟩

theorem Simp.wd {a : Nat} {t t' : St} (h : Simp a t t') : (t'.actors a).wannadie = (t.actors a).wannadie :=
  wannadie_of_core h.core

theorem simp_setAct (a : Nat) (t : St) (k : Nat) (f : Activity → Activity) (hs : ∀ x, (f x).simcalls = x.simcalls)
    (hf : StatLe (t.acts k) (f (t.acts k))) (t' : St) (he : Ext t t') (hc : t'.actors = t.actors)
    (ha : t'.acts = (t.setAct k f).acts) (hq : ∀ j, j ∈ t.failedQ → j ∈ t'.failedQ) : Simp a t t' := by
  refine ⟨he, by unfold coreOf; rw [hc, he.hostOn], fun j => by rw [ha]; exact setAct_proj Activity.simcalls t k f hs j,
    fun j => ?_, hq⟩
  rw [ha]
  by_cases hj : j = k
  · subst hj; exact (setAct_acts_same t j f).symm ▸ hf
  · exact (setAct_acts_ne t k j f hj).symm ▸ StatLe.refl _

theorem simp_setAct_state (a : Nat) (t : St) (k : Nat) (st : AState) :
    Simp a t (t.setAct k (fun x => { x with state := st })) :=
  simp_setAct a t k (fun x => { x with state := st }) (fun _ => rfl) (.of_eq rfl) _ (ext_setAct t k _) rfl rfl
    (fun _ h => h)

theorem simp_setActor (a : Nat) (t : St) (b : Nat) (f : Actor → Actor)
    (hf : a = b → (f (t.actors b)).blocked = (t.actors b).blocked ∧ (f (t.actors b)).host = (t.actors b).host ∧
      (f (t.actors b)).wannadie = (t.actors b).wannadie) : Simp a t (t.setActor b f) :=
  ⟨ext_setActor t b f, coreOf_setActor t b a f hf, fun _ => rfl, fun _ => StatLe.refl _, fun _ h => h⟩

theorem simp_eraseActivity (a : Nat) (t : St) (o : Option Nat) (k : Nat) : Simp a t (eraseActivity t o k) := by
  cases o with
  | none => exact Simp.refl a t
  | some b => exact simp_setActor a t b (fun x => { x with activities := x.activities.erase k }) (fun _ => ⟨rfl, rfl, rfl⟩)

theorem simp_crash (a : Nat) (t : St) : Simp a t t.crash :=
  ⟨ext_crash t, rfl, fun _ => rfl, fun _ => StatLe.refl _, fun _ h => h⟩

theorem simp_emit (a : Nat) (t : St) (o : Obs) : Simp a t (t.emit o) :=
  ⟨ext_emit t o, rfl, fun _ => rfl, fun _ => StatLe.refl _, fun _ h => h⟩

theorem simp_failAction (a : Nat) (t : St) (k : Nat) : Simp a t (failAction t k) := by
  unfold failAction
  split
  · rename_i hst
    exact simp_setAct a t k (fun x => { x with action := some .failed }) (fun _ => rfl)
      ⟨rfl, rfl, rfl, rfl, Or.inr ⟨hst, rfl⟩⟩ _ (.of_eq rfl rfl rfl) rfl rfl (fun _ h => List.mem_append_left _ h)
  · exact Simp.refl a t

theorem simp_mboxRemove (a : Nat) (t : St) (k : Nat) : Simp a t (mboxRemove t k) := by
  unfold mboxRemove
  split
  · exact Simp.refl a t
  · exact simp_setAct a t k (fun x => { x with mbox := none }) (fun _ => rfl) (.of_eq rfl) _
      (.of_eq rfl rfl rfl) rfl rfl (fun _ h => h)

theorem failAction_acts_ne (t : St) (k j : Nat) (h : j ≠ k) : (failAction t k).acts j = t.acts j := by
  unfold failAction; split
  · exact setAct_acts_ne t k j (fun x => { x with action := some .failed }) h
  · rfl

theorem failAction_actors (t : St) (k : Nat) : (failAction t k).actors = t.actors := by
  unfold failAction; split <;> rfl

theorem mboxRemove_acts_ne (t : St) (k j : Nat) (h : j ≠ k) : (mboxRemove t k).acts j = t.acts j := by
  unfold mboxRemove; split
  · rfl
  · exact setAct_acts_ne t k j (fun x => { x with mbox := none }) h

theorem mboxRemove_actors (t : St) (k : Nat) : (mboxRemove t k).actors = t.actors := by
  unfold mboxRemove; split <;> rfl

theorem Alone.of_simp {a k : Nat} {t t' : St} (hs : Simp a t t') (hk : t'.acts k = t.acts k) (ha : t'.actors = t.actors) :
    Alone a k t t' :=
  .of_acts hs.core hs.ext.hostOn hk (hs.fq k) (fun b h => by rw [ha]; exact h)

theorem cancel_rel {R : St → St → Prop} (hR : Pre R) (k : Nat) (erase : ∀ u o, R u (eraseActivity u o k))
    (mbox : ∀ u, R u (mboxRemove u k)) (state : ∀ u st, R u (u.setAct k (fun x => { x with state := st })))
    (crash : ∀ u, R u u.crash) (fail : ∀ u, R u (failAction u k)) (t : St) : R t (cancel t k) := by
  unfold cancel
  extract_lets +onlyGivenNames c
  -- by cases on the kind itself: `split` would derive the equations of the `match`, which is dear
  cases c.kind
  case comm =>
    refine hR.trans (hR.trans ?_ (erase _ _)) (erase _ _)
    exact ite_pred (R t) (hR.ite (hR.trans (mbox t) (state _ _))) (hR.ite (ite_pred (R t) (crash t) (fail t)))
  all_goals exact hR.trans (hR.trans (hR.ite (fail t)) (state _ _)) (erase _ _)

theorem simp_cancel (a : Nat) (t : St) (k : Nat) : Simp a t (cancel t k) :=
  cancel_rel (Simp.pre a) k (fun u o => simp_eraseActivity a u o k) (fun u => simp_mboxRemove a u k)
    (fun u st => simp_setAct_state a u k st) (simp_crash a) (fun u => simp_failAction a u k) t

theorem alone_cancel (a : Nat) {k k0 : Nat} (hk : k ≠ k0) (t : St) : Alone a k t (cancel t k0) :=
  cancel_rel (Alone.pre a k) k0 (alone_eraseActivity a hk)
    (fun u => .of_simp (simp_mboxRemove a u k0) (mboxRemove_acts_ne u k0 k hk) (mboxRemove_actors u k0))
    (fun u _ => alone_setAct a hk u _) (fun _ => .of_acts rfl rfl rfl id (fun _ => id))
    (fun u => .of_simp (simp_failAction a u k0) (failAction_acts_ne u k0 k hk) (failAction_actors u k0)) t

-- any actor will do: `ext` does not depend on it
theorem ext_cancel (t : St) (k : Nat) : Ext t (cancel t k) := (simp_cancel 0 t k).ext

theorem mono_cancel (t : St) (k : Nat) : Mono t (cancel t k) :=
  cancel_rel Mono.pre k (fun u o => mono_eraseActivity u o k) (fun u => mono_mboxRemove u k)
    (fun u st => mono_setAct_state u k st) mono_crash (fun u => mono_failAction u k) t

/-- `R` is respected by everything `ActorImpl::exit` of actor `b` is composed of -/
structure ExitSteps (R : St → St → Prop) (b : Nat) : Prop where
  pre : Pre R
  finish : ∀ t k, R t (finish t k)
  cancel : ∀ t k, R t (cancel t k)
  failed : ∀ t k, R t (t.setAct k (fun x => { x with state := .failed }))
  actor : ∀ t f, (∀ x, ActorLe x (f x)) → R t (t.setActor b f)
  emit : ∀ t o, R t (t.emit o)

section Exit
variable {R : St → St → Prop} {b : Nat} (hs : ExitSteps R b)
include hs

theorem exitWaiting_rel (t : St) (k : Nat) : R t (exitWaiting b t k) :=
  hs.pre.trans (hs.pre.trans (hs.pre.trans (hs.cancel t k) (hs.failed _ k)) (hs.finish _ k))
    (hs.actor _ (fun x => { x with activities := x.activities.erase k }) (fun _ => ⟨rfl, rfl, id, fun _ h => h⟩))

theorem exitLoop_rel (n : Nat) : ∀ t, R t (exitLoop b n t) := by
  induction n with
  | zero => exact hs.pre.refl
  | succ n ih =>
    intro t
    unfold exitLoop
    split
    · exact hs.pre.refl t
    · exact hs.pre.trans (hs.pre.trans (hs.actor t (fun x => { x with waiting := x.waiting.dropLast })
        (fun _ => ⟨rfl, rfl, id, fun _ h => List.dropLast_subset _ h⟩)) (exitWaiting_rel hs _ _)) (ih _)

theorem actorExit_rel (t : St) : R t (actorExit t b) :=
  hs.pre.trans (hs.pre.trans (hs.pre.trans (hs.pre.trans
    (hs.actor t (fun x => { x with wannadie := true }) (fun _ => ⟨rfl, rfl, fun _ => rfl, fun _ h => h⟩))
    (exitLoop_rel hs _ _)) (hs.pre.foldl _ hs.cancel _))
    (hs.actor _ (fun x => { x with activities := [], waiting := [] }) (fun _ => ⟨rfl, rfl, id, fun _ h => nomatch h⟩)))
    (hs.emit _ _)

theorem kill_rel (t : St) : R t (kill t b) := by
  unfold kill; split
  · exact hs.pre.refl t
  · exact actorExit_rel hs t

end Exit

theorem Ext.exitSteps (b : Nat) : ExitSteps Ext b :=
  ⟨Ext.pre, ext_finish, ext_cancel, fun t k => ext_setAct t k _, fun t f _ => ext_setActor t b f, ext_emit⟩

theorem ext_exitLoop (b n : Nat) (t : St) : Ext t (exitLoop b n t) := exitLoop_rel (Ext.exitSteps b) n t

theorem Mono.exitSteps (b : Nat) : ExitSteps Mono b :=
  ⟨Mono.pre, mono_finish, mono_cancel, fun t k => mono_setAct_state t k _, fun t f hf => mono_setActor t b f hf, mono_emit⟩

/-- the `exit()` of another actor leaves `a`'s `wannadie` alone: `finish` writes nobody's -/
theorem wdFrame_exitSteps (a b : Nat) (hb : b ≠ a) :
    ExitSteps (fun t t' => (t'.actors a).wannadie = (t.actors a).wannadie) b :=
  ⟨Pre.eqOn (fun t : St => (t.actors a).wannadie), fun t k => wdEq_finish t k a, fun t k => (simp_cancel a t k).wd, fun _ _ => rfl,
   fun t f _ => by rw [setActor_actors_ne t b a f (Ne.symm hb)], fun _ _ => rfl⟩

/-- `Resource::cancel_actions`: a fold of `failAction` over activity ids, filtered by a condition on the activity; the
model writes this body inline in `cpuCancelActions` and `linkOff` (`linkOff_eq`) -/
def failIf (cond : Activity → Prop) [DecidablePred cond] (s : St) (j : Nat) : St :=
  if cond (s.acts j) then failAction s j else s

/-- the body of the kill loop of `HostImpl::turn_off(h)` -/
def killOn (h : Nat) (s : St) (b : Nat) : St := if (s.actors b).host = h ∧ ¬ (s.actors b).ended then kill s b else s

/-- the second and the third loop of `hostOff`, which the model writes inline (`hostOff_eq`, by `rfl`) -/
def killPhase (h : Nat) (s2 : St) : St := (List.range s2.nActors).foldl (killOn h) s2
def maestroPhase (h : Nat) (s3 : St) : St := s3.maestro.foldl (maestroFail h) s3

theorem hostOff_eq (s : St) (h : Nat) (hon : s.hostOn h = true) :
    hostOff s h = maestroPhase h (killPhase h (cpuCancelActions { s with hostOn := upd s.hostOn h false } h)) := by
  unfold hostOff cpuCancelActions
  simp only [hon, not_true_eq_false, if_false]
  rfl

theorem linkOff_eq (s : St) (l : Nat) (hon : s.linkOn l = true) :
    linkOff s l = (List.range s.nActs).foldl (failIf (fun x => x.kind = .comm ∧ l ∈ x.links))
      { s with linkOn := upd s.linkOn l false } := by
  unfold linkOff
  simp only [hon, not_true_eq_false, if_false]
  rfl

section Loops
variable {R : St → St → Prop} (hR : Pre R)
include hR

theorem failIf_rel (fail : ∀ u k, R u (failAction u k)) (cond : Activity → Prop) [DecidablePred cond] (t : St) (x : Nat) :
    R t (failIf cond t x) := by
  unfold failIf; split
  · exact fail t x
  · exact hR.refl t

theorem maestroFail_rel (cancel : ∀ u k, R u (cancel u k))
    (failed : ∀ u k, R u (u.setAct k (fun x => { x with state := .failed }))) (h : Nat) (t : St) (k : Nat) :
    R t (maestroFail h t k) := by
  unfold maestroFail; split
  · exact hR.trans (cancel t k) (failed _ k)
  · exact hR.refl t

/-- one turn of `handle_ended_actions` is `extract_failed_action` (the head leaves the set) followed by `finish` on it -/
theorem handleEnded_rel (turn : ∀ u k rest, u.failedQ = k :: rest → R u (finish { u with failedQ := rest } k)) (n : Nat) :
    ∀ t, R t (handleEnded n t) := by
  induction n with
  | zero => exact hR.refl
  | succ n ih =>
    intro t
    unfold handleEnded
    split
    · exact hR.refl t
    · rename_i k rest hq
      exact hR.trans (turn t k rest hq) (ih _)

end Loops

theorem killOn_rel {R : St → St → Prop} {b : Nat} (hs : ExitSteps R b) (h : Nat) (t : St) : R t (killOn h t b) := by
  unfold killOn; split
  · exact kill_rel hs t
  · exact hs.pre.refl t

/-- `Link::turn_off`: the link is marked off, then its actions are failed -/
theorem linkOff_rel {R : St → St → Prop} (hR : Pre R) (mark : ∀ u f, R u { u with linkOn := f })
    (fail : ∀ u k, R u (failAction u k)) (s : St) (l : Nat) : R s (linkOff s l) :=
  ite_pred (R s) (hR.refl s) (hR.trans (mark s _)
    (hR.foldl _ (failIf_rel hR fail (fun x => x.kind = .comm ∧ l ∈ x.links)) _))

/-- `Host::turn_off`: the host is marked off, then `cancel_actions`, the kill loop and maestro's activities -/
theorem hostOff_rel {R : St → St → Prop} (hs : ∀ b, ExitSteps R b) (mark : ∀ u f, R u { u with hostOn := f })
    (fail : ∀ u k, R u (failAction u k)) (s : St) (h : Nat) : R s (hostOff s h) :=
  have hR := (hs 0).pre
  ite_pred (R s) (hR.refl s) (hR.trans (hR.trans (hR.trans (mark s _)
    (hR.foldl _ (failIf_rel hR fail (fun y => y.kind ≠ .comm ∧ h ∈ y.hosts)) _))
    (hR.foldl _ (fun u b => killOn_rel (hs b) h u) _))
    (hR.foldl _ (maestroFail_rel hR (hs 0).cancel (hs 0).failed h) _))

theorem simp_failIf (cond : Activity → Prop) [DecidablePred cond] (a : Nat) (t : St) (x : Nat) : Simp a t (failIf cond t x) :=
  failIf_rel (Simp.pre a) (simp_failAction a) cond t x

theorem simp_cpuCancelActions (a : Nat) (t : St) (h : Nat) : Simp a t (cpuCancelActions t h) :=
  (Simp.pre a).foldl _ (simp_failIf (fun y => y.kind ≠ .comm ∧ h ∈ y.hosts) a) t

theorem simp_maestroPhase (a h : Nat) (t : St) : Simp a t (maestroPhase h t) :=
  (Simp.pre a).foldl _ (maestroFail_rel (Simp.pre a) (simp_cancel a) (fun u k => simp_setAct_state a u k _) h) t

theorem simp_linkOff (a : Nat) (s : St) (l : Nat) : Simp a s (linkOff s l) :=
  linkOff_rel (Simp.pre a) (fun _ _ => ⟨.of_eq rfl rfl rfl, rfl, fun _ => rfl, fun _ => StatLe.refl _, fun _ h => h⟩)
    (simp_failAction a) s l

theorem ext_killOn (h : Nat) (t : St) (b : Nat) : Ext t (killOn h t b) := killOn_rel (Ext.exitSteps b) h t
theorem ext_killPhase (h : Nat) (t : St) : Ext t (killPhase h t) := Ext.pre.foldl _ (ext_killOn h) t
theorem ext_handleEnded (n : Nat) (t : St) : Ext t (handleEnded n t) :=
  handleEnded_rel Ext.pre (fun u k rest _ => Ext.trans (b := { u with failedQ := rest }) (.of_eq rfl rfl rfl) (ext_finish _ k)) n t

theorem mono_killOn (h : Nat) (t : St) (b : Nat) : Mono t (killOn h t b) := killOn_rel (Mono.exitSteps b) h t
theorem mono_handleEnded (n : Nat) (t : St) : Mono t (handleEnded n t) :=
  handleEnded_rel Mono.pre (fun u k rest _ => Mono.trans (b := { u with failedQ := rest }) (.of_acts rfl rfl (fun _ _ h => h)) (mono_finish _ k)) n t

theorem mono_cpuCancelActions (h : Nat) (t : St) : Mono t (cpuCancelActions t h) :=
  Mono.pre.foldl _ (failIf_rel Mono.pre mono_failAction (fun y => y.kind ≠ .comm ∧ h ∈ y.hosts)) t

theorem mono_maestroPhase (h : Nat) (t : St) : Mono t (maestroPhase h t) :=
  Mono.pre.foldl _ (maestroFail_rel Mono.pre mono_cancel (fun u k => mono_setAct_state u k _) h) t

theorem mono_hostOff (s : St) (h : Nat) : Mono s (hostOff s h) :=
  hostOff_rel Mono.exitSteps (fun _ _ => .of_acts rfl rfl (fun _ _ h => h)) mono_failAction s h

theorem actorExit_wd (t : St) (a : Nat) : ((actorExit t a).actors a).wannadie = true := by
  have hs := Mono.exitSteps a
  unfold actorExit
  simp only []
  apply (mono_emit _ _).wd
  apply (hs.actor _ (fun x => { x with activities := [], waiting := [] }) (fun _ => ⟨rfl, rfl, id, fun _ h => nomatch h⟩)).wd
  apply (Mono.pre.foldl _ mono_cancel _).wd
  apply (exitLoop_rel hs _ _).wd
  rw [setActor_actors_same]

theorem actorExit_kill_new (t : St) (a : Nat) : newIn t (actorExit t a) (.kill a) := by
  have hs := Ext.exitSteps a
  unfold actorExit
  simp only []
  apply newIn_emit_of_ext
  exact (((ext_setActor t a _).trans (exitLoop_rel hs _ _)).trans (Ext.pre.foldl _ ext_cancel _)).trans
    (ext_setActor _ _ _)

theorem killOn_wd_frame (h : Nat) (t : St) (c a : Nat) (hc : c ≠ a) :
    ((killOn h t c).actors a).wannadie = (t.actors a).wannadie :=
  killOn_rel (wdFrame_exitSteps a c hc) h t

/-- `ActorImpl::exit` runs for `a` if it was not dying before: the `exit()` of the others did not mark it (`killOn_wd_frame`) -/
theorem killFold_reaches (h a : Nat) (L : List Nat) : ∀ t, a ∈ L → (t.actors a).host = h → (t.actors a).ended = false →
    ((L.foldl (killOn h) t).actors a).wannadie = true ∧
    ((t.actors a).wannadie = false → newIn t (L.foldl (killOn h) t) (.kill a)) := by
  induction L with
  | nil => intro t hm; cases hm
  | cons c cs ih =>
    intro t hm hh he
    simp only [List.foldl_cons]
    have e1 := ext_killOn h t c
    by_cases hc : a = c
    · subst hc
      have mf := Mono.pre.foldl cs (mono_killOn h)
      have e : killOn h t a = kill t a := by
        unfold killOn
        simp [hh, he]
      rw [e]
      unfold kill
      split
      · rename_i hw
        exact ⟨(mf _).wd a hw, fun hw' => absurd hw (by simp [hw'])⟩
      · exact ⟨(mf _).wd a (actorExit_wd t a), fun _ =>
          newIn_of_ext_right _ (Ext.pre.foldl cs (ext_killOn h) _) (actorExit_kill_new t a)⟩
    · have m := mono_killOn h t c
      obtain ⟨i1, i2⟩ := ih (killOn h t c) ((List.mem_cons.mp hm).resolve_left hc) (by rw [m.host]; exact hh)
        (by rw [m.ended]; exact he)
      exact ⟨i1, fun hw => newIn_of_ext_left _ e1 (i2 (by rw [killOn_wd_frame h t c a (Ne.symm hc)]; exact hw))⟩

theorem hostOff_reaches (s : St) (h a : Nat) (hon : s.hostOn h = true) (ha : a < s.nActors) (hh : (s.actors a).host = h)
    (he : (s.actors a).ended = false) :
    ((hostOff s h).actors a).wannadie = true ∧ ((s.actors a).wannadie = false → newIn s (hostOff s h) (.kill a)) := by
  rw [hostOff_eq s h hon]
  have m1 := mono_cpuCancelActions h { s with hostOn := upd s.hostOn h false }
  have sp1 := simp_cpuCancelActions a { s with hostOn := upd s.hostOn h false } h
  obtain ⟨k1, k2⟩ := killFold_reaches h a (List.range (cpuCancelActions { s with hostOn := upd s.hostOn h false } h).nActors)
    (cpuCancelActions { s with hostOn := upd s.hostOn h false } h) (by rw [m1.nActors]; exact List.mem_range.mpr ha)
    (by rw [m1.host]; exact hh) (by rw [m1.ended]; exact he)
  refine ⟨(mono_maestroPhase h _).wd a k1, fun hw => ?_⟩
  -- `newIn` only reads the observations, which marking the host off leaves alone: `k5` is about the marked-off state and
  -- is the goal up to unfolding `newIn`, which `exact` does and the unifier, given the goal first, does not
  have k5 := newIn_of_ext_left _ sp1.ext (newIn_of_ext_right _ (simp_maestroPhase a h _).ext (k2 (by rw [sp1.wd]; exact hw)))
  exact k5

end SgVerif.C10
