import SgVerif.C10.Track
/-
C10: a running communication `k` held by an actor `b` of the failing host (`k ∈ activities_` of `b`), and an answerable
issuer `a` registered on it: the `exit()` of the other actors of the host leave it held or doom it, `b`'s own `exit()`
cancels it, so the kill loop of `HostImpl::turn_off` ends with `a` answered or the failure queued.
-/
namespace SgVerif.C10

/-- `k` is a running communication with a live action, in `b`'s `activities_`; `a` is answerable and registered on it -/
structure HoldS (t : St) (b a k : Nat) : Prop where
  ans : Answerable t a
  reg : a ∈ (t.acts k).simcalls
  kind : (t.acts k).kind = .comm
  act : (t.acts k).action = some .started
  run : (t.acts k).state = .running
  held : k ∈ (t.actors b).activities

/-- the issuer is answered or the failure pending (`Res`), or `k` is still held -/
def Res2 (t t' : St) (b a k : Nat) : Prop := Res t t' a k (.exc .net) ∨ HoldS t' b a k

variable {b a k : Nat}

theorem res2_rebase {t0 t t' : St} (e : Ext t0 t) (h : Res2 t t' b a k) : Res2 t0 t' b a k :=
  h.imp (res_rebase e) id

theorem HoldS.of_alone {t t' : St} (p : HoldS t b a k) (h : Alone a k t t') : HoldS t' b a k :=
  ⟨p.ans.of_core h.core, h.reg p.reg, (statOf_kind h.stat).trans p.kind, (statOf_action h.stat).trans p.act,
   h.state.trans p.run, h.held b p.held⟩

theorem hold_setActor {t : St} (c : Nat) (f : Actor → Actor) (hs : Simp a t (t.setActor c f))
    (hf : k ∈ (t.actors c).activities → k ∈ (f (t.actors c)).activities) (p : HoldS t b a k) :
    HoldS (t.setActor c f) b a k :=
  p.of_alone (alone_setActor a k t c f hs.core hf)

theorem cancel_dooms (t : St) (k : Nat) (hk : (t.acts k).kind = .comm) (ha : (t.acts k).action = some .started)
    (hr : (t.acts k).state = .running) :
    ((cancel t k).acts k).kind = .comm ∧ ((cancel t k).acts k).action = some .failed ∧ k ∈ (cancel t k).failedQ := by
  unfold cancel
  simp [hk, ha, hr, failAction, St.setAct, eraseActivity]
  (repeat' split) <;> simp [St.setActor, upd]

theorem pend_cancel (t : St) (p : HoldS t b a k) : PendS (cancel t k) a k (.exc .net) := by
  have hs := simp_cancel a t k
  obtain ⟨d1, d2, d3⟩ := cancel_dooms t k p.kind p.act p.run
  exact ⟨p.ans.of_core hs.core, by rw [hs.simc]; exact p.reg, Or.inl ⟨d1, Or.inr (Or.inr d2)⟩, d3, by rw [d1]; rfl⟩

theorem hold_cancel (t : St) (k0 : Nat) (p : HoldS t b a k) :
    Res t (cancel t k0) a k (.exc .net) ∨ (k0 ≠ k ∧ HoldS (cancel t k0) b a k) := by
  by_cases hk : k0 = k
  · subst hk
    exact Or.inl (Or.inr (pend_cancel t p))
  · exact Or.inr ⟨hk, p.of_alone (alone_cancel a (Ne.symm hk) t)⟩

theorem hold_cancelFold (L : List Nat) : ∀ t, HoldS t b a k →
    Res t (L.foldl cancel t) a k (.exc .net) ∨ (k ∉ L ∧ HoldS (L.foldl cancel t) b a k) := by
  induction L with
  | nil => intro t p; exact Or.inr ⟨List.not_mem_nil, p⟩
  | cons x xs ih =>
    intro t p
    simp only [List.foldl_cons]
    have e1 := ext_cancel t x
    rcases hold_cancel t x p with h | ⟨hx, h⟩
    · exact Or.inl (res_then_simp e1 h ((Simp.pre a).foldl xs (simp_cancel a) _))
    · exact (ih _ h).imp (res_rebase e1) (fun ⟨hn, hh⟩ => ⟨fun hm => (List.mem_cons.mp hm).elim (fun e => hx e.symm) hn, hh⟩)

theorem hold_exitWaiting (c : Nat) (t : St) (k0 : Nat) (p : HoldS t b a k) :
    Res2 t (exitWaiting c t k0) b a k := by
  unfold exitWaiting
  simp only []
  have s1 : Simp a t ((cancel t k0).setAct k0 (fun x => { x with state := .failed })) :=
    (simp_cancel a t k0).trans (simp_setAct_state a _ k0 _)
  have s3 : ∀ u : St, Simp a u (u.setActor c (fun x => { x with activities := x.activities.erase k0 })) :=
    fun u => simp_setActor a u c _ (fun _ => ⟨rfl, rfl, rfl⟩)
  by_cases hk : k0 = k
  · subst hk
    -- cancelled: FAILED and queued; then finished right away
    have r := res_finish _ k0 (pend_of_simp (simp_setAct_state a (cancel t k0) k0 .failed) (pend_cancel t p))
    exact Or.inl (res_then_simp (s1.ext.trans (ext_finish _ _)) (res_rebase s1.ext r) (s3 _))
  · have hkk : k ≠ k0 := Ne.symm hk
    have h1 : HoldS ((cancel t k0).setAct k0 (fun x => { x with state := .failed })) b a k :=
      (p.of_alone (alone_cancel a hkk t)).of_alone (alone_setAct a hkk _ _)
    rcases finish_other (r := .exc .net) _ hk h1.ans with h | h
    · exact Or.inl (res_then_simp (s1.ext.trans (ext_finish _ _)) (res_rebase s1.ext (Or.inl h)) (s3 _))
    · exact Or.inr (hold_setActor c _ (s3 _) (List.mem_erase_of_ne hkk).mpr (h1.of_alone h))

theorem hold_exitLoop (c : Nat) (hc : c ≠ a) (n : Nat) :
    ∀ t, HoldS t b a k → Res2 t (exitLoop c n t) b a k := by
  induction n with
  | zero => intro t p; exact Or.inr p
  | succ n ih =>
    intro t p
    unfold exitLoop
    split
    · exact Or.inr p
    · rename_i k0 _
      have s1 : Simp a t (t.setActor c (fun x => { x with waiting := x.waiting.dropLast })) :=
        simp_setActor a t c _ (fun _ => ⟨rfl, rfl, rfl⟩)
      have e1 := s1.ext.trans
        (exitWaiting_rel (Ext.exitSteps c) (t.setActor c (fun x => { x with waiting := x.waiting.dropLast })) k0)
      rcases res2_rebase s1.ext (hold_exitWaiting c _ k0 (hold_setActor c _ s1 id p)) with h | h
      · exact Or.inl (res_trans e1 (ext_exitLoop c n _) h (exitLoop_rel (trk_exitSteps a k _ c hc) n _).2)
      · exact (ih _ h).imp (res_rebase e1) id

/-- the end of `ActorImpl::exit`: the leftover activities are cancelled, the lists cleared, the kill recorded.  The model
writes it inline: `actorExit t c` is `exitTail c (exitLoop c _ (t.setActor c _))` by `rfl`, which `hold_actorExit` relies on -/
def exitTail (c : Nat) (v : St) : St :=
  (((v.actors c).activities.foldl cancel v).setActor c (fun x => { x with activities := [], waiting := [] })).emit (.kill c)

theorem simp_exitTail {a c : Nat} (hc : c ≠ a) (v : St) : Simp a v (exitTail c v) :=
  (((Simp.pre a).foldl _ (simp_cancel a) v).trans
    (simp_setActor a _ c _ (fun e => absurd e.symm hc))).trans (simp_emit a _ _)

theorem hold_exitTail {b a k c : Nat} (hc : c ≠ a) (v : St) (q : HoldS v b a k) :
    Res v (exitTail c v) a k (.exc .net) ∨ (c ≠ b ∧ HoldS (exitTail c v) b a k) := by
  have st : ∀ u : St, Simp a u ((u.setActor c (fun x => { x with activities := [], waiting := [] })).emit (.kill c)) :=
    fun u => (simp_setActor a u c _ (fun e => absurd e.symm hc)).trans (simp_emit a _ _)
  rcases hold_cancelFold (v.actors c).activities v q with f | ⟨hn, f⟩
  · exact Or.inl (res_then_simp (Ext.pre.foldl _ ext_cancel v) f (st _))
  · have hcb : c ≠ b := fun e => hn (e ▸ q.held)
    have e : (exitTail c v).actors b = (((v.actors c).activities.foldl cancel v).actors b) :=
      setActor_actors_ne ((v.actors c).activities.foldl cancel v) c b (fun x => { x with activities := [], waiting := [] })
        (Ne.symm hcb)
    exact Or.inr ⟨hcb, f.ans.of_core (st _).core, f.reg, f.kind, f.act, f.run, by rw [e]; exact f.held⟩

/-- `ActorImpl::exit` of an actor `c ≠ a`: the issuer is answered or the communication doomed — always so when `c` is the
holder itself, whose second loop (`activities_`) cancels the communication — or the communication stays held -/
theorem hold_actorExit (t : St) (c : Nat) (hc : c ≠ a) (p : HoldS t b a k) :
    Res t (actorExit t c) a k (.exc .net) ∨ (c ≠ b ∧ HoldS (actorExit t c) b a k) := by
  have s1 : Simp a t (t.setActor c (fun x => { x with wannadie := true })) :=
    simp_setActor a t c _ (fun e => absurd e.symm hc)
  have key : ∀ u1 : St, Simp a t u1 → HoldS u1 b a k →
      Res t (exitTail c (exitLoop c (u1.actors c).waiting.length u1)) a k (.exc .net) ∨
      (c ≠ b ∧ HoldS (exitTail c (exitLoop c (u1.actors c).waiting.length u1)) b a k) := by
    intro u1 s1 p1
    have e2 := s1.ext.trans (ext_exitLoop c (u1.actors c).waiting.length u1)
    have r2 := res2_rebase s1.ext (hold_exitLoop c hc (u1.actors c).waiting.length u1 p1)
    generalize exitLoop c (u1.actors c).waiting.length u1 = u2 at e2 r2 ⊢
    rcases r2 with h | h
    · exact Or.inl (res_trans e2 (simp_exitTail hc u2).ext h (fun q => Or.inr (pend_of_simp (simp_exitTail hc u2) q)))
    · exact (hold_exitTail hc u2 h).imp (res_rebase e2) id
  exact key _ s1 (hold_setActor c _ s1 id p)

/-- what makes `b` a holder that `turn_off` will reach: a live actor of the host, not yet dying -/
structure HolderOK (t : St) (h b : Nat) : Prop where
  host : (t.actors b).host = h
  ended : (t.actors b).ended = false
  wd : (t.actors b).wannadie = false

theorem hold_killOn (h : Nat) (t : St) (c : Nat) (hoff : t.hostOn h = false) (p : HoldS t b a k)
    (ho : HolderOK t h b) : Res t (killOn h t c) a k (.exc .net) ∨ (c ≠ b ∧ HoldS (killOn h t c) b a k) := by
  by_cases hcb : c = b
  · subst hcb
    have e : killOn h t c = actorExit t c := by
      unfold killOn kill
      simp [ho.host, ho.ended, ho.wd]
    rw [e]
    exact hold_actorExit t c (p.ans.ne_of_off ho.host hoff) p
  · unfold killOn
    split
    · rename_i hc
      unfold kill
      split
      · exact Or.inr ⟨hcb, p⟩
      · exact hold_actorExit t c (p.ans.ne_of_off hc.1 hoff) p
    · exact Or.inr ⟨hcb, p⟩

theorem hold_killFold (h : Nat) (L : List Nat) : ∀ t, t.hostOn h = false → HoldS t b a k → HolderOK t h b →
    b ∈ L → Res t (L.foldl (killOn h) t) a k (.exc .net) := by
  induction L with
  | nil => intro t _ _ _ hm; cases hm
  | cons c cs ih =>
    intro t hoff p ho hm
    simp only [List.foldl_cons]
    have e1 := ext_killOn h t c
    have hoff1 : (killOn h t c).hostOn h = false := by rw [e1.hostOn]; exact hoff
    rcases hold_killOn h t c hoff p ho with r | ⟨hcb, r⟩
    · exact res_trans e1 (Ext.pre.foldl cs (ext_killOn h) _) r (res_killFold h cs _ hoff1)
    · have m := mono_killOn h t c
      exact res_rebase e1 (ih _ hoff1 r ⟨by rw [m.host]; exact ho.host, by rw [m.ended]; exact ho.ended,
        by rw [killOn_wd_frame h t c b hcb]; exact ho.wd⟩ ((List.mem_cons.mp hm).resolve_left (Ne.symm hcb)))

theorem cpuCancelActions_comm (h : Nat) (t : St) (k : Nat) (hk : (t.acts k).kind = .comm) :
    (cpuCancelActions t h).acts k = t.acts k ∧ (cpuCancelActions t h).actors = t.actors := by
  refine Pre.foldl (R := fun t t' => (t.acts k).kind = .comm → t'.acts k = t.acts k ∧ t'.actors = t.actors)
    ⟨fun _ _ => ⟨rfl, rfl⟩, fun h1 h2 hk => ?_⟩ _ (fun u x hk => ?_) t hk
  · obtain ⟨a1, a2⟩ := h1 hk
    obtain ⟨b1, b2⟩ := h2 (by rw [a1]; exact hk)
    exact ⟨b1.trans a1, b2.trans a2⟩
  · split
    · rename_i hc
      exact ⟨failAction_acts_ne u x k (fun e => hc.1 (e ▸ hk)), failAction_actors u x⟩
    · exact ⟨rfl, rfl⟩

/-- `s1` is the state in which the host has just been marked off -/
theorem res_kill_comm (s1 : St) (h k a b : Nat) (hoff : s1.hostOn h = false) (hb : b < s1.nActors)
    (p : HoldS s1 b a k) (ho : HolderOK s1 h b) :
    Res (cpuCancelActions s1 h) (killPhase h (cpuCancelActions s1 h)) a k (.exc .net) := by
  have sp : Simp a s1 (cpuCancelActions s1 h) := simp_cpuCancelActions a s1 h
  obtain ⟨c1, c2⟩ := cpuCancelActions_comm h s1 k p.kind
  exact hold_killFold h _ _ (by rw [sp.ext.hostOn]; exact hoff) (p.of_alone (.of_simp sp c1 c2))
    ⟨by rw [c2]; exact ho.host, by rw [c2]; exact ho.ended, by rw [c2]; exact ho.wd⟩
    (by rw [(mono_cpuCancelActions h s1).nActors]; exact List.mem_range.mpr hb)

end SgVerif.C10
