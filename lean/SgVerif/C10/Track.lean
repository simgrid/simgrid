import SgVerif.C10.Kernel
/-
C10: one answerable issuer `a` registered on one activity `k` hit by a resource failure, tracked through every kernel
function that runs during the maestro iteration of the failure: after each of them the issuer has been answered, or the
situation is still pending in the failed action set (`Res`).
-/
namespace SgVerif.C10

/-- activity `k` is hit by a resource failure: whenever `finish` runs on it from now on, it ends in the failure state of
the spec table (comm: an endpoint host is off or the action failed; exec: a host is off and the action is still there) -/
def Hit (t : St) (k : Nat) : Prop :=
  ((t.acts k).kind = .comm ∧
    ((∃ h, (t.acts k).from_ = some h ∧ t.hostOn h = false) ∨ (∃ h, (t.acts k).to_ = some h ∧ t.hostOn h = false) ∨
     (t.acts k).action = some .failed)) ∨
  ((t.acts k).kind = .exec ∧ (t.acts k).action ≠ none ∧ ∃ h, h ∈ (t.acts k).hosts ∧ t.hostOn h = false)

theorem hit_mono {t t' : St} {k : Nat} (hs : StatLe (t.acts k) (t'.acts k)) (hh : t'.hostOn = t.hostOn) (h : Hit t k) :
    Hit t' k := by
  obtain ⟨a1, a2, a3, a4, a5⟩ := hs
  unfold Hit at *
  rw [a1, a2, a3, a4, hh]
  rcases h with ⟨hk, h⟩ | ⟨hk, hn, h⟩
  · left
    refine ⟨hk, ?_⟩
    rcases h with h | h | h
    · exact Or.inl h
    · exact Or.inr (Or.inl h)
    · right; right
      rcases a5 with a5 | ⟨a5, a6⟩
      · rw [a5]; exact h
      · exact a6
  · right
    refine ⟨hk, ?_, h⟩
    rcases a5 with a5 | ⟨a5, a6⟩
    · rw [a5]; exact hn
    · rw [a6]; simp

/-- the shape of `commFinalState`: a failure state as soon as one of the first three tests succeeds -/
theorem netClass_ite (c1 c2 c3 : Prop) [Decidable c1] [Decidable c2] [Decidable c3] (x : AState) (h : c1 ∨ c2 ∨ c3) :
    NetClass (if c1 then .srcHostFailure else if c2 then .dstHostFailure else if c3 then .linkFailure else x) := by
  unfold NetClass
  split
  · exact Or.inr (Or.inl rfl)
  · split
    · exact Or.inr (Or.inr (Or.inl rfl))
    · split
      · exact Or.inr (Or.inr (Or.inr rfl))
      · rcases h with h | h | h <;> contradiction

/-- the final outcome: answered (by `k` with `r`, or by another activity of its wait_any) or an assertion fired -/
def DoneR (t t' : St) (a k : Nat) (r : Ans) : Prop :=
  t'.crashed = true ∨ newIn t t' (.answer a r k) ∨ (∃ k' r', k' ≠ k ∧ newIn t t' (.answer a r' k'))

theorem finish_hit (t : St) (k : Nat) (h : Hit t k) (a : Nat) (ha : Answerable t a) (hm : a ∈ (t.acts k).simcalls) :
    DoneR t (finish t k) a k (.exc (specExc (t.acts k).kind)) := by
  unfold finish
  cases hk : (t.acts k).kind with
  | comm =>
    refine (finishComm_hit t k ?_ a ha hm).imp id .inl
    rcases h with ⟨_, h⟩ | ⟨hk', _⟩
    · exact netClass_ite _ _ _ _
        (h.imp (fun ⟨h', h1, h2⟩ => by simp [h1, h2]) (Or.imp (fun ⟨h', h1, h2⟩ => by simp [h1, h2]) id))
    · rw [hk] at hk'; cases hk'
  | exec =>
    rcases h with ⟨hk', _⟩ | ⟨_, hn, h', hh, hoff⟩
    · rw [hk] at hk'; cases hk'
    · exact .inr (.inl (finishExec_hit t k (Or.inl ⟨hn, List.any_eq_true.mpr ⟨h', hh, by simp [hoff]⟩⟩) a ha hm))
  | sleep => rcases h with ⟨hk', _⟩ | ⟨hk', _⟩ <;> (rw [hk] at hk'; cases hk')

/-- the pending situation: `a` is answerable and registered on `k`, `k` is hit by the failure and sits in the failed action
set; `r` is the answer of the spec table for `k` -/
structure PendS (t : St) (a k : Nat) (r : Ans) : Prop where
  ans : Answerable t a
  reg : a ∈ (t.acts k).simcalls
  hit : Hit t k
  inq : k ∈ t.failedQ
  spec : r = .exc (specExc (t.acts k).kind)

variable {a k : Nat} {r : Ans}

theorem DoneR.imp {t t' u u' : St} (hc : t'.crashed = true → u'.crashed = true)
    (hn : ∀ o, newIn t t' o → newIn u u' o) (h : DoneR t t' a k r) : DoneR u u' a k r :=
  Or.imp hc (Or.imp (hn _) (fun ⟨k', r', hk, h⟩ => ⟨k', r', hk, hn _ h⟩)) h

theorem DoneR.later {t t1 t2 : St} (e : Ext t1 t2) (h : DoneR t t1 a k r) : DoneR t t2 a k r :=
  h.imp e.crashed (fun _ => newIn_of_ext_right _ e)

theorem DoneR.rebase {t t1 t2 : St} (e : Ext t t1) (h : DoneR t1 t2 a k r) : DoneR t t2 a k r :=
  h.imp id (fun _ => newIn_of_ext_left _ e)

/-- outcome of a function run from `t` to `t'`: the issuer is answered (or an assertion fired), or the situation is still pending -/
def Res (t t' : St) (a k : Nat) (r : Ans) : Prop := DoneR t t' a k r ∨ PendS t' a k r

theorem res_trans {t t1 t2 : St} (e1 : Ext t t1) (e2 : Ext t1 t2) (h1 : Res t t1 a k r)
    (h2 : PendS t1 a k r → Res t1 t2 a k r) : Res t t2 a k r :=
  h1.elim (fun d => Or.inl (d.later e2)) (fun p => (h2 p).imp (·.rebase e1) id)

theorem res_rebase {t0 t t' : St} (e : Ext t0 t) (h : Res t t' a k r) : Res t0 t' a k r :=
  h.imp (·.rebase e) id

theorem PendS.of_alone {t t' : St} (p : PendS t a k r) (h : Alone a k t t') : PendS t' a k r :=
  ⟨p.ans.of_core h.core, h.reg p.reg, hit_mono (.of_eq h.stat) h.hostOn p.hit, h.fq p.inq,
   by rw [(StatLe.of_eq h.stat).1]; exact p.spec⟩

theorem pend_of_simp {t t' : St} (h : Simp a t t') (p : PendS t a k r) : PendS t' a k r where
  ans := p.ans.of_core h.core
  reg := by rw [h.simc]; exact p.reg
  hit := hit_mono (h.stat k) h.ext.hostOn p.hit
  inq := h.fq k p.inq
  spec := by rw [(h.stat k).1]; exact p.spec

theorem res_then_simp {t t1 t2 : St} (e1 : Ext t t1) (h1 : Res t t1 a k r) (h2 : Simp a t1 t2) :
    Res t t2 a k r :=
  res_trans e1 h2.ext h1 (fun p => Or.inr (pend_of_simp h2 p))

/-- the `finish` of another activity answers `a` if it is registered there too (a wait_any), and leaves the pair alone if not -/
theorem finish_other (t : St) {k0 : Nat} (hk : k0 ≠ k) (ha : Answerable t a) :
    DoneR t (finish t k0) a k r ∨ Alone a k t (finish t k0) := by
  by_cases hm : a ∈ (t.acts k0).simcalls
  · exact Or.inl ((finish_answers t k0 a ha hm).imp id (fun ⟨r', h⟩ => Or.inr ⟨k0, r', hk, h⟩))
  · exact Or.inr (alone_finish a (Ne.symm hk) t hm)

theorem res_finish (t : St) (k0 : Nat) (p : PendS t a k r) : Res t (finish t k0) a k r := by
  by_cases hk : k0 = k
  · subst hk
    exact Or.inl (p.spec ▸ finish_hit t k0 p.hit a p.ans p.reg)
  · exact (finish_other t hk p.ans).imp id p.of_alone

/-- through `t → t'` the pending situation stays pending, unless it is done: a preorder, so that it goes through
`ActorImpl::exit` like `Ext` and `Mono` do -/
def Trk (a k : Nat) (r : Ans) (t t' : St) : Prop := Ext t t' ∧ (PendS t a k r → Res t t' a k r)

theorem Trk.pre (a k : Nat) (r : Ans) : Pre (Trk a k r) :=
  ⟨fun t => ⟨Ext.refl t, Or.inr⟩, fun h1 h2 => ⟨h1.1.trans h2.1, fun p => res_trans h1.1 h2.1 (h1.2 p) h2.2⟩⟩

theorem Trk.of_simp {t t' : St} (h : Simp a t t') : Trk a k r t t' :=
  ⟨h.ext, fun p => Or.inr (pend_of_simp h p)⟩

theorem trk_exitSteps (a k : Nat) (r : Ans) (b : Nat) (hb : b ≠ a) : ExitSteps (Trk a k r) b :=
  ⟨Trk.pre a k r, fun t k0 => ⟨ext_finish t k0, res_finish t k0⟩, fun t k0 => .of_simp (simp_cancel a t k0),
   fun t k0 => .of_simp (simp_setAct_state a t k0 _),
   fun t f _ => .of_simp (simp_setActor a t b f (fun e => absurd e.symm hb)), fun t o => .of_simp (simp_emit a t o)⟩

theorem res_killOn (h : Nat) (t : St) (b : Nat) (hoff : t.hostOn h = false) (p : PendS t a k r) :
    Res t (killOn h t b) a k r := by
  unfold killOn; split
  · rename_i hc
    exact (kill_rel (trk_exitSteps a k r b (p.ans.ne_of_off hc.1 hoff)) t).2 p
  · exact Or.inr p

theorem res_killFold (h : Nat) (l : List Nat) :
    ∀ t, t.hostOn h = false → PendS t a k r → Res t (l.foldl (killOn h) t) a k r := by
  induction l with
  | nil => intro t _ p; exact Or.inr p
  | cons x xs ih =>
    intro t hoff p
    have e := ext_killOn h t x
    exact res_trans e (Ext.pre.foldl xs (ext_killOn h) _) (res_killOn h t x hoff p)
      (ih _ (by rw [e.hostOn]; exact hoff))

theorem trk_handleEnded (n : Nat) (t : St) : Trk a k r t (handleEnded n t) := by
  refine handleEnded_rel (Trk.pre a k r) (fun u k0 rest hq => ?_) n t
  have e0 : Ext u ({ u with failedQ := rest } : St) := .of_eq rfl rfl rfl
  refine ⟨e0.trans (ext_finish _ k0), fun p => res_rebase e0 ?_⟩
  by_cases hk : k0 = k
  · subst hk
    exact Or.inl (p.spec ▸ finish_hit ({ u with failedQ := rest } : St) k0 p.hit a p.ans p.reg)
  · exact res_finish _ k0 ⟨p.ans, p.reg, p.hit, (List.mem_cons.mp (hq ▸ p.inq)).resolve_left (Ne.symm hk), p.spec⟩

/-- every `finish` takes its activity out of the failed action set, so `failedQ.length` turns empty it -/
theorem handleEnded_drains (n : Nat) : ∀ t : St, t.failedQ.length ≤ n → (handleEnded n t).failedQ = [] := by
  induction n with
  | zero => exact fun t hl => List.eq_nil_of_length_eq_zero (Nat.le_zero.mp hl)
  | succ n ih =>
    intro t hl
    unfold handleEnded
    split
    · assumption
    · rename_i k0 rest hq
      rw [hq] at hl
      exact ih _ (Nat.le_trans (finish_failedQ _ k0).length_le (Nat.le_of_succ_le_succ hl))

theorem done_handleEnded (n : Nat) (t : St) (p : PendS t a k r) (hl : t.failedQ.length ≤ n) :
    DoneR t (handleEnded n t) a k r :=
  ((trk_handleEnded n t).2 p).resolve_right (fun p' => by
    have := p'.inq
    rw [handleEnded_drains n t hl] at this
    cases this)

theorem done_step_handleEnded {s t : St} (e : Ext s t) (h : Res s t a k r) :
    DoneR s (step t .handleEnded) a k r := by
  by_cases hc : t.crashed = true
  · exact Or.inl (by simp [step, hc])
  · rw [show step t .handleEnded = handleEndedAll t by simp [step, hc]]
    exact h.elim (fun d => d.later (ext_handleEnded _ t))
      (fun p => (done_handleEnded _ t p (Nat.le_max_right _ _)).rebase e)

theorem failIf_other (cond : Activity → Prop) [DecidablePred cond] (t : St) (x k : Nat) (h : k ≠ x) :
    (failIf cond t x).acts k = t.acts k := by
  unfold failIf; split
  · exact failAction_acts_ne t x k h
  · rfl

theorem failFold_hits (cond : Activity → Prop) [DecidablePred cond] (k : Nat) (L : List Nat) :
    ∀ t, ((k ∈ L ∧ (t.acts k).action = some .started ∧ cond (t.acts k)) ∨
          ((t.acts k).action = some .failed ∧ k ∈ t.failedQ)) →
      ((L.foldl (failIf cond) t).acts k).action = some .failed ∧ k ∈ (L.foldl (failIf cond) t).failedQ := by
  induction L with
  | nil =>
    intro t h
    rcases h with ⟨h, _⟩ | h
    · cases h
    · exact h
  | cons x xs ih =>
    intro t h
    simp only [List.foldl_cons]
    apply ih
    rcases h with ⟨hin, hst, hc⟩ | ⟨hf, hq⟩
    · by_cases hx : k = x
      · subst hx
        right
        unfold failIf failAction
        simp [hc, hst, St.setAct]
      · left
        rw [failIf_other cond t x k hx]
        exact ⟨(List.mem_cons.mp hin).resolve_left hx, hst, hc⟩
    · right
      -- `fq` does not depend on the actor `Simp` is about
      refine ⟨?_, (simp_failIf cond 0 t x).fq k hq⟩
      by_cases hx : k = x
      · subst hx
        unfold failIf failAction
        (repeat' split) <;> simp_all
      · rw [failIf_other cond t x k hx]; exact hf

theorem pend_failFold (cond : Activity → Prop) [DecidablePred cond] (L : List Nat) (s : St) (k a : Nat) (hin : k ∈ L)
    (hst : (s.acts k).action = some .started) (hc : cond (s.acts k)) (ha : Answerable s a) (hm : a ∈ (s.acts k).simcalls)
    (hw : (s.acts k).kind = .comm ∨ ((s.acts k).kind = .exec ∧ ∃ h, h ∈ (s.acts k).hosts ∧ s.hostOn h = false)) :
    PendS (L.foldl (failIf cond) s) a k (.exc (specExc (s.acts k).kind)) := by
  have sp : Simp a s (L.foldl (failIf cond) s) := (Simp.pre a).foldl L (simp_failIf cond a) s
  obtain ⟨hf, hq⟩ := failFold_hits cond k L s (Or.inl ⟨hin, hst, hc⟩)
  obtain ⟨e1, _, _, e4, _⟩ := sp.stat k
  refine ⟨ha.of_core sp.core, by rw [sp.simc]; exact hm, ?_, hq, by rw [e1]⟩
  unfold Hit
  rw [e1, e4, hf, sp.ext.hostOn]
  exact hw.imp (fun h => ⟨h, Or.inr (Or.inr rfl)⟩) (fun ⟨h1, h2⟩ => ⟨h1, by simp, h2⟩)

theorem answerable_off {s : St} {a h : Nat} (ha : Answerable s a) (hah : (s.actors a).host ≠ h) :
    Answerable { s with hostOn := upd s.hostOn h false } a :=
  ⟨ha.1, (upd_other s.hostOn h _ false hah).trans ha.2.1, ha.2.2⟩

/-- `Host::turn_off` of a host that is on, then `handle_ended_actions`: what the kill loop leaves done or pending, starting
after `CpuImpl::turn_off` in the state where the host has just been marked off, is done at the end of the iteration -/
theorem done_hostOff (s : St) (h : Nat) (hon : s.hostOn h = true) (hcr : ¬ s.crashed = true)
    (r3 : Res (cpuCancelActions { s with hostOn := upd s.hostOn h false } h)
      (killPhase h (cpuCancelActions { s with hostOn := upd s.hostOn h false } h)) a k r) :
    DoneR s (step (step s (.hostOff h)) .handleEnded) a k r := by
  rw [show step s (.hostOff h) = hostOff s h by simp [step, hcr], hostOff_eq s h hon]
  have sp := simp_cpuCancelActions a { s with hostOn := upd s.hostOn h false } h
  have e3 := ext_killPhase h (cpuCancelActions { s with hostOn := upd s.hostOn h false } h)
  have sp4 := simp_maestroPhase a h (killPhase h (cpuCancelActions { s with hostOn := upd s.hostOn h false } h))
  -- the observations of `s` and of the state with the host marked off coincide: `d` is about the latter and is the goal up
  -- to unfolding `DoneR`/`newIn` (stated first, as in `hostOff_reaches`)
  have d := done_step_handleEnded (sp.ext.trans (e3.trans sp4.ext)) (res_rebase sp.ext (res_then_simp e3 r3 sp4))
  exact d

end SgVerif.C10
