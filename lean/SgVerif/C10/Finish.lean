import SgVerif.C10.Frame
/-
C10: the three `finish` functions as a prologue followed by the answer loop; what one call of `finish` does to the
registered issuers and to everybody else.
-/
namespace SgVerif.C10

/-- the common shape of the per-issuer loop bodies of the three `finish` functions: `commAnswerOne k`, `execAnswerOne k`,
`sleepAnswerOne k` are `answerOneG` of `commAfter k`, `execAfter k`, `fun t a => deliver t a .ok k` by `rfl` -/
def answerOneG (after : St → Nat → St) (t : St) (x : Nat) : St :=
  let r := answerTarget (unregisterAll t x) x
  if r.2 then after r.1 x else r.1

/-- the part run for an issuer that is answered -/
inductive IsAfter (k : Nat) : (St → Nat → St) → Prop
  | comm : IsAfter k (commAfter k)
  | exec : IsAfter k (execAfter k)
  | sleep : IsAfter k (fun t a => deliver t a .ok k)

/-- `commAfter k t a` is a crash or one `deliver`, between updates of two kinds: removals from `activities_`, and
`set_state(FAILED)` on `k` -/
theorem commAfter_split {Q : St → St → Prop} (hQ : Pre Q) (k a : Nat) (erase : ∀ u o, Q u (eraseActivity u o k))
    (failed : ∀ u, Q u (u.setAct k (fun x => { x with state := .failed }))) (t : St) :
    ∃ v, Q v (commAfter k t a) ∧ ∃ u, Q t u ∧
      (v = u.crash ∨ ∃ r, (NetClass (t.acts k).state → r = .exc .net) ∧ v = deliver u a r k) := by
  -- the removals from `activities_` of the endpoints of a detached comm, whatever went before
  have tail : ∀ (c : Activity) (v : St), Q v (if c.detached then
        (if c.src ≠ some a then eraseActivity (if c.dst ≠ some a then eraseActivity v c.dst k else v) c.src k
         else (if c.dst ≠ some a then eraseActivity v c.dst k else v))
      else v) :=
    fun c v => hQ.ite (hQ.trans (hQ.ite (erase v _)) (hQ.ite (erase _ _)))
  have h1 : Q t (t.setActor a (fun x => { x with activities := x.activities.erase k })) := erase t (some a)
  unfold commAfter
  extract_lets +onlyGivenNames s1 c
  rw [show c = t.acts k from rfl]
  refine ⟨_, tail _ _, ?_⟩
  -- by cases on the state itself: `split` would derive the equations of the `match`, which is dear
  cases (t.acts k).state
  case failed => exact ⟨_, h1, Or.inr ⟨_, fun _ => rfl, rfl⟩⟩
  case srcHostFailure | dstHostFailure =>
    dsimp only
    split
    · exact ⟨_, h1, Or.inl rfl⟩
    · exact ⟨_, hQ.trans h1 (failed _), Or.inr ⟨_, fun _ => rfl, rfl⟩⟩
  case linkFailure => exact ⟨_, hQ.trans h1 (failed _), Or.inr ⟨_, fun _ => rfl, rfl⟩⟩
  case canceled | done => exact ⟨_, h1, Or.inr ⟨_, fun h => absurd h (by simp [NetClass]), rfl⟩⟩
  all_goals exact ⟨_, h1, Or.inl rfl⟩

/-- `R` is respected by everything the answer loop of a `finish` on `k` is composed of, for the issuers in `ok` (those that
are unregistered and answered) -/
structure LoopSteps (R : St → St → Prop) (k : Nat) (ok : Nat → Prop) : Prop where
  unreg : ∀ u x, ok x → R u (unregisterAll u x)
  erase : ∀ u o, R u (eraseActivity u o k)
  failed : ∀ u, R u (u.setAct k (fun x => { x with state := .failed }))
  deliver : ∀ u x r, ok x → R u (deliver u x r k)
  crash : ∀ u, R u u.crash

section Rel
variable {R : St → St → Prop} (hR : Pre R) {k : Nat} {ok : Nat → Prop} (hs : LoopSteps R k ok)
include hR hs

theorem IsAfter.rel {after : St → Nat → St} (ha : IsAfter k after) {a : Nat} (hx : ok a) (t : St) : R t (after t a) := by
  cases ha with
  | comm =>
    obtain ⟨v, h3, u, h1, h2 | ⟨r, _, h2⟩⟩ := commAfter_split hR k a hs.erase hs.failed t
    · exact hR.trans h1 (hR.trans (h2 ▸ hs.crash u) h3)
    · exact hR.trans h1 (hR.trans (h2 ▸ hs.deliver u a r hx) h3)
  | exec =>
    have h1 : R t (t.setActor a (fun x => { x with activities := x.activities.erase k })) := hs.erase t (some a)
    unfold execAfter
    simp only []
    refine hR.trans h1 ?_
    generalize t.setActor a (fun x => { x with activities := x.activities.erase k }) = u
    split
    · exact hs.deliver u a _ hx
    · exact hs.deliver u a _ hx
    · exact hs.deliver u a _ hx
    · exact hs.crash u
  | sleep => exact hs.deliver t a _ hx

theorem loop_rel {after : St → Nat → St} (ha : IsAfter k after) (l : List Nat) (hl : ∀ x ∈ l, ok x) :
    ∀ t, R t (l.foldl (answerOneG after) t) := by
  refine hR.foldl_mem l (fun t x hx => ?_)
  unfold answerOneG
  simp only [answerTarget_eq]
  have h1 := hs.unreg t x (hl x hx)
  split
  · exact hR.trans h1 (ha.rel hR hs (hl x hx) _)
  · exact h1

end Rel

theorem Ext.loopSteps (k : Nat) : LoopSteps Ext k (fun _ => True) :=
  ⟨fun u x _ => ext_unregisterAll u x, fun u o => ext_eraseActivity u o k, fun u => ext_setAct u k _,
   fun u x r _ => ext_deliver u x r k, ext_crash⟩

/-- the state of `k` is what it was, or FAILED (the `set_state(FAILED)` of the answer loop) -/
def StateK (k : Nat) (t t' : St) : Prop := (t'.acts k).state = (t.acts k).state ∨ (t'.acts k).state = .failed

theorem StateK.pre (k : Nat) : Pre (StateK k) :=
  ⟨fun _ => Or.inl rfl, fun h1 h2 => h2.elim (fun e => h1.imp (e.trans ·) (e.trans ·)) Or.inr⟩

section Loop
variable {k : Nat} {after : St → Nat → St} (ha : IsAfter k after)
include ha

theorem ext_loop (l : List Nat) (t : St) :
    Ext t (l.foldl (answerOneG after) t) :=
  loop_rel Ext.pre (Ext.loopSteps k) ha l (fun _ _ => trivial) t

theorem core_loop (a : Nat) (l : List Nat) (hl : a ∉ l) (t : St) :
    coreOf (l.foldl (answerOneG after) t) a = coreOf t a :=
  loop_rel (Pre.eqOn (coreOf · a)) (ok := fun x => a ≠ x) ⟨fun u x _ => coreOf_unregisterAll u x a,
    fun u o => coreOf_eraseActivity u o k a, fun _ => rfl, fun u x r hx => coreOf_deliver u x a r k hx, fun _ => rfl⟩ ha l
    (fun _ hx e => hl (e ▸ hx)) t

theorem stateK_loop (l : List Nat) (t : St) :
    StateK k t (l.foldl (answerOneG after) t) :=
  loop_rel (StateK.pre k) (ok := fun _ => True) ⟨fun u x _ => Or.inl (unregisterAll_state u x k),
    fun u o => Or.inl (by rw [eraseActivity_acts]), fun u => Or.inr (by rw [setAct_acts_same]),
    fun _ _ _ _ => Or.inl rfl, fun _ => Or.inl rfl⟩ ha l (fun _ _ => trivial) t

theorem simcalls_nil_loop (l : List Nat) (t : St) :
    (t.acts k).simcalls = [] → ((l.foldl (answerOneG after) t).acts k).simcalls = [] :=
  loop_rel (Pre.imp (fun t : St => (t.acts k).simcalls = [])) (ok := fun _ => True)
    ⟨fun u x _ h => by simp only [unregisterAll]; split <;> simp [h], fun u o h => by rw [eraseActivity_acts]; exact h,
     fun u h => by rw [setAct_acts_same]; exact h, fun u x r _ h => h, fun u h => h⟩ ha l (fun _ _ => trivial) t

/-- the moment `u` at which the loop answers an answerable issuer of its list: `after u a` is run -/
theorem loop_moment (a : Nat) (l : List Nat) :
    ∀ t, a ∈ l → Answerable t a →
      ∃ u, Ext t u ∧ StateK k t u ∧ Ext (after u a) (l.foldl (answerOneG after) t) := by
  induction l with
  | nil => intro t hm; cases hm
  | cons x xs ih =>
    intro t hm hans
    simp only [List.foldl_cons]
    by_cases hx : a = x
    · subst hx
      have e : answerOneG after t a = after (unregisterAll t a) a := by
        unfold answerOneG
        simp only [answerTarget_eq, decide_eq_true (hans.of_core (coreOf_unregisterAll t a a)), if_true]
      rw [e]
      exact ⟨_, ext_unregisterAll t a, Or.inl (unregisterAll_state t a k), ext_loop ha xs _⟩
    · have h1 : coreOf (answerOneG after t x) a = coreOf t a := core_loop ha a [x] (by simpa using hx) t
      obtain ⟨u, e1, s1, e2⟩ := ih _ ((List.mem_cons.mp hm).resolve_left hx) (hans.of_core h1)
      exact ⟨u, (ext_loop ha [x] t).trans e1, (StateK.pre k).trans (stateK_loop ha [x] t) s1, e2⟩

end Loop

theorem commAfter_self (k : Nat) (t : St) (a : Nat) :
    (commAfter k t a).crashed = true ∨
      ∃ r, (NetClass (t.acts k).state → r = .exc .net) ∧ (commAfter k t a).obs = t.obs ++ [.answer a r k] := by
  obtain ⟨v, ⟨h3, h3'⟩, u, ⟨h1, _⟩, h2 | ⟨r, hr, h2⟩⟩ :=
    commAfter_split ((Pre.eqOn St.obs).and (Pre.eqOn St.crashed)) k a
      (fun u o => by cases o <;> exact ⟨rfl, rfl⟩) (fun _ => ⟨rfl, rfl⟩) t
  · exact Or.inl (by rw [h3', h2]; rfl)
  · exact Or.inr ⟨r, hr, by rw [h3, h2, ← h1]; rfl⟩

theorem execAfter_self (k : Nat) (t : St) (a : Nat) :
    ((t.acts k).state ≠ .failed ∧ (execAfter k t a).crashed = true) ∨
      ∃ r, ((t.acts k).state = .failed → r = .exc .host) ∧ (execAfter k t a).obs = t.obs ++ [.answer a r k] := by
  unfold execAfter
  simp only []
  split <;> simp_all [St.setActor, St.emit, St.crash, deliver]

/-- what the prologue of `finish` on `k` (state update, `fin` observation, `clean_action`, mailbox, maestro's list,
`simcalls_` moved out) leaves alone -/
structure PreOK (k : Nat) (t p : St) : Prop where
  ext : Ext t p
  actors : p.actors = t.actors
  nActors : p.nActors = t.nActors
  acts : ∀ j, j ≠ k → p.acts j = t.acts j
  ssub : ∀ b, b ∈ (p.acts k).simcalls → b ∈ (t.acts k).simcalls
  fqsub : p.failedQ.Sublist t.failedQ
  fqkeep : ∀ j, j ≠ k → j ∈ t.failedQ → j ∈ p.failedQ

theorem PreOK.pre (k : Nat) : Pre (PreOK k) :=
  ⟨fun t => ⟨Ext.refl t, rfl, rfl, fun _ _ => rfl, fun _ h => h, List.Sublist.refl _, fun _ _ h => h⟩,
   fun h1 h2 => ⟨h1.ext.trans h2.ext, h2.actors.trans h1.actors, h2.nActors.trans h1.nActors,
     fun j hj => (h2.acts j hj).trans (h1.acts j hj), fun b h => h1.ssub b (h2.ssub b h), h2.fqsub.trans h1.fqsub,
     fun j hj h => h2.fqkeep j hj (h1.fqkeep j hj h)⟩⟩

theorem PreOK.of_upd {k : Nat} {t p : St} (x : Activity) (hx : ∀ b, b ∈ x.simcalls → b ∈ (t.acts k).simcalls)
    (hacts : p.acts = upd t.acts k x) (he : Ext t p) (ha : p.actors = t.actors) (hn : p.nActors = t.nActors)
    (hq : p.failedQ = t.failedQ ∨ p.failedQ = t.failedQ.filter (· ≠ k)) : PreOK k t p := by
  refine ⟨he, ha, hn, fun j hj => by rw [hacts, upd_other _ _ _ _ hj], fun b h => hx b (by rwa [hacts, upd_same] at h), ?_, ?_⟩
  · rcases hq with hq | hq <;> rw [hq]
    · exact List.Sublist.refl _
    · exact List.filter_sublist
  · intro j hj h
    rcases hq with hq | hq <;> rw [hq]
    · exact h
    · exact List.mem_filter.mpr ⟨h, by simpa using hj⟩

theorem preOK_setAct (t : St) (k : Nat) (f : Activity → Activity)
    (hf : ∀ b, b ∈ (f (t.acts k)).simcalls → b ∈ (t.acts k).simcalls) : PreOK k t (t.setAct k f) :=
  .of_upd _ hf rfl (ext_setAct t k f) rfl rfl (Or.inl rfl)

theorem preOK_emit (k : Nat) (t : St) (o : Obs) : PreOK k t (t.emit o) :=
  ⟨ext_emit t o, rfl, rfl, fun _ _ => rfl, fun _ h => h, List.Sublist.refl _, fun _ _ h => h⟩

theorem preOK_cleanAction (t : St) (k : Nat) : PreOK k t (cleanAction t k) :=
  .of_upd { t.acts k with action := none } (fun _ h => h) rfl (ext_cleanAction t k) rfl rfl (Or.inr rfl)

theorem preOK_mboxRemove (t : St) (k : Nat) : PreOK k t (mboxRemove t k) := by
  have e := ext_mboxRemove t k
  unfold mboxRemove at e ⊢
  split at e
  · exact (PreOK.pre k).refl t
  · exact .of_upd { t.acts k with mbox := none } (fun _ h => h) rfl e rfl rfl (Or.inl rfl)

theorem mboxRemove_proj {β : Type} (g : Activity → β) (hg : ∀ x, g { x with mbox := none } = g x) (t : St) (k j : Nat) :
    g ((mboxRemove t k).acts j) = g (t.acts j) := by
  unfold mboxRemove
  split
  · rfl
  · exact setAct_proj g t k _ hg j

/-- what the prologue of `CommImpl::finish` makes of activity `k`, seen through a `g` that does not look at the mailbox -/
theorem commPrologue_acts {β : Type} (g : Activity → β) (hg : ∀ x, g { x with mbox := none } = g x) (t : St) (k : Nat)
    (st : AState) (o : Obs) (c : Bool) :
    let u := mboxRemove (cleanAction ((t.setAct k (fun x => { x with state := st })).emit o) k) k
    g ((if c then { u with maestro := u.maestro.erase k } else u).acts k) = g { t.acts k with state := st, action := none } := by
  intro u
  have e : (if c then { u with maestro := u.maestro.erase k } else u).acts = u.acts := by split <;> rfl
  rw [e, mboxRemove_proj g hg]
  simp only [cleanAction, St.setAct, St.emit, upd_same]

theorem finishComm_pre (s : St) (k : Nat) : ∃ p, PreOK k s p ∧ (p.acts k).simcalls = [] ∧ (p.acts k).action = none ∧
    (p.acts k).state = commFinalState s k ∧
    finishComm s k = (s.acts k).simcalls.foldl (answerOneG (commAfter k)) p := by
  have P := PreOK.pre k
  unfold finishComm
  simp only []
  refine ⟨?p, ?_, ?_, ?_, ?_, ?eq⟩
  -- the equation first: it says which state `p` is
  case eq =>
    exact congrArg (List.foldl (commAnswerOne k) _)
      (commPrologue_acts Activity.simcalls (fun _ => rfl) s k _ _ _)
  · refine P.trans (P.trans (P.trans (P.trans (P.trans (preOK_setAct s k _ ?_) (preOK_emit k _ _))
      (preOK_cleanAction _ k)) (preOK_mboxRemove _ k)) (P.ite ?_)) (preOK_setAct _ k _ ?_)
    · exact fun _ h => h
    · exact ⟨.of_eq rfl rfl rfl, rfl, rfl, fun _ _ => rfl, fun _ h => h, List.Sublist.refl _, fun _ _ h => h⟩
    · exact fun _ h => nomatch h
  · rw [setAct_acts_same]
  · rw [setAct_acts_same]
    exact commPrologue_acts Activity.action (fun _ => rfl) s k _ _ _
  · rw [setAct_acts_same]
    exact commPrologue_acts Activity.state (fun _ => rfl) s k _ _ _

theorem finishExec_pre (s : St) (k : Nat) : ∃ p, PreOK k s p ∧ (p.acts k).action = none ∧
    ((((s.acts k).action ≠ none ∧ (s.acts k).hosts.any (fun h => ! s.hostOn h) = true) ∨
      ((s.acts k).action = none ∧ (s.acts k).state = .failed)) → (p.acts k).state = .failed) ∧
    finishExec s k = (s.acts k).simcalls.foldl (answerOneG (execAfter k)) p := by
  have P := PreOK.pre k
  unfold finishExec
  simp only []
  refine ⟨?p, ?_, ?_, ?_, ?eq⟩
  case eq =>
    refine congrArg (List.foldl (execAnswerOne k) _) ?_
    split <;> simp [St.setAct, St.emit, cleanAction, upd]
  · refine P.trans (P.trans (P.ite (P.trans (preOK_setAct s k _ ?_) (preOK_cleanAction _ k))) (preOK_emit k _ _))
      (preOK_setAct _ k _ ?_)
    · exact fun _ h => h
    · exact fun _ h => nomatch h
  · by_cases h : (s.acts k).action = none <;> simp [St.setAct, St.emit, cleanAction, upd, h]
  · rintro (⟨h1, h2⟩ | ⟨h1, h2⟩) <;> simp [St.setAct, St.emit, cleanAction, upd, h1, h2]

theorem finishSleep_pre (s : St) (k : Nat) (ac : ActionSt) (h : (s.acts k).action = some ac) :
    ∃ p, PreOK k s p ∧ (p.acts k).action = none ∧
      finishSleep s k = (s.acts k).simcalls.foldl (answerOneG (fun t a => deliver t a .ok k)) p := by
  have P := PreOK.pre k
  unfold finishSleep
  simp only [h]
  refine ⟨?p, ?_, ?_, ?eq⟩
  case eq =>
    refine congrArg (List.foldl (sleepAnswerOne k) _) ?_
    simp [St.setAct, St.emit, cleanAction, upd]
  · refine P.trans (P.trans (P.trans (preOK_setAct s k _ ?_) (preOK_cleanAction _ k)) (preOK_emit k _ _))
      (preOK_setAct _ k _ ?_)
    · exact fun _ h => h
    · exact fun _ h => nomatch h
  · simp [St.setAct, St.emit, cleanAction, upd]

theorem finishSleep_none (s : St) (k : Nat) (h : (s.acts k).action = none) : finishSleep s k = s.crash := by
  unfold finishSleep
  simp only [h]

/-- the first case: `SleepImpl::finish` dereferences the action of a sleep that has none -/
theorem finish_cases (t : St) (k : Nat) :
    ((t.acts k).action = none ∧ finish t k = t.crash) ∨
    ∃ after p, IsAfter k after ∧ PreOK k t p ∧ (p.acts k).action = none ∧
      finish t k = (t.acts k).simcalls.foldl (answerOneG after) p := by
  unfold finish
  split
  · obtain ⟨p, hp, _, ha, _, e⟩ := finishComm_pre t k
    exact Or.inr ⟨_, p, .comm, hp, ha, e⟩
  · obtain ⟨p, hp, ha, _, e⟩ := finishExec_pre t k
    exact Or.inr ⟨_, p, .exec, hp, ha, e⟩
  · cases hac : (t.acts k).action with
    | none => exact Or.inl ⟨rfl, finishSleep_none t k hac⟩
    | some ac =>
      obtain ⟨p, hp, ha, e⟩ := finishSleep_pre t k ac hac
      exact Or.inr ⟨_, p, .sleep, hp, ha, e⟩

/-- a preorder that the prologue and the elementary updates of the answer loop respect is respected by `finish`
(the issuers registered on `k` are the only ones unregistered and answered: `ok`) -/
theorem finish_rel {R : St → St → Prop} (hR : Pre R) {k : Nat} {ok : Nat → Prop} (pre : ∀ t p, PreOK k t p → R t p)
    (hs : LoopSteps R k ok) (t : St) (hl : ∀ x ∈ (t.acts k).simcalls, ok x) : R t (finish t k) := by
  rcases finish_cases t k with ⟨_, e⟩ | ⟨after, p, ha, hp, _, e⟩ <;> rw [e]
  · exact hs.crash t
  · exact hR.trans (pre t p hp) (loop_rel hR hs ha _ hl p)

theorem ext_finish (t : St) (k : Nat) : Ext t (finish t k) :=
  finish_rel Ext.pre (fun _ _ h => h.ext) (Ext.loopSteps k) t (fun _ _ => trivial)

theorem mono_finish (t : St) (k : Nat) : Mono t (finish t k) :=
  finish_rel Mono.pre (ok := fun _ => True)
    (fun t p h => .of_acts h.actors h.nActors
      (fun b j hj => if e : j = k then e ▸ h.ssub b (e ▸ hj) else by rw [h.acts j e] at hj; exact hj))
    ⟨fun u x _ => mono_unregisterAll u x, fun u o => mono_eraseActivity u o k, fun u => mono_setAct_state u k _,
     fun u x r _ => mono_deliver u x r k, mono_crash⟩ t (fun _ _ => trivial)

/-- **`finish` leaves every actor's `wannadie` flag alone**, whoever is registered on the activity:
`unregister_first_simcall` only declines to answer an issuer whose host is off -/
theorem wdEq_finish (t : St) (k : Nat) : WdEq t (finish t k) :=
  finish_rel WdEq.pre (ok := fun _ => True) (fun t p h b => by rw [h.actors])
    ⟨fun u x _ b => wannadie_of_core (coreOf_unregisterAll u x b),
     fun u o b => wannadie_of_core (coreOf_eraseActivity u o k b), fun u => wdEq_setAct u k _,
     fun u x r _ => wdEq_setActor u x (fun y => { y with blocked := false }) (fun _ => rfl), fun _ _ => rfl⟩
    t (fun _ _ => trivial)

theorem finish_failedQ (t : St) (k : Nat) : (finish t k).failedQ.Sublist t.failedQ := by
  rcases finish_cases t k with ⟨_, e⟩ | ⟨after, p, hA, hp, _, e⟩ <;> rw [e]
  · exact List.Sublist.refl _
  · rw [loop_rel (Pre.eqOn St.failedQ) (k := k) (ok := fun _ => True)
      ⟨fun _ _ _ => rfl, fun u o => by cases o <;> rfl, fun _ => rfl, fun _ _ _ _ => rfl, fun _ => rfl⟩ hA _ (fun _ _ => trivial) p]
    exact hp.fqsub

/-- between `t` and `t'` nothing was done to issuer `a` (neither answered nor unregistered from `k`) nor to activity `k`
(same static part and state, still in the failed action set and in every `activities_` it was in): what keeps `a` waiting
for `k` -/
structure Alone (a k : Nat) (t t' : St) : Prop where
  core : coreOf t' a = coreOf t a
  hostOn : t'.hostOn = t.hostOn
  reg : a ∈ (t.acts k).simcalls → a ∈ (t'.acts k).simcalls
  stat : statOf (t'.acts k) = statOf (t.acts k)
  state : (t'.acts k).state = (t.acts k).state
  fq : k ∈ t.failedQ → k ∈ t'.failedQ
  held : ∀ b, k ∈ (t.actors b).activities → k ∈ (t'.actors b).activities

theorem Alone.pre (a k : Nat) : Pre (Alone a k) :=
  ⟨fun _ => ⟨rfl, rfl, id, rfl, rfl, id, fun _ => id⟩,
   fun h1 h2 => ⟨h2.core.trans h1.core, h2.hostOn.trans h1.hostOn, fun h => h2.reg (h1.reg h), h2.stat.trans h1.stat,
     h2.state.trans h1.state, fun h => h2.fq (h1.fq h), fun b h => h2.held b (h1.held b h)⟩⟩

theorem Alone.of_acts {a k : Nat} {t t' : St} (hc : coreOf t' a = coreOf t a) (hh : t'.hostOn = t.hostOn)
    (hk : t'.acts k = t.acts k) (hq : k ∈ t.failedQ → k ∈ t'.failedQ)
    (hb : ∀ b, k ∈ (t.actors b).activities → k ∈ (t'.actors b).activities) : Alone a k t t' :=
  ⟨hc, hh, by rw [hk]; exact id, by rw [hk], by rw [hk], hq, hb⟩

theorem alone_setAct (a : Nat) {k k0 : Nat} (hk : k ≠ k0) (t : St) (f : Activity → Activity) : Alone a k t (t.setAct k0 f) :=
  .of_acts rfl rfl (setAct_acts_ne t k0 k f hk) id (fun _ => id)

theorem alone_setActor (a k : Nat) (t : St) (c : Nat) (f : Actor → Actor) (hc : coreOf (t.setActor c f) a = coreOf t a)
    (hf : k ∈ (t.actors c).activities → k ∈ (f (t.actors c)).activities) : Alone a k t (t.setActor c f) := by
  refine .of_acts hc rfl rfl id (fun b h => ?_)
  by_cases e : b = c
  · subst e; rw [setActor_actors_same]; exact hf h
  · rw [setActor_actors_ne _ _ _ _ e]; exact h

theorem alone_eraseActivity (a : Nat) {k k0 : Nat} (hk : k ≠ k0) (t : St) (o : Option Nat) :
    Alone a k t (eraseActivity t o k0) := by
  cases o with
  | none => exact (Alone.pre a k).refl t
  | some c =>
    exact alone_setActor a k t c (fun x => { x with activities := x.activities.erase k0 })
      (coreOf_eraseActivity t (some c) k0 a) (List.mem_erase_of_ne hk).mpr

theorem unregisterAll_activities (t : St) (x b : Nat) :
    ((unregisterAll t x).actors b).activities = (t.actors b).activities := by
  by_cases e : b = x
  · subst e; simp [unregisterAll]
  · simp [unregisterAll, upd, e]

theorem alone_finish (a : Nat) {k k0 : Nat} (hk : k ≠ k0) (t : St) (ha : a ∉ (t.acts k0).simcalls) :
    Alone a k t (finish t k0) :=
  finish_rel (Alone.pre a k) (ok := fun x => a ≠ x)
    (fun t p h => .of_acts (by unfold coreOf; rw [h.actors, h.ext.hostOn]) h.ext.hostOn (h.acts k hk) (h.fqkeep k hk)
      (fun b hb => by rw [h.actors]; exact hb))
    ⟨fun u x hx => ⟨coreOf_unregisterAll u x a, rfl, unregisterAll_simc_other u x a k hx, unregisterAll_stat u x k,
      unregisterAll_state u x k, id, fun b h => by rw [unregisterAll_activities]; exact h⟩,
     alone_eraseActivity a hk, fun u => alone_setAct a hk u _,
     fun u x r hx => (Alone.pre a k).trans
      (alone_setActor a k u x (fun y => { y with blocked := false }) (coreOf_deliver u x a r k hx) id)
      (.of_acts rfl rfl rfl id (fun _ => id)),
     fun u => .of_acts rfl rfl rfl id (fun _ => id)⟩ t (fun x hx e => ha (e ▸ hx))

/-- the prologue of a `finish` on `k`, then the answer loop: the moment `u` at which an answerable registered issuer is
answered — what `after u a` emits is new in the whole call, and a crash stays -/
theorem finish_moment {k : Nat} {after : St → Nat → St} {t p : St} (hp : PreOK k t p) (hA : IsAfter k after) (a : Nat)
    (ha : Answerable t a) (hm : a ∈ (t.acts k).simcalls) :
    ∃ u, StateK k p u ∧
      (∀ r, (after u a).obs = u.obs ++ [.answer a r k] →
        newIn t ((t.acts k).simcalls.foldl (answerOneG after) p) (.answer a r k)) ∧
      ((after u a).crashed = true → ((t.acts k).simcalls.foldl (answerOneG after) p).crashed = true) := by
  obtain ⟨u, e1, su, e2⟩ := loop_moment hA a _ p hm (ha.of_core (by unfold coreOf; rw [hp.actors, hp.ext.hostOn]))
  exact ⟨u, su, fun r ho => newIn_of_ext_left _ (hp.ext.trans e1) (newIn_of_ext_right _ e2 (newIn_append u _ _ ho)),
    e2.crashed⟩

theorem finish_answers (t : St) (k a : Nat) (ha : Answerable t a) (hm : a ∈ (t.acts k).simcalls) :
    (finish t k).crashed = true ∨ ∃ r, newIn t (finish t k) (.answer a r k) := by
  rcases finish_cases t k with ⟨_, e⟩ | ⟨after, p, hA, hp, _, e⟩ <;> rw [e]
  · exact Or.inl rfl
  · obtain ⟨u, _, key, kc⟩ := finish_moment hp hA a ha hm
    cases hA with
    | comm => exact (commAfter_self k u a).imp kc (fun ⟨r, _, ho⟩ => ⟨r, key r ho⟩)
    | exec => exact (execAfter_self k u a).imp (fun h => kc h.2) (fun ⟨r, _, ho⟩ => ⟨r, key r ho⟩)
    | sleep => exact Or.inr ⟨_, key _ rfl⟩

theorem finishComm_hit (t : St) (k : Nat) (hf : NetClass (commFinalState t k)) (a : Nat) (ha : Answerable t a)
    (hm : a ∈ (t.acts k).simcalls) :
    (finishComm t k).crashed = true ∨ newIn t (finishComm t k) (.answer a (.exc .net) k) := by
  obtain ⟨p, hp, _, _, hst, e⟩ := finishComm_pre t k
  rw [e]
  obtain ⟨u, su, key, kc⟩ := finish_moment hp .comm a ha hm
  have hn : NetClass (u.acts k).state := su.elim (fun e => by rw [e, hst]; exact hf) (fun e => by rw [e]; exact Or.inl rfl)
  exact (commAfter_self k u a).imp kc (fun ⟨r, hr, ho⟩ => hr hn ▸ key r ho)

/-- the assertion of `ExecImpl::finish` does not fire on a FAILED execution -/
theorem finishExec_hit (t : St) (k : Nat)
    (hf : ((t.acts k).action ≠ none ∧ (t.acts k).hosts.any (fun h => ! t.hostOn h) = true) ∨
          ((t.acts k).action = none ∧ (t.acts k).state = .failed))
    (a : Nat) (ha : Answerable t a) (hm : a ∈ (t.acts k).simcalls) :
    newIn t (finishExec t k) (.answer a (.exc .host) k) := by
  obtain ⟨p, hp, _, hst, e⟩ := finishExec_pre t k
  rw [e]
  obtain ⟨u, su, key, _⟩ := finish_moment hp .exec a ha hm
  have hn : (u.acts k).state = .failed := su.elim (fun e => e.trans (hst hf)) id
  exact (execAfter_self k u a).elim (fun h => absurd hn h.1) (fun ⟨r, hr, ho⟩ => hr hn ▸ key r ho)

end SgVerif.C10
