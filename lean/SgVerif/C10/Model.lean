/-
C10 — resource failures are reported to every live participant.  Executable model (no Mathlib).

A labelled transition system over the kernel objects involved in failure reporting:
hosts/links (on/off), actors (`ActorImpl`: host, wannadie, simcall pending, `waiting_synchros_`, `activities_`),
activities (`CommImpl`, `ExecImpl`, `SleepImpl`: state, src/dst actor, from/to host, `model_action_` state,
registered simcalls), mailboxes, maestro's `activities_`, the failed-action set of the resource models.
Time is not part of the model: the completion of an action is an event (`complete k`); dates only order the
events of a trace.  Each function quotes the C++ it follows (files under /repo/src/kernel unless said otherwise).
-/
namespace SgVerif.C10

/-- `activity::State` -/
inductive AState where
  | waiting | ready | running | done | failed | srcHostFailure | dstHostFailure | linkFailure | canceled
  deriving DecidableEq, Repr, Inhabited

/-- `resource::Action::State` of `model_action_` (only the values that matter here) -/
inductive ActionSt where
  | started | failed | finished
  deriving DecidableEq, Repr, Inhabited

inductive Kind where
  | comm | exec | sleep
  deriving DecidableEq, Repr, Inhabited

/-- exception kinds an actor can observe -/
inductive Exc where
  | net | host | cancel
  deriving DecidableEq, Repr, Inhabited

inductive Ans where
  | ok | exc (e : Exc)
  deriving DecidableEq, Repr, Inhabited

structure Activity where
  kind : Kind := .comm
  state : AState := .waiting
  src : Option Nat := none          -- src_actor_
  dst : Option Nat := none          -- dst_actor_
  from_ : Option Nat := none        -- from_ (host)
  to_ : Option Nat := none          -- to_   (host)
  hosts : List Nat := []            -- ActivityImpl::hosts_ (exec host; sleep host; sendto: from,to)
  owner : Option Nat := none        -- ActivityImpl::actor_ (execs: the issuer)
  detached : Bool := false
  action : Option ActionSt := none  -- model_action_ (none = nullptr)
  links : List Nat := []            -- links of the action's route
  simcalls : List Nat := []         -- simcalls_ (issuers), front first
  mbox : Option Nat := none         -- mbox_ while queued
  deriving Inhabited

structure Actor where
  host : Nat := 0
  wannadie : Bool := false
  ended : Bool := false             -- cleanup_from_self ran (on_exit called), no longer in the host's actor list
  blocked : Bool := false           -- simcall_.call_ != NONE
  waiting : List Nat := []          -- waiting_synchros_
  wlist : List Nat := []            -- activities of the pending wait/wait_any observer
  activities : List Nat := []       -- activities_
  deriving Inhabited

/-- what the outside can see -/
inductive Obs where
  | answer (a : Nat) (r : Ans) (by_ : Nat)   -- simcall of actor a answered with r by the finish of activity by_
  | kill (a : Nat)                           -- ActorImpl::exit ran for a (it will see on_exit(failed = true))
  | exit (a : Nat) (failed : Bool)           -- on_exit callbacks of a ran with this flag
  | fin (k : Nat) (st : AState)              -- finish() ran on activity k, state after the update
  deriving DecidableEq, Repr, Inhabited

structure St where
  hostOn : Nat → Bool := fun _ => true
  linkOn : Nat → Bool := fun _ => true
  route : Nat → Nat → List Nat := fun _ _ => []
  actors : Nat → Actor := fun _ => {}
  nActors : Nat := 0
  acts : Nat → Activity := fun _ => {}
  nActs : Nat := 0
  mboxq : Nat → List Nat := fun _ => []     -- MailboxImpl::comm_queue_
  maestro : List Nat := []                  -- maestro's activities_ (detached activities)
  failedQ : List Nat := []                  -- activities whose action sits in a model's failed action set
  crashed : Bool := false                   -- an xbt_assert fired (the process aborts)
  obs : List Obs := []

def upd {α : Type} (f : Nat → α) (i : Nat) (v : α) : Nat → α := fun j => if j = i then v else f j

@[simp] theorem upd_same {α : Type} (f : Nat → α) (i : Nat) (v : α) : upd f i v i = v := by simp [upd]
@[simp] theorem upd_other {α : Type} (f : Nat → α) (i j : Nat) (v : α) (h : j ≠ i) : upd f i v j = f j := by
  simp [upd, h]

def St.setAct (s : St) (k : Nat) (f : Activity → Activity) : St := { s with acts := upd s.acts k (f (s.acts k)) }
def St.setActor (s : St) (a : Nat) (f : Actor → Actor) : St := { s with actors := upd s.actors a (f (s.actors a)) }
def St.emit (s : St) (o : Obs) : St := { s with obs := s.obs ++ [o] }
def St.crash (s : St) : St := { s with crashed := true }

/-- remove activity k from the `activities_` of an optional actor -/
def eraseActivity (s : St) (a : Option Nat) (k : Nat) : St :=
  match a with
  | none => s
  | some a => s.setActor a (fun x => { x with activities := x.activities.erase k })

/-- `ActorImpl::activities_` is a `std::set` ordered by the creation rank of the activities (`ActivityIdLess`, commit
b3a6606869; activity ids of the model are creation ranks): insertion keeps the list sorted and without duplicate.
The leftover activities of an ending actor are cancelled in that order (`cleanup_from_kernel`, commit 6040f7fd8e). -/
def insertAct (l : List Nat) (k : Nat) : List Nat := l.filter (fun j => j < k) ++ k :: l.filter (fun j => k < j)

/-- `Action::set_state(FAILED)` on a live action (`Action::cancel`, `Resource::cancel_actions`): the action joins
the failed action set of its model, from which `handle_ended_actions` extracts it. -/
def failAction (s : St) (k : Nat) : St :=
  if (s.acts k).action = some .started then
    { s.setAct k (fun x => { x with action := some .failed }) with failedQ := s.failedQ ++ [k] }
  else s

/-- `ActivityImpl::clean_action`: the action is deleted (and leaves whatever action set it was in) -/
def cleanAction (s : St) (k : Nat) : St :=
  { s.setAct k (fun x => { x with action := none }) with failedQ := s.failedQ.filter (· ≠ k) }

/-- `MailboxImpl::remove` -/
def mboxRemove (s : St) (k : Nat) : St :=
  match (s.acts k).mbox with
  | none => s
  | some m => { s.setAct k (fun x => { x with mbox := none }) with mboxq := upd s.mboxq m ((s.mboxq m).erase k) }

/-- `ActivityImpl::unregister_first_simcall`, first half, for issuer `a` whose simcall was popped from the finishing
activity: `this` leaves a's `waiting_synchros_`; a wait_any observer is unregistered from every activity of its list
(for a plain wait the list is `[this]`). -/
def unregisterAll (s : St) (a : Nat) : St :=
  let w := (s.actors a).wlist
  { s with
    acts := fun j => if j ∈ w then { s.acts j with simcalls := (s.acts j).simcalls.erase a } else s.acts j
    actors := upd s.actors a { s.actors a with waiting := (s.actors a).waiting.filter (fun j => j ∉ w), wlist := [] } }

/-- `false`: `unregister_first_simcall` as it is now: an issuer whose host is off is simply not answered
(`if (issuer->wannadie() || not issuer->get_host()->is_on()) return nullptr;`); `HostImpl::turn_off` kills it in turn.
`true`: the code before the fix of `host-off-marks-peer-dying-without-exit`: such an issuer was *marked* dying
(`issuer->set_wannadie()`) without going through `ActorImpl::exit()`; `HostImpl::turn_off` then skipped it
(`ActorImpl::kill` ignores actors that are already `wannadie()`), so it never ran `exit()` nor its on_exit callbacks.
(The proofs hold for `false` only: `answerTarget_eq`, `wdEq_finish`.) -/
def unregisterMarksDying : Bool := false

/-- pre-fix only: `if (not issuer->get_host()->is_on()) issuer->set_wannadie();` (now the identity) -/
def markDying (s : St) (a : Nat) : St :=
  if unregisterMarksDying then s.setActor a (fun x => { x with wannadie := true }) else s

/-- second half of `unregister_first_simcall`: is the issuer answered?
`if (simcall->call_ == NONE) return nullptr;
 if (issuer->wannadie() || not issuer->get_host()->is_on()) return nullptr; return issuer;` -/
def answerTarget (s : St) (a : Nat) : St × Bool :=
  if ¬ (s.actors a).blocked then (s, false)
  else if ¬ s.hostOn (s.actors a).host then (markDying s a, false)
  else if (s.actors a).wannadie then (s, false)
  else (s, true)

/-- `issuer->simcall_answer()` with the given outcome -/
def deliver (s : St) (a : Nat) (r : Ans) (k : Nat) : St :=
  (s.setActor a (fun x => { x with blocked := false })).emit (.answer a r k)

/-- body of the answer loop of `CommImpl::finish` once `unregister_first_simcall` returned the issuer -/
def commAfter (k : Nat) (s : St) (a : Nat) : St :=
  let s := s.setActor a (fun x => { x with activities := x.activities.erase k })   -- issuer->activities_.erase(this)
  let c := s.acts k
  let s := match c.state with
    | .failed => deliver s a (.exc .net) k
    | .srcHostFailure =>                         -- xbt_assert(issuer != src_actor_)
      if c.src = some a then s.crash else deliver (s.setAct k (fun x => { x with state := .failed })) a (.exc .net) k
    | .dstHostFailure =>                         -- xbt_assert(issuer != dst_actor_)
      if c.dst = some a then s.crash else deliver (s.setAct k (fun x => { x with state := .failed })) a (.exc .net) k
    | .linkFailure => deliver (s.setAct k (fun x => { x with state := .failed })) a (.exc .net) k
    | .canceled => deliver s a (.exc .cancel) k
    | .done => deliver s a .ok k
    | _ => s.crash                               -- xbt_assert(get_state() == State::DONE, "Internal error ...")
  if c.detached then
    let s := if c.dst ≠ some a then eraseActivity s c.dst k else s
    if c.src ≠ some a then eraseActivity s c.src k else s
  else s

/-- the per-issuer body of the `while (not simcalls_.empty())` loop of `CommImpl::finish` -/
def commAnswerOne (k : Nat) (s : St) (a : Nat) : St :=
  let r := answerTarget (unregisterAll s a) a
  if r.2 then commAfter k r.1 a else r.1

/-- state update at the head of `CommImpl::finish` -/
def commFinalState (s : St) (k : Nat) : AState :=
  let c := s.acts k
  if (match c.from_ with | some h => ! s.hostOn h | none => false) then .srcHostFailure
  else if (match c.to_ with | some h => ! s.hostOn h | none => false) then .dstHostFailure
  else if c.action = some .failed then .linkFailure
  else if c.state = .running then .done
  else c.state

/-- `CommImpl::finish` -/
def finishComm (s : St) (k : Nat) : St :=
  let s := s.setAct k (fun x => { x with state := commFinalState s k })
  let s := s.emit (.fin k (s.acts k).state)
  let s := cleanAction s k
  let s := mboxRemove s k
  let s := if (s.acts k).detached then { s with maestro := s.maestro.erase k } else s
  let l := (s.acts k).simcalls
  let s := s.setAct k (fun x => { x with simcalls := [] })
  l.foldl (commAnswerOne k) s

def execAfter (k : Nat) (s : St) (a : Nat) : St :=
  let s := s.setActor a (fun x => { x with activities := x.activities.erase k })
  match (s.acts k).state with
  | .failed => deliver s a (.exc .host) k
  | .canceled => deliver s a (.exc .cancel) k
  | .done => deliver s a .ok k
  | _ => s.crash

def execAnswerOne (k : Nat) (s : St) (a : Nat) : St :=
  let r := answerTarget (unregisterAll s a) a
  if r.2 then execAfter k r.1 a else r.1

/-- `ExecImpl::finish` -/
def finishExec (s : St) (k : Nat) : St :=
  let e := s.acts k
  let s := if e.action ≠ none then
      let st := if e.hosts.any (fun h => ! s.hostOn h) then AState.failed
                else if e.action = some .failed then AState.canceled else AState.done
      cleanAction (s.setAct k (fun x => { x with state := st })) k
    else s
  let s := s.emit (.fin k (s.acts k).state)
  let l := (s.acts k).simcalls
  let s := s.setAct k (fun x => { x with simcalls := [] })
  l.foldl (execAnswerOne k) s

def sleepAnswerOne (k : Nat) (s : St) (a : Nat) : St :=
  let r := answerTarget (unregisterAll s a) a
  if r.2 then deliver r.1 a .ok k else r.1

/-- `SleepImpl::finish` (a null `model_action_` would be dereferenced: modelled as a crash) -/
def finishSleep (s : St) (k : Nat) : St :=
  let e := s.acts k
  match e.action with
  | none => s.crash
  | some ac =>
    let st := if ac = .failed then
        (if e.hosts.any (fun h => ! s.hostOn h) then AState.srcHostFailure else AState.canceled)
      else if ac = .finished then AState.done else e.state
    let s := cleanAction (s.setAct k (fun x => { x with state := st })) k
    let s := s.emit (.fin k st)
    let l := (s.acts k).simcalls
    let s := s.setAct k (fun x => { x with simcalls := [] })
    l.foldl (sleepAnswerOne k) s

def finish (s : St) (k : Nat) : St :=
  match (s.acts k).kind with
  | .comm => finishComm s k
  | .exec => finishExec s k
  | .sleep => finishSleep s k

/-- `CommImpl::cancel` / `ActivityImpl::cancel` -/
def cancel (s : St) (k : Nat) : St :=
  let c := s.acts k
  match c.kind with
  | .comm =>
    let s := if c.state = .waiting then
        (if ¬ c.detached then (mboxRemove s k).setAct k (fun x => { x with state := .canceled }) else s)
      else if c.state = .ready ∨ c.state = .running then
        (if c.action = none then s.crash else failAction s k)      -- model_action_->cancel()
      else s
    eraseActivity (eraseActivity s c.src k) c.dst k
  | _ =>
    let s := if c.action ≠ none then failAction s k else s
    eraseActivity (s.setAct k (fun x => { x with state := .canceled })) c.owner k

/-- the first loop of `ActorImpl::exit`: `waiting_synchros_` from the back:
`activity->cancel(); activity->set_state(FAILED); activity->finish(); activities_.erase(activity);` -/
def exitWaiting (a : Nat) (s : St) (k : Nat) : St :=
  let s := cancel s k
  let s := s.setAct k (fun x => { x with state := .failed })
  let s := finish s k
  s.setActor a (fun x => { x with activities := x.activities.erase k })

/-- `while (not waiting_synchros_.empty()) { activity = back(); pop_back(); ... }`: the list is re-read at every
iteration because `finish()` may unregister a wait_any simcall from the other activities of its list. -/
def exitLoop (a : Nat) : Nat → St → St
  | 0, s => s
  | n + 1, s =>
    match (s.actors a).waiting.getLast? with
    | none => s
    | some k =>
      let s := s.setActor a (fun x => { x with waiting := x.waiting.dropLast })
      exitLoop a n (exitWaiting a s k)

/-- `ActorImpl::exit` (the final `throw_exception(ForcefulKillException)` finds `waiting_synchros_` empty) -/
def actorExit (s : St) (a : Nat) : St :=
  let s := s.setActor a (fun x => { x with wannadie := true })
  let s := exitLoop a (s.actors a).waiting.length s
  let s := (s.actors a).activities.foldl cancel s        -- while (not activities_.empty()) begin()->cancel()
  let s := s.setActor a (fun x => { x with activities := [], waiting := [] })
  s.emit (.kill a)

/-- `ActorImpl::kill`: dying actors are ignored -/
def kill (s : St) (a : Nat) : St := if (s.actors a).wannadie then s else actorExit s a

/-- `Resource::cancel_actions` of a cpu: every running exec/sleep placed on host h -/
def cpuCancelActions (s : St) (h : Nat) : St :=
  (List.range s.nActs).foldl (fun s k =>
    if (s.acts k).kind ≠ .comm ∧ h ∈ (s.acts k).hosts then failAction s k else s) s

/-- maestro's activities that declare host h: `activity->cancel(); activity->set_state(FAILED);` -/
def maestroFail (h : Nat) (s : St) (k : Nat) : St :=
  if h ∈ (s.acts k).hosts then (cancel s k).setAct k (fun x => { x with state := .failed }) else s

/-- `s4u::Host::turn_off` = `CpuImpl::turn_off` + `HostImpl::turn_off` -/
def hostOff (s : St) (h : Nat) : St :=
  if ¬ s.hostOn h then s else
  let s := { s with hostOn := upd s.hostOn h false }
  let s := cpuCancelActions s h
  let s := (List.range s.nActors).foldl (fun s a =>
    if (s.actors a).host = h ∧ ¬ (s.actors a).ended then kill s a else s) s
  s.maestro.foldl (maestroFail h) s

def hostOnEv (s : St) (h : Nat) : St := { s with hostOn := upd s.hostOn h true }

/-- `StandardLinkImpl::turn_off`: `cancel_actions()` fails every live action crossing the link -/
def linkOff (s : St) (l : Nat) : St :=
  if ¬ s.linkOn l then s else
  let s := { s with linkOn := upd s.linkOn l false }
  (List.range s.nActs).foldl (fun s k =>
    if (s.acts k).kind = .comm ∧ l ∈ (s.acts k).links then failAction s k else s) s

def linkOnEv (s : St) (l : Nat) : St := { s with linkOn := upd s.linkOn l true }

/-- `false`: `CommImpl::start` as it is in /repo now (fix commit fcd7d0e96a: the comm fails with SRC/DST_HOST_FAILURE);
`true`: the code before the fix (`xbt_assert(from_->is_on()); xbt_assert(to_->is_on());` aborted the simulation). -/
def startAsserts : Bool := false

/-- `CommImpl::start` -/
def commStart (s : St) (k : Nat) : St :=
  let c := s.acts k
  if c.state ≠ .ready then s else
  -- from_ = from_ != nullptr ? from_ : src_actor_->get_host();  (a null actor would be dereferenced: crash)
  let fromO := match c.from_, c.src with | some h, _ => some h | none, some a => some (s.actors a).host | none, none => none
  let toO := match c.to_, c.dst with | some h, _ => some h | none, some a => some (s.actors a).host | none, none => none
  match fromO, toO with
  | none, _ => s.crash
  | _, none => s.crash
  | some fromH, some toH =>
  -- xbt_assert(from_->is_on()); xbt_assert(to_->is_on());
  if ¬ s.hostOn fromH ∨ ¬ s.hostOn toH then
    (if startAsserts then s.crash
     else
       let st : AState := if s.hostOn fromH then .dstHostFailure else .srcHostFailure
       finishComm (s.setAct k (fun x => { x with from_ := some fromH, to_ := some toH, state := st })) k)
  else
  let r := s.route fromH toH
  let failed := r.any (fun l => ! s.linkOn l)
  let s := s.setAct k (fun x => { x with from_ := some fromH, to_ := some toH, links := r, state := .running,
                                          action := some (if failed then .failed else .started) })
  if failed then finishComm (s.setAct k (fun x => { x with state := .linkFailure })) k else s

/-- `MailboxImpl::find_matching_comm` without filters: first queued comm of the other type -/
def findMatching (s : St) (m : Nat) (wantSend : Bool) : Option Nat :=
  (s.mboxq m).find? (fun j => if wantSend then (s.acts j).src.isSome else (s.acts j).dst.isSome)

/-- `CommImpl::isend`; returns the comm's id -/
def isend (s : St) (a : Nat) (m : Nat) (detached : Bool) : St × Nat :=
  let (s, k) := match findMatching s m false with
    | none =>
      let k := s.nActs
      ({ s with nActs := k + 1, acts := upd s.acts k { kind := .comm, state := .waiting, mbox := some m },
                mboxq := upd s.mboxq m (s.mboxq m ++ [k]) }, k)
    | some k => ((mboxRemove s k).setAct k (fun x => { x with state := .ready }), k)
  let s := if detached then { s.setAct k (fun x => { x with detached := true }) with maestro := s.maestro ++ [k] }
           else s.setActor a (fun x => { x with activities := insertAct x.activities k })
  let s := s.setAct k (fun x => { x with src := some a })
  (commStart s k, k)

/-- `CommImpl::irecv` (non-permanent mailboxes) -/
def irecv (s : St) (a : Nat) (m : Nat) : St × Nat :=
  let (s, k) := match findMatching s m true with
    | none =>
      let k := s.nActs
      ({ s with nActs := k + 1, acts := upd s.acts k { kind := .comm, state := .waiting, mbox := some m },
                mboxq := upd s.mboxq m (s.mboxq m ++ [k]) }, k)
    | some k => ((mboxRemove s k).setAct k (fun x => { x with state := .ready }), k)
  let s := s.setActor a (fun x => { x with activities := insertAct x.activities k })
  let s := s.setAct k (fun x => { x with dst := some a })
  (commStart s k, k)

/-- `Comm::sendto_async(from, to)`: a detached host-to-host comm (in maestro's list, hosts_ = {from, to}) -/
def sendto (s : St) (hf ht : Nat) : St × Nat :=
  let k := s.nActs
  let s := { s with nActs := k + 1,
                    acts := upd s.acts k { kind := .comm, state := .ready, from_ := some hf, to_ := some ht,
                                           hosts := [hf, ht], detached := true },
                    maestro := s.maestro ++ [k] }
  (commStart s k, k)

/-- `ExecImpl::start` on host h by actor a (`CpuCas01::execution_start` creates a FAILED action on an off cpu) -/
def execStart (s : St) (a : Nat) (h : Nat) : St × Nat :=
  let k := s.nActs
  let on := s.hostOn h
  let s := { s with nActs := k + 1,
                    acts := upd s.acts k { kind := .exec, state := .running, hosts := [h], owner := some a,
                                           action := some (if on then .started else .failed) },
                    failedQ := if on then s.failedQ else s.failedQ ++ [k] }
  (s.setActor a (fun x => { x with activities := insertAct x.activities k }), k)

/-- `ExecImpl::start` of a parallel execution (`Exec::set_hosts`: `hosts_` = the whole list, in the order given) under the
ptask_L07 host model: `host_model->execute_parallel(get_hosts(), …)` = `new L07Action` (no bytes: the action's variable is
expanded on the cpu constraint of EVERY host of the list, so `cancel_actions` of any of them fails it:
`cpuCancelActions`).  The constructor does not look at `is_on()`: on an off host the action starts like any other and is
failed by the "none of the model has failed" test of `HostL07Model::update_actions_state` at the next date — an event
whose date the model does not predict (`complete`, after which `finishExec` sees the off host: FAILED).  Under that
host model a one-host execution (`CpuL07::execution_start`) is the same action with a one-element list. -/
def pexecStart (s : St) (a : Nat) (hs : List Nat) : St × Nat :=
  let k := s.nActs
  let s := { s with nActs := k + 1,
                    acts := upd s.acts k { kind := .exec, state := .running, hosts := hs, owner := some a,
                                           action := some .started } }
  (s.setActor a (fun x => { x with activities := insertAct x.activities k }), k)

/-- `ActorImpl::sleep` (the issuer's host is on, or the issuer would be dead) -/
def sleepStart (s : St) (a : Nat) : St × Nat :=
  let k := s.nActs
  let h := (s.actors a).host
  let on := s.hostOn h
  ({ s with nActs := k + 1,
            acts := upd s.acts k { kind := .sleep, state := .running, hosts := [h],
                                   action := some (if on then .started else .failed) },
            failedQ := if on then s.failedQ else s.failedQ ++ [k] }, k)

def terminal (st : AState) : Bool := st ≠ .waiting ∧ st ≠ .running

/-- `ActivityImpl::register_simcall` -/
def register (s : St) (a : Nat) (k : Nat) : St :=
  (s.setAct k (fun x => { x with simcalls := x.simcalls ++ [a] })).setActor a
    (fun x => { x with waiting := x.waiting ++ [k] })

/-- `ActivityImpl::wait_for` without timeout -/
def waitOn (s : St) (a : Nat) (k : Nat) : St :=
  let s := s.setActor a (fun x => { x with blocked := true, wlist := [k] })
  let s := register s a k
  if terminal (s.acts k).state then finish s k else s

def waitAnyLoop (a : Nat) : List Nat → St → St
  | [], s => s
  | k :: ks, s =>
    let s := register s a k
    if terminal (s.acts k).state then finish s k else waitAnyLoop a ks s

/-- `ActivityImpl::wait_any_for` without timeout -/
def waitAny (s : St) (a : Nat) (ks : List Nat) : St :=
  waitAnyLoop a ks (s.setActor a (fun x => { x with blocked := true, wlist := ks }))

/-- `ActivityImpl::test`: returns the new state and the result -/
def test (s : St) (k : Nat) : St × Bool :=
  if terminal (s.acts k).state then (finish s k, true) else (s, false)

/-- a simcall issued by a dying actor is dropped (`ActorImpl::simcall_handle`: `if (wannadie()) return;`) -/
def alive (s : St) (a : Nat) : Bool := ! (s.actors a).wannadie

/-- the action of activity k reaches its end (`extract_done_action` + `finish`) -/
def complete (s : St) (k : Nat) : St :=
  if (s.acts k).action = some .started then finish (s.setAct k (fun x => { x with action := some .finished })) k
  else s

/-- the actor's function returned: `cleanup_from_self` (on_exit(failed = wannadie)) in the actor's context, then — since
commit 6040f7fd8e by maestro, in `cleanup_from_kernel()`, called by `run_all_actors()` right after the actors of the
sub-round ran and before any simcall of that sub-round is handled — the cancellation of the leftover `activities_`, in
creation order.  Nothing that touches kernel state can happen between the two (the other actors of the sub-round only
run user code up to their next simcall), so the two halves stay one atomic event of the model. -/
def actorEnd (s : St) (a : Nat) : St :=
  let s := s.emit (.exit a (s.actors a).wannadie)
  let s := (s.actors a).activities.foldl cancel s
  s.setActor a (fun x => { x with ended := true, activities := [], wannadie := true })

/-- `EngineImpl::handle_ended_actions`, failed actions: `while (auto* action = model->extract_failed_action())
activity->finish()`; `extract_failed_action` pops the front of the failed action set before `finish` runs (which then
destroys the action: `clean_action`). -/
def handleEnded : Nat → St → St
  | 0, s => s
  | n + 1, s =>
    match s.failedQ with
    | [] => s
    | k :: rest => handleEnded n (finish { s with failedQ := rest } k)

/-- `handle_ended_actions` run until the failed action set is empty: every `finish` takes its activity out of the set
(`clean_action`), so `failedQ.length` iterations are enough; `nActs + 1` is kept as a lower bound (the bound used
before; the two agree on every state met so far: the set has no duplicate and only holds existing activities). -/
def handleEndedAll (s : St) : St := handleEnded (max (s.nActs + 1) s.failedQ.length) s

/-- the events of the transition system -/
inductive Ev where
  | isendWait (a m : Nat)            -- blocking put: isend + wait_for in one simcall
  | irecvWait (a m : Nat)            -- blocking get
  | isend (a m : Nat) (detached : Bool)
  | irecv (a m : Nat)
  | sendto (a hf ht : Nat)           -- Comm::sendto_async (start only)
  | execStart (a h : Nat)
  | pexecStart (a : Nat) (hs : List Nat)   -- parallel execution on a host list (ptask_L07), start only
  | sleep (a : Nat)                  -- sleep_for: start + wait
  | wait (a k : Nat)
  | waitAny (a : Nat) (ks : List Nat)
  | test (a k : Nat)
  | hostOff (h : Nat) | hostOn (h : Nat) | linkOff (l : Nat) | linkOn (l : Nat)
  | complete (k : Nat)
  | actorEnd (a : Nat)
  | handleEnded
  deriving Repr

def step (s : St) (e : Ev) : St :=
  if s.crashed then s else
  match e with
  | .isendWait a m => if alive s a then let (s, k) := isend s a m false; waitOn s a k else s
  | .irecvWait a m => if alive s a then let (s, k) := irecv s a m; waitOn s a k else s
  | .isend a m d => if alive s a then (isend s a m d).1 else s
  | .irecv a m => if alive s a then (irecv s a m).1 else s
  | .sendto a hf ht => if alive s a then (sendto s hf ht).1 else s
  | .execStart a h => if alive s a then (execStart s a h).1 else s
  | .pexecStart a hs => if alive s a then (pexecStart s a hs).1 else s
  | .sleep a => if alive s a then let (s, k) := sleepStart s a; waitOn s a k else s
  | .wait a k => if alive s a then waitOn s a k else s
  | .waitAny a ks => if alive s a then waitAny s a ks else s
  | .test a k => if alive s a then (test s k).1 else s
  | .hostOff h => hostOff s h
  | .hostOn h => hostOnEv s h
  | .linkOff l => linkOff s l
  | .linkOn l => linkOnEv s l
  | .complete k => complete s k
  | .actorEnd a => actorEnd s a
  | .handleEnded => handleEndedAll s

def run (s : St) (es : List Ev) : St := es.foldl step s

/-- initial state: all resources on, actors placed on their hosts -/
def init (hostsOf : List Nat) (route : Nat → Nat → List Nat) : St :=
  { route := route, nActors := hostsOf.length, actors := fun i => { host := hostsOf.getD i 0 } }

/-! ### the specification side -/

/-- spec table: the exception a surviving waiter of a failed activity must get -/
def specExc : Kind → Exc
  | .comm => .net       -- peer's host failed, or a link of the route failed: NetworkFailureException
  | .exec => .host      -- the host running the execution failed: HostFailureException
  | .sleep => .host     -- (never delivered: only the sleeping actor waits on its sleep, and it dies)

/-- an activity that can still produce a completion event: unmatched (a peer may still arrive), or running with a
live action, or its action is in the failed set waiting for `handle_ended_actions` -/
def Live (s : St) (k : Nat) : Prop :=
  (s.acts k).state = .waiting ∨ ((s.acts k).state = .running ∧ (s.acts k).action = some .started) ∨ k ∈ s.failedQ

end SgVerif.C10
