import SgVerif.C10.Hold
import SgVerif.C10.Inv
/-
C10 — resource failures are reported to every live participant.  Property theorems, the predicates their statements need, and concrete instances.
All theorems are over arbitrary states of the transition system of Model.lean (any number of hosts, links, actors,
activities, any history): no bound anywhere.
-/
namespace SgVerif.C10

/-- **Communications.**  Whenever `CommImpl::finish` runs on a communication whose final state is a failure state
(sender's host off -> SRC_HOST_FAILURE, receiver's host off -> DST_HOST_FAILURE, action failed (link off, or cancelled
by a dying peer) -> LINK_FAILURE, or FAILED set by `ActorImpl::exit` / `HostImpl::turn_off`), EVERY registered simcall
whose issuer is answerable is answered by that same call with NetworkFailureException — sender side, receiver side,
third parties (sendto), wait and wait_any alike — unless one of the function's own assertions fires (`crashed`). -/
theorem failure_reaches_all_waiters_comm (s : St) (k : Nat) (hf : NetClass (commFinalState s k)) :
    ∀ a ∈ (s.acts k).simcalls, Answerable s a →
      (finishComm s k).crashed = true ∨ Obs.answer a (.exc .net) k ∈ (finishComm s k).obs :=
  fun a ha hans => (finishComm_hit s k hf a hans ha).imp id newIn_mem

/-- **Executions.**  When `ExecImpl::finish` runs on an execution whose action is still attached and one of whose
hosts is off, every answerable registered issuer (necessarily an actor of another host: remote exec) is answered with
HostFailureException. -/
theorem failure_reaches_all_waiters_exec (s : St) (k : Nat) (hact : (s.acts k).action ≠ none)
    (hoff : (s.acts k).hosts.any (fun h => ! s.hostOn h) = true) :
    ∀ a ∈ (s.acts k).simcalls, Answerable s a → Obs.answer a (.exc .host) k ∈ (finishExec s k).obs :=
  fun a ha hans => newIn_mem (finishExec_hit s k (Or.inl ⟨hact, hoff⟩) a hans ha)

/-- the state `CommImpl::finish` computes is a failure state as soon as an endpoint host is off or the action failed:
the hypotheses of `failure_reaches_all_waiters_comm` hold in the three rows of the spec table -/
theorem commFinalState_src_off (s : St) (k h : Nat) (h1 : (s.acts k).from_ = some h) (h2 : s.hostOn h = false) :
    commFinalState s k = .srcHostFailure := by
  simp [commFinalState, h1, h2]

theorem commFinalState_dst_off (s : St) (k h h' : Nat) (h0 : (s.acts k).from_ = some h') (h0' : s.hostOn h' = true)
    (h1 : (s.acts k).to_ = some h) (h2 : s.hostOn h = false) : commFinalState s k = .dstHostFailure := by
  simp [commFinalState, h0, h0', h1, h2]

theorem commFinalState_link_failed (s : St) (k : Nat) (h1 : (s.acts k).action = some .failed) :
    NetClass (commFinalState s k) :=
  netClass_ite _ _ _ _ (Or.inr (Or.inr h1))

/-- `turn_off` of a link: every running communication whose route uses the link has its action FAILED and queued for
`handle_ended_actions` (which calls `finish`, to which the theorems above apply). -/
theorem linkOff_fails_every_user (s : St) (l k : Nat) (hon : s.linkOn l = true) (hk : k < s.nActs)
    (hc : (s.acts k).kind = .comm) (hl : l ∈ (s.acts k).links) (ha : (s.acts k).action = some .started) :
    ((linkOff s l).acts k).action = some .failed ∧ k ∈ (linkOff s l).failedQ := by
  rw [linkOff_eq s l hon]
  exact failFold_hits _ k _ _ (Or.inl ⟨List.mem_range.mpr hk, ha, hc, hl⟩)

/-- **Host-off analogue of `linkOff_fails_every_user`.**  `Host::turn_off` starts with `CpuImpl::turn_off`
(`cancel_actions`): every execution or sleep placed on the host whose action is live has it FAILED and queued for
`handle_ended_actions` (unless the kill loop that follows already finished it: see `failure_reaches_all_waiters`). -/
theorem hostOff_fails_every_user (s : St) (h k : Nat) (hk : k < s.nActs) (hc : (s.acts k).kind ≠ .comm)
    (hh : h ∈ (s.acts k).hosts) (ha : (s.acts k).action = some .started) :
    ((cpuCancelActions s h).acts k).action = some .failed ∧ k ∈ (cpuCancelActions s h).failedQ :=
  failFold_hits (fun x => x.kind ≠ .comm ∧ h ∈ x.hosts) k _ s (Or.inl ⟨List.mem_range.mpr hk, ha, hc, hh⟩)

/-- **`handle_ended_actions` reports every failed action.**  In ANY state, for every activity `k` of the failed action set
that is hit by a resource failure (`Hit`:
a communication with a failed action or an endpoint host off, an execution with a host off) and every answerable
issuer `a` registered on it: when `handle_ended_actions` returns, `a` has been answered *during that call* — by `k` with
the exception of the spec table (NetworkFailureException / HostFailureException), or, when `a` sits in a wait_any, by
another activity of its set that was finished earlier in the same call — unless an assertion of the kernel fired. -/
theorem handle_ended_reports_every_failed_action (t : St) (k a : Nat) (hin : k ∈ t.failedQ) (hit : Hit t k)
    (ha : Answerable t a) (hm : a ∈ (t.acts k).simcalls) :
    DoneR t (handleEndedAll t) a k (.exc (specExc (t.acts k).kind)) :=
  done_handleEnded _ t ⟨ha, hm, hit, hin, rfl⟩ (Nat.le_max_right _ _)

/-- how a resource failure event hits a running activity -/
inductive HitBy (s : St) (k : Nat) : Ev → Prop
  | link (l : Nat) : s.linkOn l = true → (s.acts k).kind = .comm → l ∈ (s.acts k).links → HitBy s k (.linkOff l)
  | hostExec (h : Nat) : s.hostOn h = true → (s.acts k).kind = .exec → h ∈ (s.acts k).hosts → HitBy s k (.hostOff h)

/-- the issuer does not live on the host that is turned off (otherwise it is killed: `killed_on_host_off`) -/
def Survives (s : St) (a : Nat) : Ev → Prop
  | .hostOff h => (s.actors a).host ≠ h
  | _ => True

/-- **failure_reaches_all_waiters (run level).**  Take ANY state `s` (hence every reachable one), a RUNNING
activity `k` (its action is live) that uses a link / a host that is on, and turn that resource off (`e`); let maestro
finish its iteration (`handle_ended_actions`).  Then EVERY simcall registered on `k` whose issuer `a` is answerable
(blocked, alive, on a host that is on) and does not itself live on the failed host has been answered within these two
steps: by `k` with the failure kind of the spec table — NetworkFailureException for a communication,
HostFailureException for an execution — or (wait_any) by another activity of its set that finished in the same
iteration; or an assertion of the kernel fired.  Nothing is assumed on the rest of the state: any number of actors,
activities, other pending failures, wait_any sets, dying actors.
Composition of `linkOff_fails_every_user` / `hostOff_fails_every_user`, the kill loop of `HostImpl::turn_off`
(`ActorImpl::exit` of every actor of the host, which may itself finish `k`), and `handle_ended_reports_every_failed_action`.
The third row of the spec table — a communication whose *peer's* host fails, where the action is failed by the dying peer's
`exit()` — is `failure_reaches_all_waiters_peer_host` below. -/
theorem failure_reaches_all_waiters (s : St) (e : Ev) (k a : Nat) (hk : k < s.nActs)
    (hrun : (s.acts k).action = some .started) (hit : HitBy s k e)
    (ha : Answerable s a) (hs : Survives s a e) (hm : a ∈ (s.acts k).simcalls) :
    DoneR s (run s [e, .handleEnded]) a k (.exc (specExc (s.acts k).kind)) := by
  show DoneR s (step (step s e) .handleEnded) a k _
  by_cases hcr : s.crashed = true
  · left; simp [step, hcr]
  · cases hit with
    | link l hon hc hl =>
      rw [show step s (.linkOff l) = linkOff s l by simp [step, hcr]]
      have p := pend_failFold (fun x => x.kind = .comm ∧ l ∈ x.links) (List.range s.nActs)
        { s with linkOn := upd s.linkOn l false } k a (List.mem_range.mpr hk) hrun ⟨hc, hl⟩ ha hm (Or.inl hc)
      rw [← linkOff_eq s l hon] at p
      exact done_step_handleEnded (simp_linkOff a s l).ext (Or.inr p)
    | hostExec h hon hc hh =>
      -- from the state in which the host has just been marked off: `cancel_actions` fails the action, and the kill loop
      -- answers the issuer or leaves that pending
      have p := pend_failFold (fun x => x.kind ≠ .comm ∧ h ∈ x.hosts) (List.range s.nActs)
        { s with hostOn := upd s.hostOn h false } k a (List.mem_range.mpr hk) hrun ⟨by rw [hc]; simp, hh⟩
        (answerable_off ha hs) hm (Or.inr ⟨hc, h, hh, by simp [upd]⟩)
      exact done_hostOff s h hon hcr (res_killFold h _ _
        (by rw [(simp_cpuCancelActions a _ h).ext.hostOn]; simp [upd]) p)

/-- **failure_reaches_all_waiters, peer's host (run level).**  The third row of the spec table: a RUNNING communication `k`
(live action) held by a live actor `b` of host `h` — it is in `b`'s `activities_`: `b` is its sender or receiver, blocked on
it or not — and `h` is turned off.  For EVERY state: every answerable issuer `a` registered on `k` that lives on another
host (the peer, a third party, a wait_any) has been answered by the end of the maestro iteration (`turn_off` +
`handle_ended_actions`) — by `k` with NetworkFailureException, or by another activity of its wait_any finished in that
iteration — or an assertion fired.  Composition through the kill loop of `HostImpl::turn_off`: the kills of the other actors
of the host leave `k` held or doom it, `b`'s own `exit()` cancels it (first loop: finished on the spot; second loop: FAILED and
queued), `handle_ended_actions` finishes it.
With the code before the fix of `host-off-marks-peer-dying-without-exit` (`unregisterMarksDying = true`) the statement
needs the hypothesis `Private s h b` (no other actor of `h` waits on an activity on which `b` is registered): `b` could be
marked dying by the `finish` of a co-hosted actor's synchro (`unregister_first_simcall` called `set_wannadie()`) and then be
skipped by `turn_off`, so that `k` was never cancelled and `a` was told at `k`'s natural completion date at best.
`unregister_first_simcall` as it is marks nobody (`wdEq_finish`), so the kill loop reaches every live actor of the host.  (Detached sends — not in anybody's `activities_` — and `Comm::sendto` comms of maestro's list are not the subject of
this statement: see `no_orphan_block`.) -/
theorem failure_reaches_all_waiters_peer_host (s : St) (h k a b : Nat) (hon : s.hostOn h = true)
    (hb : b < s.nActors) (hbh : (s.actors b).host = h) (hbe : (s.actors b).ended = false)
    (hbw : (s.actors b).wannadie = false) (hheld : k ∈ (s.actors b).activities)
    (hk : (s.acts k).kind = .comm) (hrun : (s.acts k).state = .running) (hact : (s.acts k).action = some .started)
    (ha : Answerable s a) (hah : (s.actors a).host ≠ h) (hm : a ∈ (s.acts k).simcalls) :
    DoneR s (run s [.hostOff h, .handleEnded]) a k (.exc .net) := by
  show DoneR s (step (step s (.hostOff h)) .handleEnded) a k _
  by_cases hcr : s.crashed = true
  · left; simp [step, hcr]
  · exact done_hostOff s h hon hcr (res_kill_comm { s with hostOn := upd s.hostOn h false } h k a b (by simp [upd]) hb
      ⟨answerable_off ha hah, hm, hk, hact, hrun, hheld⟩ ⟨hbh, hbe, hbw⟩)

/-- non-vacuity: the textbook case — sender (actor 0, host 0) and receiver (actor 1, host 1) in a rendez-vous, host 0 fails:
the receiver meets the hypotheses with the sender as holder, and is answered NetworkFailureException in that iteration -/
example :
    let s := run (init [0, 1] (fun _ _ => [0])) [.isendWait 0 0, .irecvWait 1 0]
    s.hostOn 0 = true ∧ 0 < s.nActors ∧ (s.actors 0).host = 0 ∧ (s.actors 0).ended = false ∧ (s.actors 0).wannadie = false ∧
    0 ∈ (s.actors 0).activities ∧ (s.acts 0).kind = .comm ∧ (s.acts 0).state = .running ∧
    (s.acts 0).action = some .started ∧ Answerable s 1 ∧ (s.actors 1).host ≠ 0 ∧ 1 ∈ (s.acts 0).simcalls ∧
    newIn s (run s [.hostOff 0, .handleEnded]) (.answer 1 (.exc .net) 0) := by
  decide

/-! `killed_on_host_off_partial`: the two ends of the chain — `ActorImpl::exit` marks the actor and records the kill whatever
the state, and `cleanup_from_self` hands `wannadie()` to the on_exit callbacks.  The monitor checks the property on every run
as well (every actor of a host turned off logs `exit 1` at that date). -/
theorem killed_on_host_off_partial (s : St) (a : Nat) :
    Obs.kill a ∈ (actorExit s a).obs ∧
    (∀ t : St, (t.actors a).wannadie = true → Obs.exit a true ∈ (actorEnd t a).obs) := by
  refine ⟨newIn_mem (actorExit_kill_new s a), fun t ht => ?_⟩
  -- the observation is emitted first; the cancellations that follow only append
  have e := Ext.pre.foldl (t.actors a).activities ext_cancel (t.emit (.exit a (t.actors a).wannadie))
  exact e.obs.subset (by simp [St.emit, ht])

/-- **killed_on_host_off (run level).**  For EVERY state, when a host that is on is turned off, every actor of that host
that has not ended is dying when `Host::turn_off` returns — whatever the `finish` / `cancel` calls made in between for
the other actors of the host, for its peers and for maestro's activities — is still dying after the
`handle_ended_actions` that ends the maestro iteration (`wannadie` is never reset: `Mono.wd`, proved for every kernel
function of the iteration), and its on_exit callbacks will get `failed = true`. -/
theorem killed_on_host_off (s : St) (h a : Nat) (hon : s.hostOn h = true) (ha : a < s.nActors)
    (hh : (s.actors a).host = h) (he : (s.actors a).ended = false) :
    ((hostOff s h).actors a).wannadie = true ∧
    (∀ n, ((handleEnded n (hostOff s h)).actors a).wannadie = true) ∧
    (s.crashed = false → ((run s [.hostOff h, .handleEnded]).actors a).wannadie = true) ∧
    (∀ t : St, (t.actors a).wannadie = true → Obs.exit a true ∈ (actorEnd t a).obs) := by
  have h1 := (hostOff_reaches s h a hon ha hh he).1
  refine ⟨h1, fun n => (mono_handleEnded n _).wd a h1, fun hc => ?_, (killed_on_host_off_partial s a).2⟩
  show ((step (step s (.hostOff h)) .handleEnded).actors a).wannadie = true
  rw [show step s (.hostOff h) = hostOff s h by simp [step, hc]]
  have m : Mono (hostOff s h) (step (hostOff s h) .handleEnded) := by
    -- `split` with the `match` of `step` still in the goal would derive its equations, which is dear
    show Mono _ (if _ then _ else handleEndedAll _)
    split
    · exact Mono.refl _
    · exact mono_handleEnded _ _
  exact m.wd a h1

/-- **`ActorImpl::exit()` runs for every live actor of the host** (second half of killed_on_host_off, full strength): for
EVERY state, when a host that is on is turned off, every actor of that host that has not ended and is not already dying goes
through `ActorImpl::exit()` inside `Host::turn_off` (its waiting synchros are cancelled and finished, its leftover activities
cancelled, it is put back in the run list to die and run its on_exit callbacks) — whatever the other actors of the host wait
on, in particular when two actors of the host wait on the same communication.
Before the fix of `host-off-marks-peer-dying-without-exit` this was FALSE (witness: `killed_on_host_off_exit_regression`
below, corpus.txt): when an earlier actor of the same host was killed, the `finish()` of its waiting synchro ran
`unregister_first_simcall` on a co-hosted peer, which *marked* the peer dying (`issuer->set_wannadie()`);
`HostImpl::turn_off` then skipped it (`ActorImpl::kill` ignores `wannadie()` actors): the peer was never rescheduled, never
ran its on_exit callbacks, its other activities were never cancelled.  With that code the statement needs the hypothesis
`Private s h a`; `unregister_first_simcall` as it is only declines to answer such an issuer (`wdEq_finish`). -/
theorem killed_on_host_off_exit (s : St) (h a : Nat) (hon : s.hostOn h = true) (ha : a < s.nActors)
    (hh : (s.actors a).host = h) (he : (s.actors a).ended = false) (hw : (s.actors a).wannadie = false) :
    newIn s (hostOff s h) (.kill a) :=
  (hostOff_reaches s h a hon ha hh he).2 hw

/-- No actor of host `h` other than `a` waits on an activity on which `a` is registered: the hypothesis that the code before
the fix of `host-off-marks-peer-dying-without-exit` makes necessary; only the regression statement below uses it. -/
def Private (t : St) (h a : Nat) : Prop :=
  ∀ c j, c ≠ a → (t.actors c).host = h → j ∈ (t.actors c).waiting → a ∉ (t.acts j).simcalls

/-- Regression (witness of the fixed defect `host-off-marks-peer-dying-without-exit`): two actors of host 0 in a rendez-vous
with each other; host 0 is turned off.  Actor 0 is killed first; the `finish` of the comm does not answer actor 1 (its host is
off) and — since the fix — does not mark it either, so `turn_off` kills it in turn: `ActorImpl::exit` runs for BOTH actors.
(With `issuer->set_wannadie()` in `unregister_first_simcall` the model gave `Obs.kill 1 ∉ (hostOff s 0).obs`, and the real
library ended with actor 1 reported in a deadlock, its on_exit callback never called: corpus.txt.) -/
theorem killed_on_host_off_exit_regression :
    let s := run (init [0, 0] (fun _ _ => [])) [.isendWait 0 0, .irecvWait 1 0]
    s.hostOn 0 = true ∧ (s.actors 1).host = 0 ∧ (s.actors 1).ended = false ∧ (s.actors 1).wannadie = false ∧
    ¬ Private s 0 1 ∧
    ((hostOff s 0).actors 1).wannadie = true ∧ Obs.kill 0 ∈ (hostOff s 0).obs ∧ Obs.kill 1 ∈ (hostOff s 0).obs := by
  refine ⟨by decide, by decide, by decide, by decide, ?_, by decide, by decide, by decide⟩
  intro hp
  exact hp 0 0 (by decide) (by decide) (by decide) (by decide)

/-- non-vacuity of `killed_on_host_off` / `killed_on_host_off_exit`: sender on host 0, receiver on host 1 -/
example :
    let s := run (init [0, 1] (fun _ _ => [0])) [.isendWait 0 0, .irecvWait 1 0]
    s.hostOn 0 = true ∧ 0 < s.nActors ∧ (s.actors 0).host = 0 ∧ (s.actors 0).ended = false ∧
    (s.actors 0).wannadie = false := by
  decide

/-- non-vacuity in the case the fix is about: the two actors of the rendez-vous live on the failing host (the second one
is `Private`-less: it is registered on the comm the first one waits on) -/
example :
    let s := run (init [0, 0] (fun _ _ => [])) [.isendWait 0 0, .irecvWait 1 0]
    s.hostOn 0 = true ∧ 1 < s.nActors ∧ (s.actors 1).host = 0 ∧ (s.actors 1).ended = false ∧
    (s.actors 1).wannadie = false ∧ newIn s (hostOff s 0) (.kill 1) := by
  decide

/-! ### no_orphan_block
Full-strength statement: in every reachable state with an empty failed-action set, every live blocked actor waits
only on `Live` activities (Model.lean: unmatched, or running with a started action, or queued in the failed action set).  Not
proved in that form.
Proved: the local step (`no_orphan_block_partial_comm`: once `finish` ran on an activity, no simcall stays registered on
it, so nobody can be left waiting for an answer from an activity that already ended) and the global invariant `NoLost`
with what it gives at the next `handle_ended_actions` (`no_orphan_block`); that every activity losing its last completion
event is handed to `finish` is checked by the monitor (deadlock report: nobody blocked on anything but an unmatched
communication).  Known exclusions that the full statement would need: detached sends whose sender's host failed (reported
at the completion date, not at the failure date) and the abort below. -/
theorem no_orphan_block_partial_comm (s : St) (k : Nat) : ((finishComm s k).acts k).simcalls = [] := by
  obtain ⟨p, _, hs, _, _, e⟩ := finishComm_pre s k
  rw [e]
  exact simcalls_nil_loop .comm _ p hs

/-- **no_orphan_block (global invariant, every reachable state).**  For EVERY platform, EVERY sequence of events of the
transition system (communications, executions, sleeps, waits, wait_any, tests, completions, actor ends, hosts and links
going off and on, `handle_ended_actions` — well formed or not, any length), the state `s` reached satisfies:
 * `NoLost s`: every activity whose action is FAILED sits in the failed action set — no failure of an action is ever
   dropped between the moment it happens (`Action::cancel`, `cancel_actions`, an action created on a resource that is off)
   and the `finish` of its activity; hence
 * nobody stays blocked on such an activity: every answerable actor registered on a communication whose action failed (a
   link of its route went off, or a dying peer / maestro cancelled it), or on an execution whose action failed while one
   of its hosts is off, is answered by the very next `handle_ended_actions` with the exception of the spec table (or by
   another activity of its wait_any set finished in that call, or an assertion of the kernel fires).
What the statement does NOT cover, precisely: activities that lose their completion event without their *action* being
failed — (i) a detached send in flight whose sender's host fails (nobody cancels it: the receiver is told at the natural
completion date, see NOTES "late reports"); (ii) a communication cancelled while still unmatched (it has no action: a
third party that waits on somebody else's unmatched comm is not woken by the owner's death); (iii) an execution whose
action was cancelled without any host failure (its waiters are answered too, with CancelException: not a failure kind of
the spec table, so it is outside `Hit`).  (Before the fix of `host-off-marks-peer-dying-without-exit` also: the
activities of an actor marked dying without `exit()`, see `killed_on_host_off_exit_regression`.) -/
theorem no_orphan_block (hosts : List Nat) (route : Nat → Nat → List Nat) (es : List Ev) :
    NoLost (run (init hosts route) es) ∧
    ∀ k a, ((run (init hosts route) es).acts k).action = some .failed → Hit (run (init hosts route) es) k →
      Answerable (run (init hosts route) es) a → a ∈ ((run (init hosts route) es).acts k).simcalls →
      DoneR (run (init hosts route) es) (handleEndedAll (run (init hosts route) es)) a k
        (.exc (specExc ((run (init hosts route) es).acts k).kind)) := by
  have h := nl_run es _ (nl_init hosts route)
  exact ⟨h, fun k a hf hit ha hm => handle_ended_reports_every_failed_action _ k a (h k hf) hit ha hm⟩

/-- non-vacuity of `no_orphan_block`: after the link failure the comm's action is FAILED (and queued), the receiver is
answerable and registered -/
example :
    let s := run (init [0, 1] (fun _ _ => [0])) [.isendWait 0 0, .irecvWait 1 0, .linkOff 0]
    (s.acts 0).action = some .failed ∧ 0 ∈ s.failedQ ∧ Hit s 0 ∧ Answerable s 1 ∧ 1 ∈ (s.acts 0).simcalls := by
  exact ⟨by decide, by decide, Or.inl ⟨by decide, Or.inr (Or.inr (by decide))⟩, by decide, by decide⟩

/-! ### the abort: before fix commit fcd7d0e96a CommImpl::start asserted that both endpoint hosts are on
(with `startAsserts := true` in Model.lean both witnesses below evaluate to `crashed = true`).  They are kept as
regressions: on the repaired code the failure is reported instead.  The general statement
`∀ es, (run (init hosts route) es).crashed = false` is not proved (the model still has crash states for null
endpoints and for the kernel's other assertions). -/

/-- witness (a): a detached send stays queued in its mailbox after the sender's host failed (nobody cancels it:
`CommImpl::cancel` skips detached WAITING comms, and it is not among the dying actor's activities); the next receiver
matches it and `CommImpl::start` used to abort on `xbt_assert(from_->is_on())`. -/
theorem comm_start_on_failed_sender_regression :
    (run (init [0, 1] (fun _ _ => [0])) [.isend 0 0 true, .hostOff 0, .handleEnded, .irecvWait 1 0]).crashed = false := by
  decide

/-- witness (b): `Comm::sendto_async(from, to)` while `from` is off -/
theorem sendto_on_failed_host_regression :
    (run (init [2] (fun _ _ => [0])) [.hostOff 0, .sendto 0 0 1]).crashed = false := by
  decide

/-- the same two scenarios without the failure do not abort -/
example : (run (init [0, 1] (fun _ _ => [0])) [.isend 0 0 true, .handleEnded, .irecvWait 1 0]).crashed = false := by decide
example : (run (init [2] (fun _ _ => [0])) [.sendto 0 0 1]).crashed = false := by decide

/-- receiver (actor 1 on host 1) blocked on a running comm whose sender's host (0) is turned off: after
`handle_ended_actions` the receiver has been answered with NetworkFailureException and the sender was killed -/
example :
    let s := run (init [0, 1] (fun _ _ => [0])) [.isendWait 0 0, .irecvWait 1 0, .hostOff 0, .handleEnded]
    Obs.answer 1 (.exc .net) 0 ∈ s.obs ∧ Obs.kill 0 ∈ s.obs ∧ s.crashed = false := by decide

/-- link failure: both sides get NetworkFailureException -/
example :
    let s := run (init [0, 1] (fun _ _ => [0])) [.isendWait 0 0, .irecvWait 1 0, .linkOff 0, .handleEnded]
    Obs.answer 0 (.exc .net) 0 ∈ s.obs ∧ Obs.answer 1 (.exc .net) 0 ∈ s.obs := by decide

/-- remote exec: actor 0 on host 1 executes on host 0, which fails -/
example :
    let s := run (init [1] (fun _ _ => [0])) [.execStart 0 0, .wait 0 0, .hostOff 0, .handleEnded]
    Obs.answer 0 (.exc .host) 0 ∈ s.obs := by decide

/-- `failure_reaches_all_waiters`, link: the rendez-vous in flight; sender and receiver both meet the hypotheses … -/
example :
    let s := run (init [0, 1] (fun _ _ => [0])) [.isendWait 0 0, .irecvWait 1 0]
    0 < s.nActs ∧ (s.acts 0).action = some .started ∧ (s.acts 0).state = .running ∧ HitBy s 0 (.linkOff 0) ∧
    Answerable s 0 ∧ Answerable s 1 ∧ 0 ∈ (s.acts 0).simcalls ∧ 1 ∈ (s.acts 0).simcalls ∧ Survives s 1 (.linkOff 0) := by
  exact ⟨by decide, by decide, by decide, HitBy.link 0 (by decide) (by decide) (by decide), by decide, by decide, by decide,
    by decide, trivial⟩
/-- … and the conclusion is the first alternative for both: answered by the comm itself, NetworkFailureException -/
example :
    let s := run (init [0, 1] (fun _ _ => [0])) [.isendWait 0 0, .irecvWait 1 0]
    newIn s (run s [.linkOff 0, .handleEnded]) (.answer 0 (.exc .net) 0) ∧
    newIn s (run s [.linkOff 0, .handleEnded]) (.answer 1 (.exc .net) 0) := by
  decide

/-- `failure_reaches_all_waiters`, host: actor 0 lives on host 1 and waits for its execution on host 0, which fails -/
example :
    let s := run (init [1] (fun _ _ => [0])) [.execStart 0 0, .wait 0 0]
    0 < s.nActs ∧ (s.acts 0).action = some .started ∧ HitBy s 0 (.hostOff 0) ∧ Answerable s 0 ∧
    Survives s 0 (.hostOff 0) ∧ 0 ∈ (s.acts 0).simcalls ∧
    newIn s (run s [.hostOff 0, .handleEnded]) (.answer 0 (.exc .host) 0) := by
  refine ⟨by decide, by decide, HitBy.hostExec 0 (by decide) (by decide) (by decide), by decide, ?_, by decide, by decide⟩
  show (_ : Nat) ≠ 0; decide

/-- `failure_reaches_all_waiters`, host, PARALLEL execution (`Exec::set_hosts`, ptask_L07): actor 0 lives on host 0 and waits
for its execution on hosts [1, 2, 3]; the hypotheses hold for the failure of the first, of a middle and of the LAST host of the
list (`HitBy.hostExec`: `h ∈ hosts_`, whatever its rank), and the conclusion is HostFailureException each time — the
"any host off ⇒ FAILED" test of `ExecImpl::finish` looks at the whole list. -/
example :
    let s := run (init [0] (fun _ _ => [0])) [.pexecStart 0 [1, 2, 3], .wait 0 0]
    0 < s.nActs ∧ (s.acts 0).action = some .started ∧ Answerable s 0 ∧ 0 ∈ (s.acts 0).simcalls ∧
    (HitBy s 0 (.hostOff 1) ∧ Survives s 0 (.hostOff 1) ∧ newIn s (run s [.hostOff 1, .handleEnded]) (.answer 0 (.exc .host) 0)) ∧
    (HitBy s 0 (.hostOff 2) ∧ Survives s 0 (.hostOff 2) ∧ newIn s (run s [.hostOff 2, .handleEnded]) (.answer 0 (.exc .host) 0)) ∧
    (HitBy s 0 (.hostOff 3) ∧ Survives s 0 (.hostOff 3) ∧ newIn s (run s [.hostOff 3, .handleEnded]) (.answer 0 (.exc .host) 0)) := by
  refine ⟨by decide, by decide, by decide, by decide, ⟨HitBy.hostExec 1 (by decide) (by decide) (by decide), ?_, by decide⟩,
    ⟨HitBy.hostExec 2 (by decide) (by decide) (by decide), ?_, by decide⟩,
    ⟨HitBy.hostExec 3 (by decide) (by decide) (by decide), ?_, by decide⟩⟩
  · show (_ : Nat) ≠ 1; decide
  · show (_ : Nat) ≠ 2; decide
  · show (_ : Nat) ≠ 3; decide

/-- a wait_any over two comms crossing the same link: the issuer is answered by the first one finished, the other
registration is dropped (third alternative of `DoneR` for activity 1) -/
example :
    let s := run (init [0, 1, 1] (fun _ _ => [0])) [.isend 0 0 false, .isend 0 1 false, .irecvWait 1 0, .irecvWait 2 1, .waitAny 0 [0, 1]]
    Answerable s 0 ∧ 0 ∈ (s.acts 1).simcalls ∧ HitBy s 1 (.linkOff 0) ∧
    newIn s (run s [.linkOff 0, .handleEnded]) (.answer 0 (.exc .net) 0) ∧
    ¬ newIn s (run s [.linkOff 0, .handleEnded]) (.answer 0 (.exc .net) 1) := by
  exact ⟨by decide, by decide, HitBy.link 0 (by decide) (by decide) (by decide), by decide, by decide⟩

/-- `handle_ended_reports_every_failed_action` and `hostOff_fails_every_user`: hypotheses met -/
example :
    let t := run (init [0, 1] (fun _ _ => [0])) [.isendWait 0 0, .irecvWait 1 0, .linkOff 0]
    0 ∈ t.failedQ ∧ Hit t 0 ∧ Answerable t 1 ∧ 1 ∈ (t.acts 0).simcalls := by
  exact ⟨by decide, Or.inl ⟨by decide, Or.inr (Or.inr (by decide))⟩, by decide, by decide⟩
example :
    let s := run (init [1] (fun _ _ => [0])) [.execStart 0 0, .wait 0 0]
    0 < s.nActs ∧ (s.acts 0).kind ≠ .comm ∧ 0 ∈ (s.acts 0).hosts ∧ (s.acts 0).action = some .started := by decide

end SgVerif.C10
