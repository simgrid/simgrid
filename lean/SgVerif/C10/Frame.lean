import SgVerif.C10.Model
import SgVerif.Common.Fold
/-
C10: the relations between a state and a later one that the proofs push through the kernel functions, and what the
elementary updates of the model do to them.
`Ext`, `Mono`, `WdEq` are preorders (`Pre`, Common/Fold), so a function composed of updates that respect one of them respects it.
-/
namespace SgVerif.C10

/-- the issuer would be answered by `unregister_first_simcall`: blocked in a simcall, on a host that is on, not dying -/
def Answerable (s : St) (a : Nat) : Prop :=
  (s.actors a).blocked = true ∧ s.hostOn (s.actors a).host = true ∧ (s.actors a).wannadie = false

instance (s : St) (a : Nat) : Decidable (Answerable s a) := by unfold Answerable; infer_instance

/-- comm states that `CommImpl::finish` maps to NetworkFailureException -/
def NetClass (st : AState) : Prop :=
  st = .failed ∨ st = .srcHostFailure ∨ st = .dstHostFailure ∨ st = .linkFailure

/-- what `Answerable` looks at -/
def coreOf (s : St) (b : Nat) : Bool × Bool × Bool := ((s.actors b).blocked, s.hostOn (s.actors b).host, (s.actors b).wannadie)

theorem answerable_iff_core (s : St) (b : Nat) : Answerable s b ↔ coreOf s b = (true, true, false) := by
  simp [Answerable, coreOf]

theorem Answerable.of_core {s s' : St} {b : Nat} (h : Answerable s b) (hc : coreOf s' b = coreOf s b) : Answerable s' b := by
  rw [answerable_iff_core] at *
  rw [hc, h]

theorem Answerable.ne_of_off {t : St} {a c h : Nat} (ha : Answerable t a) (hc : (t.actors c).host = h)
    (hoff : t.hostOn h = false) : c ≠ a := by
  intro e
  subst e
  have := ha.2.1
  rw [hc, hoff] at this
  cases this

theorem wannadie_of_core {s s' : St} {b : Nat} (h : coreOf s' b = coreOf s b) :
    (s'.actors b).wannadie = (s.actors b).wannadie :=
  congrArg (fun c => c.2.2) h

/-- `unregister_first_simcall` never writes the state (`unregisterMarksDying = false`), and answers exactly the answerable issuers -/
theorem answerTarget_eq (s : St) (a : Nat) : answerTarget s a = (s, decide (Answerable s a)) := by
  unfold answerTarget Answerable
  (repeat' split) <;> simp_all [markDying, unregisterMarksDying]

theorem setAct_acts_same (t : St) (k : Nat) (f : Activity → Activity) : (t.setAct k f).acts k = f (t.acts k) :=
  upd_same _ _ _
theorem setAct_acts_ne (t : St) (k j : Nat) (f : Activity → Activity) (h : j ≠ k) : (t.setAct k f).acts j = t.acts j :=
  upd_other _ _ _ _ h
theorem setActor_actors_same (t : St) (a : Nat) (f : Actor → Actor) : (t.setActor a f).actors a = f (t.actors a) :=
  upd_same _ _ _
theorem setActor_actors_ne (t : St) (a b : Nat) (f : Actor → Actor) (h : b ≠ a) : (t.setActor a f).actors b = t.actors b :=
  upd_other _ _ _ _ h

theorem setAct_proj {β : Type} (g : Activity → β) (t : St) (k : Nat) (f : Activity → Activity) (hf : ∀ x, g (f x) = g x)
    (j : Nat) : g ((t.setAct k f).acts j) = g (t.acts j) := by
  by_cases h : j = k
  · subst h; rw [setAct_acts_same, hf]
  · rw [setAct_acts_ne _ _ _ _ h]

theorem eraseActivity_acts (t : St) (o : Option Nat) (k : Nat) : (eraseActivity t o k).acts = t.acts := by
  cases o <;> rfl

/-- `t'` extends `t`: observations only appended, a crash never undone, and the on/off state of the hosts untouched
(`Answerable` and `Hit` read it) -/
structure Ext (t t' : St) : Prop where
  obs : t.obs <+: t'.obs
  crashed : t.crashed = true → t'.crashed = true
  hostOn : t'.hostOn = t.hostOn

theorem Ext.refl (t : St) : Ext t t := ⟨List.prefix_refl _, id, rfl⟩
theorem Ext.trans {a b c : St} (h1 : Ext a b) (h2 : Ext b c) : Ext a c :=
  ⟨h1.obs.trans h2.obs, fun h => h2.crashed (h1.crashed h), by rw [h2.hostOn, h1.hostOn]⟩
theorem Ext.pre : Pre Ext := ⟨Ext.refl, Ext.trans⟩
theorem Ext.len {t t' : St} (h : Ext t t') : t.obs.length ≤ t'.obs.length := h.obs.length_le

theorem Ext.of_eq {t t' : St} (ho : t'.obs = t.obs) (hc : t'.crashed = t.crashed) (hh : t'.hostOn = t.hostOn) : Ext t t' :=
  ⟨by rw [ho]; exact List.prefix_refl _, fun h => by rw [hc]; exact h, hh⟩

/-- `o` was emitted between `t` and `t'` -/
def newIn (t t' : St) (o : Obs) : Prop := o ∈ t'.obs.drop t.obs.length

instance (t t' : St) (o : Obs) : Decidable (newIn t t' o) := by unfold newIn; infer_instance

theorem newIn_of_ext_left {t t1 t2 : St} (o : Obs) (h1 : Ext t t1) (h : newIn t1 t2 o) : newIn t t2 o :=
  List.drop_subset_drop_left _ h1.len h

theorem newIn_of_ext_right {t t1 t2 : St} (o : Obs) (h2 : Ext t1 t2) (h : newIn t t1 o) : newIn t t2 o :=
  (h2.obs.sublist.drop _).subset h

theorem newIn_append (t t' : St) (o : Obs) (h : t'.obs = t.obs ++ [o]) : newIn t t' o := by
  unfold newIn; rw [h, List.drop_left]; exact List.mem_singleton_self o

theorem newIn_mem {t t' : St} {o : Obs} (h : newIn t t' o) : o ∈ t'.obs := List.mem_of_mem_drop h

theorem newIn_emit_of_ext (t u : St) (o : Obs) (e : Ext t u) : newIn t (u.emit o) o :=
  newIn_of_ext_left o e (newIn_append u _ o rfl)

theorem ext_setAct (t : St) (k : Nat) (f : Activity → Activity) : Ext t (t.setAct k f) := .of_eq rfl rfl rfl
theorem ext_setActor (t : St) (a : Nat) (f : Actor → Actor) : Ext t (t.setActor a f) := .of_eq rfl rfl rfl
theorem ext_emit (t : St) (o : Obs) : Ext t (t.emit o) := ⟨List.prefix_append _ _, id, rfl⟩
theorem ext_crash (t : St) : Ext t t.crash := ⟨List.prefix_refl _, fun _ => rfl, rfl⟩
theorem ext_eraseActivity (t : St) (o : Option Nat) (k : Nat) : Ext t (eraseActivity t o k) := by
  cases o
  · exact Ext.refl t
  · exact ⟨List.prefix_refl _, id, rfl⟩
theorem ext_failAction (t : St) (k : Nat) : Ext t (failAction t k) := by
  unfold failAction; split
  · exact ⟨List.prefix_refl _, id, rfl⟩
  · exact Ext.refl t
theorem ext_cleanAction (t : St) (k : Nat) : Ext t (cleanAction t k) := ⟨List.prefix_refl _, id, rfl⟩
theorem ext_mboxRemove (t : St) (k : Nat) : Ext t (mboxRemove t k) := by
  unfold mboxRemove; split
  · exact Ext.refl t
  · exact ⟨List.prefix_refl _, id, rfl⟩
theorem ext_unregisterAll (t : St) (a : Nat) : Ext t (unregisterAll t a) := .of_eq rfl rfl rfl
theorem ext_deliver (t : St) (a : Nat) (r : Ans) (k : Nat) : Ext t (deliver t a r k) :=
  (ext_setActor t a _).trans (ext_emit _ _)

@[simp] theorem coreOf_setAct (s : St) (k b : Nat) (f : Activity → Activity) : coreOf (s.setAct k f) b = coreOf s b := rfl
@[simp] theorem coreOf_emit (s : St) (o : Obs) (b : Nat) : coreOf (s.emit o) b = coreOf s b := rfl
@[simp] theorem coreOf_crash (s : St) (b : Nat) : coreOf s.crash b = coreOf s b := rfl

theorem coreOf_setActor (s : St) (a b : Nat) (f : Actor → Actor)
    (hf : b = a → (f (s.actors a)).blocked = (s.actors a).blocked ∧ (f (s.actors a)).host = (s.actors a).host ∧
      (f (s.actors a)).wannadie = (s.actors a).wannadie) : coreOf (s.setActor a f) b = coreOf s b := by
  by_cases h : b = a
  · subst h
    obtain ⟨h1, h2, h3⟩ := hf rfl
    simp [coreOf, St.setActor, h1, h2, h3]
  · simp [coreOf, St.setActor, upd, h]

theorem coreOf_eraseActivity (s : St) (o : Option Nat) (k b : Nat) : coreOf (eraseActivity s o k) b = coreOf s b := by
  cases o with
  | none => rfl
  | some a => exact coreOf_setActor s a b (fun x => { x with activities := x.activities.erase k }) (fun _ => ⟨rfl, rfl, rfl⟩)

theorem coreOf_deliver (s : St) (a b : Nat) (r : Ans) (k : Nat) (hb : b ≠ a) : coreOf (deliver s a r k) b = coreOf s b :=
  coreOf_setActor s a b (fun x => { x with blocked := false }) (fun h => absurd h hb)

theorem coreOf_unregisterAll (t : St) (x b : Nat) : coreOf (unregisterAll t x) b = coreOf t b := by
  by_cases hb : b = x
  · subst hb; simp [coreOf, unregisterAll]
  · simp [coreOf, unregisterAll, upd, hb]

/-- the fields of an activity that `Hit` reads -/
def statOf (x : Activity) : Kind × Option Nat × Option Nat × List Nat × Option ActionSt :=
  (x.kind, x.from_, x.to_, x.hosts, x.action)

theorem statOf_kind {x y : Activity} (h : statOf y = statOf x) : y.kind = x.kind := congrArg (·.1) h
theorem statOf_action {x y : Activity} (h : statOf y = statOf x) : y.action = x.action := congrArg (·.2.2.2.2) h

/-- `y` is `x` up to `Action::cancel` (started -> failed) -/
def StatLe (x y : Activity) : Prop :=
  y.kind = x.kind ∧ y.from_ = x.from_ ∧ y.to_ = x.to_ ∧ y.hosts = x.hosts ∧
  (y.action = x.action ∨ (x.action = some .started ∧ y.action = some .failed))

theorem StatLe.refl (x : Activity) : StatLe x x := ⟨rfl, rfl, rfl, rfl, Or.inl rfl⟩
theorem StatLe.of_eq {x y : Activity} (h : statOf y = statOf x) : StatLe x y := by
  simp only [statOf, Prod.mk.injEq] at h
  exact ⟨h.1, h.2.1, h.2.2.1, h.2.2.2.1, Or.inl h.2.2.2.2⟩
theorem StatLe.trans {x y z : Activity} (h1 : StatLe x y) (h2 : StatLe y z) : StatLe x z := by
  obtain ⟨a1, a2, a3, a4, a5⟩ := h1
  obtain ⟨b1, b2, b3, b4, b5⟩ := h2
  refine ⟨by rw [b1, a1], by rw [b2, a2], by rw [b3, a3], by rw [b4, a4], ?_⟩
  rcases a5 with a5 | ⟨a5, a6⟩ <;> rcases b5 with b5 | ⟨b5, b6⟩
  · left; rw [b5, a5]
  · right; exact ⟨by rw [← a5]; exact b5, b6⟩
  · right; exact ⟨a5, by rw [b5, a6]⟩
  · rw [a6] at b5; cases b5

theorem unregisterAll_state (s : St) (a k : Nat) : ((unregisterAll s a).acts k).state = (s.acts k).state := by
  simp only [unregisterAll]; split <;> rfl

theorem unregisterAll_stat (t : St) (x j : Nat) : statOf ((unregisterAll t x).acts j) = statOf (t.acts j) := by
  simp only [unregisterAll]; split <;> rfl

theorem unregisterAll_simc_other (t : St) (x b j : Nat) (hb : b ≠ x) (h : b ∈ (t.acts j).simcalls) :
    b ∈ ((unregisterAll t x).acts j).simcalls := by
  simp only [unregisterAll]; split
  · exact (List.mem_erase_of_ne hb).mpr h
  · exact h

theorem unregisterAll_simc_sub (t : St) (x b j : Nat) (h : b ∈ ((unregisterAll t x).acts j).simcalls) :
    b ∈ (t.acts j).simcalls := by
  simp only [unregisterAll] at h; split at h
  · exact List.mem_of_mem_erase h
  · exact h

/-- no actor moved or un-ended, `wannadie` never reset, nothing added to a `waiting_synchros_` (`wsub`) or a `simcalls_` (`ssub`) -/
structure Mono (t t' : St) : Prop where
  host : ∀ c, (t'.actors c).host = (t.actors c).host
  ended : ∀ c, (t'.actors c).ended = (t.actors c).ended
  wd : ∀ c, (t.actors c).wannadie = true → (t'.actors c).wannadie = true
  wsub : ∀ c j, j ∈ (t'.actors c).waiting → j ∈ (t.actors c).waiting
  ssub : ∀ b j, b ∈ (t'.acts j).simcalls → b ∈ (t.acts j).simcalls
  nActors : t'.nActors = t.nActors

theorem Mono.refl (t : St) : Mono t t := ⟨fun _ => rfl, fun _ => rfl, fun _ h => h, fun _ _ h => h, fun _ _ h => h, rfl⟩
theorem Mono.trans {a b c : St} (h1 : Mono a b) (h2 : Mono b c) : Mono a c :=
  ⟨fun x => by rw [h2.host, h1.host], fun x => by rw [h2.ended, h1.ended], fun x h => h2.wd x (h1.wd x h),
   fun x j h => h1.wsub x j (h2.wsub x j h), fun x j h => h1.ssub x j (h2.ssub x j h), by rw [h2.nActors, h1.nActors]⟩
theorem Mono.pre : Pre Mono := ⟨Mono.refl, Mono.trans⟩

theorem Mono.of_acts {t t' : St} (ha : t'.actors = t.actors) (hn : t'.nActors = t.nActors)
    (hs : ∀ b j, b ∈ (t'.acts j).simcalls → b ∈ (t.acts j).simcalls) : Mono t t' :=
  ⟨fun _ => by rw [ha], fun _ => by rw [ha], fun _ h => by rw [ha]; exact h, fun _ _ h => by rw [ha] at h; exact h, hs, hn⟩

theorem Mono.of_setAct {t t' : St} (k : Nat) (f : Activity → Activity) (hf : ∀ x, (f x).simcalls = x.simcalls)
    (hacts : t'.acts = (t.setAct k f).acts) (ha : t'.actors = t.actors) (hn : t'.nActors = t.nActors) : Mono t t' :=
  .of_acts ha hn (fun b j h => by rwa [hacts, setAct_proj Activity.simcalls t k f hf] at h)

/-- what `Mono` allows to happen to one actor record -/
def ActorLe (x y : Actor) : Prop :=
  y.host = x.host ∧ y.ended = x.ended ∧ (x.wannadie = true → y.wannadie = true) ∧ ∀ j, j ∈ y.waiting → j ∈ x.waiting

theorem Mono.of_actor {t t' : St} (a : Nat) (f : Actor → Actor) (hf : ∀ x, ActorLe x (f x))
    (ha : t'.actors = upd t.actors a (f (t.actors a))) (hn : t'.nActors = t.nActors)
    (hs : ∀ b j, b ∈ (t'.acts j).simcalls → b ∈ (t.acts j).simcalls) : Mono t t' := by
  have key : ∀ c, ActorLe (t.actors c) (t'.actors c) := fun c => by
    rw [ha]
    by_cases h : c = a
    · subst h; rw [upd_same]; exact hf _
    · rw [upd_other _ _ _ _ h]; exact ⟨rfl, rfl, id, fun _ h => h⟩
  exact ⟨fun c => (key c).1, fun c => (key c).2.1, fun c => (key c).2.2.1, fun c => (key c).2.2.2, hs, hn⟩

theorem mono_setActor (t : St) (a : Nat) (f : Actor → Actor) (hf : ∀ x, ActorLe x (f x)) : Mono t (t.setActor a f) :=
  .of_actor a f hf rfl rfl (fun _ _ h => h)

theorem mono_setAct_state (t : St) (k : Nat) (st : AState) : Mono t (t.setAct k (fun x => { x with state := st })) :=
  .of_setAct k (fun x => { x with state := st }) (fun _ => rfl) rfl rfl rfl
theorem mono_emit (t : St) (o : Obs) : Mono t (t.emit o) := .of_acts rfl rfl (fun _ _ h => h)
theorem mono_crash (t : St) : Mono t t.crash := .of_acts rfl rfl (fun _ _ h => h)

theorem mono_eraseActivity (t : St) (o : Option Nat) (k : Nat) : Mono t (eraseActivity t o k) := by
  cases o with
  | none => exact Mono.refl t
  | some b => exact mono_setActor t b (fun x => { x with activities := x.activities.erase k }) (fun _ => ⟨rfl, rfl, id, fun _ h => h⟩)

theorem mono_failAction (t : St) (k : Nat) : Mono t (failAction t k) := by
  unfold failAction; split
  · exact .of_setAct k (fun x => { x with action := some .failed }) (fun _ => rfl) rfl rfl rfl
  · exact Mono.refl t

theorem mono_cleanAction (t : St) (k : Nat) : Mono t (cleanAction t k) :=
  .of_setAct k (fun x => { x with action := none }) (fun _ => rfl) rfl rfl rfl

theorem mono_mboxRemove (t : St) (k : Nat) : Mono t (mboxRemove t k) := by
  unfold mboxRemove; split
  · exact Mono.refl t
  · exact .of_setAct k (fun x => { x with mbox := none }) (fun _ => rfl) rfl rfl rfl

theorem mono_unregisterAll (t : St) (a : Nat) : Mono t (unregisterAll t a) :=
  .of_actor a (fun x => { x with waiting := x.waiting.filter (fun j => j ∉ (t.actors a).wlist), wlist := [] })
    (fun _ => ⟨rfl, rfl, id, fun _ h => (List.mem_filter.mp h).1⟩) rfl rfl (unregisterAll_simc_sub t a)

theorem mono_deliver (t : St) (a : Nat) (r : Ans) (k : Nat) : Mono t (deliver t a r k) :=
  (mono_setActor t a (fun x => { x with blocked := false }) (fun _ => ⟨rfl, rfl, id, fun _ h => h⟩)).trans (mono_emit _ _)

def WdEq (t t' : St) : Prop := ∀ b, (t'.actors b).wannadie = (t.actors b).wannadie

theorem WdEq.refl (t : St) : WdEq t t := fun _ => rfl
theorem WdEq.trans {a b c : St} (h1 : WdEq a b) (h2 : WdEq b c) : WdEq a c := fun x => (h2 x).trans (h1 x)
theorem WdEq.pre : Pre WdEq := ⟨WdEq.refl, WdEq.trans⟩

theorem wdEq_setActor (t : St) (c : Nat) (f : Actor → Actor) (hf : ∀ x, (f x).wannadie = x.wannadie) :
    WdEq t (t.setActor c f) := by
  intro b
  by_cases hb : b = c
  · subst hb; simp [St.setActor, hf]
  · simp [St.setActor, upd, hb]

theorem wdEq_setAct (t : St) (k : Nat) (f : Activity → Activity) : WdEq t (t.setAct k f) := fun _ => rfl

end SgVerif.C10
