import SgVerif.C10.Kernel
/-
C10: the global invariant `NoLost` — an action marked FAILED always sits in the failed action set (so that
`handle_ended_actions` will call `finish` on its activity) — is kept by every event of the model.
-/
namespace SgVerif.C10

/-- no failure report can be lost: every FAILED action is queued for `handle_ended_actions` -/
def NoLost (s : St) : Prop := ∀ k, (s.acts k).action = some .failed → k ∈ s.failedQ
/-- the same for every activity but `k` (which is about to be finished) -/
def NoLostExcept (k : Nat) (s : St) : Prop := ∀ j, j ≠ k → (s.acts j).action = some .failed → j ∈ s.failedQ

theorem NoLost.except {s : St} (h : NoLost s) (k : Nat) : NoLostExcept k s := fun j _ hj => h j hj

theorem NoLostExcept.full {k : Nat} {s : St} (h : NoLostExcept k s) (hn : (s.acts k).action = none) : NoLost s :=
  fun j hj => if e : j = k then nomatch hn ▸ e ▸ hj else h j e hj

theorem nl_of_same (t t' : St) (ha : ∀ k, (t'.acts k).action = (t.acts k).action) (hq : ∀ k, k ∈ t.failedQ → k ∈ t'.failedQ)
    (h : NoLost t) : NoLost t' := fun k hk => hq k (h k (by rw [← ha]; exact hk))

theorem nl_ite {c : Prop} [Decidable c] {a b : St} (ha : NoLost a) (hb : NoLost b) : NoLost (if c then a else b) :=
  ite_pred NoLost ha hb

theorem nl_setAct (t : St) (k : Nat) (f : Activity → Activity) (hf : ∀ x, (f x).action = x.action) (h : NoLost t) :
    NoLost (t.setAct k f) :=
  nl_of_same t _ (setAct_proj Activity.action t k f hf) (fun _ hj => hj) h

theorem nl_eraseActivity (t : St) (o : Option Nat) (k : Nat) (h : NoLost t) : NoLost (eraseActivity t o k) := by
  cases o <;> exact h

theorem nl_failAction (t : St) (k : Nat) (h : NoLost t) : NoLost (failAction t k) := by
  intro j hj
  by_cases hjk : j = k
  · subst hjk
    unfold failAction at hj ⊢
    split
    · exact List.mem_append_right _ (List.mem_singleton_self j)
    · rw [if_neg ‹_›] at hj; exact h j hj
  · rw [failAction_acts_ne t k j hjk] at hj
    -- `fq` does not depend on the actor `Simp` is about
    exact (simp_failAction 0 t k).fq j (h j hj)

theorem nl_mboxRemove (t : St) (k : Nat) (h : NoLost t) : NoLost (mboxRemove t k) := by
  unfold mboxRemove
  split
  · exact h
  · exact nl_setAct t k (fun x => { x with mbox := none }) (fun _ => rfl) h

theorem nl_cleanAction (t : St) (k : Nat) (h : NoLostExcept k t) : NoLost (cleanAction t k) := by
  intro j hj
  by_cases hjk : j = k
  · subst hjk; simp [cleanAction, St.setAct] at hj
  · have : (t.acts j).action = some .failed := by simpa [cleanAction, St.setAct, upd, hjk] using hj
    simp only [cleanAction]
    exact List.mem_filter.mpr ⟨h j hjk this, by simpa using hjk⟩

theorem NoLostExcept.setAct {k : Nat} {t : St} (h : NoLostExcept k t) (f : Activity → Activity) :
    NoLostExcept k (t.setAct k f) :=
  fun j hjk hj => h j hjk (by rw [← setAct_acts_ne t k j f hjk]; exact hj)

theorem nl_pre_loop {k : Nat} {after : St → Nat → St} {t p : St} (hA : IsAfter k after) (hp : PreOK k t p)
    (hn : (p.acts k).action = none) (h : NoLostExcept k t) (l : List Nat) : NoLost (l.foldl (answerOneG after) p) := by
  have hp' : NoLost p :=
    NoLostExcept.full (fun j hjk hj => hp.fqkeep j hjk (h j hjk (by rw [← hp.acts j hjk]; exact hj))) hn
  exact loop_rel (Pre.imp NoLost) (ok := fun _ => True)
    ⟨fun u x _ => nl_of_same u _ (fun j => statOf_action (unregisterAll_stat u x j)) (fun _ hj => hj),
     fun u o => nl_eraseActivity u o k, fun u => nl_setAct u k _ (fun _ => rfl), fun _ _ _ _ => id, fun _ => id⟩ hA l
    (fun _ _ => trivial) p hp'

theorem nl_finishComm (t : St) (k : Nat) (h : NoLostExcept k t) : NoLost (finishComm t k) := by
  obtain ⟨p, hp, _, hn, _, e⟩ := finishComm_pre t k
  rw [e]
  exact nl_pre_loop .comm hp hn h _

theorem nl_finish (t : St) (k : Nat) (h : NoLostExcept k t) : NoLost (finish t k) := by
  rcases finish_cases t k with ⟨hn, e⟩ | ⟨after, p, hA, hp, hn, e⟩ <;> rw [e]
  · exact h.full hn
  · exact nl_pre_loop hA hp hn h _

theorem nl_cancel (t : St) (k : Nat) : NoLost t → NoLost (cancel t k) :=
  cancel_rel (Pre.imp NoLost) k (fun u o => nl_eraseActivity u o k) (fun u => nl_mboxRemove u k)
    (fun u _ => nl_setAct u k _ (fun _ => rfl)) (fun _ => id) (fun u => nl_failAction u k) t

theorem NoLost.exitSteps (b : Nat) : ExitSteps (fun t t' => NoLost t → NoLost t') b :=
  ⟨Pre.imp NoLost, fun t k h => nl_finish t k (h.except k), nl_cancel, fun t k => nl_setAct t k _ (fun _ => rfl),
   fun _ _ _ => id, fun _ _ => id⟩

theorem nl_hostOff (s : St) (hh : Nat) : NoLost s → NoLost (hostOff s hh) :=
  hostOff_rel NoLost.exitSteps (fun _ _ => id) nl_failAction s hh

theorem nl_linkOff (s : St) (l : Nat) : NoLost s → NoLost (linkOff s l) :=
  linkOff_rel (Pre.imp NoLost) (fun _ _ => id) nl_failAction s l

theorem nl_handleEnded (n : Nat) (t : St) : NoLost t → NoLost (handleEnded n t) :=
  handleEnded_rel (Pre.imp NoLost) (fun _ k _ hq h => nl_finish _ k (fun j hjk hj =>
    (List.mem_cons.mp (hq ▸ h j hj)).resolve_left hjk)) n t

theorem nl_upd (t t' : St) (k : Nat) (x : Activity) (ha : t'.acts = upd t.acts k x) (hq : t'.failedQ = t.failedQ)
    (hx : x.action ≠ some .failed) (h : NoLost t) : NoLost t' := by
  intro j hj
  rw [hq]
  by_cases hjk : j = k
  · subst hjk; rw [ha, upd_same] at hj; exact absurd hj hx
  · rw [ha, upd_other _ _ _ _ hjk] at hj; exact h j hj

theorem nl_commStart (t : St) (k : Nat) (h : NoLost t) : NoLost (commStart t k) := by
  unfold commStart
  extract_lets c fromO toO
  refine nl_ite h ?_
  -- `split` on the `match` (or on an `if` around it) would derive the equations of the `match`, which is dear
  generalize fromO = fo
  generalize toO = to
  cases fo
  · exact h
  cases to
  · exact h
  refine nl_ite (nl_ite h (nl_finishComm _ k ((h.except k).setAct _))) ?_
  dsimp only
  split
  · exact nl_finishComm _ k (((h.except k).setAct _).setAct _)
  · refine nl_upd t _ k _ rfl rfl ?_ h
    simp

theorem nl_isend (t : St) (a m : Nat) (d : Bool) (h : NoLost t) : NoLost (isend t a m d).1 := by
  unfold isend
  cases findMatching t m false with
  | none =>
    refine nl_commStart _ _ (nl_setAct _ _ _ (fun _ => rfl) ?_)
    exact nl_ite (nl_setAct _ _ (fun x => { x with detached := true }) (fun _ => rfl) (nl_upd t _ t.nActs _ rfl rfl (by simp) h))
      (nl_upd t _ t.nActs _ rfl rfl (by simp) h)
  | some k =>
    refine nl_commStart _ _ (nl_setAct _ _ _ (fun _ => rfl) ?_)
    have h1 : NoLost ((mboxRemove t k).setAct k (fun x => { x with state := .ready })) :=
      nl_setAct _ k _ (fun _ => rfl) (nl_mboxRemove t k h)
    exact nl_ite (nl_setAct _ _ (fun x => { x with detached := true }) (fun _ => rfl) h1) h1

theorem nl_irecv (t : St) (a m : Nat) (h : NoLost t) : NoLost (irecv t a m).1 := by
  unfold irecv
  cases findMatching t m true with
  | none =>
    exact nl_commStart _ _ (nl_setAct _ _ _ (fun _ => rfl) (nl_upd t _ t.nActs _ rfl rfl (by simp) h))
  | some k =>
    have h1 : NoLost ((mboxRemove t k).setAct k (fun x => { x with state := .ready })) :=
      nl_setAct _ k _ (fun _ => rfl) (nl_mboxRemove t k h)
    exact nl_commStart _ _ (nl_setAct _ _ _ (fun _ => rfl) h1)

/-- a new activity whose action is FAILED only if it is queued at once (`execStart`, `sleepStart` on an off host) -/
theorem nl_new (t t' : St) (x : Activity) (on : Bool) (ha : t'.acts = upd t.acts t.nActs x)
    (hq : t'.failedQ = if on then t.failedQ else t.failedQ ++ [t.nActs])
    (hx : x.action = some (if on then .started else .failed)) (h : NoLost t) : NoLost t' := by
  intro j hj
  rw [ha] at hj
  by_cases hjk : j = t.nActs
  · subst hjk
    rw [upd_same, hx] at hj
    cases on
    · rw [hq]; simp
    · cases hj
  · rw [upd_other _ _ _ _ hjk] at hj
    rw [hq]
    split
    · exact h j hj
    · exact List.mem_append_left _ (h j hj)

theorem nl_register (t : St) (a k : Nat) (h : NoLost t) : NoLost (register t a k) :=
  nl_setAct t k (fun x => { x with simcalls := x.simcalls ++ [a] }) (fun _ => rfl) h

theorem nl_waitOn (t : St) (a k : Nat) (h : NoLost t) : NoLost (waitOn t a k) := by
  unfold waitOn
  simp only []
  have h1 := nl_register (t.setActor a (fun x => { x with blocked := true, wlist := [k] })) a k h
  exact nl_ite (nl_finish _ k (h1.except k)) h1

theorem nl_waitAnyLoop (a : Nat) (ks : List Nat) : ∀ t, NoLost t → NoLost (waitAnyLoop a ks t) := by
  induction ks with
  | nil => intro t h; exact h
  | cons k ks ih =>
    intro t h
    unfold waitAnyLoop
    simp only []
    have h1 := nl_register t a k h
    exact nl_ite (nl_finish _ k (h1.except k)) (ih _ h1)

theorem nl_test (t : St) (k : Nat) (h : NoLost t) : NoLost (test t k).1 := by
  unfold test
  split
  · exact nl_finish t k (h.except k)
  · exact h

theorem nl_complete (t : St) (k : Nat) (h : NoLost t) : NoLost (complete t k) := by
  unfold complete
  exact nl_ite (nl_finish _ k ((h.except k).setAct _)) h

theorem nl_actorEnd (t : St) (a : Nat) (h : NoLost t) : NoLost (actorEnd t a) :=
  (Pre.imp NoLost).foldl (R := fun t t' => NoLost t → NoLost t') _ nl_cancel _ h

theorem nl_step (s : St) (e : Ev) (h : NoLost s) : NoLost (step s e) := by
  unfold step
  refine nl_ite h ?_
  cases e with
  | isendWait a m => exact nl_ite (nl_waitOn _ a _ (nl_isend s a m false h)) h
  | irecvWait a m => exact nl_ite (nl_waitOn _ a _ (nl_irecv s a m h)) h
  | isend a m d => exact nl_ite (nl_isend s a m d h) h
  | irecv a m => exact nl_ite (nl_irecv s a m h) h
  | sendto a hf ht => exact nl_ite (nl_commStart _ _ (nl_upd s _ s.nActs _ rfl rfl (by simp) h)) h
  | execStart a hh => exact nl_ite (nl_new s _ _ (s.hostOn hh) rfl rfl rfl h) h
  | pexecStart a hs => exact nl_ite (nl_upd s _ s.nActs _ rfl rfl (by simp) h) h
  | sleep a => exact nl_ite (nl_waitOn _ a _ (nl_new s _ _ (s.hostOn (s.actors a).host) rfl rfl rfl h)) h
  | wait a k => exact nl_ite (nl_waitOn s a k h) h
  | waitAny a ks => exact nl_ite (nl_waitAnyLoop a ks _ h) h
  | test a k => exact nl_ite (nl_test s k h) h
  | hostOff hh => exact nl_hostOff s hh h
  | hostOn hh => exact h
  | linkOff l => exact nl_linkOff s l h
  | linkOn l => exact h
  | complete k => exact nl_complete s k h
  | actorEnd a => exact nl_actorEnd s a h
  | handleEnded => exact nl_handleEnded _ s h

theorem nl_run (es : List Ev) : ∀ s, NoLost s → NoLost (run s es) :=
  (Pre.imp NoLost).foldl (R := fun t t' => NoLost t → NoLost t') es nl_step

theorem nl_init (hosts : List Nat) (route : Nat → Nat → List Nat) : NoLost (init hosts route) := by
  intro k hk
  simp [init] at hk

end SgVerif.C10
