import SgVerif.C50.DynarLemmas
import SgVerif.C50.DictLemmas
import SgVerif.C50.Model
import SgVerif.Common.Snoc
/-
C50 — Legacy xbt containers behave like their models.  Property theorems.
Part 1: xbt_dynar refines a `List` — forward simulation for every public operation and, by induction, for every
operation sequence (no bound on lengths, contents or capacities).
-/
namespace SgVerif.C50

/-- **One call**: from any state satisfying the representation invariant, every public operation, with any
arguments (`opOk` only keeps the length below 2^31, the range of the `int` positions), returns what the list
specification returns — including `abort` exactly on the bounds violations, whatever the value of the offending
index — and leaves a state whose abstraction is the specification's new list, and the invariant holds again.  The proof
is about the index arithmetic as written (`expand`, `memmove`, the `int` conversions). -/
theorem dynar_step_refines (d : Dynar) (hinv : Inv d) (op : Op) (hop : opOk d op) :
    (cstep d op).1 = (sstep (abs d) op).1 ∧ abs (cstep d op).2 = (sstep (abs d) op).2 ∧ Inv (cstep d op).2 := by
  have hlen := abs_length d
  cases op with
  | push x =>
    simp only [cstep, sstep_push, hlen, toI32_small d.used hinv.2.1]
    exact insertAt_spec d hinv _ x hop
  | unshift x =>
    simp only [cstep, sstep_unshift]
    exact insertAt_spec d hinv 0 x hop
  | insertAt idx x => exact insertAt_spec d hinv idx x hop
  | pop =>
    simp only [cstep, sstep_pop, hlen, toI32_pred d.used hinv.2.1]
    exact removeAt_spec d hinv _
  | popPtr =>
    simp only [cstep, sstep]
    rw [List.getLast?_eq_getElem?, List.dropLast_eq_take, hlen]
    by_cases h0 : d.used = 0
    · rw [if_pos h0, List.getElem?_eq_none (by omega)]
      exact ⟨rfl, rfl, hinv⟩
    · obtain ⟨v, hv, hget⟩ := hinv.read (i := d.used - 1) (by omega)
      rw [if_neg h0, hv, hget]
      exact ⟨rfl, truncate_spec d hinv _ (Nat.sub_le _ _)⟩
  | shift =>
    simp only [cstep, sstep_shift]
    exact removeAt_spec d hinv 0
  | removeAt idx => exact removeAt_spec d hinv idx
  | get idx =>
    simp only [cstep, sstep]
    by_cases hu : idx < d.used
    · obtain ⟨v, hv, hget⟩ := hinv.read hu
      have hsz := hinv.1
      rw [(inbound_iff d idx).mpr hu, if_neg (by decide), if_neg (by omega), hv, hget]
      exact ⟨rfl, rfl, hinv⟩
    · rw [show inbound d idx = false from decide_eq_false hu, if_pos (by decide), List.getElem?_eq_none (by omega)]
      exact ⟨rfl, rfl, hinv⟩
  | set idx x => exact setAt_spec d hinv idx x hop
  | length => simp only [cstep, sstep, hlen]; exact ⟨trivial, trivial, hinv⟩
  | isEmpty =>
    simp only [cstep, sstep]
    refine ⟨?_, trivial, hinv⟩
    rw [← hlen]
    cases abs d <;> rfl
  | reset => exact ⟨rfl, truncate_spec d hinv 0 (Nat.zero_le _)⟩
  | member x =>
    simp only [cstep, sstep, cells_of_inv d hinv]
    exact ⟨trivial, trivial, hinv⟩
  | sort =>
    simp only [cstep, sstep]
    by_cases h0 : d.size = 0
    · have hsz := hinv.1
      rw [if_pos h0, List.eq_nil_of_length_eq_zero (l := abs d) (by omega), List.mergeSort_nil]
      exact ⟨rfl, rfl, hinv⟩
    · rw [if_neg h0, cells_of_inv d hinv]
      exact ⟨rfl, overwrite_spec d hinv _ (by rw [List.length_mergeSort, hlen])⟩
  | foreach =>
    simp only [cstep, sstep, cells_of_inv d hinv]
    exact ⟨trivial, trivial, hinv⟩

/-- the dynar stays shorter than 2^31 elements along the run (`opOk` in the state where each call is issued) -/
def runOk (d : Dynar) : List Op → Prop
  | [] => True
  | op :: ops => opOk d op ∧ runOk (cstep d op).2 ops

/-- **All operation sequences** (any length, any arguments — including every out-of-range index, which must be refused
by an assertion): the results returned along the run are those of the list, and the final abstraction is the final
list.  Full strength for the code with the fixes of props/C50/fix_series; the code before them fails on `insertAt idx > used`
and `get idx ≥ 2^31` (the regression theorems below). -/
theorem dynar_refines_list (d : Dynar) (hinv : Inv d) (ops : List Op) (hok : runOk d ops) :
    (runC d ops).1 = (runS (abs d) ops).1 ∧ abs (runC d ops).2 = (runS (abs d) ops).2 ∧ Inv (runC d ops).2 := by
  induction ops generalizing d with
  | nil => exact ⟨rfl, rfl, hinv⟩
  | cons op ops ih =>
    obtain ⟨h1, h2, h3⟩ := dynar_step_refines d hinv op hok.1
    obtain ⟨i1, i2, i3⟩ := ih (cstep d op).2 h3 hok.2
    simp only [runC, runS]
    rw [← h2]
    exact ⟨by rw [h1, i1], i2, i3⟩

/-- … in particular from a fresh dynar -/
theorem dynar_new_refines_nil : Inv Dynar.new ∧ abs Dynar.new = [] :=
  ⟨⟨Nat.le_refl 0, by decide, fun i hi => absurd hi (Nat.not_lt_zero i)⟩, rfl⟩

/-!
### Regression: the code before the fixes (`insertAtOld`, `getOld` in Dynar.lean)
These are the two classes the theorem above had to exclude (keys `dynar-insert-past-end-unchecked`,
`dynar-index-truncated-to-int`).  Each witness is stated for the old code, and the same call on the current model
is shown to be refused.
-/

/-- old `xbt_dynar_insert_at` past the end was not refused: on a fresh dynar `insert_at(1, 7)` returned normally, `used`
became 1 and cell 0 — then the only element — was never written (the specification aborts; so does the fixed code). -/
theorem dynar_insert_past_end_prefix_regression :
    (insertAtOld Dynar.new 1 7).1 = .unit ∧ (sstep [] (.insertAt 1 7)).1 = .abort ∧
    (insertAtOld Dynar.new 1 7).2.used = 1 ∧ cells (insertAtOld Dynar.new 1 7).2 = none ∧
    (cstep Dynar.new (.insertAt 1 7)).1 = .abort := by decide

/-- … and further away it wrote outside the allocation: `insert_at(3, 7)` on a fresh dynar (capacity 2) -/
theorem dynar_insert_past_end_prefix_regression_overflow :
    (insertAtOld Dynar.new 3 7).1 = .ub ∧ (sstep [] (.insertAt 3 7)).1 = .abort ∧
    (cstep Dynar.new (.insertAt 3 7)).1 = .abort := by decide

/-- the old bound check of `xbt_dynar_get_cpy` saw `(int)idx`: with one element, index 2^32 passed it and the read was
outside the allocation (the specification aborts; so does the fixed code) -/
theorem dynar_index_truncated_prefix_regression :
    (getOld (cstep Dynar.new (.push 5)).2 4294967296).1 = .ub ∧ (sstep [5] (.get 4294967296)).1 = .abort ∧
    (cstep (cstep Dynar.new (.push 5)).2 (.get 4294967296)).1 = .abort := by decide

instance (d : Dynar) (op : Op) : Decidable (opOk d op) := by
  cases op <;> simp only [opOk] <;> infer_instance

def decRunOk : (d : Dynar) → (ops : List Op) → Decidable (runOk d ops)
  | _, [] => isTrue trivial
  | d, op :: ops =>
    have := decRunOk (cstep d op).2 ops
    by simp only [runOk]; infer_instance

instance (d : Dynar) (ops : List Op) : Decidable (runOk d ops) := decRunOk d ops

example : runOk Dynar.new [.push 1, .unshift 2, .insertAt 1 3, .set 5 9, .removeAt 0, .pop,
    .insertAt 40 1, .get 4294967296, .get 18446744073709551615, .removeAt (-1), .insertAt (-2147483648) 0,
    .sort, .get 1, .foreach] := by
  decide
example : (runC Dynar.new [.push 1, .unshift 2, .insertAt 1 3, .set 5 9, .removeAt 0, .foreach, .pop, .get 7,
      .insertAt 5 3, .get 4294967296, .foreach]).1
    = [.unit, .unit, .unit, .unit, .val 2, .list [3, 1, 0, 0, 9], .val 9, .abort,
       .abort, .abort, .list [3, 1, 0, 0]] := by decide

/-!
Part 2: xbt_dict refines an association map, **for every hash function `h`**.  The abstract map is the relation
`Bound d k v` ("k is bound to v"); `DInv` is the representation invariant (table size a power of two, every element
sits in the cell its hash selects under the current mask, keys distinct along a chain); `CInv` the counter
invariant (`count` = number of stored elements, `fill` = number of non-empty cells).
-/

theorem dict_new_refines (h : Key → Nat) : DInv h Dict.new ∧ ∀ k v, ¬ Bound Dict.new k v := by
  refine ⟨⟨⟨7, by decide⟩, ?_, ?_⟩, ?_⟩
  · intro i e he; simp [Dict.new] at he
  · intro i; simp [Dict.new, KeysDistinct]
  · rintro k v ⟨i, e, he, _⟩; simp [Dict.new] at he

/-- **get**: `xbt_dict_get_or_null` answers exactly the abstract map (∀ h, ∀ states) -/
theorem dict_get_refines (h : Key → Nat) (d : Dict) (hinv : DInv h d) (k : Key) (v : Int) :
    dget h d k = some v ↔ Bound d k v := by
  rw [dget, find_key _ (hinv.2.2 _) _ k (hit_iff_key h d hinv k _)]
  constructor
  · rintro ⟨e, he, hk, hv⟩; exact ⟨_, e, he, hk, hv⟩
  · rintro ⟨i, e, he, hk, hv⟩
    rw [entry_cell h d hinv i e he, hk] at he
    exact ⟨e, he, hk, hv⟩

/-- the walk of `remove` finds nothing exactly where `get` finds nothing: the key is not bound -/
theorem no_binding_of_no_hit (h : Key → Nat) (d : Dict) (hinv : DInv h d) (k : Key)
    (hno : (d.cell (h k &&& d.tableSize)).any (hit (h k) k) = false) (v : Int) : ¬ Bound d k v := by
  intro hb
  have hs := dget_isSome h d k
  rw [(dict_get_refines h d hinv k v).mpr hb, hno] at hs
  cases hs

/-- **set**: insert, replace, with or without rehash -/
theorem dict_set_refines (h : Key → Nat) (d : Dict) (hinv : DInv h d) (k : Key) (v : Int) :
    DInv h (dset h d k v) ∧
    ∀ k' v', Bound (dset h d k v) k' v' ↔ (if k' = k then v' = v else Bound d k' v') := by
  have hkey := hit_iff_key h d hinv k (h k &&& d.tableSize)
  have hdist := hinv.2.2 (h k &&& d.tableSize)
  -- every variant writes into the cell of `k` a chain that holds the old entries of the other keys and `⟨k, h k, v⟩`
  have key := fun l d' hts hcell hd hl => setCell_refines h d hinv k l d' hts hcell hd [⟨k, h k, v⟩]
    (fun e he => by rw [List.mem_singleton.mp he]; exact ⟨rfl, rfl⟩) hl (· = v)
    (fun v' => ⟨fun ⟨e, he, hv⟩ => by rw [List.mem_singleton.mp he] at hv; exact hv.symm,
      fun hv => ⟨_, List.mem_singleton_self _, hv.symm⟩⟩)
  unfold dset
  simp only
  by_cases hany : (d.cell (h k &&& d.tableSize)).any (hit (h k) k) = true
  · -- replace: the first hit is the one entry of `k`
    simp only [hany, if_true]
    obtain ⟨pre, e0, post, hch, ⟨hh0, hk0⟩, hrepl, -⟩ := first_hit hany
    have he' : ({ e0 with val := v } : Elm) = ⟨k, h k, v⟩ := by rw [← hh0, ← hk0]
    rw [hrepl v, he']
    rw [hch] at hdist
    refine key _ _ rfl rfl (hdist.replace hk0.symm) fun e => ?_
    rw [hch, ← hk0, hdist.others e]
    simp only [List.mem_append, List.mem_cons, List.not_mem_nil, or_false]
    exact or_left_comm.trans or_comm
  · -- insertion of a new element at the end of the chain
    have hany' : (d.cell (h k &&& d.tableSize)).any (hit (h k) k) = false := Bool.eq_false_iff.mpr hany
    have hnok : ∀ e ∈ d.cell (h k &&& d.tableSize), e.key ≠ k := fun e he hk =>
      hany (List.any_eq_true.mpr ⟨e, he, (hkey e he).mpr hk⟩)
    simp only [hany', Bool.false_eq_true, if_false]
    have key' : ∀ (d' : Dict), d'.tableSize = d.tableSize →
        d'.cell = setCell d.cell (h k &&& d.tableSize) (d.cell (h k &&& d.tableSize) ++ [⟨k, h k, v⟩]) →
        DInv h d' ∧ ∀ k' v', Bound d' k' v' ↔ (if k' = k then v' = v else Bound d k' v') := by
      intro d' hts hcell
      refine key _ d' hts hcell ?_ fun e => ?_
      · exact pairwise_snoc hdist hnok
      · rw [List.mem_append]
        exact or_congr_left ⟨fun he => ⟨he, hnok e he⟩, And.left⟩
    by_cases hemp : (d.cell (h k &&& d.tableSize)).isEmpty = true
    · simp only [hemp, if_true]
      have hnil : d.cell (h k &&& d.tableSize) = [] := List.isEmpty_iff.mp hemp
      have hd1 := key' { d with cell := setCell d.cell (h k &&& d.tableSize) [⟨k, h k, v⟩], count := d.count + 1,
                                fill := d.fill + 1 } rfl (by rw [hnil]; rfl)
      split
      · obtain ⟨hr1, hr2⟩ := rehash_refines h _ hd1.1
        exact ⟨hr1, fun k' v' => (hr2 k' v').trans (hd1.2 k' v')⟩
      · exact hd1
    · simp only [hemp, Bool.false_eq_true, if_false]
      exact key' _ rfl rfl

theorem dict_remove_refines (h : Key → Nat) (d : Dict) (hinv : DInv h d) (k : Key) :
    (dremove h d k = none ↔ ∀ v, ¬ Bound d k v) ∧
    ∀ d', dremove h d k = some d' →
      DInv h d' ∧ ∀ k' v', Bound d' k' v' ↔ (k' ≠ k ∧ Bound d k' v') := by
  have hdist := hinv.2.2 (h k &&& d.tableSize)
  unfold dremove
  simp only
  by_cases hany : (d.cell (h k &&& d.tableSize)).any (hit (h k) k) = true
  · simp only [hany, if_true]
    obtain ⟨pre, e0, post, hch, ⟨-, hk0⟩, -, hunl⟩ := first_hit hany
    have he0 : e0 ∈ d.cell (h k &&& d.tableSize) := by rw [hch]; exact List.mem_append_right _ List.mem_cons_self
    refine ⟨⟨fun hn => (by cases hn), fun hn => absurd ⟨_, e0, he0, hk0, rfl⟩ (hn e0.val)⟩, ?_⟩
    intro d' hd'
    rw [hunl] at hd'
    have hd := Option.some.inj hd'
    rw [hch] at hdist
    obtain ⟨hi, hb⟩ := setCell_refines h d hinv k (pre ++ post) d'
      (hd ▸ rfl) (hd ▸ rfl) hdist.drop [] (fun e he => nomatch he)
      (fun e => by rw [hch, ← hk0, hdist.others e]; exact (or_iff_left List.not_mem_nil).symm)
      (fun _ => False) (fun _ => ⟨fun ⟨_, he, _⟩ => absurd he List.not_mem_nil, False.elim⟩)
    refine ⟨hi, fun k' v' => (hb k' v').trans ?_⟩
    split
    · next hkk => exact ⟨False.elim, fun hc => hc.1 hkk⟩
    · next hkk => exact ⟨fun hb => ⟨hkk, hb⟩, fun hb => hb.2⟩
  · have hany' : (d.cell (h k &&& d.tableSize)).any (hit (h k) k) = false := Bool.eq_false_iff.mpr hany
    simp only [hany', Bool.false_eq_true, if_false]
    exact ⟨⟨fun _ => no_binding_of_no_hit h d hinv k hany', fun _ => trivial⟩, fun d' hd' => by cases hd'⟩

/-- **iteration**: the cursor visits exactly the bindings of the map, each key once (∀ h, ∀ states): `e` is yielded
iff it is stored, and two yielded entries with the same key are the same entry of the same cell. -/
theorem dict_foreach_refines (h : Key → Nat) (d : Dict) (hinv : DInv h d) :
    (∀ e, e ∈ dforeach d ↔ ∃ i, e ∈ d.cell i) ∧
    (∀ k v, (∃ e ∈ dforeach d, e.key = k ∧ e.val = v) ↔ Bound d k v) ∧
    (∀ i j a b, a ∈ d.cell i → b ∈ d.cell j → a.key = b.key → i = j ∧ a = b) := by
  refine ⟨mem_entries h d hinv, fun k v => (bound_iff_entries h d hinv k v).symm, ?_⟩
  · intro i j a b ha hb hk
    have hi := entry_cell h d hinv i a ha
    have hj := entry_cell h d hinv j b hb
    have hij : i = j := by rw [hi, hj, hk]
    subst hij
    exact ⟨rfl, unique_of_distinct _ (hinv.2.2 i) a b ha hb hk⟩

inductive DOp where
  | set (k : Key) (v : Int)
  | remove (k : Key)
  deriving Repr

/-- the implementation: a failed `remove` throws and changes nothing -/
def dstep (h : Key → Nat) (d : Dict) : DOp → Dict
  | .set k v => dset h d k v
  | .remove k => match dremove h d k with
    | some d' => d'
    | none => d

/-- the specification: a finite map as a function -/
def mstep (m : Key → Option Int) : DOp → (Key → Option Int)
  | .set k v => fun k' => if k' = k then some v else m k'
  | .remove k => fun k' => if k' = k then none else m k'

def Rel (d : Dict) (m : Key → Option Int) : Prop := ∀ k v, Bound d k v ↔ m k = some v

theorem dstep_refines (h : Key → Nat) (d : Dict) (m : Key → Option Int) (hinv : DInv h d) (hrel : Rel d m) (op : DOp) :
    DInv h (dstep h d op) ∧ Rel (dstep h d op) (mstep m op) := by
  cases op with
  | set k v =>
    obtain ⟨h1, h2⟩ := dict_set_refines h d hinv k v
    refine ⟨h1, ?_⟩
    intro k' v'
    simp only [dstep, mstep]
    rw [h2 k' v']
    by_cases hk : k' = k
    · simp only [hk, if_true, Option.some.injEq]; exact eq_comm
    · simp only [hk, if_false]; exact hrel k' v'
  | remove k =>
    obtain ⟨h1, h2⟩ := dict_remove_refines h d hinv k
    simp only [dstep, mstep]
    cases hr : dremove h d k with
    | some d' =>
      obtain ⟨i1, i2⟩ := h2 d' hr
      refine ⟨i1, fun k' v' => (i2 k' v').trans ?_⟩
      by_cases hk : k' = k
      · simp [hk]
      · simp only [hk, if_false, ne_eq, not_false_eq_true, true_and]; exact hrel k' v'
    | none =>
      refine ⟨hinv, fun k' v' => ?_⟩
      simp only
      by_cases hk : k' = k
      · rw [hk, if_pos rfl]
        exact ⟨fun hb => absurd hb (h1.mp hr v'), fun hb => nomatch hb⟩
      · rw [if_neg hk]; exact hrel k' v'

/-! ### the counters `count` (`xbt_dict_length`, `xbt_dict_size`, `xbt_dict_is_empty`) and `fill`

`CInv` is kept from every state: it does not need `DInv`.  The decrements of `remove` and the
`fill + fillUp - fillDown` of `rehash` are truncated (`Nat`) subtractions in the model; the theorems show that nothing
is ever truncated. -/

theorem dict_counters_new : CInv Dict.new := by decide

/-- **rehash** (∀ states): `count` is unchanged and is the number of elements of the doubled table; the new
`fill = fill + fillUp - fillDown` is the number of non-empty cells of the doubled table (cells `j < oldsize` hold
what stayed, cells `oldsize ≤ j < 2·oldsize` what moved; `fillDown ≤ fill`, so the subtraction is exact) -/
theorem dict_counters_rehash (d : Dict) (hc : CInv d) :
    CInv (rehash d) ∧ (rehash d).count = d.count ∧ (entries (rehash d)).length = (entries d).length := by
  have h := rehash_cinv d hc
  exact ⟨h, rfl, by rw [← h.1, ← hc.1]; rfl⟩

/-- **set** (∀ h, ∀ states; replace / new cell with or without rehash / chain append): the counters stay exact, and
`xbt_dict_length` grows by one exactly when the key was absent -/
theorem dict_counters_set (h : Key → Nat) (d : Dict) (hc : CInv d) (k : Key) (v : Int) :
    CInv (dset h d k v) ∧
    (dset h d k v).count = (if (dget h d k).isSome then d.count else d.count + 1) :=
  ⟨dset_cinv h d hc k v, dset_count h d k v⟩

/-- **remove** (∀ h, ∀ states): the counters stay exact; the `count--` and `fill--` of the code never wrap: the
old `count` is the new one plus 1, and the old `fill` is the new one plus 1 exactly when the cell became empty -/
theorem dict_counters_remove (h : Key → Nat) (d : Dict) (hc : CInv d) (k : Key) (d' : Dict)
    (hr : dremove h d k = some d') :
    CInv d' ∧ d'.count + 1 = d.count ∧
    d'.fill + (if (d'.cell (h k &&& d.tableSize)).isEmpty then 1 else 0) = d.fill := by
  have hi := and_mask_lt (h k) d.tableSize
  unfold dremove at hr
  simp only at hr
  split at hr
  · rename_i hany
    cases hr
    have hl := unlinkFirst_length (h k) k _ hany
    have hne : (d.cell (h k &&& d.tableSize)).isEmpty = false :=
      List.isEmpty_eq_false_iff.mpr (List.ne_nil_of_length_pos (by omega))
    have hcount : 1 ≤ d.count := by
      have := cellTotal_ge d.cell _ _ hi
      rw [hc.1, entries_length]; omega
    have hfill : 1 ≤ d.fill := by
      rw [hc.2, nonEmptyCells_eq]
      exact cnt_pos_of _ _ _ hi (by rw [hne]; rfl)
    have hsame : setCell d.cell (h k &&& d.tableSize) (unlinkFirst (h k) k (d.cell (h k &&& d.tableSize)))
        (h k &&& d.tableSize) = unlinkFirst (h k) k (d.cell (h k &&& d.tableSize)) := if_pos rfl
    refine ⟨cinv_setCell d hc _ hi _ _ _ (by omega) ?_, by dsimp only; omega, ?_⟩
    · rw [hne]
      cases (unlinkFirst (h k) k (d.cell (h k &&& d.tableSize))).isEmpty <;>
        simp only [Bool.not_false, Bool.not_true, Bool.false_eq_true, if_true, if_false] <;> omega
    · simp only [hsame]
      split <;> omega
  · cases hr

theorem dict_counters_step (h : Key → Nat) (d : Dict) (hc : CInv d) (op : DOp) : CInv (dstep h d op) := by
  cases op with
  | set k v => exact dset_cinv h d hc k v
  | remove k =>
    simp only [dstep]
    cases hr : dremove h d k with
    | some d' => exact (dict_counters_remove h d hc k d' hr).1
    | none => exact hc

/-- **`count` is the size of the abstract map**: the length of the duplicate-free key list the cursor yields, whose
members are exactly the keys bound by `m`; hence the length of EVERY duplicate-free enumeration of the domain of `m` -/
theorem dict_count_size_of_inv (h : Key → Nat) (d : Dict) (m : Key → Option Int) (hinv : DInv h d) (hc : CInv d)
    (hrel : Rel d m) :
    d.count = (entries d).length ∧
    d.count = ((entries d).map (·.key)).length ∧
    ((entries d).map (·.key)).Nodup ∧
    (∀ k, k ∈ (entries d).map (·.key) ↔ (m k).isSome = true) ∧
    (∀ ks : List Key, ks.Nodup → (∀ k, k ∈ ks ↔ (m k).isSome = true) → ks.length = d.count) ∧
    (d.count = 0 ↔ ∀ k, m k = none) := by
  have hnd := entries_keys_nodup h d hinv
  have hmem : ∀ k, k ∈ (entries d).map (·.key) ↔ (m k).isSome = true := by
    intro k
    rw [mem_entries_keys h d hinv k, Option.isSome_iff_exists]
    exact exists_congr (hrel k)
  have hlen : d.count = ((entries d).map (·.key)).length := by rw [List.length_map]; exact hc.1
  refine ⟨hc.1, hlen, hnd, hmem, ?_, ?_⟩
  · intro ks hks hk
    rw [hlen]
    exact ((List.perm_ext_iff_of_nodup hks hnd).mpr fun k => by rw [hk k, hmem k]).length_eq
  · rw [hlen, List.length_eq_zero_iff, List.eq_nil_iff_forall_not_mem]
    exact forall_congr' fun k => by rw [hmem k]; cases m k <;> simp

/-- the dict and the specification map after a history -/
abbrev runD (h : Key → Nat) (ops : List DOp) : Dict := ops.foldl (dstep h) Dict.new
abbrev runM (ops : List DOp) : Key → Option Int := ops.foldl mstep (fun _ => none)

theorem dict_run_from (h : Key → Nat) (ops : List DOp) : ∀ (d : Dict) (m : Key → Option Int), DInv h d → CInv d → Rel d m →
    DInv h (ops.foldl (dstep h) d) ∧ CInv (ops.foldl (dstep h) d) ∧ Rel (ops.foldl (dstep h) d) (ops.foldl mstep m) := by
  induction ops with
  | nil => intro d m hi hc hr; exact ⟨hi, hc, hr⟩
  | cons op ops ih =>
    intro d m hi hc hr
    obtain ⟨h1, h2⟩ := dstep_refines h d m hi hr op
    exact ih _ _ h1 (dict_counters_step h d hc op) h2

theorem dict_run_invariants (h : Key → Nat) (ops : List DOp) :
    DInv h (runD h ops) ∧ CInv (runD h ops) ∧ Rel (runD h ops) (runM ops) := by
  obtain ⟨hnew, hnob⟩ := dict_new_refines h
  have hrel0 : Rel Dict.new (fun _ => none) := fun k v => iff_of_false (hnob k v) nofun
  exact dict_run_from h ops Dict.new _ hnew dict_counters_new hrel0

/-- **`xbt_dict_length` after every history, every hash function**: `count` is the number of stored elements, which
is the number of keys bound by the specification map (see `dict_count_size_of_inv` for the clauses) -/
theorem dict_count_is_size (h : Key → Nat) (ops : List DOp) :
    (runD h ops).count = (entries (runD h ops)).length ∧
    (runD h ops).count = ((entries (runD h ops)).map (·.key)).length ∧
    ((entries (runD h ops)).map (·.key)).Nodup ∧
    (∀ k, k ∈ (entries (runD h ops)).map (·.key) ↔ (runM ops k).isSome = true) ∧
    (∀ ks : List Key, ks.Nodup → (∀ k, k ∈ ks ↔ (runM ops k).isSome = true) → ks.length = (runD h ops).count) ∧
    ((runD h ops).count = 0 ↔ ∀ k, runM ops k = none) := by
  obtain ⟨hi, hc, hr⟩ := dict_run_invariants h ops
  exact dict_count_size_of_inv h _ _ hi hc hr

/-- **`fill` after every history, every hash function** (including the histories that rehash, any number of
times): `fill` is the number of non-empty cells of the current table, hence at most the number of cells -/
theorem dict_fill_is_nonempty_cells (h : Key → Nat) (ops : List DOp) :
    (runD h ops).fill =
      ((List.range ((runD h ops).tableSize + 1)).filter (fun i => !((runD h ops).cell i).isEmpty)).length ∧
    (runD h ops).fill ≤ (runD h ops).tableSize + 1 := by
  obtain ⟨_, hc, _⟩ := dict_run_invariants h ops
  refine ⟨hc.2, ?_⟩
  rw [hc.2, nonEmptyCells_eq]
  exact cnt_le _ _

/-- **Every sequence of `set` / `remove`, every hash function** (FULL statement): starting from a fresh dict the
invariant holds all along; afterwards `get` answers exactly what the specification map holds (and the cursor
enumerates exactly that map, `dict_foreach_refines`); `xbt_dict_length` (`count`) is the size of the specification
map: the number of stored elements, whose keys are pairwise distinct and are exactly the bound keys, so that `count`
is the length of every duplicate-free enumeration of the bound keys, and `count = 0` iff nothing is bound; and `fill`
is the number of non-empty cells of the (possibly several times doubled) table. -/
theorem dict_refines_assoc (h : Key → Nat) (ops : List DOp) :
    DInv h (runD h ops) ∧
    (∀ k, dget h (runD h ops) k = runM ops k) ∧
    (runD h ops).count = (entries (runD h ops)).length ∧
    ((entries (runD h ops)).map (·.key)).Nodup ∧
    (∀ k, k ∈ (entries (runD h ops)).map (·.key) ↔ (runM ops k).isSome = true) ∧
    (∀ ks : List Key, ks.Nodup → (∀ k, k ∈ ks ↔ (runM ops k).isSome = true) → ks.length = (runD h ops).count) ∧
    ((runD h ops).count = 0 ↔ ∀ k, runM ops k = none) ∧
    (runD h ops).fill =
      ((List.range ((runD h ops).tableSize + 1)).filter (fun i => !((runD h ops).cell i).isEmpty)).length := by
  obtain ⟨hi, hc, hr⟩ := dict_run_invariants h ops
  obtain ⟨c1, _, c3, c4, c5, c6⟩ := dict_count_size_of_inv h _ _ hi hc hr
  exact ⟨hi, fun k => Option.ext fun v => (dict_get_refines h _ hi k v).trans (hr k v), c1, c3, c4, c5, c6, hc.2⟩

/-- the part about `get` alone (without the counters): a corollary of `dict_refines_assoc` -/
theorem dict_refines_assoc_partial (h : Key → Nat) (ops : List DOp) :
    DInv h (ops.foldl (dstep h) Dict.new) ∧
    ∀ k, dget h (ops.foldl (dstep h) Dict.new) k = ops.foldl mstep (fun _ => none) k :=
  ⟨(dict_refines_assoc h ops).1, (dict_refines_assoc h ops).2.1⟩

/-! ### non-vacuity (djb2: "ab" and "bA" have the same hash code, hence the same cell) -/
example : djb2 "ab" = djb2 "bA" := by decide
example : dget djb2 ([DOp.set "ab" 1, .set "bA" 2, .set "ab" 3, .remove "bA"].foldl (dstep djb2) Dict.new) "ab" = some 3 := by
  decide
example : dremove djb2 Dict.new "zz" = none := by decide

/-- a history with a chain of length 2 ("ab", "bA": same djb2 hash), a replace, a removal that empties a cell ("c")
and a refused removal: 2 elements left, in 1 cell -/
def hist1 : List DOp := [.set "ab" 1, .set "bA" 2, .set "c" 5, .set "ab" 3, .remove "c", .remove "zz"]
example : (runD djb2 (hist1.take 3)).count = 3 ∧ (runD djb2 (hist1.take 3)).fill = 2 ∧
    (entries (runD djb2 (hist1.take 3))).length = 3 ∧ nonEmptyCells (runD djb2 (hist1.take 3)) = 2 := by decide
example : (runD djb2 hist1).count = 2 ∧ (runD djb2 hist1).fill = 1 ∧
    (entries (runD djb2 hist1)).map (·.key) = ["ab", "bA"] ∧ nonEmptyCells (runD djb2 hist1) = 1 ∧
    ((runD djb2 hist1).cell (djb2 "ab" &&& 127)).length = 2 := by decide
/-- the specification map after the same history: the two keys left are bound, the removed one is not -/
example : (runM hist1 "ab", runM hist1 "bA", runM hist1 "c") = (some 3, some 2, none) := by decide
/-- emptiness: a history that removes everything it inserted -/
example : (runD djb2 [.set "ab" 1, .set "bA" 2, .remove "ab", .remove "bA"]).count = 0 ∧
    (runD djb2 [.set "ab" 1, .set "bA" 2, .remove "ab", .remove "bA"]).fill = 0 := by decide

/-- a hand-made 2-cell table (mask 1) for the hash function `hSmall`: cell 0 holds a chain of two, cell 1 is empty -/
def hSmall (k : Key) : Nat := if k = "a" then 0 else if k = "b" then 2 else 3
def dSmall : Dict := ⟨1, fun i => if i = 0 then [⟨"a", 0, 1⟩, ⟨"b", 2, 2⟩] else [], 2, 1⟩
example : CInv dSmall := by decide
/-- `set "c"` fills the second cell: `fill * 100 / 2 = 100 > 80`, so the updated dict is rehashed to 4 cells:
"a" stays in cell 0, "b" moves to cell 2, "c" moves from cell 1 (emptied: fillDown = 1) to cell 3 (fillUp = 2) -/
example : (dset hSmall dSmall "c" 7).tableSize = 3 ∧ (dset hSmall dSmall "c" 7).count = 3 ∧
    (dset hSmall dSmall "c" 7).fill = 3 ∧ nonEmptyCells (dset hSmall dSmall "c" 7) = 3 ∧
    (entries (dset hSmall dSmall "c" 7)).map (·.key) = ["a", "b", "c"] ∧
    ((dset hSmall dSmall "c" 7).cell 1).isEmpty = true := by decide
/-- `rehash` directly, on a table where a cell splits in two (no cell emptied) -/
example : CInv (rehash dSmall) ∧ (rehash dSmall).fill = 2 ∧ (rehash dSmall).count = 2 ∧
    (rehash dSmall).tableSize = 3 := by decide
/-- `remove` that empties a cell / that does not -/
example : (dremove hSmall (dset hSmall dSmall "c" 7) "c").map (fun d => (d.count, d.fill)) = some (2, 2) := by decide
example : (dremove hSmall dSmall "a").map (fun d => (d.count, d.fill)) = some (1, 1) := by decide
/-- the hypotheses of `dict_count_size_of_inv` are satisfiable (also by every reachable state: `dict_run_invariants`) -/
example : DInv djb2 Dict.new ∧ CInv Dict.new ∧ Rel Dict.new (fun _ => none) :=
  dict_run_invariants djb2 []

end SgVerif.C50
