import SgVerif.C50.Dynar
/-
C50 — lemmas for the dynar refinement proof: what each low-level routine does to the abstraction.
-/
namespace SgVerif.C50

theorem expand_mem (d : Dynar) (nb : Nat) : (expand d nb).mem = d.mem := by
  unfold expand; split <;> rfl

theorem expand_used (d : Dynar) (nb : Nat) : (expand d nb).used = d.used := by
  unfold expand; split <;> rfl

theorem expand_size (d : Dynar) (nb : Nat) : nb ≤ (expand d nb).size ∧ d.size ≤ (expand d nb).size := by
  unfold expand
  split
  · simp only; split <;> omega
  · omega

theorem abs_length (d : Dynar) : (abs d).length = d.used := by simp [abs]

theorem abs_getElem? (d : Dynar) {j : Nat} (h : j < d.used) : (abs d)[j]? = some ((d.mem j).getD 0) := by
  rw [abs, List.getElem?_map, List.getElem?_range h, Option.map_some]

theorem store_self (m : Nat → Option Elem) (i : Nat) (v : Option Elem) : store m i v i = v := if_pos rfl

theorem store_ne (m : Nat → Option Elem) {i j : Nat} (v : Option Elem) (h : j ≠ i) : store m i v j = m j := if_neg h

theorem memmove_in (m : Nat → Option Elem) {dst src n j : Nat} (h1 : dst ≤ j) (h2 : j < dst + n) :
    memmove m dst src n j = m (src + (j - dst)) := if_pos ⟨h1, h2⟩

theorem memmove_out (m : Nat → Option Elem) {dst n j : Nat} (src : Nat) (h : j < dst ∨ dst + n ≤ j) :
    memmove m dst src n j = m j := if_neg (by omega)

/-- the cells `0 … used-1` hold exactly the list `l`.  An operation refines its list counterpart when the new cells hold
the new list: the abstraction and the initialisation clause of `Inv` both follow (`Holds.abs_inv`). -/
def Holds (d : Dynar) (l : List Elem) : Prop := l.length = d.used ∧ ∀ j, j < d.used → d.mem j = l[j]?

theorem Holds.abs_inv {d : Dynar} {l : List Elem} (h : Holds d l) (hsz : d.used ≤ d.size) (hlt : d.used < 2147483648) :
    abs d = l ∧ Inv d := by
  refine ⟨List.ext_getElem? fun j => ?_, hsz, hlt, fun i hi => by rw [h.2 i hi, List.getElem?_eq_getElem (h.1 ▸ hi)]; rfl⟩
  by_cases hj : j < d.used
  · rw [abs_getElem? d hj, h.2 j hj, List.getElem?_eq_getElem (h.1 ▸ hj)]
    rfl
  · rw [List.getElem?_eq_none (by rw [abs_length]; omega), List.getElem?_eq_none (by have := h.1; omega)]

theorem Inv.holds {d : Dynar} (h : Inv d) : Holds d (abs d) := by
  refine ⟨abs_length d, fun j hj => ?_⟩
  obtain ⟨v, hv⟩ := Option.isSome_iff_exists.mp (h.2.2 j hj)
  rw [abs_getElem? d hj, hv]
  rfl

theorem Inv.read {d : Dynar} (h : Inv d) {i : Nat} (hi : i < d.used) : ∃ v, d.mem i = some v ∧ (abs d)[i]? = some v := by
  obtain ⟨v, hv⟩ := Option.isSome_iff_exists.mp (h.2.2 i hi)
  exact ⟨v, hv, by rw [← h.holds.2 i hi, hv]⟩

theorem cells_of_inv (d : Dynar) (h : Inv d) : cells d = some (abs d) := by
  unfold cells
  rw [if_pos]
  simp only [List.all_eq_true, List.mem_range]
  exact h.2.2

theorem toI32_small (n : Nat) (h : n < 2147483648) : toI32 n = (n : Int) := by
  unfold toI32
  rw [Nat.mod_eq_of_lt (by omega), if_pos h]

theorem toI32_pred (n : Nat) (h : n < 2147483648) :
    toI32 (n + 18446744073709551615) = (n : Int) - 1 := by
  unfold toI32
  cases n with
  | zero => decide
  | succ m =>
    -- `m + 1 + (2^64 - 1) = m + 2^32 * 2^32`
    have : (m + 1 + 18446744073709551615) % 4294967296 = m := by
      rw [Nat.add_assoc, show 1 + 18446744073709551615 = 4294967296 * 4294967296 from rfl, Nat.add_mul_mod_self_left,
        Nat.mod_eq_of_lt (by omega)]
    rw [this, if_pos (by omega)]
    omega

theorem inbound_iff (d : Dynar) (idx : Nat) : inbound d idx = true ↔ idx < d.used := decide_eq_true_iff

theorem removeAt_refused (d : Dynar) (idx : Int) (h : idx < 0 ∨ (d.used : Int) ≤ idx) :
    removeAt d idx = (.abort, d) := by
  unfold removeAt
  by_cases hneg : idx < 0
  · rw [if_pos hneg]
  · have : inbound d idx.toNat = false := decide_eq_false (by omega)
    rw [if_neg hneg, this, if_pos (by rfl)]

theorem insertAt_refused (d : Dynar) (idx : Int) (x : Elem) (h : idx < 0 ∨ (d.used : Int) < idx) :
    insertAt d idx x = (.abort, d) := by
  unfold insertAt
  by_cases hneg : idx < 0
  · rw [if_pos hneg]
  · rw [if_neg hneg, if_pos (by omega)]

theorem insertAt_refines (d : Dynar) (hinv : Inv d) (i : Nat) (x : Elem) (hi : i ≤ d.used) (hcap : d.used + 1 < 2147483648) :
    (insertAt d (i : Int) x).1 = .unit ∧ abs (insertAt d (i : Int) x).2 = (abs d).insertIdx i x ∧
      Inv (insertAt d (i : Int) x).2 := by
  obtain ⟨hlen, hmem⟩ := hinv.holds
  have hsize := (expand_size d (d.used + 1)).1
  unfold insertAt
  simp only [show ¬ (i : Int) < 0 by omega, Int.toNat_natCast, Nat.not_lt.mpr hi, if_false, expand_mem,
    Nat.lt_of_lt_of_le (Nat.lt_succ_of_le hi) hsize, if_true]
  refine ⟨trivial, Holds.abs_inv ⟨?_, fun j hj => ?_⟩ hsize hcap⟩
  · rw [List.length_insertIdx_of_le_length (hlen ▸ hi), hlen]
  dsimp only at hj ⊢
  rcases Nat.lt_trichotomy j i with hji | hji | hji
  · rw [List.getElem?_insertIdx_of_lt hji, ← hmem j (Nat.lt_of_lt_of_le hji hi), store_ne _ _ (Nat.ne_of_lt hji)]
    split
    · exact memmove_out _ _ (.inl (Nat.lt_succ_of_lt hji))
    · rfl
  · rw [hji, store_self, List.getElem?_insertIdx_self, if_pos (hlen ▸ hi)]
  · have hju := Nat.le_of_lt_succ hj
    rw [List.getElem?_insertIdx_of_gt hji, ← hmem (j - 1) (Nat.sub_one_lt_of_le (Nat.zero_lt_of_lt hji) hju),
      store_ne _ _ (Nat.ne_of_gt hji), if_pos (Nat.lt_of_lt_of_le hji hju), memmove_in _ hji (by omega)]
    congr 1; omega

theorem removeAt_refines (d : Dynar) (hinv : Inv d) (i : Nat) (hi : i < d.used) :
    ∃ v, (abs d)[i]? = some v ∧ (removeAt d (i : Int)).1 = .val v ∧
      abs (removeAt d (i : Int)).2 = (abs d).eraseIdx i ∧ Inv (removeAt d (i : Int)).2 := by
  obtain ⟨hlen, hmem⟩ := hinv.holds
  have hsz := hinv.1
  have hlt := hinv.2.1
  obtain ⟨v, hv, hget⟩ := hinv.read hi
  refine ⟨v, hget, ?_⟩
  unfold removeAt
  simp only [show ¬ (i : Int) < 0 by omega, Int.toNat_natCast, (inbound_iff d i).mpr hi, Bool.not_true,
    Bool.false_eq_true, if_false, hv]
  refine ⟨trivial, Holds.abs_inv ⟨?_, fun j hj => ?_⟩ (Nat.le_trans (Nat.sub_le _ _) hsz) (Nat.lt_of_le_of_lt (Nat.sub_le _ _) hlt)⟩
  · rw [List.length_eraseIdx_of_lt (hlen ▸ hi), hlen]
  dsimp only at hj ⊢
  by_cases hji : j < i
  · rw [List.getElem?_eraseIdx_of_lt hji, ← hmem j (Nat.lt_of_lt_of_le hj (Nat.sub_le _ _))]
    split
    · exact memmove_out _ _ (.inl hji)
    · rfl
  · have hij := Nat.le_of_not_lt hji
    rw [List.getElem?_eraseIdx_of_ge hij, ← hmem (j + 1) (Nat.add_lt_of_lt_sub hj),
      if_pos (Nat.sub_pos_of_lt (Nat.lt_of_le_of_lt hij hj)), memmove_in _ hij (by omega)]
    congr 1; omega

/-! ### `push`, `unshift`, `pop`, `shift` are insertions / removals at an end, in the specification too -/

theorem sstep_unshift (l : List Elem) (x : Elem) : sstep l (.unshift x) = sstep l (.insertAt 0 x) := by
  simp [sstep]

theorem sstep_push (l : List Elem) (x : Elem) : sstep l (.push x) = sstep l (.insertAt l.length x) := by
  simp [sstep]

theorem sstep_shift (l : List Elem) : sstep l .shift = sstep l (.removeAt 0) := by
  cases l <;> rfl

theorem sstep_pop (l : List Elem) : sstep l .pop = sstep l (.removeAt ((l.length : Int) - 1)) := by
  simp only [sstep]
  rcases List.eq_nil_or_concat l with rfl | ⟨t, a, rfl⟩
  · rfl
  · simp [List.eraseIdx_append_of_length_le]

theorem insertAt_spec (d : Dynar) (hinv : Inv d) (idx : Int) (x : Elem) (hcap : d.used + 1 < 2147483648) :
    (insertAt d idx x).1 = (sstep (abs d) (.insertAt idx x)).1 ∧
      abs (insertAt d idx x).2 = (sstep (abs d) (.insertAt idx x)).2 ∧ Inv (insertAt d idx x).2 := by
  simp only [sstep, abs_length]
  by_cases hout : idx < 0 ∨ (d.used : Int) < idx
  · rw [insertAt_refused d idx x hout, if_pos hout]
    exact ⟨rfl, rfl, hinv⟩
  · obtain ⟨i, rfl⟩ := Int.eq_ofNat_of_zero_le (Int.not_lt.mp fun hn => hout (.inl hn))
    rw [if_neg hout, Int.toNat_natCast]
    exact insertAt_refines d hinv i x (Int.ofNat_le.mp (Int.not_lt.mp fun hu => hout (.inr hu))) hcap

theorem removeAt_spec (d : Dynar) (hinv : Inv d) (idx : Int) :
    (removeAt d idx).1 = (sstep (abs d) (.removeAt idx)).1 ∧
      abs (removeAt d idx).2 = (sstep (abs d) (.removeAt idx)).2 ∧ Inv (removeAt d idx).2 := by
  simp only [sstep]
  by_cases hneg : idx < 0
  · rw [removeAt_refused d idx (.inl hneg), if_pos hneg]
    exact ⟨rfl, rfl, hinv⟩
  · obtain ⟨i, rfl⟩ := Int.eq_ofNat_of_zero_le (Int.not_lt.mp hneg)
    rw [if_neg hneg, Int.toNat_natCast]
    by_cases hu : i < d.used
    · obtain ⟨v, hv, h⟩ := removeAt_refines d hinv i hu
      rw [hv]
      exact h
    · have hu := Nat.le_of_not_lt hu
      rw [removeAt_refused d i (.inr (Int.ofNat_le.mpr hu)), List.getElem?_eq_none (by rw [abs_length]; exact hu)]
      exact ⟨rfl, rfl, hinv⟩

theorem setAt_spec (d : Dynar) (hinv : Inv d) (idx : Nat) (x : Elem) (hcap : idx + 1 < 2147483648) :
    (setAt d idx x).1 = (sstep (abs d) (.set idx x)).1 ∧ abs (setAt d idx x).2 = (sstep (abs d) (.set idx x)).2 ∧
      Inv (setAt d idx x).2 := by
  obtain ⟨hlen, hmem⟩ := hinv.holds
  unfold setAt
  simp only [sstep, hlen]
  by_cases hlt' : idx < d.used
  · rw [if_neg (Nat.not_le.mpr hlt'), if_pos hlt']
    refine ⟨rfl, Holds.abs_inv ⟨by rw [List.length_set, hlen], fun j hj => ?_⟩ hinv.1 hinv.2.1⟩
    dsimp only at hj ⊢
    by_cases hji : j = idx
    · rw [hji, store_self, List.getElem?_set_self (hlen ▸ hlt')]
    · rw [store_ne _ _ hji, List.getElem?_set_ne (Ne.symm hji), hmem j hj]
  · obtain ⟨n, rfl⟩ := Nat.exists_eq_add_of_le (Nat.le_of_not_lt hlt')
    rw [if_pos (Nat.le_add_right _ _), if_neg hlt', Nat.add_sub_cancel_left]
    simp only [expand_mem]
    have hl2 : (abs d ++ List.replicate n 0).length = d.used + n := by
      rw [List.length_append, List.length_replicate, hlen]
    refine ⟨trivial, Holds.abs_inv ⟨by rw [List.length_append, hl2]; rfl, fun j hj => ?_⟩ (expand_size d _).1 hcap⟩
    dsimp only at hj ⊢
    by_cases hji : j = d.used + n
    · rw [hji, store_self, List.getElem?_append_right (Nat.le_of_eq hl2), hl2, Nat.sub_self]
      rfl
    · have hjn : j < d.used + n := Nat.lt_of_le_of_ne (Nat.le_of_lt_succ hj) hji
      rw [store_ne _ _ hji, List.getElem?_append_left (hl2 ▸ hjn)]
      by_cases hju : j < d.used
      · rw [if_neg fun h => Nat.not_le.mpr hju h.1, List.getElem?_append_left (hlen ▸ hju), hmem j hju]
      · have hle := Nat.le_of_not_lt hju
        rw [if_pos ⟨hle, hjn⟩, List.getElem?_append_right (hlen ▸ hle), List.getElem?_replicate, hlen,
          if_pos (Nat.sub_lt_left_of_lt_add hle hjn)]

/-- dropping the cells from `n` on (`pop_ptr`: `n = used - 1`; `reset`: `n = 0`) is `List.take` on the abstraction -/
theorem truncate_spec (d : Dynar) (hinv : Inv d) (n : Nat) (hn : n ≤ d.used) :
    abs { d with used := n } = (abs d).take n ∧ Inv { d with used := n } := by
  obtain ⟨hlen, hmem⟩ := hinv.holds
  refine Holds.abs_inv ⟨by rw [List.length_take, hlen]; exact Nat.min_eq_left hn, fun j hj => ?_⟩
    (Nat.le_trans hn hinv.1) (Nat.lt_of_le_of_lt hn hinv.2.1)
  rw [List.getElem?_take_of_lt hj]
  exact hmem j (Nat.lt_of_lt_of_le hj hn)

/-- writing a list of `used` elements over the cells (`qsort` in place) makes it the abstraction -/
theorem overwrite_spec (d : Dynar) (hinv : Inv d) (s : List Elem) (hs : s.length = d.used) :
    abs { d with mem := fun j => if h : j < s.length then some s[j] else d.mem j } = s ∧
      Inv { d with mem := fun j => if h : j < s.length then some s[j] else d.mem j } :=
  Holds.abs_inv ⟨hs, fun _ hj => (dif_pos (hs ▸ hj)).trans (List.getElem?_eq_getElem _).symm⟩ hinv.1 hinv.2.1

end SgVerif.C50
