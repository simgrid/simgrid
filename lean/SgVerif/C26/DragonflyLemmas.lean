import SgVerif.C26.DragonflySpec
/-!
C26 — dragonfly: the div/mod round trip between router numbers and coordinates, `peer` on router numbers written in
coordinates, the control flow of get_local_route as three blocks (`steps_eq`) with the kinds of their hops and their
closed form (`steps = specSteps`), and connectivity of the closed form.
-/
namespace SgVerif.C26

def RCoord.InRange (d : Dragonfly) (r : RCoord) : Prop := r.g < d.G ∧ r.c < d.C ∧ r.b < d.B

theorem cb_lt (c b C B : Nat) (hc : c < C) (hb : b < B) : c * B + b < C * B := by
  have h1 : (c + 1) * B ≤ C * B := Nat.mul_le_mul_right B hc
  rw [Nat.add_mul, Nat.one_mul] at h1
  omega

theorem ridx_facts (g c b C B : Nat) (hc : c < C) (hb : b < B) :
    (g * (C * B) + c * B + b) % B = b ∧ (g * (C * B) + c * B + b) / B = g * C + c ∧
    (g * (C * B) + c * B + b) / (C * B) = g ∧ (g * (C * B) + c * B + b) % (C * B) = c * B + b ∧
    (g * C + c) % C = c := by
  have hB : 0 < B := by omega
  have hC : 0 < C := by omega
  have hCB : 0 < C * B := Nat.mul_pos hC hB
  have e : g * (C * B) + c * B + b = b + (g * C + c) * B := by
    rw [Nat.add_mul, Nat.mul_assoc]; omega
  have e2 : g * (C * B) + c * B + b = (c * B + b) + g * (C * B) := by omega
  have hcb := cb_lt c b C B hc hb
  refine ⟨?_, ?_, ?_, ?_, ?_⟩
  · rw [e, Nat.add_mul_mod_self_right, Nat.mod_eq_of_lt hb]
  · rw [e, Nat.add_mul_div_right _ _ hB, Nat.div_eq_of_lt hb, Nat.zero_add]
  · rw [e2, Nat.add_mul_div_right _ _ hCB, Nat.div_eq_of_lt hcb, Nat.zero_add]
  · rw [e2, Nat.add_mul_mod_self_right, Nat.mod_eq_of_lt hcb]
  · rw [Nat.add_comm, Nat.add_mul_mod_self_right, Nat.mod_eq_of_lt hc]

theorem rcoord_ridx (d : Dragonfly) (r : RCoord) (hc : r.c < d.C) (hb : r.b < d.B) : d.rcoord (d.ridx r) = r := by
  obtain ⟨h1, h2, h3, _, h5⟩ := ridx_facts r.g r.c r.b d.C d.B hc hb
  unfold Dragonfly.rcoord Dragonfly.ridx
  simp only [h1, h2, h3, h5]

theorem ridx_c0 (d : Dragonfly) (g b : Nat) : d.ridx ⟨g, 0, b⟩ = g * (d.C * d.B) + b := by
  simp only [Dragonfly.ridx, Nat.zero_mul, Nat.add_zero]

theorem ridx_inj (d : Dragonfly) (a b : RCoord) (ha : a.InRange d) (hb : b.InRange d) (h : d.ridx a = d.ridx b) : a = b := by
  rw [← rcoord_ridx d a ha.2.1 ha.2.2, ← rcoord_ridx d b hb.2.1 hb.2.2, h]

theorem ridx_lt (d : Dragonfly) (r : RCoord) (h : r.InRange d) : d.ridx r < d.nRouters := by
  unfold Dragonfly.ridx Dragonfly.nRouters
  rw [Nat.mul_assoc, Nat.add_assoc]
  exact cb_lt _ _ _ _ h.1 (cb_lt _ _ _ _ h.2.1 h.2.2)

theorem peer_green (d : Dragonfly) (g c b k : Nat) (hc : c < d.C) (hb : b < d.B) (hk : k < d.B) (hne : k ≠ b) :
    d.peer (d.ridx ⟨g, c, b⟩) (.green k) = some (d.ridx ⟨g, c, k⟩) := by
  obtain ⟨h1, h2, _, _, _⟩ := ridx_facts g c b d.C d.B hc hb
  unfold Dragonfly.peer Dragonfly.ridx
  simp only [h1, h2, hk, hne, ne_eq, not_false_eq_true, and_self, if_true, Nat.add_mul, Nat.mul_assoc]

theorem peer_black (d : Dragonfly) (g c b k : Nat) (hc : c < d.C) (hb : b < d.B) (hk : k < d.C) (hne : k ≠ c) :
    d.peer (d.ridx ⟨g, c, b⟩) (.black k) = some (d.ridx ⟨g, k, b⟩) := by
  obtain ⟨h1, h2, h3, _, h5⟩ := ridx_facts g c b d.C d.B hc hb
  unfold Dragonfly.peer Dragonfly.ridx
  simp only [h1, h2, h3, h5, hk, hne, ne_eq, not_false_eq_true, and_self, if_true]

theorem peer_blue (d : Dragonfly) (g b : Nat) (hC : 0 < d.C) (hb : b < d.B) (hbG : b < d.G) (hne : b ≠ g) :
    d.peer (d.ridx ⟨g, 0, b⟩) .blue = some (d.ridx ⟨b, 0, g⟩) := by
  obtain ⟨_, _, h3, h4, _⟩ := ridx_facts g 0 b d.C d.B hC hb
  simp only [Nat.zero_mul, Nat.add_zero, Nat.zero_add] at h3 h4
  unfold Dragonfly.peer Dragonfly.ridx
  simp only [Nat.zero_mul, Nat.add_zero, h3, h4, hbG, hne, ne_eq, not_false_eq_true, and_self, if_true]

theorem peer_cases (d : Dragonfly) (r : Nat) (s : DSlot) (q : Nat) (hq : d.peer r s = some q) :
    (∃ k, s = .green k ∧ k < d.B ∧ k ≠ r % d.B ∧ q = r / d.B * d.B + k) ∨
    (∃ k, s = .black k ∧ k < d.C ∧ k ≠ (r / d.B) % d.C ∧ q = r / (d.C * d.B) * (d.C * d.B) + k * d.B + r % d.B) ∨
    (s = .blue ∧ r % (d.C * d.B) < d.G ∧ r % (d.C * d.B) ≠ r / (d.C * d.B) ∧
      q = r % (d.C * d.B) * (d.C * d.B) + r / (d.C * d.B)) := by
  cases s <;> simp only [Dragonfly.peer] at hq
  · cases hq
  all_goals
    split at hq
    · rename_i h
      cases hq
      simp [h.1, h.2]
    · cases hq

/-- the colour of a slot as a number (0 local, 1 green, 2 black, 3 blue): `dragonfly_hop_order` lists hop sequences in these -/
def DSlot.kind : DSlot → Nat
  | .node _ => 0
  | .green _ => 1
  | .black _ => 2
  | .blue => 3

/-- an optional hop of `get_local_route`: `if (p) { push slot of cur; currentRouter = nx }` -/
def hopIf (p : Prop) [Decidable p] (cur : Nat) (slot : DSlot) (nx : Nat) : List DStep × Nat :=
  if p then ([⟨cur, slot, true, nx⟩], nx) else ([], cur)

theorem hopIf_fst (p : Prop) [Decidable p] (cur : Nat) (slot : DSlot) (nx : Nat) :
    (hopIf p cur slot nx).1 = if p then [⟨cur, slot, true, nx⟩] else [] := by
  unfold hopIf; split <;> rfl

theorem hopIf_snd (p : Prop) [Decidable p] (cur : Nat) (slot : DSlot) (nx : Nat) (h : ¬p → cur = nx) :
    (hopIf p cur slot nx).2 = nx := by
  unfold hopIf; split
  · rfl
  · exact h ‹_›

/-- the block `if (targetRouter->group_ != currentRouter->group_)` -/
def Dragonfly.toGroup (d : Dragonfly) (my tg : RCoord) : List DStep × Nat :=
  if (d.rcoord (d.ridx tg)).g ≠ (d.rcoord (d.ridx my)).g then
    let a := hopIf ((d.rcoord (d.ridx my)).b ≠ tg.g) (d.ridx my) (.green tg.g) (my.g * (d.C * d.B) + my.c * d.B + tg.g)
    let b := hopIf ((d.rcoord a.2).c ≠ 0) a.2 (.black 0) (my.g * (d.C * d.B) + tg.g)
    (a.1 ++ b.1 ++ [⟨b.2, .blue, false, tg.g * (d.C * d.B) + my.g⟩], tg.g * (d.C * d.B) + my.g)
  else ([], d.ridx my)

/-- the block `if (targetRouter->blade_ != currentRouter->blade_)` -/
def Dragonfly.toBlade (d : Dragonfly) (tg : RCoord) (cur : Nat) : List DStep × Nat :=
  hopIf ((d.rcoord (d.ridx tg)).b ≠ (d.rcoord cur).b) cur (.green tg.b) (tg.g * (d.C * d.B) + (d.rcoord cur).c * d.B + tg.b)

/-- the block `if (targetRouter->chassis_ != currentRouter->chassis_)` -/
def Dragonfly.toChassis (d : Dragonfly) (tg : RCoord) (cur : Nat) : List DStep :=
  if (d.rcoord (d.ridx tg)).c ≠ (d.rcoord cur).c then [⟨cur, .black tg.c, true, cur⟩] else []

/-- `Dragonfly.steps` is the three blocks in sequence; what follows reasons block by block (splitting `steps` itself over
all its tests at once is slow to check) -/
theorem steps_eq (d : Dragonfly) (my tg : RCoord) :
    d.steps my tg = if d.ridx tg = d.ridx my then [] else
      (d.toGroup my tg).1 ++ (d.toBlade tg (d.toGroup my tg).2).1 ++ d.toChassis tg (d.toBlade tg (d.toGroup my tg).2).2 := rfl

/-- the kinds of the hops (1 green, 2 black, 3 blue): block by block `(green? black? blue)?`, `green?`, `black?` -/
theorem steps_kinds (d : Dragonfly) (my tg : RCoord) :
    ∃ a ∈ [[], [3], [1, 3], [2, 3], [1, 2, 3]], ∃ b ∈ [[], [1]], ∃ c ∈ [[], [2]],
      (d.steps my tg).map (fun s => s.slot.kind) = a ++ b ++ c := by
  rw [steps_eq]
  split
  · exact ⟨[], by simp, [], by simp, [], by simp, rfl⟩
  · refine ⟨_, ?_, _, ?_, _, ?_, by rw [List.map_append, List.map_append]⟩
    · unfold Dragonfly.toGroup
      split
      · simp only [List.map_append, hopIf_fst]
        split <;> split <;> simp [DSlot.kind]
      · simp
    · rw [Dragonfly.toBlade, hopIf_fst]
      split <;> simp [DSlot.kind]
    · unfold Dragonfly.toChassis
      split <;> simp [DSlot.kind]

theorem toGroup_other (d : Dragonfly) (my tg : RCoord) (hmy : my.InRange d) (htg : tg.InRange d) (hGB : d.G ≤ d.B)
    (hg : tg.g ≠ my.g) :
    d.toGroup my tg =
      ((if my.b ≠ tg.g then [(⟨d.ridx my, .green tg.g, true, d.ridx ⟨my.g, my.c, tg.g⟩⟩ : DStep)] else []) ++
       (if my.c ≠ 0 then [(⟨d.ridx ⟨my.g, my.c, tg.g⟩, .black 0, true, d.ridx ⟨my.g, 0, tg.g⟩⟩ : DStep)] else []) ++
       [(⟨d.ridx ⟨my.g, 0, tg.g⟩, .blue, false, d.ridx ⟨tg.g, 0, my.g⟩⟩ : DStep)], d.ridx ⟨tg.g, 0, my.g⟩) := by
  have hb : tg.g < d.B := Nat.lt_of_lt_of_le htg.1 hGB
  unfold Dragonfly.toGroup
  rw [rcoord_ridx d my hmy.2.1 hmy.2.2, rcoord_ridx d tg htg.2.1 htg.2.2, if_pos hg]
  have ha : (hopIf (my.b ≠ tg.g) (d.ridx my) (.green tg.g) (my.g * (d.C * d.B) + my.c * d.B + tg.g)).2
      = d.ridx ⟨my.g, my.c, tg.g⟩ := hopIf_snd _ _ _ _ (fun h => by rw [← Decidable.of_not_not h]; rfl)
  simp only [ha, rcoord_ridx d ⟨my.g, my.c, tg.g⟩ hmy.2.1 hb]
  have hb : (hopIf (my.c ≠ 0) (d.ridx ⟨my.g, my.c, tg.g⟩) (.black 0) (my.g * (d.C * d.B) + tg.g)).2
      = d.ridx ⟨my.g, 0, tg.g⟩ := by
    rw [ridx_c0]
    exact hopIf_snd _ _ _ _ (fun h => by rw [Decidable.of_not_not h, ridx_c0])
  rw [hb, hopIf_fst, hopIf_fst, ← ridx_c0 d tg.g my.g, ← ridx_c0 d my.g tg.g]
  rfl

theorem toBlade_spec (d : Dragonfly) (tg : RCoord) (htg : tg.InRange d) (c b : Nat) (hc : c < d.C) (hb : b < d.B) :
    d.toBlade tg (d.ridx ⟨tg.g, c, b⟩) =
      (if tg.b ≠ b then [(⟨d.ridx ⟨tg.g, c, b⟩, .green tg.b, true, d.ridx ⟨tg.g, c, tg.b⟩⟩ : DStep)] else [],
       d.ridx ⟨tg.g, c, tg.b⟩) := by
  unfold Dragonfly.toBlade
  rw [rcoord_ridx d tg htg.2.1 htg.2.2, rcoord_ridx d ⟨tg.g, c, b⟩ hc hb]
  exact Prod.ext (hopIf_fst _ _ _ _) (hopIf_snd _ _ _ _ (fun h => by rw [Decidable.of_not_not h]; rfl))

theorem toChassis_spec (d : Dragonfly) (tg : RCoord) (htg : tg.InRange d) (g c b : Nat) (hc : c < d.C) (hb : b < d.B) :
    d.toChassis tg (d.ridx ⟨g, c, b⟩) =
      if tg.c ≠ c then [(⟨d.ridx ⟨g, c, b⟩, .black tg.c, true, d.ridx ⟨g, c, b⟩⟩ : DStep)] else [] := by
  unfold Dragonfly.toChassis
  rw [rcoord_ridx d tg htg.2.1 htg.2.2, rcoord_ridx d ⟨g, c, b⟩ hc hb]

/-- the hops chain from router `a` to router `b`: each hop is taken from the link array of the router the walk is on (a valid
index of `routers_`), and the link in that slot leads to the router the next hop is taken from (`peer`: the wiring of
`generate_links`) -/
def DConnected (d : Dragonfly) : Nat → List DStep → Nat → Prop
  | a, [], b => a = b
  | a, s :: ss, b => s.owner = a ∧ a < d.nRouters ∧ ∃ q, d.peer a s.slot = some q ∧ DConnected d q ss b

theorem DConnected_append (d : Dragonfly) : ∀ (l1 : List DStep) (a b c : Nat) (l2 : List DStep),
    DConnected d a l1 b → DConnected d b l2 c → DConnected d a (l1 ++ l2) c := by
  intro l1
  induction l1 with
  | nil => intro a b c l2 h1 h2; simp only [DConnected] at h1; subst h1; simpa using h2
  | cons s ss ih =>
    intro a b c l2 h1 h2
    simp only [DConnected] at h1
    obtain ⟨h3, hlt, q, h4, h5⟩ := h1
    simp only [List.cons_append, DConnected]
    exact ⟨h3, hlt, q, h4, ih _ _ _ _ h5 h2⟩

theorem green_hop (d : Dragonfly) (g c b k nx : Nat) (p : Prop) [Decidable p] (hp : p ↔ k ≠ b)
    (hg : g < d.G) (hc : c < d.C) (hb : b < d.B) (hk : k < d.B) :
    DConnected d (d.ridx ⟨g, c, b⟩) (if p then [⟨d.ridx ⟨g, c, b⟩, .green k, true, nx⟩] else []) (d.ridx ⟨g, c, k⟩) := by
  by_cases h : p
  · rw [if_pos h]
    exact ⟨rfl, ridx_lt d _ ⟨hg, hc, hb⟩, _, peer_green d g c b k hc hb hk (hp.1 h), rfl⟩
  · rw [if_neg h, Decidable.of_not_not (mt hp.2 h)]; rfl

theorem black_hop (d : Dragonfly) (g c b k nx : Nat) (p : Prop) [Decidable p] (hp : p ↔ k ≠ c)
    (hg : g < d.G) (hc : c < d.C) (hb : b < d.B) (hk : k < d.C) :
    DConnected d (d.ridx ⟨g, c, b⟩) (if p then [⟨d.ridx ⟨g, c, b⟩, .black k, true, nx⟩] else []) (d.ridx ⟨g, k, b⟩) := by
  by_cases h : p
  · rw [if_pos h]
    exact ⟨rfl, ridx_lt d _ ⟨hg, hc, hb⟩, _, peer_black d g c b k hc hb hk (hp.1 h), rfl⟩
  · rw [if_neg h, Decidable.of_not_not (mt hp.2 h)]; rfl

theorem specSteps_connected (d : Dragonfly) (my tg : RCoord) (hmy : my.InRange d) (htg : tg.InRange d) (hGB : d.G ≤ d.B) :
    DConnected d (d.ridx my) (d.specSteps my tg) (d.ridx tg) := by
  obtain ⟨mg, mc, mb⟩ := my
  obtain ⟨tgg, tc, tb⟩ := tg
  obtain ⟨hmg, hmc, hmb⟩ := hmy
  obtain ⟨htgg, htc, htb⟩ := htg
  simp only at hmg hmc hmb htgg htc htb
  have hC : 0 < d.C := by omega
  unfold Dragonfly.specSteps
  by_cases hsame : (⟨mg, mc, mb⟩ : RCoord) = ⟨tgg, tc, tb⟩
  · rw [if_pos hsame, hsame]; rfl
  · rw [if_neg hsame]
    by_cases hg : tgg = mg
    · subst hg
      rw [if_neg (by simp)]
      exact DConnected_append d _ _ _ _ _ (green_hop d tgg mc mb tb _ _ Iff.rfl hmg hmc hmb htb)
        (black_hop d tgg mc tb tc _ _ Iff.rfl hmg hmc htb htc)
    · rw [if_pos hg]
      have hmgB : mg < d.B := by omega
      have htgB : tgg < d.B := by omega
      refine DConnected_append d _ _ _ _ _ (DConnected_append d _ _ _ _ _ (DConnected_append d _ _ _ _ _
        (DConnected_append d _ _ _ _ _ (green_hop d mg mc mb tgg _ _ ne_comm hmg hmc hmb htgB)
          (black_hop d mg mc tgg 0 _ _ ne_comm hmg hmc htgB hC))
        ⟨rfl, ridx_lt d _ ⟨hmg, hC, htgB⟩, _, peer_blue d mg tgg hC htgB htgg hg, rfl⟩)
        (green_hop d tgg 0 mg tb _ _ Iff.rfl htgg hC hmgB htb)) (black_hop d tgg 0 tb tc _ _ Iff.rfl htgg hC htb htc)

theorem coords_inRange (d : Dragonfly) (id : Nat) (h : id < d.tot) : (d.coords id).1.InRange d := by
  unfold Dragonfly.tot at h
  unfold Dragonfly.coords RCoord.InRange
  simp only
  have hN : 0 < d.N := Nat.pos_of_lt_mul_left h
  have hB : 0 < d.B := Nat.pos_of_lt_mul_left (Nat.pos_of_lt_mul_right h)
  have hC : 0 < d.C := Nat.pos_of_lt_mul_left (Nat.pos_of_lt_mul_right (Nat.pos_of_lt_mul_right h))
  have hBN : 0 < d.B * d.N := Nat.mul_pos hB hN
  have hCBN : 0 < d.C * d.B * d.N := Nat.mul_pos (Nat.mul_pos hC hB) hN
  refine ⟨Nat.div_lt_of_lt_mul ?_, Nat.div_lt_of_lt_mul ?_, Nat.div_lt_of_lt_mul ?_⟩
  · exact Nat.lt_of_lt_of_eq h (by rw [Nat.mul_assoc, Nat.mul_assoc, Nat.mul_comm, ← Nat.mul_assoc])
  · exact Nat.lt_of_lt_of_eq (Nat.mod_lt _ hCBN) (by rw [Nat.mul_assoc, Nat.mul_comm])
  · exact Nat.lt_of_lt_of_eq (Nat.mod_lt _ hBN) (Nat.mul_comm _ _)

theorem wiringOk_spec (d : Dragonfly) (h : d.wiringOk = true) (r : Nat) (hr : r < d.nRouters) (s : DSlot) (q : Nat)
    (hq : d.peer r s = some q) :
    ∃ l, d.linkAt d.genLinks.2 r s = some l ∧ d.linkAt d.genLinks.2 q (d.backSlot r s) = some l.flip := by
  unfold Dragonfly.wiringOk at h
  simp only [List.all_eq_true, List.mem_range] at h
  have hs : s ∈ (List.range d.B).map DSlot.green ++ (List.range d.C).map DSlot.black ++ [DSlot.blue] := by
    rcases peer_cases d r s q hq with ⟨k, rfl, hk, _⟩ | ⟨k, rfl, hk, _⟩ | ⟨rfl, _⟩
    · simp [hk]
    · simp [hk]
    · simp
  have h1 := h r hr s hs
  rw [hq] at h1
  simp only at h1
  split at h1
  · rename_i l1 l2 e1 e2
    simp only [beq_iff_eq] at h1
    exact ⟨l1, e1, by rw [e2, h1]⟩
  · cases h1

/-- the same chain read on the link tables: the slot of the current router and the back slot of the next router hold
the two halves (`flip`) of one link -/
def DLinked (d : Dragonfly) : Nat → List DStep → Nat → Prop
  | a, [], b => a = b
  | a, s :: ss, b => s.owner = a ∧ ∃ q l, d.linkAt d.genLinks.2 a s.slot = some l ∧
      d.linkAt d.genLinks.2 q (d.backSlot a s.slot) = some l.flip ∧ DLinked d q ss b

end SgVerif.C26
