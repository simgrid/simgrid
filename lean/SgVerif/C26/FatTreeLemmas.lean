import SgVerif.C26.FatTreeSpec
/-!
C26 — fat tree: lemmas for `fattree_*` (Props.lean).

The routing loops of `FatTreeZone::get_local_route` (`upLoop`, `downFor` — the inner `for` WITHOUT break —, `downLoop`)
are analysed over any table that is well formed in the sense of `FTables.WF` (Prop form of the executable
`FTables.wfCheck`): for every fat-tree parameters (levels, fan-outs, multiplicities, static offsets), no bound.
-/
namespace SgVerif.C26

/-- well-formed parameters (Prop form of `FatTree.paramsOk`) -/
def FatTree.WF (f : FatTree) : Prop :=
  0 < f.levels ∧ ∀ i, i < f.levels → 0 < f.down.getD i 0 ∧ 0 < f.up.getD i 0 ∧ 0 < f.count.getD i 0

/-- label `pn` = label `cn` with digit `pos` replaced by `v` -/
def LabelSet (levels : Nat) (pn cn : List Nat) (pos v : Nat) : Prop :=
  ∀ j, j < levels → pn.getD j 0 = if j = pos then v else cn.getD j 0

/-- labels agree on the digits `lo <= j < levels` -/
def AgreeFrom (levels : Nat) (a b : List Nat) (lo : Nat) : Prop :=
  ∀ j, lo ≤ j → j < levels → a.getD j 0 = b.getD j 0

/-- Prop form of `FTables.wfCheck` -/
structure FTables.WF (f : FatTree) (t : FTables) : Prop where
  level_le : ∀ (c : Nat) (cn : FNode), t.nodes[c]? = some cn → cn.level ≤ f.levels
  up : ∀ (c : Nat) (cn : FNode), t.nodes[c]? = some cn → cn.level < f.levels →
    ∀ port, port < f.up.getD cn.level 0 * f.count.getD cn.level 0 →
      ∃ (l : FLink) (pn : FNode), t.parentAt c port = some l ∧ l.child = c ∧ t.nodes[l.parent]? = some pn ∧ pn.level = cn.level + 1 ∧
        LabelSet f.levels pn.label cn.label cn.level (port % f.up.getD cn.level 0)
  down : ∀ (c : Nat) (cn : FNode), t.nodes[c]? = some cn → cn.level ≠ 0 →
    ∀ port, port < f.down.getD (cn.level - 1) 0 * f.count.getD (cn.level - 1) 0 →
      ∃ (l : FLink) (ch : FNode), t.childAt c port = some l ∧ l.parent = c ∧ t.nodes[l.child]? = some ch ∧ ch.level + 1 = cn.level ∧
        LabelSet f.levels ch.label cn.label (cn.level - 1) (port % f.down.getD (cn.level - 1) 0)
  leaf_lt : ∀ (c : Nat) (cn : FNode), t.nodes[c]? = some cn → cn.level = 0 → ∀ j, j < f.levels → cn.label.getD j 0 < f.down.getD j 0
  leaf_inj : ∀ (c : Nat) (cn : FNode) (c2 : Nat) (cn2 : FNode), t.nodes[c]? = some cn → t.nodes[c2]? = some cn2 → cn.level = 0 → cn2.level = 0 →
    AgreeFrom f.levels cn.label cn2.label 0 → c2 = c

theorem paramsOk_sound (f : FatTree) (h : f.paramsOk = true) : f.WF := by
  unfold FatTree.paramsOk at h
  simp only [Bool.and_eq_true, decide_eq_true_eq, List.all_eq_true, List.mem_range] at h
  exact ⟨h.1, fun i hi => ⟨(h.2 i hi).1.1, (h.2 i hi).1.2, (h.2 i hi).2⟩⟩

theorem labelSet_sound {L : Nat} {pn cn : List Nat} {pos v : Nat} (h : labelSet L pn cn pos v = true) :
    LabelSet L pn cn pos v := by
  unfold labelSet at h
  simp only [List.all_eq_true, List.mem_range, beq_iff_eq] at h
  exact h

theorem agreeFrom_iff {L : Nat} {a b : List Nat} {lo : Nat} : agreeFrom L a b lo = true ↔ AgreeFrom L a b lo := by
  unfold agreeFrom AgreeFrom
  simp only [List.all_eq_true, List.mem_range, Bool.or_eq_true, decide_eq_true_eq, beq_iff_eq, Decidable.or_iff_not_imp_left,
    Nat.not_lt]
  exact forall_congr' fun j => forall_comm

theorem agreeFrom_sound {L : Nat} {a b : List Nat} {lo : Nat} (h : agreeFrom L a b lo = true) : AgreeFrom L a b lo := by
  exact agreeFrom_iff.1 h

theorem wfCheck_node (f : FatTree) (t : FTables) (h : t.wfCheck f = true) (c : Nat) (cn : FNode)
    (hc : t.nodes[c]? = some cn) :
    cn.level ≤ f.levels ∧
    (cn.level < f.levels → ∀ port, port < f.up.getD cn.level 0 * f.count.getD cn.level 0 → t.upPortOk f c cn port = true) ∧
    (cn.level ≠ 0 → ∀ port, port < f.down.getD (cn.level - 1) 0 * f.count.getD (cn.level - 1) 0 →
      t.downPortOk f c cn port = true) ∧
    (cn.level = 0 → ((∀ j, j < f.levels → cn.label.getD j 0 < f.down.getD j 0) ∧
      ∀ c2, c2 < t.nodes.length → t.leafPairOk f c cn c2 = true)) := by
  unfold FTables.wfCheck at h
  rw [List.all_eq_true] at h
  have h1 := h c (List.mem_range.mpr (List.getElem?_eq_some_iff.1 hc).1)
  simp only [hc] at h1
  unfold FTables.nodeOk at h1
  simpa only [Bool.and_eq_true, Bool.or_eq_true, decide_eq_true_eq, List.all_eq_true, List.mem_range, and_assoc,
    Decidable.or_iff_not_imp_left, Nat.not_le, Decidable.not_not] using h1

theorem FTables.wfCheck_sound (f : FatTree) (t : FTables) (h : t.wfCheck f = true) : t.WF f := by
  refine ⟨?_, ?_, ?_, ?_, ?_⟩
  · intro c cn hc
    exact (wfCheck_node f t h c cn hc).1
  · intro c cn hc hlev port hport
    have h2 := (wfCheck_node f t h c cn hc).2.1 hlev port hport
    unfold FTables.upPortOk at h2
    split at h2
    · cases h2
    · rename_i l hl
      simp only [Bool.and_eq_true, beq_iff_eq] at h2
      obtain ⟨hch, h3⟩ := h2
      split at h3
      · cases h3
      · rename_i pn hpn
        simp only [Bool.and_eq_true, beq_iff_eq] at h3
        exact ⟨l, pn, hl, hch, hpn, h3.1, labelSet_sound h3.2⟩
  · intro c cn hc hlev port hport
    have h2 := (wfCheck_node f t h c cn hc).2.2.1 hlev port hport
    unfold FTables.downPortOk at h2
    split at h2
    · cases h2
    · rename_i l hl
      simp only [Bool.and_eq_true, beq_iff_eq] at h2
      obtain ⟨hch, h3⟩ := h2
      split at h3
      · cases h3
      · rename_i ch hchn
        simp only [Bool.and_eq_true, beq_iff_eq] at h3
        exact ⟨l, ch, hl, hch, hchn, h3.1, labelSet_sound h3.2⟩
  · intro c cn hc hlev
    exact ((wfCheck_node f t h c cn hc).2.2.2 hlev).1
  · intro c cn c2 cn2 hc hc2 hlev hlev2 hag
    have h2 := ((wfCheck_node f t h c cn hc).2.2.2 hlev).2 c2 (List.getElem?_eq_some_iff.1 hc2).1
    unfold FTables.leafPairOk at h2
    simp only [hc2, Bool.or_eq_true, decide_eq_true_eq, Bool.not_eq_true', beq_iff_eq] at h2
    rcases h2 with (h2 | h2) | h2
    · omega
    · rw [agreeFrom_iff.2 hag] at h2; cases h2
    · exact h2

theorem isInSubTree_leaf (L : Nat) (root node : FNode) (h0 : node.level = 0) :
    isInSubTree L root node = true ↔ 0 < root.level ∧ AgreeFrom L root.label node.label root.level := by
  unfold isInSubTree AgreeFrom
  rw [h0]
  by_cases hr : root.level = 0
  · simp [hr]
  · have hr' : ¬ root.level ≤ 0 := by omega
    simp only [hr', if_false, List.range_zero, List.all_nil, Bool.true_and, List.all_eq_true, List.mem_range, beq_iff_eq]
    constructor
    · intro h
      refine ⟨by omega, ?_⟩
      intro j hj hjL
      have h1 := h (j - root.level) (by omega)
      rwa [show root.level + (j - root.level) = j by omega] at h1
    · rintro ⟨_, h⟩ k hk
      exact h _ (by omega) (by omega)

/-- `ls` are tree edges stored in the `parents` arrays, each leaving (upwards) from the node the previous one arrived at -/
def UpPath (t : FTables) : Nat → List FLink → Nat → Prop
  | a, [], b => a = b
  | a, l :: ls, b => l.child = a ∧ (∃ port, t.parentAt a port = some l) ∧ UpPath t l.parent ls b

/-- `ls` are tree edges stored in the `children` arrays, each leaving (downwards) from the node the previous one arrived at -/
def DownPath (t : FTables) : Nat → List FLink → Nat → Prop
  | a, [], b => a = b
  | a, l :: ls, b => l.parent = a ∧ (∃ port, t.childAt a port = some l) ∧ DownPath t l.child ls b

theorem DownPath_append (t : FTables) : ∀ (l1 : List FLink) (a b c : Nat) (l2 : List FLink),
    DownPath t a l1 b → DownPath t b l2 c → DownPath t a (l1 ++ l2) c := by
  intro l1
  induction l1 with
  | nil => intro a b c l2 h1 h2; simp only [DownPath] at h1; subst h1; simpa using h2
  | cons l ls ih =>
    intro a b c l2 h1 h2
    simp only [DownPath] at h1
    simp only [List.cons_append, DownPath]
    exact ⟨h1.1, h1.2.1, ih _ _ _ _ h1.2.2 h2⟩

theorem renderDown_append (f : FatTree) (t : FTables) : ∀ (l1 l2 : List FLink) (r1 r2 : List FTLink),
    f.renderDown t l1 = some r1 → f.renderDown t l2 = some r2 → f.renderDown t (l1 ++ l2) = some (r1 ++ r2) := by
  intro l1
  induction l1 with
  | nil => intro l2 r1 r2 h1 h2; simp only [FatTree.renderDown, Option.some.injEq] at h1; subst h1; simpa using h2
  | cons l ls ih =>
    intro l2 r1 r2 h1 h2
    simp only [FatTree.renderDown] at h1
    split at h1
    · rename_i pn c r hpn hc hr
      simp only [Option.some.injEq] at h1
      subst h1
      simp only [List.cons_append, FatTree.renderDown, hpn, hc, ih l2 r r2 hr h2, List.append_assoc]
    · cases h1

/-- from a node below level `k` that agrees with the leaf `d` on the digits from `k` on and (when `k > 1`) not on digit
`k - 1`, the up loop climbs to level `k` exactly: a hop from level `l` changes digit `l` only -/
theorem upLoop_spec (f : FatTree) (t : FTables) (hf : f.WF) (hwf : t.WF f) (d : FNode) (hd0 : d.level = 0) (k : Nat)
    (hk1 : 1 ≤ k) (hkL : k ≤ f.levels) :
    ∀ (fuel cur : Nat) (cn : FNode) (acc : List FTLink),
      t.nodes[cur]? = some cn → AgreeFrom f.levels cn.label d.label k →
      (cn.level < k → 1 < k → cn.label.getD (k - 1) 0 ≠ d.label.getD (k - 1) 0) → cn.level ≤ k → k < cn.level + fuel →
      ∃ ups ru top tn, f.renderUp t ups = some ru ∧ f.upLoop t d fuel cur acc = some (top, acc ++ ru) ∧
        cn.level + ups.length = k ∧ UpPath t cur ups top ∧ t.nodes[top]? = some tn ∧ tn.level = k ∧
        AgreeFrom f.levels tn.label d.label k := by
  intro fuel
  induction fuel with
  | zero => intro cur cn acc _ _ _ hle hfuel; omega
  | succ fuel ih =>
    intro cur cn acc hc hag hdiff hle hfuel
    by_cases hk : cn.level = k
    · have hin : isInSubTree f.levels cn d = true := by
        rw [isInSubTree_leaf _ _ _ hd0, hk]
        exact ⟨hk1, hag⟩
      refine ⟨[], [], cur, cn, rfl, ?_, hk, rfl, hc, hk, hag⟩
      unfold FatTree.upLoop
      simp only [hc, hin, if_true, List.append_nil]
    · have hnot : isInSubTree f.levels cn d = false := by
        rw [Bool.eq_false_iff, ne_eq, isInSubTree_leaf _ _ _ hd0]
        intro ⟨hpos, ha⟩
        exact hdiff (by omega) (by omega) (ha (k - 1) (by omega) (by omega))
      have hlt : cn.level < f.levels := by omega
      obtain ⟨l, pn, hpa, hlc, hpn, hplev, hplab⟩ := hwf.up cur cn hc hlt
        ((List.range cn.level).foldl (fun d i => d / f.up.getD i 0) d.position %
          (f.up.getD cn.level 0 * f.count.getD cn.level 0))
        (Nat.mod_lt _ (Nat.mul_pos (hf.2 _ hlt).2.1 (hf.2 _ hlt).2.2))
      have hcable : FatTree.cable t l true = some (.cable cn.id pn.id l.uid true) := by
        unfold FatTree.cable
        rw [hlc, hc, hpn]
      obtain ⟨ups, ru, top, tn, h1, h2, h3, h4, h5⟩ :=
        ih l.parent pn (acc ++ f.limiterOf cn ++ [.cable cn.id pn.id l.uid true]) hpn
          (fun j hj hjL => by rw [hplab j hjL, if_neg (by omega)]; exact hag j hj hjL)
          (fun hlt' h1k => by rw [hplab _ (by omega), if_neg (by omega)]; exact hdiff (by omega) h1k)
          (by omega) (by omega)
      refine ⟨l :: ups, f.limiterOf cn ++ [.cable cn.id pn.id l.uid true] ++ ru, top, tn, ?_, ?_, ?_, ⟨hlc, ⟨_, hpa⟩, h4⟩, h5⟩
      · simp only [FatTree.renderUp, hlc, hc, hcable, h1]
      · unfold FatTree.upLoop
        simp only [hc, hnot, hpa, hcable, Bool.false_eq_true, if_false]
        rw [h2]; simp only [List.append_assoc]
      · simp only [List.length_cons]; omega

theorem childrenSize_pos {f : FatTree} {cn : FNode} {i : Nat} (hi : i < f.childrenSize cn) :
    cn.level ≠ 0 ∧ i < f.down.getD (cn.level - 1) 0 * f.count.getD (cn.level - 1) 0 := by
  unfold FatTree.childrenSize at hi
  split at hi
  · omega
  · rename_i h; exact ⟨h, hi⟩

theorem downFor_nomatch (f : FatTree) (t : FTables) (d : FNode) (fuel cur i : Nat) (acc : List FTLink) (cn : FNode)
    (hc : t.nodes[cur]? = some cn) (hi : i < f.childrenSize cn)
    (hm : i % f.down.getD (cn.level - 1) 0 ≠ d.label.getD (cn.level - 1) 0) :
    f.downFor t d (fuel + 1) cur i acc = f.downFor t d fuel cur (i + 1) acc := by
  rw [FatTree.downFor]
  have hm' : (i % f.down.getD (cn.level - 1) 0 == d.label.getD (cn.level - 1) 0) = false := by
    rw [beq_eq_false_iff_ne]; exact hm
  simp only [hc, hi, if_true, hm', Bool.false_eq_true, if_false]

theorem downFor_match (f : FatTree) (t : FTables) (hwf : t.WF f) (d : FNode) (fuel cur i : Nat) (acc : List FTLink)
    (cn : FNode) (hc : t.nodes[cur]? = some cn) (hi : i < f.childrenSize cn)
    (hag : AgreeFrom f.levels cn.label d.label cn.level)
    (hm : i % f.down.getD (cn.level - 1) 0 = d.label.getD (cn.level - 1) 0) :
    ∃ l ch, t.childAt cur i = some l ∧ l.parent = cur ∧ t.nodes[l.child]? = some ch ∧ ch.level + 1 = cn.level ∧
      AgreeFrom f.levels ch.label d.label ch.level ∧
      FatTree.cable t l false = some (.cable ch.id cn.id l.uid false) ∧
      f.downFor t d (fuel + 1) cur i acc =
        f.downFor t d fuel l.child (i + 1) (acc ++ [.cable ch.id cn.id l.uid false] ++ f.limiterOf cn) := by
  obtain ⟨hne, hi'⟩ := childrenSize_pos hi
  obtain ⟨l, ch, hca, hlp, hch, hlev, hlab⟩ := hwf.down cur cn hc hne i hi'
  have hcable : FatTree.cable t l false = some (.cable ch.id cn.id l.uid false) := by
    unfold FatTree.cable
    rw [hlp, hc, hch]
  refine ⟨l, ch, hca, hlp, hch, hlev, ?_, hcable, ?_⟩
  · intro j hj hjL
    rw [hlab j hjL]
    by_cases hjj : j = cn.level - 1
    · rw [if_pos hjj, hjj]; exact hm
    · rw [if_neg hjj]; exact hag j (by omega) hjL
  · rw [FatTree.downFor]
    have hm' : (i % f.down.getD (cn.level - 1) 0 == d.label.getD (cn.level - 1) 0) = true := by
      rw [beq_iff_eq]; exact hm
    simp only [hc, hi, if_true, hm', hca, hcable]

/-- the `for` from any `i`: it ends (fuel: `i` only grows, every `children.size()` is at most `S`) on a node reached by
going down along tree edges towards the destination; when some port from `i` on leads towards it, at least one level down -/
theorem downFor_spec (f : FatTree) (t : FTables) (hwf : t.WF f) (d : FNode) (S : Nat)
    (hS : ∀ i, i < f.levels → f.down.getD i 0 * f.count.getD i 0 ≤ S) :
    ∀ (fuel cur i : Nat) (cn : FNode) (acc : List FTLink),
      t.nodes[cur]? = some cn → AgreeFrom f.levels cn.label d.label cn.level → 1 ≤ fuel → S + 2 ≤ fuel + i →
      ∃ downs rd cur' cn', f.renderDown t downs = some rd ∧ f.downFor t d fuel cur i acc = some (cur', acc ++ rd) ∧
        DownPath t cur downs cur' ∧ t.nodes[cur']? = some cn' ∧ cn'.level + downs.length = cn.level ∧
        AgreeFrom f.levels cn'.label d.label cn'.level ∧
        ((∃ j, i ≤ j ∧ j < f.childrenSize cn ∧ j % f.down.getD (cn.level - 1) 0 = d.label.getD (cn.level - 1) 0) →
          1 ≤ downs.length) := by
  intro fuel
  induction fuel with
  | zero => intro cur i cn acc _ _ h; omega
  | succ fuel ih =>
    intro cur i cn acc hc hag _ hfuel
    by_cases hi : i < f.childrenSize cn
    · obtain ⟨hne, hi'⟩ := childrenSize_pos hi
      have hle := hS (cn.level - 1) (by have := hwf.level_le cur cn hc; omega)
      by_cases hm : i % f.down.getD (cn.level - 1) 0 = d.label.getD (cn.level - 1) 0
      · obtain ⟨l, ch, hca, hlp, hch, hlev, hag', hcable, heq⟩ := downFor_match f t hwf d fuel cur i acc cn hc hi hag hm
        obtain ⟨downs, rd, cur', cn', h1, h2, h3, h4, h5, h6, _⟩ :=
          ih l.child (i + 1) ch (acc ++ [.cable ch.id cn.id l.uid false] ++ f.limiterOf cn) hch hag' (by omega) (by omega)
        refine ⟨l :: downs, [.cable ch.id cn.id l.uid false] ++ f.limiterOf cn ++ rd, cur', cn', ?_, ?_, ?_, h4, ?_, h6,
          fun _ => Nat.succ_le_succ (Nat.zero_le _)⟩
        · simp only [FatTree.renderDown, hlp, hc, hcable, h1]
        · rw [heq, h2]; simp only [List.append_assoc]
        · exact ⟨hlp, ⟨_, hca⟩, h3⟩
        · simp only [List.length_cons]; omega
      · rw [downFor_nomatch f t d fuel cur i acc cn hc hi hm]
        obtain ⟨downs, rd, cur', cn', h1, h2, h3, h4, h5, h6, h7⟩ := ih cur (i + 1) cn acc hc hag (by omega) (by omega)
        refine ⟨downs, rd, cur', cn', h1, h2, h3, h4, h5, h6, fun ⟨j, hij, hj, hjm⟩ => h7 ⟨j, ?_, hj, hjm⟩⟩
        rcases Nat.eq_or_lt_of_le hij with rfl | hlt
        · exact absurd hjm hm
        · exact hlt
    · refine ⟨[], [], cur, cn, rfl, ?_, rfl, hc, rfl, hag, fun ⟨j, hij, hj, _⟩ => absurd (Nat.lt_of_le_of_lt hij hj) hi⟩
      rw [FatTree.downFor, List.append_nil]
      simp only [hc, hi, if_false]

theorem lt_childrenSize {f : FatTree} {cn : FNode} (hne : cn.level ≠ 0) {base x : Nat}
    (hb : base < f.count.getD (cn.level - 1) 0) (hx : x < f.down.getD (cn.level - 1) 0) :
    base * f.down.getD (cn.level - 1) 0 + x < f.childrenSize cn := by
  unfold FatTree.childrenSize
  rw [if_neg hne]
  have h1 := Nat.mul_le_mul_right (f.down.getD (cn.level - 1) 0) (show base + 1 ≤ _ from hb)
  rw [Nat.add_mul, Nat.one_mul, Nat.mul_comm (f.count.getD _ _)] at h1
  omega

theorem sizeSum_ge (f : FatTree) : ∀ n i, i < n → f.down.getD i 0 * f.count.getD i 0 ≤ f.sizeSum n := by
  intro n
  induction n with
  | zero => intro i h; omega
  | succ n ih =>
    intro i hi
    simp only [FatTree.sizeSum]
    by_cases h : i = n
    · subst h; omega
    · have := ih i (by omega); omega

theorem downLoop_spec (f : FatTree) (t : FTables) (hf : f.WF) (hwf : t.WF f) (srcPos : Nat) (d : FNode) (dst : Nat)
    (hd : t.nodes[dst]? = some d) (hd0 : d.level = 0) :
    ∀ (fuel cur : Nat) (cn : FNode) (acc : List FTLink),
      t.nodes[cur]? = some cn → AgreeFrom f.levels cn.label d.label cn.level → cn.level < fuel →
      ∃ downs rd, f.renderDown t downs = some rd ∧ f.downLoop t srcPos d dst fuel cur acc = some (acc ++ rd) ∧
        downs.length = cn.level ∧ DownPath t cur downs dst := by
  intro fuel
  induction fuel with
  | zero => intro cur cn acc _ _ hfuel; omega
  | succ fuel ih =>
    intro cur cn acc hc hag hfuel
    by_cases h0 : cn.level = 0
    · -- a leaf that agrees with the destination on every digit is the destination: the loop stops there
      have hcur : cur = dst := hwf.leaf_inj dst d cur cn hd hc hd0 h0 (fun j hj hjL => (hag j (by omega) hjL).symm)
      refine ⟨[], [], rfl, ?_, by simp [h0], hcur⟩
      unfold FatTree.downLoop
      simp only [hcur, if_true, List.append_nil]
    · have hne : cur ≠ dst := by
        intro e; rw [e, hd] at hc; cases hc; exact h0 hd0
      have hlevL := hwf.level_le cur cn hc
      have hb : srcPos % f.count.getD (cn.level - 1) 0 < f.count.getD (cn.level - 1) 0 :=
        Nat.mod_lt _ (hf.2 (cn.level - 1) (by omega)).2.2
      have hdl := hwf.leaf_lt dst d hd hd0 (cn.level - 1) (by omega)
      -- the `for` starts at the first port of a cable group; the port of the destination's digit lies ahead in that group
      obtain ⟨downs, rd, cur', cn', h1, h2, h3, h4, h5, h6, h7⟩ :=
        downFor_spec f t hwf d (f.sizeSum f.levels) (sizeSum_ge f f.levels) (f.sizeSum f.levels + 2) cur
          (srcPos % f.count.getD (cn.level - 1) 0 * f.down.getD (cn.level - 1) 0) cn acc hc hag (by omega) (by omega)
      have h7 := h7 ⟨_, Nat.le_add_right _ _, lt_childrenSize h0 hb hdl, Nat.mul_add_mod_of_lt hdl⟩
      obtain ⟨downs2, rd2, g1, g2, g3, g4⟩ := ih cur' cn' (acc ++ rd) h4 h6 (by omega)
      refine ⟨downs ++ downs2, rd ++ rd2, renderDown_append f t _ _ _ _ h1 g1, ?_, ?_, DownPath_append t _ _ _ _ _ h3 g4⟩
      · rw [FatTree.downLoop]
        simp only [hne, if_false, hc, h0, h2, g2, List.append_assoc]
      · simp only [List.length_append]; omega

theorem ncaLevel_spec (a b : List Nat) : ∀ n,
    1 ≤ ncaLevel a b n ∧ ncaLevel a b n ≤ max n 1 ∧
    (∀ j, ncaLevel a b n ≤ j → j < n → a.getD j 0 = b.getD j 0) ∧
    (1 < ncaLevel a b n → a.getD (ncaLevel a b n - 1) 0 ≠ b.getD (ncaLevel a b n - 1) 0) := by
  intro n
  induction n with
  | zero =>
    exact ⟨Nat.le_refl 1, Nat.le_max_right 0 1, fun j _ h => absurd h (Nat.not_lt_zero j), fun h => absurd h (Nat.lt_irrefl 1)⟩
  | succ n ih =>
    simp only [ncaLevel]
    split
    · rename_i h
      exact ⟨by omega, by omega, fun j h1 h2 => by omega, fun _ => h⟩
    · rename_i h
      obtain ⟨h1, h2, h3, h4⟩ := ih
      refine ⟨h1, by omega, ?_, h4⟩
      intro j hj hjn
      by_cases hjn' : j = n
      · subst hjn'; exact Decidable.not_not.1 h
      · exact h3 j hj (by omega)

theorem limiterOf_noCable (f : FatTree) (n : FNode) : (f.limiterOf n).filter FTLink.isCable = [] := by
  unfold FatTree.limiterOf
  split <;> simp [FTLink.isCable]

theorem limiterOf_length (f : FatTree) (n : FNode) : (f.limiterOf n).length = if f.lim then 1 else 0 := by
  unfold FatTree.limiterOf
  split <;> simp

theorem cable_shape (t : FTables) (l : FLink) (up : Bool) (c : FTLink) (h : FatTree.cable t l up = some c) :
    c.isCable = true ∧ c.isUpCable = up ∧ c.isDownCable = !up := by
  unfold FatTree.cable at h
  split at h
  · cases h; simp [FTLink.isCable, FTLink.isUpCable, FTLink.isDownCable]
  · cases h

/-- one more hop in front of `r`: its links `a` hold exactly one cable, `c`, among `w` links -/
theorem hop_shape {p : FTLink → Bool} {a r : List FTLink} {c : FTLink} {k w : Nat}
    (ha : a.filter FTLink.isCable = [c]) (haw : a.length = w) (hp : p c = true)
    (ih : (r.filter FTLink.isCable).length = k ∧ (∀ x ∈ r, x.isCable = true → p x = true) ∧ r.length = k * w) :
    ((a ++ r).filter FTLink.isCable).length = k + 1 ∧ (∀ x ∈ a ++ r, x.isCable = true → p x = true) ∧
      (a ++ r).length = (k + 1) * w := by
  obtain ⟨i1, i2, i3⟩ := ih
  refine ⟨by rw [List.filter_append, ha, List.length_append, i1, Nat.add_comm]; rfl,
    List.forall_mem_append.2 ⟨fun x hx hxc => ?_, i2⟩, by rw [List.length_append, haw, i3, Nat.succ_mul, Nat.add_comm]⟩
  have hxa := List.mem_filter.2 ⟨hx, hxc⟩
  rw [ha, List.mem_singleton] at hxa
  rw [hxa]; exact hp

theorem renderUp_shape (f : FatTree) (t : FTables) : ∀ (ups : List FLink) (ru : List FTLink), f.renderUp t ups = some ru →
    (ru.filter FTLink.isCable).length = ups.length ∧ (∀ x ∈ ru, x.isCable = true → x.isUpCable = true) ∧
    ru.length = ups.length * (if f.lim then 2 else 1) := by
  intro ups
  induction ups with
  | nil => intro ru h; simp only [FatTree.renderUp, Option.some.injEq] at h; subst h; simp
  | cons l ls ih =>
    intro ru h
    simp only [FatTree.renderUp] at h
    split at h
    · rename_i cn c r hcn hc hr
      simp only [Option.some.injEq] at h
      subst h
      obtain ⟨c1, c2, _⟩ := cable_shape t l true c hc
      exact hop_shape (by simp [List.filter_append, limiterOf_noCable, c1])
        (by rw [List.length_append, limiterOf_length]; split <;> rfl) c2 (ih r hr)
    · cases h

theorem renderDown_shape (f : FatTree) (t : FTables) : ∀ (downs : List FLink) (rd : List FTLink),
    f.renderDown t downs = some rd →
    (rd.filter FTLink.isCable).length = downs.length ∧ (∀ x ∈ rd, x.isCable = true → x.isDownCable = true) ∧
    rd.length = downs.length * (if f.lim then 2 else 1) := by
  intro downs
  induction downs with
  | nil => intro rd h; simp only [FatTree.renderDown, Option.some.injEq] at h; subst h; simp
  | cons l ls ih =>
    intro rd h
    simp only [FatTree.renderDown] at h
    split at h
    · rename_i pn c r hpn hc hr
      simp only [Option.some.injEq] at h
      subst h
      obtain ⟨c1, _, c3⟩ := cable_shape t l false c hc
      exact hop_shape (c := c) (by simp [limiterOf_noCable, c1])
        (by rw [List.length_append, limiterOf_length]; split <;> rfl) (by rw [c3]; rfl) (ih r hr)
    · cases h

theorem UpPath_child (t : FTables) : ∀ (ls : List FLink) (a b : Nat), UpPath t a ls b →
    ∀ l ∈ ls, ∃ port, t.parentAt l.child port = some l := by
  intro ls
  induction ls with
  | nil => intro a b _; exact List.forall_mem_nil _
  | cons x xs ih =>
    intro a b ⟨h1, ⟨p, hp⟩, h3⟩
    exact List.forall_mem_cons.2 ⟨⟨p, by rw [h1]; exact hp⟩, ih _ _ h3⟩

end SgVerif.C26
