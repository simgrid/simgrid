/-!
C26 — what the topologies share.  `generate_links` of the dragonfly and `build_upper_levels` of the fat tree are nests of `for`
loops whose body conses entries numbered with a running unique id: an entry is in the table iff some iteration, tagged with
the id it started with (`List.zipIdx`), emitted it (`mem_foldl_tag`, `tag_total`: used by both).  The dragonfly reads a nest as
one loop over the list of its index tuples (`nest`, `foldl_nest`, `mem_nest`, `nodup_nest`, `tag_functional`); the fat tree
writes its list out (`FTBuild.edges`); both read their tables back by `find?` on the key (`find?_of_mem`).  `FTBuild.digitsOf`:
torus coordinates and fat-tree labels are mixed-radix digits (`add_mul_mod_lt`, `add_mul_div_lt`, `lt_radix`: the lowest one).
-/
namespace SgVerif.C26

/-- the index pairs of a nested loop, in iteration order -/
def nest {α β : Type} (xs : List α) (L : α → List β) : List (α × β) := xs.flatMap (fun i => (L i).map (Prod.mk i))

theorem foldl_nest {α β σ : Type} (xs : List α) (L : α → List β) (g : α → β → σ → σ) (s : σ) :
    xs.foldl (fun s i => (L i).foldl (fun s j => g i j s) s) s = (nest xs L).foldl (fun s p => g p.1 p.2 s) s := by
  unfold nest
  rw [List.foldl_flatMap]
  congr 1
  funext s i
  rw [List.foldl_map]

theorem mem_nest {α β : Type} (xs : List α) (L : α → List β) (i : α) (j : β) :
    (i, j) ∈ nest xs L ↔ i ∈ xs ∧ j ∈ L i := by
  unfold nest
  simp only [List.mem_flatMap, List.mem_map, Prod.mk.injEq]
  constructor
  · rintro ⟨a, ha, b, hb, rfl, rfl⟩; exact ⟨ha, hb⟩
  · rintro ⟨h1, h2⟩; exact ⟨i, h1, j, h2, rfl, rfl⟩

theorem nodup_nest {α β : Type} (xs : List α) (L : α → List β) (hx : xs.Nodup) (hL : ∀ i, (L i).Nodup) :
    (nest xs L).Nodup := by
  unfold nest
  rw [List.Nodup, List.pairwise_flatMap]
  refine ⟨fun i _ => ?_, hx.imp fun hne p hp q hq e => ?_⟩
  · rw [List.pairwise_map]
    exact (hL i).imp (fun h e => h (Prod.mk.inj e).2)
  · obtain ⟨_, _, rfl⟩ := List.mem_map.1 hp
    obtain ⟨_, _, rfl⟩ := List.mem_map.1 hq
    exact hne (Prod.mk.inj e).1

theorem tag_total {ι : Type} (xs : List ι) (u0 : Nat) (x : ι) (h : x ∈ xs) : ∃ u, (x, u) ∈ xs.zipIdx u0 := by
  obtain ⟨i, hi⟩ := List.mem_iff_getElem?.1 h
  exact ⟨u0 + i, List.mem_zipIdx_iff_le_and_getElem?_sub.2 ⟨Nat.le_add_right _ _, by rw [Nat.add_sub_cancel_left]; exact hi⟩⟩

theorem tag_functional {ι : Type} (xs : List ι) (hn : xs.Nodup) (u0 : Nat) (x : ι) (u u' : Nat)
    (h : (x, u) ∈ xs.zipIdx u0) (h' : (x, u') ∈ xs.zipIdx u0) : u = u' := by
  obtain ⟨h1, h2⟩ := List.mem_zipIdx_iff_le_and_getElem?_sub.1 h
  obtain ⟨h1', h2'⟩ := List.mem_zipIdx_iff_le_and_getElem?_sub.1 h'
  have := (List.getElem?_inj (List.getElem?_eq_some_iff.1 h2).1 hn).1 (h2.trans h2'.symm)
  omega

/-- a loop that numbers its iterations with a running id and conses what each of them emits: an entry is in the result
iff it was there before or is emitted by some iteration, with the id that iteration started with -/
theorem mem_foldl_tag {σ ι β : Type} (uid : σ → Nat) (proj : σ → List β) (step : σ → ι → σ) (emit : ι → Nat → List β)
    (huid : ∀ s x, uid (step s x) = uid s + 1) (hproj : ∀ s x, proj (step s x) = emit x (uid s) ++ proj s) (e : β) :
    ∀ (xs : List ι) (s : σ),
      e ∈ proj (xs.foldl step s) ↔ e ∈ proj s ∨ ∃ x u, (x, u) ∈ xs.zipIdx (uid s) ∧ e ∈ emit x u := by
  intro xs
  induction xs with
  | nil => intro s; simp
  | cons y ys ih =>
    intro s
    rw [List.foldl_cons, ih, huid, hproj]
    simp only [List.mem_append, List.zipIdx_cons, List.mem_cons, Prod.mk.injEq]
    constructor
    · rintro ((h | h) | ⟨x, u, h1, h2⟩)
      · exact Or.inr ⟨y, uid s, Or.inl ⟨rfl, rfl⟩, h⟩
      · exact Or.inl h
      · exact Or.inr ⟨x, u, Or.inr h1, h2⟩
    · rintro (h | ⟨x, u, ⟨rfl, rfl⟩ | h1, h2⟩)
      · exact Or.inl (Or.inr h)
      · exact Or.inl (Or.inl h2)
      · exact Or.inr ⟨x, u, h1, h2⟩

theorem find?_of_mem {α : Type} (p : α → Bool) (es : List α) (e0 : α) (h0 : e0 ∈ es) (hp : p e0 = true) :
    ∃ e, e ∈ es ∧ p e = true ∧ es.find? p = some e := by
  cases h : es.find? p with
  | none => exact absurd hp (by simpa using List.find?_eq_none.1 h e0 h0)
  | some e => exact ⟨e, List.mem_of_find?_eq_some h, List.find?_some h, rfl⟩

namespace FTBuild
/-- the digits of `k` in the mixed radix `M`, lowest first: the coordinates of a torus node, the label of a fat-tree node -/
def digitsOf : List Nat → Nat → List Nat
  | [], _ => []
  | m :: ms, k => k % m :: digitsOf ms (k / m)
end FTBuild

theorem add_mul_mod_lt (r d x : Nat) (h : r < d) : (r + d * x) % d = r := by
  rw [Nat.add_mul_mod_self_left]; exact Nat.mod_eq_of_lt h
theorem add_mul_div_lt (r d x : Nat) (h : r < d) : (r + d * x) / d = x := by
  rw [Nat.add_mul_div_left _ _ (by omega : 0 < d), Nat.div_eq_of_lt h]; omega

theorem lt_radix {r d y n : Nat} (hr : r < d) (hy : y < n) : r + d * y < d * n := by
  have := Nat.mul_le_mul_left d (show y + 1 ≤ n from hy)
  rw [Nat.mul_add, Nat.mul_one] at this; omega

end SgVerif.C26
