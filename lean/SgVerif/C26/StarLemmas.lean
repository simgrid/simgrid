import SgVerif.C26.Star
/-! C26 — star: `addLinks` (the `add_link_latency` loop that skips links already in the route) -/
namespace SgVerif.C26

theorem addLinks_nodup : ∀ (ls acc : List String), acc.Nodup → (addLinks ls acc).Nodup := by
  intro ls
  induction ls with
  | nil => intro acc h; exact h
  | cons l ls ih =>
    intro acc h
    simp only [addLinks]
    split
    · exact ih acc h
    · rename_i hn
      apply ih
      rw [List.nodup_append]
      refine ⟨h, by simp, ?_⟩
      intro a ha b hb
      simp only [List.mem_singleton] at hb
      subst hb
      intro e; subst e; exact hn ha

theorem addLinks_mem : ∀ (ls acc : List String) (x : String), x ∈ addLinks ls acc ↔ x ∈ acc ∨ x ∈ ls := by
  intro ls
  induction ls with
  | nil => intro acc x; simp [addLinks]
  | cons l ls ih =>
    intro acc x
    simp only [addLinks]
    split
    · rename_i hm
      rw [ih, List.mem_cons]
      exact ⟨fun h => h.imp_right Or.inr, fun h => h.elim Or.inl (fun h => h.elim (fun e => Or.inl (e ▸ hm)) Or.inr)⟩
    · rw [ih, List.mem_append, List.mem_singleton, List.mem_cons, or_assoc]

theorem addLinks_prefix : ∀ (ls acc : List String), ∃ r, addLinks ls acc = acc ++ r ∧ r.Sublist ls := by
  intro ls
  induction ls with
  | nil => intro acc; exact ⟨[], by simp [addLinks], List.Sublist.refl _⟩
  | cons l ls ih =>
    intro acc
    simp only [addLinks]
    split
    · obtain ⟨r, h1, h2⟩ := ih acc
      exact ⟨r, h1, h2.cons _⟩
    · obtain ⟨r, h1, h2⟩ := ih (acc ++ [l])
      exact ⟨l :: r, by rw [h1]; simp, h2.cons_cons _⟩

end SgVerif.C26
