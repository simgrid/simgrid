import SgVerif.C26.TorusLemmas
/-
C26 — torus: the `private_links_` position arithmetic.  `Torus.seal` is the sequence of `try_emplace` calls made by
`TorusZone::do_seal`, with `num_links_per_node_` growing while the FIRST leaf is filled; `Torus.routeWith` reads that table back
with `get_uplink_from` / `get_downlink_to`.  The entry of leaf `i`, slot `k` sits at `i * numLinks + k`, `k < numLinks`: blocks
of different leaves are disjoint, so the first match of `find?` is the entry of leaf `i`.
Then the hops against that table: the neighbour formula of `create_torus_links` (`nbrAt`), what every hop of the walk is
(`HopOk`, `specR_hopOk`), the links a hop and a route render to (`hopCable`, `linksOfHops`, `render_sealed`), and the walk a
list of links describes (`linkStep`, `linkWalk`).
-/
namespace SgVerif.C26

theorem Entries.at_cons {α : Type} (k : Nat) (v : α × α) (es : Entries α) (pos : Nat) :
    Entries.at ((k, v) :: es) pos = if k = pos then some v else Entries.at es pos := by
  unfold Entries.at
  by_cases h : k = pos <;> simp [h]

/-- `try_emplace`: the first pair stored at a position is the one found, whatever is stored later -/
theorem Entries.at_append {α : Type} (pre rest : Entries α) (pos : Nat) :
    Entries.at (pre ++ rest) pos = (Entries.at pre pos).or (Entries.at rest pos) := by
  unfold Entries.at
  rw [List.find?_append]
  cases pre.find? (fun e => e.1 == pos) <;> rfl

theorem Entries.at_eq_none {α : Type} (es : Entries α) (pos : Nat) (h : ∀ e ∈ es, e.1 ≠ pos) : Entries.at es pos = none := by
  unfold Entries.at
  rw [List.find?_eq_none.2 fun e he => by simpa using h e he]

/-- `num_links_per_node_`, `has_loopback_`, `has_limiter_` once at least one leaf has been filled -/
def finalState (t : Torus) : ClState :=
  { numLinks := t.dims.length + (if t.lb then 1 else 0) + (if t.lim then 1 else 0), hasLb := t.lb, hasLim := t.lim }

/-- the loopback / limiter entries `fill_leaf_from_cb` stores for leaf `i`, at the positions the FINAL link count gives -/
def leafHead (t : Torus) (i : Nat) : Entries TLink :=
  (if t.lb then [((finalState t).nodePos i, (TLink.loopback i, TLink.loopback i))] else []) ++
  (if t.lim then [((finalState t).nodePosLb i, (TLink.limiter i, TLink.limiter i))] else [])

/-- the `try_emplace` calls made for leaf `i`, with the positions computed from the FINAL link count: those of
`fill_leaf_from_cb` (`leafHead`), then those of `create_torus_links` -/
def leafEntries (t : Torus) (i : Nat) : Entries TLink :=
  leafHead t i ++ torusLinks i i ((finalState t).nodePosLbLim i) 0 1 t.dims

def sealedEntries (t : Torus) : Entries TLink := (List.range t.tot).flatMap (leafEntries t)

/-- a leaf filled when the count is already final (`set_loopback` / `set_limiter` do nothing), and the FIRST leaf, filled from
the state left by `set_topology`: its loopback is stored with the count before `set_limiter()`, but at
`node_pos(0) = 0 * count = 0` whatever the count -/
theorem fillLeaf_sealed (t : Torus) (s : ClState) (i : Nat)
    (hs : s = finalState t ∨ (s = { numLinks := t.dims.length, hasLb := false, hasLim := false } ∧ i = 0)) :
    fillLeaf t.lb t.lim TLink.loopback TLink.limiter s i = (finalState t, leafHead t i) := by
  obtain ⟨dims, lb, lim⟩ := t
  rcases hs with rfl | ⟨rfl, rfl⟩ <;> cases lb <;> cases lim <;>
    simp [fillLeaf, leafHead, finalState, ClState.setLoopback, ClState.setLimiter, ClState.nodePos, ClState.nodePosLb]

theorem sealFrom_final (t : Torus) : ∀ is : List Nat,
    t.sealFrom is (finalState t) = (finalState t, is.flatMap (leafEntries t)) := by
  intro is
  induction is with
  | nil => rfl
  | cons i is ih =>
    simp only [Torus.sealFrom, fillLeaf_sealed t _ i (Or.inl rfl), ih, List.flatMap_cons, leafEntries]

/-- **the table after `do_seal`** (at least one leaf, the first one having id 0) -/
theorem seal_eq (t : Torus) (h : 0 < t.tot) : t.seal = (finalState t, sealedEntries t) := by
  unfold Torus.seal sealedEntries
  obtain ⟨k, hk⟩ : ∃ k, t.tot = k + 1 := ⟨t.tot - 1, by omega⟩
  rw [hk, List.range_succ_eq_map]
  simp only [Torus.sealFrom, fillLeaf_sealed t _ 0 (Or.inr ⟨rfl, rfl⟩), sealFrom_final, List.flatMap_cons, leafEntries]

theorem prod_pos : ∀ ds : List Nat, (∀ d ∈ ds, 0 < d) → 0 < prod ds := by
  intro ds
  induction ds with
  | nil => intro _; simp [prod]
  | cons d ds ih =>
    intro h
    simp only [prod]
    exact Nat.mul_pos (List.forall_mem_cons.1 h).1 (ih (List.forall_mem_cons.1 h).2)

theorem torusLinks_keys (id rank pos : Nat) : ∀ (ds : List Nat) (j P : Nat), ∀ e ∈ torusLinks id rank pos j P ds,
    pos + j ≤ e.1 ∧ e.1 < pos + j + ds.length := by
  intro ds
  induction ds with
  | nil => intro j P; exact List.forall_mem_nil _
  | cons d ds ih =>
    intro j P
    refine List.forall_mem_cons.2 ⟨⟨Nat.le_refl _, Nat.lt_add_of_pos_right (Nat.succ_pos _)⟩, fun e he => ?_⟩
    have := ih (j + 1) (P * d) e he
    simp only [List.length_cons]; omega

theorem nodePos_final (t : Torus) (i : Nat) : (finalState t).nodePos i = i * (finalState t).numLinks := rfl
theorem nodePosLb_final (t : Torus) (i : Nat) :
    (finalState t).nodePosLb i = i * (finalState t).numLinks + (if t.lb then 1 else 0) := rfl
theorem nodePosLbLim_final (t : Torus) (i : Nat) :
    (finalState t).nodePosLbLim i = i * (finalState t).numLinks + (if t.lb then 1 else 0) + (if t.lim then 1 else 0) := rfl
theorem numLinks_final (t : Torus) :
    (finalState t).numLinks = t.dims.length + (if t.lb then 1 else 0) + (if t.lim then 1 else 0) := rfl

theorem leafHead_keys (t : Torus) (i : Nat) : ∀ e ∈ leafHead t i,
    i * (finalState t).numLinks ≤ e.1 ∧ e.1 < (finalState t).nodePosLbLim i := by
  intro e he
  rw [nodePosLbLim_final]
  rcases List.mem_append.1 he with he | he <;> split at he
  · rename_i h
    rw [List.mem_singleton.1 he, nodePos_final, h, if_pos rfl]; omega
  · cases he
  · rename_i h
    rw [List.mem_singleton.1 he, nodePosLb_final, h, if_pos rfl]; omega
  · cases he

theorem leafEntries_keys (t : Torus) (i : Nat) : ∀ e ∈ leafEntries t i,
    i * (finalState t).numLinks ≤ e.1 ∧ e.1 < i * (finalState t).numLinks + (finalState t).numLinks := by
  intro e he
  have hN := numLinks_final t
  rcases List.mem_append.1 he with he | he
  · have := leafHead_keys t i e he
    rw [nodePosLbLim_final] at this
    omega
  · have := torusLinks_keys _ _ _ _ _ _ e he
    rw [nodePosLbLim_final] at this
    omega

theorem block_disjoint (a i N x y : Nat) (hne : a ≠ i) (hx : a * N ≤ x ∧ x < a * N + N) (hy : i * N ≤ y ∧ y < i * N + N) :
    x ≠ y := by
  rcases Nat.lt_or_gt_of_ne hne with h | h
  · have := Nat.mul_le_mul_right N (show a + 1 ≤ i from h)
    rw [Nat.add_mul, Nat.one_mul] at this; omega
  · have := Nat.mul_le_mul_right N (show i + 1 ≤ a from h)
    rw [Nat.add_mul, Nat.one_mul] at this; omega

/-- a position of leaf `i`'s block is answered by leaf `i`'s own entries (first match = no earlier leaf stored there) -/
theorem at_sealed (t : Torus) (i pos : Nat) (v : TLink × TLink) (hi : i < t.tot)
    (hpos : i * (finalState t).numLinks ≤ pos ∧ pos < i * (finalState t).numLinks + (finalState t).numLinks)
    (hv : Entries.at (leafEntries t i) pos = some v) : Entries.at (sealedEntries t) pos = some v := by
  have : ∀ is : List Nat, i ∈ is → Entries.at (is.flatMap (leafEntries t)) pos = some v := by
    intro is
    induction is with
    | nil => intro h; cases h
    | cons a is ih =>
      intro hmem
      rw [List.flatMap_cons]
      by_cases ha : a = i
      · subst ha; rw [Entries.at_append, hv]; rfl
      · rw [Entries.at_append, Entries.at_eq_none _ _ fun e he => block_disjoint a i _ _ _ ha (leafEntries_keys t a e he) hpos]
        exact ih ((List.mem_cons.1 hmem).resolve_left (Ne.symm ha))
  exact this _ (List.mem_range.2 hi)

/-- `get_uplink_from(node_pos(i))` = loopback of leaf `i` -/
theorem lookup_loopback (t : Torus) (i : Nat) (hi : i < t.tot) (hlb : t.lb = true) :
    Entries.at (sealedEntries t) ((finalState t).nodePos i) = some (TLink.loopback i, TLink.loopback i) := by
  apply at_sealed t i _ _ hi
  · have hN := numLinks_final t
    simp only [nodePos_final, hlb, if_true] at hN ⊢
    omega
  · simp [leafEntries, leafHead, hlb, Entries.at_cons]

/-- `private_links_.at(node_pos_with_loopback(i))` = limiter of leaf `i` -/
theorem lookup_limiter (t : Torus) (i : Nat) (hi : i < t.tot) (hlim : t.lim = true) :
    Entries.at (sealedEntries t) ((finalState t).nodePosLb i) = some (TLink.limiter i, TLink.limiter i) := by
  apply at_sealed t i _ _ hi
  · have hN := numLinks_final t
    rw [hlim, if_pos rfl] at hN
    rw [nodePosLb_final]
    omega
  · cases hlb : t.lb <;>
      simp [leafEntries, leafHead, hlim, hlb, Entries.at_cons, nodePosLb_final, nodePos_final]

/-- `neighbor_rank_id` computed by `create_torus_links(id, rank, ..)` at iteration `k` of its loop (started with
`dim_product = P` on the dimensions `ds`); `none` when there is no such dimension -/
def nbrAt (rank : Nat) : Nat → List Nat → Nat → Option Nat
  | _, [], _ => none
  | P, d :: _, 0 => some (if (rank / P) % d = d - 1 then rank - (d - 1) * P else rank + P)
  | P, d :: ds, k + 1 => nbrAt rank (P * d) ds k

/-- the node at the other end of the link `<zone>_link_from_<rank>_to_..` that `rank` declares for dimension `j` -/
def Torus.neighbour (t : Torus) (rank j : Nat) : Option Nat := nbrAt rank 1 t.dims j

theorem torusLinks_at (id rank pos : Nat) : ∀ (ds : List Nat) (j P k : Nat),
    Entries.at (torusLinks id rank pos j P ds) (pos + j + k)
      = (nbrAt rank P ds k).map (fun nb => (TLink.cable id nb true, TLink.cable id nb false)) := by
  intro ds
  induction ds with
  | nil => intro j P k; simp [torusLinks, Entries.at, nbrAt]
  | cons d ds ih =>
    intro j P k
    cases k with
    | zero => simp [torusLinks, Entries.at_cons, nbrAt]
    | succ k =>
      simp only [torusLinks, Entries.at_cons, nbrAt]
      rw [if_neg (by omega), ← ih (j + 1) (P * d) k]
      congr 1; omega

/-- `private_links_.at(node_pos_with_loopback_limiter(i) + j)` = the two halves of the link leaf `i` declares along dimension `j` -/
theorem lookup_cable (t : Torus) (i j nb : Nat) (hi : i < t.tot) (hj : j < t.dims.length) (hn : nbrAt i 1 t.dims j = some nb) :
    Entries.at (sealedEntries t) ((finalState t).nodePosLbLim i + j) = some (TLink.cable i nb true, TLink.cable i nb false) := by
  have hN := numLinks_final t
  apply at_sealed t i _ _ hi
  · rw [nodePosLbLim_final]
    omega
  · unfold leafEntries
    rw [Entries.at_append, Entries.at_eq_none _ _ _]
    · rw [← Nat.add_zero ((finalState t).nodePosLbLim i), torusLinks_at, hn]; rfl
    · intro e he
      have := (leafHead_keys t i e he).2
      omega

/-- past dimension 0 (of size `d`) the neighbour formula is the one of `rank / d` over the remaining dimensions, lifted -/
theorem nbrAt_lift (r d q : Nat) (hr : r < d) : ∀ (ds : List Nat) (P k : Nat), 0 < P → (∀ x ∈ ds, 0 < x) →
    nbrAt (r + d * q) (P * d) ds k = (nbrAt q P ds k).map (r + d * ·) := by
  intro ds
  induction ds with
  | nil => intro P k _ _; simp [nbrAt]
  | cons d' ds ih =>
    intro P k hP hpos
    cases k with
    | zero =>
      have hq : (r + d * q) / (P * d) = q / P := by
        rw [Nat.mul_comm P d, ← Nat.div_div_eq_div_mul, add_mul_div_lt _ _ _ hr]
      simp only [nbrAt, hq, Option.map_some, Option.some.injEq]
      by_cases h : q / P % d' = d' - 1
      · -- the wrap-around subtracts `(d' - 1) * P` from `q`, which holds at least that much
        have := (Nat.le_div_iff_mul_le hP).1 (h ▸ Nat.mod_le (q / P) d')
        rw [if_pos h, if_pos h, show (d' - 1) * (P * d) = d * ((d' - 1) * P) by rw [← Nat.mul_assoc, Nat.mul_comm],
          Nat.mul_sub, Nat.add_sub_assoc (Nat.mul_le_mul_left d this)]
      · rw [if_neg h, if_neg h, Nat.mul_add, Nat.add_assoc, Nat.mul_comm P d]
    | succ k =>
      simp only [nbrAt]
      rw [Nat.mul_right_comm, ih (P * d') k (Nat.mul_pos hP (List.forall_mem_cons.1 hpos).1) (List.forall_mem_cons.1 hpos).2]

theorem nbrAt_zero (d y hi : Nat) (ds : List Nat) (hy : y < d) :
    nbrAt (y + d * hi) 1 (d :: ds) 0 = some (stepX d true y + d * hi) := by
  simp only [nbrAt, Nat.div_one, Nat.mul_one, add_mul_mod_lt _ _ _ hy, stepX, if_true, Option.some.injEq]
  split <;> omega

theorem stepX_right_left (d x : Nat) (hx : x < d) : stepX d true (stepX d false x) = x := by
  simp only [stepX, Bool.false_eq_true, if_false, if_true]
  by_cases h0 : x = 0
  · rw [if_pos h0, if_pos rfl, h0]
  · rw [if_neg h0, if_neg (by omega), Nat.sub_add_cancel (Nat.pos_of_ne_zero h0)]

/-- what every hop of the route is: a step of one coordinate, in the direction chosen for its dimension, along a link that
one of its two nodes declares (going right `cur` declares it towards `next`, going left `next` towards `cur`) -/
structure HopOk (ds : List Nat) (tri : List (Nat × Nat × Nat)) (h : Hop) : Prop where
  cur_lt : h.cur < prod ds
  next_lt : h.next < prod ds
  dim_lt : h.dim < ds.length
  moves : FTBuild.digitsOf ds h.next = moveAt ds (FTBuild.digitsOf ds h.cur) h.dim h.up
  dir : ∃ x, tri[h.dim]? = some x ∧ h.up = goRight x.2.1 x.2.2 x.1
  declared : if h.up then nbrAt h.cur 1 ds h.dim = some h.next else nbrAt h.next 1 ds h.dim = some h.cur

theorem specR_hopOk : ∀ (ds : List Nat) (sq cq dq : Nat), (∀ d ∈ ds, 0 < d) → cq < prod ds →
    ∀ h ∈ specR (triOf ds sq dq) cq, HopOk ds (triOf ds sq dq) h := by
  intro ds
  induction ds with
  | nil => intro sq cq dq _ _ h hm; cases hm
  | cons d ds ih =>
    intro sq cq dq hpos hc h hm
    obtain ⟨hd, hds⟩ := List.forall_mem_cons.1 hpos
    have hhi : cq / d < prod ds := Nat.div_lt_of_lt_mul hc
    rcases List.mem_append.1 hm with hm | hm
    · -- a ring step along dimension 0
      obtain ⟨x, hx, rfl⟩ := mem_ringWalk d _ _ _ _ h hm
      have hx := hx hd (Nat.mod_lt _ hd)
      have hs := stepX_lt d (goRight (sq % d) (dq % d) d) x hd hx
      refine ⟨lt_radix hx hhi, lt_radix hs hhi, Nat.succ_pos _, ?_, ⟨_, rfl, rfl⟩, ?_⟩
      · simp only [FTBuild.digitsOf, moveAt, add_mul_mod_lt _ _ _ hx, add_mul_div_lt _ _ _ hx,
          add_mul_mod_lt _ _ _ hs, add_mul_div_lt _ _ _ hs]
      · cases hg : goRight (sq % d) (dq % d) d
        · rw [hg] at hs
          exact (nbrAt_zero d _ _ _ hs).trans (by rw [stepX_right_left d x hx])
        · exact nbrAt_zero d x _ _ hx
    · -- a hop of the walk over the higher dimensions, lifted
      obtain ⟨h', hm', rfl⟩ := List.mem_map.1 hm
      have htd : dq % d < d := Nat.mod_lt _ hd
      obtain ⟨h1, h2, h3, h4, ⟨y, h5, h6⟩, h7⟩ := ih (sq / d) (cq / d) (dq / d) hds hhi h' hm'
      refine ⟨lt_radix htd h1, lt_radix htd h2, Nat.succ_lt_succ h3, ?_, ⟨y, h5, h6⟩, ?_⟩
      · simp only [FTBuild.digitsOf, liftHop, moveAt, add_mul_mod_lt _ _ _ htd, add_mul_div_lt _ _ _ htd, h4]
      · simp only [liftHop, nbrAt, nbrAt_lift _ d _ htd _ 1 _ Nat.one_pos hds]
        cases hu : h'.up <;> rw [hu] at h7 <;> simp only [Bool.false_eq_true, if_false, if_true] at h7 ⊢ <;> rw [h7] <;> rfl

/-- the torus link taken by a hop: going right, the UP half of the link declared by the current node towards the next
one (`<zone>_link_from_<cur>_to_<next>`); going left, the DOWN half of the link declared by the NEXT node towards the
current one (`<zone>_link_from_<next>_to_<cur>`) -/
def hopCable (h : Hop) : TLink := if h.up then TLink.cable h.cur h.next true else TLink.cable h.next h.cur false

/-- what one iteration of the `while` pushes: the limiter of the current node (if limiters are configured), then the cable -/
def hopSegment (lim : Bool) (h : Hop) : List TLink := (if lim then [TLink.limiter h.cur] else []) ++ [hopCable h]

/-- the whole link list of a route with hops `hs`: the segments, then the limiter of the destination -/
def linksOfHops (lim : Bool) (dst : Nat) (hs : List Hop) : List TLink :=
  hs.flatMap (hopSegment lim) ++ (if lim then [TLink.limiter dst] else [])

theorem linksOfHops_cons (lim : Bool) (dst : Nat) (h : Hop) (hs : List Hop) :
    linksOfHops lim dst (h :: hs) = hopSegment lim h ++ linksOfHops lim dst hs := by
  simp [linksOfHops, List.flatMap_cons, List.append_assoc]

theorem uplink_of_at {α : Type} (es : Entries α) (pos : Nat) (v : α × α) (h : Entries.at es pos = some v) :
    Entries.uplinkFrom es pos = some v.1 := by simp [Entries.uplinkFrom, h]
theorem downlink_of_at {α : Type} (es : Entries α) (pos : Nat) (v : α × α) (h : Entries.at es pos = some v) :
    Entries.downlinkTo es pos = some v.2 := by simp [Entries.downlinkTo, h]

theorem hopLinks_sealed (t : Torus) (tri : List (Nat × Nat × Nat)) (h : Hop) (hok : HopOk t.dims tri h) :
    hopLinks (finalState t) (sealedEntries t) h = some (hopSegment t.lim h) := by
  obtain ⟨hc, hn, hj, -, -, hnb⟩ := hok
  have hl : (if h.up then Entries.uplinkFrom (sealedEntries t) ((finalState t).nodePosLbLim h.cur + h.dim)
      else Entries.downlinkTo (sealedEntries t) ((finalState t).nodePosLbLim h.next + h.dim)) = some (hopCable h) := by
    unfold hopCable
    cases hup : h.up <;> rw [hup] at hnb
    · exact downlink_of_at _ _ _ (lookup_cable t _ _ _ hn hj hnb)
    · exact uplink_of_at _ _ _ (lookup_cable t _ _ _ hc hj hnb)
  unfold hopLinks
  simp only [hl]
  have hfl : (finalState t).hasLim = t.lim := rfl
  rw [hfl]
  cases hlim : t.lim
  · simp [optCons, hopSegment]
  · have := uplink_of_at _ _ _ (lookup_limiter t h.cur hc hlim)
    simp [this, optCons, hopSegment]

theorem render_sealed (t : Torus) (dst : Nat) (tri : List (Nat × Nat × Nat)) (hd : dst < t.tot) :
    ∀ hs : List Hop, (∀ h ∈ hs, HopOk t.dims tri h) →
    renderHops (finalState t) (sealedEntries t) dst hs = some (linksOfHops t.lim dst hs) := by
  intro hs
  induction hs with
  | nil =>
    intro _
    have hfl : (finalState t).hasLim = t.lim := rfl
    simp only [renderHops, hfl]
    cases hlim : t.lim
    · simp [linksOfHops]
    · have := downlink_of_at _ _ _ (lookup_limiter t dst hd hlim)
      simp [this, optCons, linksOfHops]
  | cons h hs ih =>
    intro hall
    rw [renderHops, hopLinks_sealed t tri h (List.forall_mem_cons.1 hall).1, ih (List.forall_mem_cons.1 hall).2, linksOfHops_cons]

theorem specR_self : ∀ (ds : List Nat) (sq cq : Nat), specR (triOf ds sq cq) cq = []
  | [], _, _ => rfl
  | d :: ds, sq, cq => by
    simp only [triOf, specR, dist_self, ringWalk, specR_self ds, List.map_nil, List.append_nil]

/-- traversing link `l` from node `a`: the node reached, `none` when `l` is not a link that leaves `a` (the UP half of a
link declared by `a`, the DOWN half of a link declared towards `a`, or `a`'s own limiter, which stays on `a`) -/
def linkStep (a : Nat) : TLink → Option Nat
  | .cable x y true => if x = a then some y else none
  | .cable x y false => if y = a then some x else none
  | .limiter i => if i = a then some a else none
  | .loopback _ => none

def linkWalk : Nat → List TLink → Option Nat
  | a, [] => some a
  | a, l :: ls => (linkStep a l).bind (fun a' => linkWalk a' ls)

theorem linkWalk_append : ∀ (l1 l2 : List TLink) (a : Nat),
    linkWalk a (l1 ++ l2) = (linkWalk a l1).bind (fun b => linkWalk b l2) := by
  intro l1
  induction l1 with
  | nil => intro l2 a; rfl
  | cons l ls ih =>
    intro l2 a
    simp only [List.cons_append, linkWalk]
    cases linkStep a l with
    | none => rfl
    | some a' => simp [ih]

theorem linkWalk_segment (lim : Bool) (h : Hop) : linkWalk h.cur (hopSegment lim h) = some h.next := by
  unfold hopSegment hopCable
  cases lim <;> cases h.up <;> simp [linkWalk, linkStep]

theorem linkWalk_hops (lim : Bool) : ∀ (hs : List Hop) (a b : Nat), Chain a hs b →
    linkWalk a (linksOfHops lim b hs) = some b := by
  intro hs
  induction hs with
  | nil =>
    intro a b hc
    simp only [Chain] at hc; subst hc
    cases lim <;> simp [linksOfHops, linkWalk, linkStep]
  | cons h hs ih =>
    intro a b hc
    obtain ⟨h1, h2⟩ := hc
    rw [linksOfHops_cons, linkWalk_append, ← h1, linkWalk_segment]
    exact ih _ _ h2

def TLink.isCable : TLink → Bool
  | .cable _ _ _ => true
  | _ => false
def TLink.isLimiter : TLink → Bool
  | .limiter _ => true
  | _ => false
def TLink.isLoopback : TLink → Bool
  | .loopback _ => true
  | _ => false

theorem isCable_limiter (i : Nat) : (TLink.limiter i).isCable = false := rfl
theorem isLimiter_limiter (i : Nat) : (TLink.limiter i).isLimiter = true := rfl
theorem isLoopback_limiter (i : Nat) : (TLink.limiter i).isLoopback = false := rfl

theorem hopCable_kind (h : Hop) :
    (hopCable h).isCable = true ∧ (hopCable h).isLimiter = false ∧ (hopCable h).isLoopback = false := by
  unfold hopCable; cases h.up <;> exact ⟨rfl, rfl, rfl⟩

theorem linksOfHops_cables (lim : Bool) (dst : Nat) (hs : List Hop) :
    (linksOfHops lim dst hs).filter TLink.isCable = hs.map hopCable := by
  rw [linksOfHops, List.filter_append, List.filter_flatMap, List.map_eq_flatMap]
  cases lim <;> simp [hopSegment, hopCable_kind, isCable_limiter]

theorem linksOfHops_limiters (lim : Bool) (dst : Nat) (hs : List Hop) :
    (linksOfHops lim dst hs).filter TLink.isLimiter
      = if lim then hs.map (fun h => TLink.limiter h.cur) ++ [TLink.limiter dst] else [] := by
  rw [linksOfHops, List.filter_append, List.filter_flatMap, List.map_eq_flatMap]
  cases lim <;> simp [hopSegment, List.filter_cons, hopCable_kind, isLimiter_limiter]

theorem linksOfHops_no_loopback (lim : Bool) (dst : Nat) (hs : List Hop) :
    (linksOfHops lim dst hs).filter TLink.isLoopback = [] := by
  rw [linksOfHops, List.filter_append, List.filter_flatMap]
  cases lim <;> simp [hopSegment, hopCable_kind, isLoopback_limiter]

theorem linksOfHops_length (lim : Bool) (dst : Nat) : ∀ hs : List Hop,
    (linksOfHops lim dst hs).length = if lim then 2 * hs.length + 1 else hs.length := by
  intro hs
  induction hs with
  | nil => cases lim <;> simp [linksOfHops]
  | cons h hs ih =>
    rw [linksOfHops_cons, List.length_append, ih]
    cases lim <;> simp [hopSegment] <;> omega

theorem nbrAt_isSome (rank : Nat) : ∀ (ds : List Nat) (P k : Nat), k < ds.length → (nbrAt rank P ds k).isSome
  | _ :: _, _, 0, _ => rfl
  | _ :: ds, _, k + 1, h => nbrAt_isSome rank ds _ k (Nat.lt_of_succ_lt_succ h)

end SgVerif.C26
