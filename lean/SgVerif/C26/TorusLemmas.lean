import SgVerif.C26.Torus
import SgVerif.C26.Loops
/-
Lemmas for the torus theorems: the `while`/`for` of get_local_route is a mixed-radix walk.
`Steps` says what the `while` loop does; `specR` is the closed description of the walk: for each dimension in turn a ring
walk, lifted to node ids.  The walk is what the loop does (`specR_steps`): along dimension 0 by `scan_hop`, and past it the
`for` scan is the scan of `id / d` over the remaining dimensions (`scan_lift`).
-/
namespace SgVerif.C26

def liftHop (r d : Nat) (h : Hop) : Hop := { cur := r + d * h.cur, next := r + d * h.next, dim := h.dim + 1, up := h.up }

/-- the `next_node` formulas of get_local_route (`b` forward, `a` back) on quotient `q` and remainder `r` of the node by `d` -/
theorem next_node_lift (d q r cur a b : Nat) (hc : r + d * q = cur) (h : a ≤ q + b) :
    cur + d * b - d * a = r + d * (q + b - a) := by
  have := Nat.mul_le_mul_left d h
  rw [Nat.mul_sub, Nat.mul_add] at *
  omega

theorem scan_lift (cur dst d : Nat) (tri : List (Nat × Nat × Nat)) (hpos : ∀ x ∈ tri, 0 < x.1) :
    ∀ j P, 0 < P → scan cur dst (j + 1) (P * d) tri = (scan (cur / d) (dst / d) j P tri).map (liftHop (cur % d) d) := by
  induction tri with
  | nil => intro j P _; rfl
  | cons x rest ih =>
    obtain ⟨d', m, t⟩ := x
    intro j P hP
    obtain ⟨hd', hrest⟩ := List.forall_mem_cons.1 hpos
    have hcur := Nat.mod_add_div cur d
    rw [Nat.mul_comm P d]
    simp only [scan, ← Nat.div_div_eq_div_mul]
    split
    · split <;> simp only [Option.map_some, liftHop, hcur, Option.some.injEq, Hop.mk.injEq, true_and, and_true] <;> split
      · rename_i h
        have := (Nat.le_div_iff_mul_le hP).1 (h ▸ Nat.mod_le (cur / d / P) d')
        rw [Nat.sub_mul, Nat.one_mul, Nat.mul_comm] at this
        rw [Nat.mul_assoc]
        exact next_node_lift d _ _ cur (P * d') P hcur (by omega)
      · rw [Nat.mul_add, ← Nat.add_assoc, hcur]
      · rw [Nat.mul_assoc]
        exact next_node_lift d _ _ cur P (P * d') hcur (Nat.le_trans (Nat.le_mul_of_pos_right P hd') (Nat.le_add_left _ _))
      · rename_i h0
        exact next_node_lift d _ _ cur P 0 hcur
          (Nat.le_of_not_lt fun (hlt : cur / d < P) => h0 (by rw [Nat.div_eq_of_lt hlt, Nat.zero_mod]))
    · rw [Nat.mul_assoc, Nat.mul_comm d, ih hrest (j + 1) (P * d') (Nat.mul_pos hP hd')]

theorem hopsLoop_done (dq : Nat) (tri : List (Nat × Nat × Nat)) (fuel : Nat) : hopsLoop dq tri fuel dq = some [] := by
  rw [hopsLoop.eq_def]; simp
theorem hopsLoop_succ (dq : Nat) (tri : List (Nat × Nat × Nat)) (n cq : Nat) (h : cq ≠ dq) :
    hopsLoop dq tri (n + 1) cq = match scan cq dq 0 1 tri with
      | none => none
      | some hh => (hopsLoop dq tri n hh.next).map (hh :: ·) := by
  rw [hopsLoop.eq_def]; simp only [h, if_false]
  cases scan cq dq 0 1 tri <;> rfl

def stepX (d : Nat) (right : Bool) (x : Nat) : Nat :=
  if right then (if x = d - 1 then 0 else x + 1) else (if x = 0 then d - 1 else x - 1)

/-- `k` hops along dimension 0 from digit `x`, the other digits being those of `hi` -/
def ringWalk (d : Nat) (right : Bool) (hi : Nat) : Nat → Nat → List Hop
  | 0, _ => []
  | k + 1, x => ⟨x + d * hi, stepX d right x + d * hi, 0, right⟩ :: ringWalk d right hi k (stepX d right x)

/-- number of +1 steps (mod d) from x to t -/
def distR (d x t : Nat) : Nat := if x ≤ t then t - x else t + d - x
/-- number of steps from `x` to `t` in the given direction; -1 steps from `x` to `t` are +1 steps from `t` to `x` -/
def dist (d : Nat) (right : Bool) (x t : Nat) : Nat := if right then distR d x t else distR d t x

theorem stepX_lt (d : Nat) (right : Bool) (x : Nat) (hd : 0 < d) (hx : x < d) : stepX d right x < d := by
  unfold stepX; cases right <;> simp <;> split <;> omega

theorem distR_iff (d x t k : Nat) (hx : x < d) (ht : t < d) :
    distR d x t = k ↔ k < d ∧ (x + k = t ∨ x + k = t + d) := by
  unfold distR; split <;> omega

theorem dist_self (d : Nat) (r : Bool) (x : Nat) : dist d r x x = 0 := by
  cases r <;> simp [dist, distR]

theorem dist_lt (d : Nat) (right : Bool) (x t : Nat) (hx : x < d) (ht : t < d) : dist d right x t < d := by
  cases right
  · exact ((distR_iff d t x _ ht hx).1 rfl).1
  · exact ((distR_iff d x t _ hx ht).1 rfl).1

theorem dist_zero (d : Nat) (right : Bool) (x t : Nat) (hx : x < d) (ht : t < d)
    (h : dist d right x t = 0) : x = t := by
  cases right
  · have := (distR_iff d t x 0 ht hx).1 h; omega
  · have := (distR_iff d x t 0 hx ht).1 h; omega

theorem dist_step (d : Nat) (right : Bool) (x t k : Nat) (hx : x < d) (ht : t < d)
    (h : dist d right x t = k + 1) : x ≠ t ∧ dist d right (stepX d right x) t = k := by
  refine ⟨by rintro rfl; rw [dist_self] at h; omega, ?_⟩
  cases right
  · have h := (distR_iff d t x _ ht hx).1 h
    simp only [dist, stepX, Bool.false_eq_true, if_false]
    split
    · rw [distR_iff d t (d - 1) k ht (by omega)]; omega
    · rw [distR_iff d t (x - 1) k ht (by omega)]; omega
  · have h := (distR_iff d x t _ hx ht).1 h
    simp only [dist, stepX, if_true]
    split
    · rw [distR_iff d 0 t k (by omega) ht]; omega
    · rw [distR_iff d (x + 1) t k (by omega) ht]; omega

theorem scan_hop (d m t : Nat) (rest : List (Nat × Nat × Nat)) (dq hi x : Nat) (hx : x < d) (hne : x ≠ dq % d) :
    scan (x + d * hi) dq 0 1 ((d, m, t) :: rest)
      = some ⟨x + d * hi, stepX d (goRight m t d) x + d * hi, 0, goRight m t d⟩ := by
  simp only [scan, Nat.div_one, Nat.one_mul, add_mul_mod_lt _ _ _ hx, ne_eq, hne, not_false_eq_true, if_true, stepX]
  cases goRight m t d <;> simp only [Bool.false_eq_true, if_true, if_false] <;> congr 2 <;> split <;> omega

/-- closed description of the hops: dimension by dimension.  After the ring walk along dimension 0 that digit is the
TARGET's, so the walk over the higher dimensions is lifted with `t` -/
def specR : List (Nat × Nat × Nat) → Nat → List Hop
  | [], _ => []
  | (d, m, t) :: rest, cq =>
    ringWalk d (goRight m t d) (cq / d) (dist d (goRight m t d) (cq % d) t) (cq % d)
      ++ (specR rest (cq / d)).map (liftHop t d)

theorem ringWalk_length (d : Nat) (right : Bool) (hi : Nat) : ∀ k x, (ringWalk d right hi k x).length = k := by
  intro k; induction k with
  | zero => intro x; rfl
  | succ k ih => intro x; simp [ringWalk, ih]

/-- the triples `(cur_dim, myCoords[j], targetCoords[j])` that get_local_route's first loop computes for source `s` and target
`t`, lowest dimension first: the coordinates are the mixed-radix digits of the two ids -/
def triOf : List Nat → Nat → Nat → List (Nat × Nat × Nat)
  | [], _, _ => []
  | d :: ds, s, t => (d, s % d, t % d) :: triOf ds (s / d) (t / d)

theorem zip3_coords (src dst : Nat) : ∀ (ds : List Nat) (P : Nat),
    zip3 ds (coordsFrom src P ds) (coordsFrom dst P ds) = triOf ds (src / P) (dst / P) := by
  intro ds
  induction ds with
  | nil => intro P; rfl
  | cons d ds ih => intro P; simp only [coordsFrom, zip3, triOf, ih, Nat.div_div_eq_div_mul]

theorem triOf_pos : ∀ (ds : List Nat) (s t : Nat), (∀ d ∈ ds, 0 < d) → ∀ x ∈ triOf ds s t, 0 < x.1
  | [], _, _, _ => fun _ h => nomatch h
  | _ :: ds, _, _, hpos =>
    List.forall_mem_cons.2 ⟨(List.forall_mem_cons.1 hpos).1, triOf_pos ds _ _ (List.forall_mem_cons.1 hpos).2⟩

/-- what the `while` loop of get_local_route does from `cur`: nothing when it is on the destination; otherwise the hop the
`for` scan finds there, and on from the node that hop leads to -/
def Steps (dst : Nat) (tri : List (Nat × Nat × Nat)) : Nat → List Hop → Prop
  | cur, [] => cur = dst
  | cur, h :: hs => cur ≠ dst ∧ h.cur = cur ∧ scan cur dst 0 1 tri = some h ∧ Steps dst tri h.next hs

theorem hopsLoop_of_steps (dst : Nat) (tri : List (Nat × Nat × Nat)) : ∀ (hs : List Hop) (cur fuel : Nat),
    Steps dst tri cur hs → hs.length ≤ fuel → hopsLoop dst tri fuel cur = some hs
  | [], cur, fuel, h, _ => by rw [show cur = dst from h, hopsLoop_done]
  | h :: hs, cur, fuel + 1, ⟨hne, _, hsc, hrest⟩, hf => by
    rw [hopsLoop_succ _ _ _ _ hne, hsc]
    simp only [hopsLoop_of_steps dst tri hs h.next fuel hrest (Nat.le_of_succ_le_succ hf), Option.map_some]

theorem steps_ring (d m t : Nat) (rest : List (Nat × Nat × Nat)) (dq hi : Nat) (hd : 0 < d) (ht : t = dq % d)
    (tl : List Hop) (htl : Steps dq ((d, m, t) :: rest) (t + d * hi) tl) :
    ∀ k x, x < d → dist d (goRight m t d) x t = k →
      Steps dq ((d, m, t) :: rest) (x + d * hi) (ringWalk d (goRight m t d) hi k x ++ tl) := by
  have htd : t < d := by rw [ht]; exact Nat.mod_lt _ hd
  intro k
  induction k with
  | zero =>
    intro x hx hk
    rw [dist_zero d _ x t hx htd hk]
    exact htl
  | succ k ih =>
    intro x hx hk
    obtain ⟨hne, hk'⟩ := dist_step d _ x t k hx htd hk
    exact ⟨fun e => hne (by rw [ht, ← e, add_mul_mod_lt _ _ _ hx]), rfl,
      scan_hop d m t rest dq hi x hx (ht ▸ hne), ih _ (stepX_lt d _ x hd hx) hk'⟩

theorem steps_lift (d m t : Nat) (rest : List (Nat × Nat × Nat)) (dq : Nat) (hd : 0 < d) (hrest : ∀ x ∈ rest, 0 < x.1) :
    ∀ (hs : List Hop) (cq : Nat), Steps (dq / d) rest cq hs →
      Steps dq ((d, m, t) :: rest) (dq % d + d * cq) (hs.map (liftHop (dq % d) d)) := by
  have hr : dq % d < d := Nat.mod_lt _ hd
  intro hs
  induction hs with
  | nil => intro cq h; rw [show cq = dq / d from h]; exact Nat.mod_add_div dq d
  | cons h hs ih =>
    intro cq ⟨hne, hc, hsc, htl⟩
    refine ⟨fun e => hne (by rw [← e, add_mul_div_lt _ _ _ hr]), by rw [liftHop, hc], ?_, ih _ htl⟩
    simp only [scan, Nat.div_one, add_mul_mod_lt _ _ _ hr, ne_eq, not_true_eq_false, if_false]
    rw [scan_lift _ dq d rest hrest 0 1 Nat.one_pos, add_mul_div_lt _ _ _ hr, add_mul_mod_lt _ _ _ hr, hsc]
    rfl

theorem specR_steps : ∀ (ds : List Nat) (sq cq dq : Nat), (∀ d ∈ ds, 0 < d) → cq < prod ds → dq < prod ds →
    Steps dq (triOf ds sq dq) cq (specR (triOf ds sq dq) cq) := by
  intro ds
  induction ds with
  | nil =>
    intro sq cq dq _ h1 h2
    simp only [prod] at h1 h2
    show cq = dq
    omega
  | cons d ds ih =>
    intro sq cq dq hpos h1 h2
    obtain ⟨hd, hds⟩ := List.forall_mem_cons.1 hpos
    simp only [prod] at h1 h2
    have := steps_ring d (sq % d) (dq % d) (triOf ds (sq / d) (dq / d)) dq (cq / d) hd rfl _
      (steps_lift d (sq % d) (dq % d) _ dq hd (triOf_pos ds _ _ hds) _ _
        (ih (sq / d) (cq / d) (dq / d) hds (Nat.div_lt_of_lt_mul h1) (Nat.div_lt_of_lt_mul h2)))
      _ _ (Nat.mod_lt cq hd) rfl
    rwa [Nat.mod_add_div] at this

theorem coordsFrom_eq_digits (id : Nat) : ∀ (ds : List Nat) (P : Nat), coordsFrom id P ds = FTBuild.digitsOf ds (id / P) := by
  intro ds
  induction ds with
  | nil => intro P; rfl
  | cons d ds ih => intro P; simp only [coordsFrom, FTBuild.digitsOf, ih, Nat.div_div_eq_div_mul]

/-- one hop along dimension `j` on a coordinate vector -/
def moveAt : List Nat → List Nat → Nat → Bool → List Nat
  | d :: _, x :: xs, 0, up => stepX d up x :: xs
  | _ :: ds, x :: xs, j + 1, up => x :: moveAt ds xs j up
  | _, xs, _, _ => xs

theorem mem_ringWalk (d : Nat) (right : Bool) (hi : Nat) : ∀ k x, ∀ h ∈ ringWalk d right hi k x,
    ∃ x', (0 < d → x < d → x' < d) ∧ h = ⟨x' + d * hi, stepX d right x' + d * hi, 0, right⟩ := by
  intro k
  induction k with
  | zero => intro x h hm; simp [ringWalk] at hm
  | succ k ih =>
    intro x h hm
    simp only [ringWalk, List.mem_cons] at hm
    rcases hm with hm | hm
    · exact ⟨x, fun _ hx => hx, hm⟩
    · obtain ⟨x', hx', e⟩ := ih _ h hm
      exact ⟨x', fun hd hx => hx' hd (stepX_lt d right x hd hx), e⟩

theorem ringWalk_dim (d : Nat) (right : Bool) (hi : Nat) (k x : Nat) (h : Hop) (hm : h ∈ ringWalk d right hi k x) : h.dim = 0 := by
  obtain ⟨_, _, rfl⟩ := mem_ringWalk d right hi k x h hm
  rfl

theorem specR_sorted : ∀ (tri : List (Nat × Nat × Nat)) (cq : Nat),
    ((specR tri cq).map (·.dim)).Pairwise (· ≤ ·) := by
  intro tri
  induction tri with
  | nil => intro cq; simp [specR]
  | cons x rest ih =>
    obtain ⟨d, m, t⟩ := x
    intro cq
    simp only [specR, List.map_append, List.map_map, List.pairwise_append]
    refine ⟨?_, ?_, ?_⟩
    · rw [List.pairwise_map]
      exact List.pairwise_of_forall_mem_list fun a ha b _ => by rw [ringWalk_dim _ _ _ _ _ a ha]; exact Nat.zero_le _
    · have := ih (cq / d)
      rw [List.pairwise_map] at this ⊢
      exact this.imp (by intro a b hab; simp only [Function.comp, liftHop]; omega)
    · exact List.forall_mem_map.2 fun h hm b _ => by simp only [ringWalk_dim _ _ _ _ _ h hm]; exact Nat.zero_le _

theorem goRight_iff (d m t : Nat) (hm : m < d) (ht : t < d) (hne : m ≠ t) :
    goRight m t d = true ↔ (distR d m t ≤ d / 2 ∧ ¬ (t = 0 ∧ 2 * m = d)) := by
  have hk := (distR_iff d m t _ hm ht).1 rfl
  generalize distR d m t = k at hk
  simp only [goRight, Bool.or_eq_true, Bool.and_eq_true, decide_eq_true_eq]
  by_cases h : m > d / 2
  · have h1 : (m + d / 2) % d + d = m + d / 2 := by
      rw [Nat.mod_eq_sub_mod (by omega), Nat.mod_eq_of_lt (by omega)]; omega
    omega
  · omega

theorem dist_goRight_min (d m t : Nat) (hm : m < d) (ht : t < d) :
    dist d (goRight m t d) m t = min (distR d m t) (d - distR d m t) := by
  by_cases hne : m = t
  · subst hne; rw [dist_self, (distR_iff d m m 0 hm hm).2 (by omega)]; omega
  · have h := goRight_iff d m t hm ht hne
    have hk := (distR_iff d m t _ hm ht).1 rfl
    have hs := (distR_iff d t m _ ht hm).1 rfl  -- the two ways round add up to `d`
    cases hg : goRight m t d
    · rw [hg] at h
      simp only [dist, Bool.false_eq_true, if_false, false_iff] at h ⊢
      omega
    · rw [hg] at h
      simp only [dist, if_true, true_iff] at h ⊢
      omega

def minList (tri : List (Nat × Nat × Nat)) : List Nat :=
  tri.map (fun x => min (distR x.1 x.2.1 x.2.2) (x.1 - distR x.1 x.2.1 x.2.2))

theorem specR_count : ∀ (ds : List Nat) (cq dq : Nat), (∀ d ∈ ds, 0 < d) → ∀ j,
    ((specR (triOf ds cq dq) cq).filter (fun h => h.dim == j)).length = (minList (triOf ds cq dq)).getD j 0 := by
  intro ds
  induction ds with
  | nil => intro cq dq _ j; simp [triOf, specR, minList]
  | cons d ds ih =>
    intro cq dq hpos j
    obtain ⟨hd, hds⟩ := List.forall_mem_cons.1 hpos
    simp only [triOf, specR, List.filter_append, List.length_append, minList, List.map_cons, List.filter_map, List.length_map]
    cases j with
    | zero =>
      rw [List.filter_eq_self.2 (fun a ha => by simp [ringWalk_dim _ _ _ _ _ a ha]),
        List.filter_eq_nil_iff.2 (fun a _ => by simp [liftHop]), ringWalk_length,
        dist_goRight_min d _ _ (Nat.mod_lt _ hd) (Nat.mod_lt _ hd)]
      rfl
    | succ j =>
      rw [List.filter_eq_nil_iff.2 (fun a ha => by simp [ringWalk_dim _ _ _ _ _ a ha]),
        show ((fun h : Hop => h.dim == j + 1) ∘ liftHop (dq % d) d) = (fun h => h.dim == j) from funext fun h => by simp [liftHop],
        ih (cq / d) (dq / d) hds j]
      simp [minList]

theorem specR_length : ∀ (ds : List Nat) (cq dq : Nat), (∀ d ∈ ds, 0 < d) →
    (specR (triOf ds cq dq) cq).length = (minList (triOf ds cq dq)).sum := by
  intro ds
  induction ds with
  | nil => intro cq dq _; rfl
  | cons d ds ih =>
    intro cq dq hpos
    obtain ⟨hd, hds⟩ := List.forall_mem_cons.1 hpos
    simp only [triOf, specR, List.length_append, List.length_map, ringWalk_length, minList, List.map_cons, List.sum_cons]
    rw [ih (cq / d) (dq / d) hds,
      dist_goRight_min d _ _ (Nat.mod_lt _ hd) (Nat.mod_lt _ hd)]
    rfl

/-- consecutive hops: `a → ... → b` -/
def Chain : Nat → List Hop → Nat → Prop
  | a, [], b => a = b
  | a, h :: hs, b => h.cur = a ∧ Chain h.next hs b

theorem Steps.chain {dst : Nat} {tri : List (Nat × Nat × Nat)} : ∀ {hs : List Hop} {cur : Nat},
    Steps dst tri cur hs → Chain cur hs dst
  | [], _, h => h
  | _ :: _, _, ⟨_, hc, _, hrest⟩ => ⟨hc, hrest.chain⟩

/-- the walk visits fewer nodes than the torus has: the `while` loop has fuel enough -/
theorem specR_length_lt : ∀ (ds : List Nat) (sq cq dq : Nat), (∀ d ∈ ds, 0 < d) →
    (specR (triOf ds sq dq) cq).length + 1 ≤ prod ds := by
  intro ds
  induction ds with
  | nil => intro sq cq dq _; exact Nat.le_refl 1
  | cons d ds ih =>
    intro sq cq dq hpos
    obtain ⟨hd, hds⟩ := List.forall_mem_cons.1 hpos
    have h1 := ih (sq / d) (cq / d) (dq / d) hds
    have h2 := dist_lt d (goRight (sq % d) (dq % d) d) (cq % d) (dq % d) (Nat.mod_lt _ hd) (Nat.mod_lt _ hd)
    simp only [triOf, specR, List.length_append, List.length_map, ringWalk_length, prod]
    have h3 : (d - 1) * 1 ≤ (d - 1) * prod ds := Nat.mul_le_mul_left _ (by omega)
    have h4 : d * prod ds = (d - 1) * prod ds + prod ds := by
      conv => lhs; rw [show d = (d - 1) + 1 by omega, Nat.add_mul, Nat.one_mul]
    omega

end SgVerif.C26
