import SgVerif.C26.DragonflyLemmas
import SgVerif.C26.Loops
/-!
C26 — dragonfly: the wiring built by `generate_links` (model: `Dragonfly.genLinks`) proved for ALL shapes: what
`wiringOk_spec` (DragonflyLemmas.lean) reads off the executable `wiringOk`, here without evaluating it.

Every loop nest of `genLinks` is a left fold, over the list of its index tuples, of a step "cons the entries of this
iteration (numbered with the running unique id), increment the id" (lemmas in `Loops.lean`).  So an entry is in the final
list iff it is an entry of some `(index tuple, id)` of the *tagged* index list; the index lists have no duplicates, hence
the id of an index tuple is unique; the key `(router, slot)` of an inter-router entry determines its index tuple.
-/
namespace SgVerif.C26

theorem forRange_eq_foldl {σ : Type} (lo hi : Nat) (f : Nat → σ → σ) (s : σ) :
    forRange lo hi f s = (List.range' lo (hi - lo)).foldl (fun s i => f i s) s := by
  unfold forRange
  rw [List.range'_eq_map_range, List.foldl_map]

/-- one loop body: cons the entries of iteration `x` (numbered with the current unique id), increment the id -/
def stepW {ι : Type} (emit : ι → Nat → List DAssign) (x : ι) (s : Nat × List DAssign) : Nat × List DAssign :=
  (s.1 + 1, emit x s.1 ++ s.2)

def runW {ι : Type} (emit : ι → Nat → List DAssign) (xs : List ι) (s : Nat × List DAssign) : Nat × List DAssign :=
  xs.foldl (fun s x => stepW emit x s) s

def emitG (d : Dragonfly) (x : Nat × Nat × Nat) (uid : Nat) : List DAssign :=
  [⟨x.1 * d.B + x.2.2, .green x.2.1, .green (x.1 % d.C) x.2.1 x.2.2 uid false⟩,
   ⟨x.1 * d.B + x.2.1, .green x.2.2, .green (x.1 % d.C) x.2.1 x.2.2 uid true⟩]

def emitK (d : Dragonfly) (x : Nat × Nat × Nat × Nat) (uid : Nat) : List DAssign :=
  [⟨x.1 * d.B * d.C + x.2.2.1 * d.B + x.2.2.2, .black x.2.1, .black x.1 x.2.1 x.2.2.1 x.2.2.2 uid false⟩,
   ⟨x.1 * d.B * d.C + x.2.1 * d.B + x.2.2.2, .black x.2.2.1, .black x.1 x.2.1 x.2.2.1 x.2.2.2 uid true⟩]

def emitB (d : Dragonfly) (x : Nat × Nat) (uid : Nat) : List DAssign :=
  [⟨x.2 * d.B * d.C + x.1, .blue, .blue x.1 x.2 (x.1 * d.B * d.C + x.2) (x.2 * d.B * d.C + x.1) uid false⟩,
   ⟨x.1 * d.B * d.C + x.2, .blue, .blue x.1 x.2 (x.1 * d.B * d.C + x.2) (x.2 * d.B * d.C + x.1) uid true⟩]

/-- the index tuples of the three loop nests, bounds spelt `hi - lo` as `forRange` unfolds them (hence `- 0`), so that `genLinks_eq`
closes by `rfl` -/
def greenIdx (d : Dragonfly) : List (Nat × Nat × Nat) :=
  nest (List.range' 0 (d.G * d.C - 0)) (fun _ => nest (List.range' 0 (d.B - 0)) (fun j => List.range' (j + 1) (d.B - (j + 1))))

def blackIdx (d : Dragonfly) : List (Nat × Nat × Nat × Nat) :=
  nest (List.range' 0 (d.G - 0)) (fun _ => nest (List.range' 0 (d.C - 0)) (fun j =>
    nest (List.range' (j + 1) (d.C - (j + 1))) (fun _ => List.range' 0 (d.B - 0))))

def blueIdx (d : Dragonfly) : List (Nat × Nat) :=
  nest (List.range' 0 (d.G - 0)) (fun i => List.range' (i + 1) (d.G - (i + 1)))

/-- the first loop nest of `genLinks` (local links), word for word -/
def localPhase (d : Dragonfly) : Nat × List DAssign :=
  forRange 0 d.nRouters (fun i s =>
    forRange 0 d.N (fun n (s : Nat × List DAssign) =>
      let (uid, as) := s
      let up := DLink.localL i n uid true
      let dn := DLink.localL i n uid false
      let as := ⟨i, .node (n * d.lpl), up⟩ :: as
      let as := if d.split then ⟨i, .node (n * d.lpl + 1), dn⟩ :: as else as
      (uid + 1, as)) s) (d.uidOff, [])

/-- the state (next unique id, assignments) after the green phase / after the black phase -/
def stG (d : Dragonfly) : Nat × List DAssign := runW (emitG d) (greenIdx d) (localPhase d)
def stK (d : Dragonfly) : Nat × List DAssign := runW (emitK d) (blackIdx d) (stG d)

theorem genLinks_eq (d : Dragonfly) : d.genLinks = runW (emitB d) (blueIdx d) (stK d) := by
  unfold Dragonfly.genLinks stK stG localPhase
  simp only [forRange_eq_foldl, foldl_nest]
  rfl

theorem mem_greenIdx (d : Dragonfly) (i j k : Nat) : (i, j, k) ∈ greenIdx d ↔ i < d.G * d.C ∧ j < k ∧ k < d.B := by
  simp only [greenIdx, mem_nest, List.mem_range'_1]
  omega

theorem mem_blackIdx (d : Dragonfly) (i j k l : Nat) :
    (i, j, k, l) ∈ blackIdx d ↔ i < d.G ∧ j < k ∧ k < d.C ∧ l < d.B := by
  simp only [blackIdx, mem_nest, List.mem_range'_1]
  omega

theorem mem_blueIdx (d : Dragonfly) (i j : Nat) : (i, j) ∈ blueIdx d ↔ i < j ∧ j < d.G := by
  simp only [blueIdx, mem_nest, List.mem_range'_1]
  omega

theorem nodup_greenIdx (d : Dragonfly) : (greenIdx d).Nodup :=
  nodup_nest _ _ (List.nodup_range' 1) (fun _ => nodup_nest _ _ (List.nodup_range' 1) (fun _ => List.nodup_range' 1))

theorem nodup_blackIdx (d : Dragonfly) : (blackIdx d).Nodup :=
  nodup_nest _ _ (List.nodup_range' 1) (fun _ => nodup_nest _ _ (List.nodup_range' 1)
    (fun _ => nodup_nest _ _ (List.nodup_range' 1) (fun _ => List.nodup_range' 1)))

theorem nodup_blueIdx (d : Dragonfly) : (blueIdx d).Nodup :=
  nodup_nest _ _ (List.nodup_range' 1) (fun _ => List.nodup_range' 1)

theorem forRange_inv {σ : Type} (P : σ → Prop) (lo hi : Nat) (f : Nat → σ → σ) (s : σ) (h0 : P s)
    (hs : ∀ i s, P s → P (f i s)) : P (forRange lo hi f s) :=
  List.foldlRecOn _ _ h0 (fun s h _ _ => hs _ s h)

theorem localPhase_kind (d : Dragonfly) : ∀ a ∈ (localPhase d).2, a.slot.kind = 0 := by
  unfold localPhase
  apply forRange_inv (fun s : Nat × List DAssign => ∀ a ∈ s.2, a.slot.kind = 0)
  · intro a h; cases h
  · intro i s hs
    apply forRange_inv (fun s : Nat × List DAssign => ∀ a ∈ s.2, a.slot.kind = 0) _ _ _ _ hs
    intro n s hs
    obtain ⟨uid, as⟩ := s
    dsimp only
    split
    · exact List.forall_mem_cons.2 ⟨rfl, List.forall_mem_cons.2 ⟨rfl, hs⟩⟩
    · exact List.forall_mem_cons.2 ⟨rfl, hs⟩

theorem mem_genLinks (d : Dragonfly) (a : DAssign) :
    a ∈ d.genLinks.2 ↔ a ∈ (localPhase d).2 ∨ (∃ x u, (x, u) ∈ (greenIdx d).zipIdx (localPhase d).1 ∧ a ∈ emitG d x u) ∨
      (∃ x u, (x, u) ∈ (blackIdx d).zipIdx (stG d).1 ∧ a ∈ emitK d x u) ∨
      (∃ x u, (x, u) ∈ (blueIdx d).zipIdx (stK d).1 ∧ a ∈ emitB d x u) := by
  have run : ∀ {ι : Type} (emit : ι → Nat → List DAssign) (xs : List ι) (s : Nat × List DAssign),
      a ∈ (runW emit xs s).2 ↔ a ∈ s.2 ∨ ∃ x u, (x, u) ∈ xs.zipIdx s.1 ∧ a ∈ emit x u :=
    fun emit => mem_foldl_tag (σ := Nat × List DAssign) (·.1) (·.2) _ emit (fun _ _ => rfl) (fun _ _ => rfl) a
  rw [genLinks_eq, run, show a ∈ (stK d).2 ↔ _ from run _ _ _, show a ∈ (stG d).2 ↔ _ from run _ _ _, or_assoc, or_assoc]

/-- every iteration of a loop nest has the entries it emits in the final table, under the id it ran with -/
theorem green_mem (d : Dragonfly) (x : Nat × Nat × Nat) (hx : x ∈ greenIdx d) : ∃ u, ∀ a ∈ emitG d x u, a ∈ d.genLinks.2 :=
  (tag_total _ (localPhase d).1 x hx).imp fun u hu a ha => (mem_genLinks d a).2 (.inr (.inl ⟨x, u, hu, ha⟩))

theorem black_mem (d : Dragonfly) (x : Nat × Nat × Nat × Nat) (hx : x ∈ blackIdx d) : ∃ u, ∀ a ∈ emitK d x u, a ∈ d.genLinks.2 :=
  (tag_total _ (stG d).1 x hx).imp fun u hu a ha => (mem_genLinks d a).2 (.inr (.inr (.inl ⟨x, u, hu, ha⟩)))

theorem blue_mem (d : Dragonfly) (x : Nat × Nat) (hx : x ∈ blueIdx d) : ∃ u, ∀ a ∈ emitB d x u, a ∈ d.genLinks.2 :=
  (tag_total _ (stK d).1 x hx).imp fun u hu a ha => (mem_genLinks d a).2 (.inr (.inr (.inr ⟨x, u, hu, ha⟩)))

/-- each loop nest emits slots of its own colour -/
theorem emitG_kind (d : Dragonfly) (x : Nat × Nat × Nat) (u : Nat) : ∀ a ∈ emitG d x u, a.slot.kind = 1 :=
  List.forall_mem_cons.2 ⟨rfl, List.forall_mem_singleton.2 rfl⟩

theorem emitK_kind (d : Dragonfly) (x : Nat × Nat × Nat × Nat) (u : Nat) : ∀ a ∈ emitK d x u, a.slot.kind = 2 :=
  List.forall_mem_cons.2 ⟨rfl, List.forall_mem_singleton.2 rfl⟩

theorem emitB_kind (d : Dragonfly) (x : Nat × Nat) (u : Nat) : ∀ a ∈ emitB d x u, a.slot.kind = 3 :=
  List.forall_mem_cons.2 ⟨rfl, List.forall_mem_singleton.2 rfl⟩

theorem divmod_unique {M a b a' b' : Nat} (hb : b < M) (hb' : b' < M) (h : a * M + b = a' * M + b') :
    a = a' ∧ b = b' := by
  have e : b = b' := by rw [← Nat.mul_add_mod_of_lt (a := a) hb, h, Nat.mul_add_mod_of_lt hb']
  subst e
  exact ⟨Nat.eq_of_mul_eq_mul_right (by omega) (Nat.add_right_cancel h), rfl⟩

/-- the association used by the loops (`i * B * C`) versus the one of `peer` / `ridx` (`i * (C * B)`) -/
theorem mulBC (i B C : Nat) : i * B * C = i * (C * B) := by
  rw [Nat.mul_assoc, Nat.mul_comm B C]

theorem black_unique {B C i j l i' j' l' : Nat} (hj : j < C) (hl : l < B) (hj' : j' < C) (hl' : l' < B)
    (h : i * (C * B) + j * B + l = i' * (C * B) + j' * B + l') : i = i' ∧ j = j' ∧ l = l' := by
  obtain ⟨e1, e2⟩ := divmod_unique (a := i) (a' := i') (cb_lt j l C B hj hl) (cb_lt j' l' C B hj' hl') (by omega)
  obtain ⟨e3, e4⟩ := divmod_unique hl hl' e2
  exact ⟨e1, e3, e4⟩

theorem router_decomp (d : Dragonfly) (r : Nat) (hr : r < d.nRouters) :
    0 < d.C ∧ r / (d.C * d.B) < d.G ∧ (r / d.B) % d.C < d.C ∧ r % d.B < d.B ∧ r / d.B < d.G * d.C ∧
    r / d.B * d.B + r % d.B = r ∧ r / (d.C * d.B) * (d.C * d.B) + r % (d.C * d.B) = r ∧
    r / (d.C * d.B) * (d.C * d.B) + (r / d.B) % d.C * d.B + r % d.B = r := by
  unfold Dragonfly.nRouters at hr
  have hB : 0 < d.B := Nat.pos_of_lt_mul_left hr
  have hC : 0 < d.C := Nat.pos_of_lt_mul_left (Nat.pos_of_lt_mul_right hr)
  have e1 : d.G * d.C * d.B = d.C * d.B * d.G := by rw [Nat.mul_assoc, Nat.mul_comm]
  have e2 : d.G * d.C * d.B = d.B * (d.G * d.C) := Nat.mul_comm _ _
  have e3 : r / (d.C * d.B) = r / d.B / d.C := by rw [Nat.mul_comm, Nat.div_div_eq_div_mul]
  have e4 := Nat.div_add_mod' (r / d.B) d.C
  have e5 := Nat.div_add_mod' r d.B
  have e6 : r / d.B / d.C * (d.C * d.B) = r / d.B / d.C * d.C * d.B := by rw [Nat.mul_assoc]
  have e7 : (r / d.B / d.C * d.C + r / d.B % d.C) * d.B = r / d.B / d.C * d.C * d.B + r / d.B % d.C * d.B :=
    Nat.add_mul _ _ _
  refine ⟨hC, Nat.div_lt_of_lt_mul (by omega), Nat.mod_lt _ hC, Nat.mod_lt _ hB, Nat.div_lt_of_lt_mul (by omega),
    e5, Nat.div_add_mod' r (d.C * d.B), ?_⟩
  rw [e3, e6, ← e7, e4, e5]

theorem green_functional (d : Dragonfly) (u0 : Nat) (x x' : Nat × Nat × Nat) (u u' : Nat)
    (hx : (x, u) ∈ (greenIdx d).zipIdx u0) (hx' : (x', u') ∈ (greenIdx d).zipIdx u0) (e1 e2 : DAssign)
    (h1 : e1 ∈ emitG d x u) (h2 : e2 ∈ emitG d x' u') (hr : e1.router = e2.router) (hs : e1.slot = e2.slot) :
    e1.link = e2.link := by
  obtain ⟨i, j, k⟩ := x
  obtain ⟨i', j', k'⟩ := x'
  obtain ⟨-, hjk, hk⟩ := (mem_greenIdx d i j k).1 (List.fst_mem_of_mem_zipIdx hx)
  obtain ⟨-, hjk', hk'⟩ := (mem_greenIdx d i' j' k').1 (List.fst_mem_of_mem_zipIdx hx')
  have hj := Nat.lt_trans hjk hk
  have hj' := Nat.lt_trans hjk' hk'
  simp only [emitG, List.mem_cons, List.not_mem_nil, or_false] at h1 h2
  rcases h1 with rfl | rfl <;> rcases h2 with rfl | rfl <;> simp only [DSlot.green.injEq] at hr hs
  · obtain ⟨a1, a2⟩ := divmod_unique hk hk' hr
    subst a1 a2 hs
    rw [tag_functional _ (nodup_greenIdx d) _ _ _ _ hx hx']
  · have a := (divmod_unique hk hj' hr).2
    omega
  · have a := (divmod_unique hj hk' hr).2
    omega
  · obtain ⟨a1, a2⟩ := divmod_unique hj hj' hr
    subst a1 a2 hs
    rw [tag_functional _ (nodup_greenIdx d) _ _ _ _ hx hx']

theorem black_functional (d : Dragonfly) (u0 : Nat) (x x' : Nat × Nat × Nat × Nat) (u u' : Nat)
    (hx : (x, u) ∈ (blackIdx d).zipIdx u0) (hx' : (x', u') ∈ (blackIdx d).zipIdx u0) (e1 e2 : DAssign)
    (h1 : e1 ∈ emitK d x u) (h2 : e2 ∈ emitK d x' u') (hr : e1.router = e2.router) (hs : e1.slot = e2.slot) :
    e1.link = e2.link := by
  obtain ⟨i, j, k, l⟩ := x
  obtain ⟨i', j', k', l'⟩ := x'
  obtain ⟨-, hjk, hk, hl⟩ := (mem_blackIdx d i j k l).1 (List.fst_mem_of_mem_zipIdx hx)
  obtain ⟨-, hjk', hk', hl'⟩ := (mem_blackIdx d i' j' k' l').1 (List.fst_mem_of_mem_zipIdx hx')
  have hj := Nat.lt_trans hjk hk
  have hj' := Nat.lt_trans hjk' hk'
  simp only [emitK, List.mem_cons, List.not_mem_nil, or_false] at h1 h2
  rcases h1 with rfl | rfl <;> rcases h2 with rfl | rfl <;> simp only [DSlot.black.injEq, mulBC] at hr hs
  · obtain ⟨a1, a2, a3⟩ := black_unique hk hl hk' hl' hr
    subst a1 a2 a3 hs
    rw [tag_functional _ (nodup_blackIdx d) _ _ _ _ hx hx']
  · have a := (black_unique hk hl hj' hl' hr).2.1
    omega
  · have a := (black_unique hj hl hk' hl' hr).2.1
    omega
  · obtain ⟨a1, a2, a3⟩ := black_unique hj hl hj' hl' hr
    subst a1 a2 a3 hs
    rw [tag_functional _ (nodup_blackIdx d) _ _ _ _ hx hx']

theorem blue_functional (d : Dragonfly) (hGB : d.G ≤ d.C * d.B) (u0 : Nat) (x x' : Nat × Nat) (u u' : Nat)
    (hx : (x, u) ∈ (blueIdx d).zipIdx u0) (hx' : (x', u') ∈ (blueIdx d).zipIdx u0) (e1 e2 : DAssign)
    (h1 : e1 ∈ emitB d x u) (h2 : e2 ∈ emitB d x' u') (hr : e1.router = e2.router) :
    e1.link = e2.link := by
  obtain ⟨i, j⟩ := x
  obtain ⟨i', j'⟩ := x'
  obtain ⟨hij, hjG⟩ := (mem_blueIdx d i j).1 (List.fst_mem_of_mem_zipIdx hx)
  obtain ⟨hij', hjG'⟩ := (mem_blueIdx d i' j').1 (List.fst_mem_of_mem_zipIdx hx')
  have hj := Nat.lt_of_lt_of_le hjG hGB
  have hj' := Nat.lt_of_lt_of_le hjG' hGB
  have hi := Nat.lt_trans hij hj
  have hi' := Nat.lt_trans hij' hj'
  simp only [emitB, List.mem_cons, List.not_mem_nil, or_false] at h1 h2
  rcases h1 with rfl | rfl <;> rcases h2 with rfl | rfl <;> simp only [mulBC] at hr
  · obtain ⟨a1, a2⟩ := divmod_unique hi hi' hr
    subst a1 a2
    rw [tag_functional _ (nodup_blueIdx d) _ _ _ _ hx hx']
  · obtain ⟨a1, a2⟩ := divmod_unique hi hj' hr
    omega
  · obtain ⟨a1, a2⟩ := divmod_unique hj hi' hr
    omega
  · obtain ⟨a1, a2⟩ := divmod_unique hj hj' hr
    subst a1 a2
    rw [tag_functional _ (nodup_blueIdx d) _ _ _ _ hx hx']

theorem genLinks_key_functional (d : Dragonfly) (hGB : d.G ≤ d.C * d.B) (e1 e2 : DAssign)
    (h1 : e1 ∈ d.genLinks.2) (h2 : e2 ∈ d.genLinks.2) (hr : e1.router = e2.router) (hs : e1.slot = e2.slot)
    (hn : e1.slot.kind ≠ 0) : e1.link = e2.link := by
  -- equal slots have one colour, so both entries come from the same loop nest
  have hk := congrArg DSlot.kind hs
  rcases (mem_genLinks d e1).1 h1 with h | ⟨x, u, hx, ha⟩ | ⟨x, u, hx, ha⟩ | ⟨x, u, hx, ha⟩
  · exact absurd (localPhase_kind d e1 h) hn
  · rw [emitG_kind d x u e1 ha] at hk
    rcases (mem_genLinks d e2).1 h2 with h | ⟨x', u', hx', ha'⟩ | ⟨x', u', hx', ha'⟩ | ⟨x', u', hx', ha'⟩
    · rw [localPhase_kind d e2 h] at hk; cases hk
    · exact green_functional d _ x x' u u' hx hx' e1 e2 ha ha' hr hs
    · rw [emitK_kind d x' u' e2 ha'] at hk; cases hk
    · rw [emitB_kind d x' u' e2 ha'] at hk; cases hk
  · rw [emitK_kind d x u e1 ha] at hk
    rcases (mem_genLinks d e2).1 h2 with h | ⟨x', u', hx', ha'⟩ | ⟨x', u', hx', ha'⟩ | ⟨x', u', hx', ha'⟩
    · rw [localPhase_kind d e2 h] at hk; cases hk
    · rw [emitG_kind d x' u' e2 ha'] at hk; cases hk
    · exact black_functional d _ x x' u u' hx hx' e1 e2 ha ha' hr hs
    · rw [emitB_kind d x' u' e2 ha'] at hk; cases hk
  · rw [emitB_kind d x u e1 ha] at hk
    rcases (mem_genLinks d e2).1 h2 with h | ⟨x', u', hx', ha'⟩ | ⟨x', u', hx', ha'⟩ | ⟨x', u', hx', ha'⟩
    · rw [localPhase_kind d e2 h] at hk; cases hk
    · rw [emitG_kind d x' u' e2 ha'] at hk; cases hk
    · rw [emitK_kind d x' u' e2 ha'] at hk; cases hk
    · exact blue_functional d hGB _ x x' u u' hx hx' e1 e2 ha ha' hr

theorem green_pair (d : Dragonfly) (r : Nat) (hr : r < d.nRouters) (k : Nat) (hk : k < d.B) (hne : k ≠ r % d.B) :
    ∃ l, (⟨r, .green k, l⟩ : DAssign) ∈ d.genLinks.2 ∧
      (⟨r / d.B * d.B + k, .green (r % d.B), l.flip⟩ : DAssign) ∈ d.genLinks.2 := by
  obtain ⟨_, _, _, hb, hi, e, _, _⟩ := router_decomp d r hr
  rcases Nat.lt_or_gt_of_ne hne with h | h
  · obtain ⟨u, hu⟩ := green_mem d (r / d.B, k, r % d.B)
      ((mem_greenIdx d _ _ _).2 ⟨hi, h, hb⟩)
    refine ⟨.green (r / d.B % d.C) k (r % d.B) u false, hu _ ?_, hu _ ?_⟩
    · simp only [emitG, e, List.mem_cons, true_or]
    · simp only [emitG, DLink.flip, Bool.not_false, List.mem_cons, or_true, true_or]
  · obtain ⟨u, hu⟩ := green_mem d (r / d.B, r % d.B, k)
      ((mem_greenIdx d _ _ _).2 ⟨hi, h, hk⟩)
    refine ⟨.green (r / d.B % d.C) (r % d.B) k u true, hu _ ?_, hu _ ?_⟩
    · simp only [emitG, e, List.mem_cons, or_true, true_or]
    · simp only [emitG, DLink.flip, Bool.not_true, List.mem_cons, true_or]

theorem black_pair (d : Dragonfly) (r : Nat) (hr : r < d.nRouters) (k : Nat) (hk : k < d.C)
    (hne : k ≠ (r / d.B) % d.C) :
    ∃ l, (⟨r, .black k, l⟩ : DAssign) ∈ d.genLinks.2 ∧
      (⟨r / (d.C * d.B) * (d.C * d.B) + k * d.B + r % d.B, .black ((r / d.B) % d.C), l.flip⟩ : DAssign) ∈ d.genLinks.2 := by
  obtain ⟨_, hg, hc, hb, _, _, _, e⟩ := router_decomp d r hr
  rcases Nat.lt_or_gt_of_ne hne with h | h
  · obtain ⟨u, hu⟩ := black_mem d (r / (d.C * d.B), k, (r / d.B) % d.C, r % d.B)
      ((mem_blackIdx d _ _ _ _).2 ⟨hg, h, hc, hb⟩)
    refine ⟨.black (r / (d.C * d.B)) k ((r / d.B) % d.C) (r % d.B) u false,
      hu _ ?_, hu _ ?_⟩
    · simp only [emitK, mulBC, e, List.mem_cons, true_or]
    · simp only [emitK, mulBC, DLink.flip, Bool.not_false, List.mem_cons, or_true, true_or]
  · obtain ⟨u, hu⟩ := black_mem d (r / (d.C * d.B), (r / d.B) % d.C, k, r % d.B)
      ((mem_blackIdx d _ _ _ _).2 ⟨hg, h, hk, hb⟩)
    refine ⟨.black (r / (d.C * d.B)) ((r / d.B) % d.C) k (r % d.B) u true,
      hu _ ?_, hu _ ?_⟩
    · simp only [emitK, mulBC, e, List.mem_cons, or_true, true_or]
    · simp only [emitK, mulBC, DLink.flip, Bool.not_true, List.mem_cons, true_or]

theorem blue_pair (d : Dragonfly) (r : Nat) (hr : r < d.nRouters) (ho : r % (d.C * d.B) < d.G)
    (hne : r % (d.C * d.B) ≠ r / (d.C * d.B)) :
    ∃ l, (⟨r, .blue, l⟩ : DAssign) ∈ d.genLinks.2 ∧
      (⟨r % (d.C * d.B) * (d.C * d.B) + r / (d.C * d.B), .blue, l.flip⟩ : DAssign) ∈ d.genLinks.2 := by
  obtain ⟨_, hg, _, _, _, _, e, _⟩ := router_decomp d r hr
  rcases Nat.lt_or_gt_of_ne hne with h | h
  · obtain ⟨u, hu⟩ := blue_mem d (r % (d.C * d.B), r / (d.C * d.B))
      ((mem_blueIdx d _ _).2 ⟨h, hg⟩)
    refine ⟨.blue (r % (d.C * d.B)) (r / (d.C * d.B)) (r % (d.C * d.B) * (d.C * d.B) + r / (d.C * d.B)) r u false,
      hu _ ?_, hu _ ?_⟩
    · simp only [emitB, mulBC, e, List.mem_cons, true_or]
    · simp only [emitB, mulBC, e, DLink.flip, Bool.not_false, List.mem_cons, or_true, true_or]
  · obtain ⟨u, hu⟩ := blue_mem d (r / (d.C * d.B), r % (d.C * d.B))
      ((mem_blueIdx d _ _).2 ⟨h, ho⟩)
    refine ⟨.blue (r / (d.C * d.B)) (r % (d.C * d.B)) r (r % (d.C * d.B) * (d.C * d.B) + r / (d.C * d.B)) u true,
      hu _ ?_, hu _ ?_⟩
    · simp only [emitB, mulBC, e, List.mem_cons, or_true, true_or]
    · simp only [emitB, mulBC, e, DLink.flip, Bool.not_true, List.mem_cons, true_or]

theorem genLinks_pair (d : Dragonfly) (r : Nat) (hr : r < d.nRouters) (s : DSlot) (q : Nat) (hq : d.peer r s = some q) :
    ∃ l, (⟨r, s, l⟩ : DAssign) ∈ d.genLinks.2 ∧ (⟨q, d.backSlot r s, l.flip⟩ : DAssign) ∈ d.genLinks.2 := by
  rcases peer_cases d r s q hq with ⟨k, rfl, hk, hne, rfl⟩ | ⟨k, rfl, hk, hne, rfl⟩ | ⟨rfl, ho, hne, rfl⟩
  · exact green_pair d r hr k hk hne
  · exact black_pair d r hr k hk hne
  · exact blue_pair d r hr ho hne

/-- what `peer r s = some q` says about `q` and the two slots: all within the arrays, neither slot a node slot -/
theorem peer_inBounds (d : Dragonfly) (hGB : d.G ≤ d.C * d.B) (r : Nat) (hr : r < d.nRouters) (s : DSlot) (q : Nat)
    (hq : d.peer r s = some q) : q < d.nRouters ∧ d.slotInBounds s = true ∧ d.slotInBounds (d.backSlot r s) = true ∧
      s.kind ≠ 0 ∧ (d.backSlot r s).kind ≠ 0 := by
  obtain ⟨_, hg, hc, hb, hi, _, _, _⟩ := router_decomp d r hr
  have hn : d.nRouters = d.G * (d.C * d.B) := by unfold Dragonfly.nRouters; rw [Nat.mul_assoc]
  rcases peer_cases d r s q hq with ⟨k, rfl, hk, _, rfl⟩ | ⟨k, rfl, hk, _, rfl⟩ | ⟨rfl, ho', _, rfl⟩
  · exact ⟨cb_lt _ _ _ _ hi hk, by simp [Dragonfly.slotInBounds, hk], by simp [Dragonfly.slotInBounds, Dragonfly.backSlot, hb],
      Nat.succ_ne_zero _, Nat.succ_ne_zero _⟩
  · exact ⟨ridx_lt d ⟨r / (d.C * d.B), k, r % d.B⟩ ⟨hg, hk, hb⟩, by simp [Dragonfly.slotInBounds, hk],
      by simp [Dragonfly.slotInBounds, Dragonfly.backSlot, hc], Nat.succ_ne_zero _, Nat.succ_ne_zero _⟩
  · exact ⟨hn ▸ cb_lt _ _ _ _ ho' (Nat.lt_of_lt_of_le hg hGB), rfl, rfl, Nat.succ_ne_zero _, Nat.succ_ne_zero _⟩

/-- **the wiring of `generate_links`, for all shapes** with `G ≤ C*B` (a blue link of group `i` is held by router number
`j < G` of the group: it has to be a router of that group): the slot of router `r` and the back slot of its peer hold
the two halves of one link. -/
theorem genLinks_wiring_CB (d : Dragonfly) (hGB : d.G ≤ d.C * d.B) (r : Nat) (hr : r < d.nRouters) (s : DSlot) (q : Nat)
    (hq : d.peer r s = some q) :
    ∃ l, d.linkAt d.genLinks.2 r s = some l ∧ d.linkAt d.genLinks.2 q (d.backSlot r s) = some l.flip := by
  obtain ⟨l, m1, m2⟩ := genLinks_pair d r hr s q hq
  obtain ⟨hqlt, b1, b2, n1, n2⟩ := peer_inBounds d hGB r hr s q hq
  -- the first entry with the key holds the same link as the entry found above
  have key : ∀ r' s' l', (⟨r', s', l'⟩ : DAssign) ∈ d.genLinks.2 → s'.kind ≠ 0 →
      (d.genLinks.2.find? (fun a => a.router == r' && a.slot == s')).map (·.link) = some l' := by
    intro r' s' l' m n
    obtain ⟨e, he, hp, hf⟩ := find?_of_mem (fun a : DAssign => a.router == r' && a.slot == s') _ _ m (by simp)
    simp only [Bool.and_eq_true, beq_iff_eq] at hp
    rw [hf, Option.map_some, ← genLinks_key_functional d hGB _ e m he hp.1.symm hp.2.symm n]
  refine ⟨l, ?_, ?_⟩
  · unfold Dragonfly.linkAt
    rw [if_pos ⟨hr, b1⟩, key r s l m1 n1]
  · unfold Dragonfly.linkAt
    rw [if_pos ⟨hqlt, b2⟩, key _ _ _ m2 n2]

theorem wiringOk_of_le (d : Dragonfly) (hGB : d.G ≤ d.C * d.B) : d.wiringOk = true := by
  unfold Dragonfly.wiringOk
  simp only [List.all_eq_true, List.mem_range]
  intro r hr s _
  cases hq : d.peer r s with
  | none => rfl
  | some q =>
    obtain ⟨l, e1, e2⟩ := genLinks_wiring_CB d hGB r hr s q hq
    simp only [e1, e2, beq_self_eq_true]

/-- non-vacuity: a 2x2x2 dragonfly, router 2 = (1,0,0), its green link to blade 1 (router 3) -/
example : ∃ l, (⟨2, 2, 2, 1, false, false, true, 0⟩ : Dragonfly).linkAt (⟨2, 2, 2, 1, false, false, true, 0⟩ : Dragonfly).genLinks.2 2 (.green 1) = some l ∧
    (⟨2, 2, 2, 1, false, false, true, 0⟩ : Dragonfly).linkAt (⟨2, 2, 2, 1, false, false, true, 0⟩ : Dragonfly).genLinks.2 3
      ((⟨2, 2, 2, 1, false, false, true, 0⟩ : Dragonfly).backSlot 2 (.green 1)) = some l.flip :=
  genLinks_wiring_CB ⟨2, 2, 2, 1, false, false, true, 0⟩ (by decide) 2 (by decide) (.green 1) 3 (by decide)

/-- non-vacuity: the blue link of router 1 = (0,0,1) to router 4 = (1,0,0); here `G = 2 ≤ C*B = 4` -/
example := genLinks_wiring_CB ⟨2, 2, 2, 1, false, false, false, 7⟩ (by decide) 1 (by decide) .blue 4 (by decide)

example := genLinks_wiring_CB ⟨2, 3, 2, 2, true, true, true, 0⟩ (by decide) 5 (by decide) (.black 0) 1 (by decide)

theorem DConnected_linked (d : Dragonfly) (hGB : d.G ≤ d.C * d.B) : ∀ (ss : List DStep) (a b : Nat),
    DConnected d a ss b → DLinked d a ss b := by
  intro ss
  induction ss with
  | nil => intro a b h1; exact h1
  | cons s ss ih =>
    intro a b ⟨h2, hlt, q, h3, h4⟩
    obtain ⟨l, e1, e2⟩ := genLinks_wiring_CB d hGB a hlt s.slot q h3
    exact ⟨h2, q, l, e1, e2, ih _ _ h4⟩

example : (⟨3, 2, 2, 1, false, false, true, 5⟩ : Dragonfly).wiringOk = true := wiringOk_of_le _ (by decide)

end SgVerif.C26
