import SgVerif.C26.FatTreeLemmas
import SgVerif.C26.Loops
/-!
C26 — fat tree: the modelled CONSTRUCTION (`FatTree.build`: `generate_switches`, `generate_labels`,
`build_upper_levels` / `connect_node_to_parents` / `are_related` / `add_internal_link`) yields tables that are well
formed in the sense of `FTables.WF`, for ALL well-formed parameters.  The three nested folds of `build` are one loop over the
list `edges` of the `add_internal_link` calls, so the two port tables are the images of that list: every entry is an end of
an edge and every related pair has its entries; `find?` returns the first entry with the key.
-/
namespace SgVerif.C26
namespace FTBuild

theorem foldl_mul (xs : List Nat) : ∀ a, xs.foldl (· * ·) a = a * FatTree.nLeaves.prod' xs := by
  induction xs with
  | nil => intro a; simp [FatTree.nLeaves.prod']
  | cons x xs ih => intro a; rw [List.foldl_cons, ih, FatTree.nLeaves.prod', Nat.mul_assoc]

theorem digitsOf_length : ∀ (M : List Nat) (k : Nat), (digitsOf M k).length = M.length
  | [], _ => rfl
  | m :: ms, k => by simp only [digitsOf, List.length_cons, digitsOf_length ms]

theorem digitsOf_zero : ∀ (M : List Nat), digitsOf M 0 = List.replicate M.length 0
  | [] => rfl
  | m :: ms => by
    simp only [digitsOf, Nat.zero_mod, Nat.zero_div, digitsOf_zero ms, List.length_cons, List.replicate_succ]

theorem incLabel_digitsOf : ∀ (M : List Nat), (∀ m ∈ M, 0 < m) → ∀ k, incLabel (digitsOf M k) M = digitsOf M (k + 1)
  | [], _, _ => rfl
  | m :: ms, hpos, k => by
    obtain ⟨hm, hms⟩ := List.forall_mem_cons.1 hpos
    have hdm := Nat.div_add_mod k m
    have hlt := Nat.mod_lt k hm
    simp only [digitsOf, incLabel]
    by_cases hc : k % m + 1 ≥ m
    · rw [if_pos hc, incLabel_digitsOf ms hms]
      have h1 : 0 + m * (k / m + 1) = k + 1 := by rw [Nat.mul_add, Nat.mul_one]; omega
      rw [← h1, add_mul_mod_lt _ _ _ hm, add_mul_div_lt _ _ _ hm]
    · rw [if_neg hc]
      have h1 : (k % m + 1) + m * (k / m) = k + 1 := by omega
      rw [← h1, add_mul_mod_lt _ _ _ (by omega), add_mul_div_lt _ _ _ (by omega)]

theorem levelLabels_length (M : List Nat) : ∀ (n : Nat) (cur : List Nat), (levelLabels M n cur).length = n
  | 0, _ => rfl
  | n + 1, cur => by simp only [levelLabels, List.length_cons, levelLabels_length M n]

theorem levelLabels_get (M : List Nat) (hpos : ∀ m ∈ M, 0 < m) : ∀ (n k j : Nat), j < n →
    (levelLabels M n (digitsOf M k))[j]? = some (digitsOf M (k + j))
  | n + 1, k, 0, _ => by simp only [levelLabels, List.getElem?_cons_zero, Nat.add_zero]
  | n + 1, k, j + 1, h => by
    simp only [levelLabels, List.getElem?_cons_succ]
    rw [incLabel_digitsOf M hpos, levelLabels_get M hpos n (k + 1) j (by omega)]
    congr 2; omega

theorem digitsOf_lt : ∀ (M : List Nat), (∀ m ∈ M, 0 < m) → ∀ k i, i < M.length → (digitsOf M k).getD i 0 < M.getD i 0
  | m :: ms, hpos, k, 0, _ => by
    simp only [digitsOf, List.getD_cons_zero]
    exact Nat.mod_lt _ (List.forall_mem_cons.1 hpos).1
  | m :: ms, hpos, k, i + 1, h => by
    simp only [digitsOf, List.getD_cons_succ]
    exact digitsOf_lt ms (List.forall_mem_cons.1 hpos).2 _ i (by simpa using h)

theorem digitsOf_inj : ∀ (M : List Nat), (∀ m ∈ M, 0 < m) → ∀ k k', k < FatTree.nLeaves.prod' M → k' < FatTree.nLeaves.prod' M →
    (∀ i, i < M.length → (digitsOf M k).getD i 0 = (digitsOf M k').getD i 0) → k = k'
  | [], _, k, k', h1, h2, _ => by simp only [FatTree.nLeaves.prod'] at h1 h2; omega
  | m :: ms, hpos, k, k', h1, h2, h => by
    have h0 := h 0 (by simp)
    simp only [digitsOf, List.getD_cons_zero] at h0
    simp only [FatTree.nLeaves.prod'] at h1 h2
    have hq : k / m = k' / m := by
      apply digitsOf_inj ms (List.forall_mem_cons.1 hpos).2
      · exact Nat.div_lt_of_lt_mul h1
      · exact Nat.div_lt_of_lt_mul h2
      · intro i hi
        have := h (i + 1) (by simpa using hi)
        simpa only [digitsOf, List.getD_cons_succ] using this
    have e1 := Nat.div_add_mod k m
    have e2 := Nat.div_add_mod k' m
    rw [hq] at e1
    omega

theorem digitsOf_surj : ∀ (M : List Nat) (d : Nat → Nat), (∀ i, i < M.length → d i < M.getD i 0) →
    ∃ k, k < FatTree.nLeaves.prod' M ∧ ∀ i, i < M.length → (digitsOf M k).getD i 0 = d i
  | [], _, _ => ⟨0, by simp [FatTree.nLeaves.prod'], fun i h => by simp at h⟩
  | m :: ms, d, h => by
    have h0 : d 0 < m := by simpa using h 0 (by simp)
    obtain ⟨k', hk', hd'⟩ := digitsOf_surj ms (fun i => d (i + 1)) (fun i hi => by
      have := h (i + 1) (by simpa using hi)
      simpa only [List.getD_cons_succ] using this)
    refine ⟨d 0 + m * k', lt_radix h0 hk', ?_⟩
    intro i hi
    cases i with
    | zero => simp only [digitsOf, List.getD_cons_zero, add_mul_mod_lt _ _ _ h0]
    | succ i =>
      simp only [digitsOf, List.getD_cons_succ, add_mul_div_lt _ _ _ h0]
      exact hd' i (by simpa using hi)

def sumTo (len : Nat → Nat) : Nat → Nat
  | 0 => 0
  | n + 1 => sumTo len n + len n

theorem sumTo_mono (len : Nat → Nat) (l n : Nat) (h : l ≤ n) : sumTo len l ≤ sumTo len n := by
  induction h with
  | refl => exact Nat.le_refl _
  | step _ ih => exact Nat.le_trans ih (Nat.le_add_right _ _)

theorem sumTo_le (len : Nat → Nat) (n l : Nat) (h : l < n) : sumTo len l + len l ≤ sumTo len n :=
  sumTo_mono len (l + 1) n h

theorem sumTo_decomp (len : Nat → Nat) : ∀ n c, c < sumTo len n → ∃ l j, l < n ∧ j < len l ∧ c = sumTo len l + j := by
  intro n
  induction n with
  | zero => intro c h; simp only [sumTo] at h; omega
  | succ n ih =>
    intro c h
    simp only [sumTo] at h
    by_cases hc : c < sumTo len n
    · obtain ⟨l, j, h1, h2, h3⟩ := ih c hc
      exact ⟨l, j, by omega, h2, h3⟩
    · exact ⟨n, c - sumTo len n, by omega, by omega, by omega⟩

theorem flatMap_range_length {α : Type} (F : Nat → List α) (len : Nat → Nat) (hlen : ∀ i, (F i).length = len i) :
    ∀ n, ((List.range n).flatMap F).length = sumTo len n := by
  intro n
  induction n with
  | zero => rfl
  | succ n ih =>
    rw [List.range_succ, List.flatMap_append, List.length_append, ih]
    simp only [List.flatMap_cons, List.flatMap_nil, List.append_nil, hlen, sumTo]

theorem flatMap_range_get {α : Type} (F : Nat → List α) (len : Nat → Nat) (hlen : ∀ i, (F i).length = len i) :
    ∀ n l j, l < n → j < len l → ((List.range n).flatMap F)[sumTo len l + j]? = (F l)[j]? := by
  intro n
  induction n with
  | zero => intro l j h; omega
  | succ n ih =>
    intro l j hl hj
    rw [List.range_succ, List.flatMap_append]
    have hL := flatMap_range_length F len hlen n
    by_cases e : l = n
    · subst e
      rw [List.getElem?_append_right (by omega), hL]
      simp only [List.flatMap_cons, List.flatMap_nil, List.append_nil]
      congr 1; omega
    · have := sumTo_le len n l (by omega)
      rw [List.getElem?_append_left (by omega)]
      exact ih l j (by omega) hj

theorem zipmap_get {α β γ : Type} (g : α × β → γ) (as : List α) (bs : List β) (c : Nat) :
    ((as.zip bs).map g)[c]? = match as[c]?, bs[c]? with
      | some a, some b => some (g (a, b))
      | _, _ => none := by
  rw [List.zip_eq_zipWith, List.map_zipWith, List.getElem?_zipWith]
  cases as[c]? <;> cases bs[c]? <;> rfl

theorem map_getD_range (xs : List Nat) : (List.range xs.length).map (fun j => xs.getD j 0) = xs := by
  apply List.ext_getElem
  · simp
  · intro i h1 h2
    simp [List.getD_eq_getElem?_getD, h2]

/-- `nodes_by_level_[i]` -/
def bl (f : FatTree) (i : Nat) : Nat := f.nodesByLevel.getD i 0

/-- index in `nodes_` of the first node of level `l` (the `levelStart` of `FatTree.build`) -/
def levelStart (f : FatTree) (l : Nat) : Nat :=
  ((List.range l).map (fun i => f.nodesByLevel.getD i 0)).foldl (· + ·) 0

theorem levelStart_eq (f : FatTree) : ∀ l, levelStart f l = sumTo (bl f) l := by
  intro l
  induction l with
  | zero => rfl
  | succ l ih =>
    have : levelStart f (l + 1) = levelStart f l + bl f l := by
      simp only [levelStart, bl, List.range_succ, List.map_append, List.foldl_append, List.map_cons, List.map_nil,
        List.foldl_cons, List.foldl_nil]
    rw [this, ih, sumTo]

/-- `allOf`, `labBlock`, `labelsOf`, `mkNode`: the `let`s and the final lambda of `FatTree.mkNodes` under names (`mkNodes_eq`, by `rfl`) -/
def allOf (f : FatTree) : List (Int × Nat × Nat) :=
  let n := f.nLeaves
  let leaves := (List.range n).map (fun (i : Nat) => (Int.ofNat i, 0, f.posOff + i))
  let sw := ((List.range f.levels).flatMap (fun i => (List.range (f.nodesByLevel.getD (i + 1) 0)).map (fun j => (i + 1, j))))
  let sw := (List.range sw.length).zip sw |>.map (fun (o, (lvl, j)) => (Int.ofNat (2 * n) - 1 - Int.ofNat o, lvl, j))
  leaves ++ sw

def labBlock (f : FatTree) (i : Nat) : List (List Nat) :=
  levelLabels (f.maxLabel i) (f.nodesByLevel.getD i 0) (List.replicate f.levels 0)

def labelsOf (f : FatTree) : List (List Nat) := (List.range (f.levels + 1)).flatMap (labBlock f)

def mkNode (x : (Int × Nat × Nat) × List Nat) : FNode := ⟨x.1.1, x.1.2.1, x.1.2.2, x.2⟩

theorem mkNodes_eq (f : FatTree) : f.mkNodes = ((allOf f).zip (labelsOf f)).map mkNode := rfl

theorem allOf_levels (f : FatTree) :
    (allOf f).map (fun x => x.2.1) = (List.range (f.levels + 1)).flatMap (fun l => List.replicate (bl f l) l) := by
  unfold allOf
  rw [List.map_append, List.range_succ_eq_map, List.flatMap_cons, List.flatMap_map]
  congr 1
  · rw [List.map_map]
    exact List.map_const'.trans (by rw [List.length_range]; rfl)
  · rw [List.map_map, show ((fun x : Int × Nat × Nat => x.2.1) ∘ fun (x : Nat × Nat × Nat) =>
        (Int.ofNat (2 * f.nLeaves) - 1 - Int.ofNat x.1, x.2.1, x.2.2)) = (fun b : Nat × Nat => b.1) ∘ Prod.snd from rfl,
      ← List.map_map, List.map_snd_zip (by simp), List.map_flatMap]
    congr 1
    funext i
    rw [List.map_map]
    exact List.map_const'.trans (by rw [List.length_range]; rfl)

theorem maxLabel_length (f : FatTree) (l : Nat) : (f.maxLabel l).length = f.levels := by
  simp [FatTree.maxLabel]

theorem maxLabel_getD (f : FatTree) (l i : Nat) (hi : i < f.levels) :
    (f.maxLabel l).getD i 0 = if i + 1 > l then f.down.getD i 0 else f.up.getD i 0 := by
  rw [FatTree.maxLabel, List.getD_eq_getElem?_getD, List.getElem?_map, List.getElem?_range hi]
  rfl

theorem maxLabel_pos (f : FatTree) (hf : f.WF) (l : Nat) : ∀ m ∈ f.maxLabel l, 0 < m := by
  unfold FatTree.maxLabel
  simp only [List.mem_map, List.mem_range]
  rintro m ⟨j, hj, rfl⟩
  split
  · exact (hf.2 j hj).1
  · exact (hf.2 j hj).2.1

theorem bl_eq (f : FatTree) (hdown : f.down.length = f.levels) : ∀ l, l ≤ f.levels → bl f l = FatTree.nLeaves.prod' (f.maxLabel l) := by
  intro l hl
  cases l with
  | zero =>
    have h0 : f.maxLabel 0 = f.down := by
      unfold FatTree.maxLabel
      simp only [gt_iff_lt, Nat.zero_lt_succ, if_true]
      rw [← hdown]; exact map_getD_range f.down
    rw [h0]; rfl
  | succ i =>
    have hi : i < f.levels := by omega
    unfold bl FatTree.nodesByLevel
    rw [List.getD_cons_succ, List.getD_eq_getElem?_getD, List.getElem?_map, List.getElem?_range hi]
    simp only [Option.map_some, Option.getD_some]
    rw [foldl_mul, Nat.one_mul]
    congr 1
    unfold FatTree.maxLabel
    apply List.map_congr_left
    intro j _
    split <;> split <;> first | rfl | omega

/-- the node table read by position, both ways: the `j`-th node of level `l` sits at `levelStart f l + j`, has level `l` and the
digits of `j` (radices `maxLabel l`) as label; and every entry of the table is such a node -/
structure NodesOk (f : FatTree) (nodes : List FNode) : Prop where
  get : ∀ l, l ≤ f.levels → ∀ j, j < bl f l →
    ∃ n, nodes[levelStart f l + j]? = some n ∧ n.level = l ∧ n.label = digitsOf (f.maxLabel l) j
  inv : ∀ c n, nodes[c]? = some n → n.level ≤ f.levels ∧
    ∃ j, j < bl f n.level ∧ c = levelStart f n.level + j ∧ n.label = digitsOf (f.maxLabel n.level) j

theorem all_labels_get (f : FatTree) (hf : f.WF) (l : Nat) (hl : l ≤ f.levels) (j : Nat) (hj : j < bl f l) :
    (∃ a, (allOf f)[sumTo (bl f) l + j]? = some a ∧ a.2.1 = l) ∧
    (labelsOf f)[sumTo (bl f) l + j]? = some (digitsOf (f.maxLabel l) j) := by
  constructor
  · apply Option.map_eq_some_iff.1
    rw [← List.getElem?_map, allOf_levels, flatMap_range_get (fun l => List.replicate (bl f l) l) (bl f) (fun i => by simp)
      (f.levels + 1) l j (by omega) hj, List.getElem?_replicate, if_pos hj]
  · unfold labelsOf
    rw [flatMap_range_get (labBlock f) (bl f) (fun i => levelLabels_length _ _ _) (f.levels + 1) l j (by omega) hj]
    unfold labBlock
    have := levelLabels_get (f.maxLabel l) (maxLabel_pos f hf l) (bl f l) 0 j hj
    rw [digitsOf_zero, maxLabel_length, Nat.zero_add] at this
    exact this

theorem mkNodes_ok (f : FatTree) (hf : f.WF) : NodesOk f f.mkNodes := by
  constructor
  · intro l hl j hj
    obtain ⟨⟨a, ha, hal⟩, hb⟩ := all_labels_get f hf l hl j hj
    rw [mkNodes_eq, zipmap_get, levelStart_eq, ha, hb]
    exact ⟨_, rfl, hal, rfl⟩
  · intro c n h
    rw [mkNodes_eq, zipmap_get] at h
    split at h
    · rename_i a b ha hb
      have hc : c < (labelsOf f).length := (List.getElem?_eq_some_iff.1 hb).1
      unfold labelsOf at hc
      rw [flatMap_range_length (labBlock f) (bl f) (fun i => levelLabels_length _ _ _)] at hc
      obtain ⟨l, j, hl, hj, hcj⟩ := sumTo_decomp (bl f) _ c hc
      obtain ⟨⟨a', ha', hal⟩, hb'⟩ := all_labels_get f hf l (by omega) j hj
      rw [← hcj] at ha' hb'
      rw [ha] at ha'; rw [hb] at hb'
      cases ha'; cases hb'
      cases h
      have hlev : (mkNode (a, digitsOf (f.maxLabel l) j)).level = l := hal
      rw [hlev]
      exact ⟨by omega, j, hj, by rw [levelStart_eq]; exact hcj, rfl⟩
    · cases h

abbrev Entry := Nat × Nat × FLink
abbrev St := Nat × List Entry × List Entry

/-- one `add_internal_link` (innermost loop, over the `num_port_lower_level_[level]` cables of one parent/child pair) -/
def stepJ (f : FatTree) (ci pi : Nat) (child parent : FNode) (st : St) (j : Nat) : St :=
  (st.1 + 1,
   (pi, child.label.getD child.level 0 + j * f.down.getD child.level 0, (⟨ci, pi, st.1⟩ : FLink)) :: st.2.1,
   (ci, parent.label.getD child.level 0 + j * f.up.getD child.level 0, (⟨ci, pi, st.1⟩ : FLink)) :: st.2.2)

/-- one candidate parent of `connect_node_to_parents` -/
def stepP (f : FatTree) (nodes : List FNode) (ci : Nat) (child : FNode) (st : St) (pi : Nat) : St :=
  match nodes[pi]? with
  | none => st
  | some parent =>
    if areRelated f.levels parent child then
      (List.range (f.count.getD child.level 0)).foldl (stepJ f ci pi child parent) st
    else st

/-- one `connect_node_to_parents(node)` -/
def stepC (f : FatTree) (nodes : List FNode) (st : St) (ci : Nat) : St :=
  match nodes[ci]? with
  | none => st
  | some child =>
    ((List.range (f.nodesByLevel.getD (child.level + 1) 0)).map (fun i => levelStart f (child.level + 1) + i)).foldl
      (stepP f nodes ci child) st

def buildSt (f : FatTree) (nodes : List FNode) : St :=
  (List.range (levelStart f f.levels)).foldl (stepC f nodes) (f.uidOff, [], [])

theorem build_eq (f : FatTree) :
    f.build = ⟨f.mkNodes, (buildSt f f.mkNodes).2.1, (buildSt f f.mkNodes).2.2⟩ := rfl

/-- one `add_internal_link` call: the cable number `j` between a node and a related node of the next level -/
structure Edge where
  ci : Nat
  child : FNode
  pi : Nat
  parent : FNode
  j : Nat

/-- the calls of `add_internal_link` in the order `build_upper_levels` makes them -/
def edges (f : FatTree) (nodes : List FNode) : List Edge :=
  (List.range (levelStart f f.levels)).flatMap fun ci => nodes[ci]?.toList.flatMap fun child =>
    ((List.range (f.nodesByLevel.getD (child.level + 1) 0)).map (fun i => levelStart f (child.level + 1) + i)).flatMap fun pi =>
      nodes[pi]?.toList.flatMap fun parent =>
        if areRelated f.levels parent child then
          (List.range (f.count.getD child.level 0)).map fun j => ⟨ci, child, pi, parent, j⟩
        else []

theorem mem_edges (f : FatTree) (nodes : List FNode) (x : Edge) :
    x ∈ edges f nodes ↔ x.ci < levelStart f f.levels ∧ nodes[x.ci]? = some x.child ∧
      (∃ i, i < bl f (x.child.level + 1) ∧ levelStart f (x.child.level + 1) + i = x.pi) ∧ nodes[x.pi]? = some x.parent ∧
      areRelated f.levels x.parent x.child = true ∧ x.j < f.count.getD x.child.level 0 := by
  obtain ⟨ci, child, pi, parent, j⟩ := x
  simp only [edges, List.mem_flatMap, List.mem_range, List.mem_map, Option.mem_toList, List.mem_ite_nil_right, bl]
  constructor
  · rintro ⟨_, h1, _, hc, _, ⟨i, hi, rfl⟩, _, hp, hr, _, hj, e⟩
    cases e
    exact ⟨h1, hc, ⟨i, hi, rfl⟩, hp, hr, hj⟩
  · rintro ⟨h1, hc, hi, hp, hr, hj⟩
    exact ⟨ci, h1, child, hc, pi, hi, parent, hp, hr, j, hj, rfl⟩

def cEnt (f : FatTree) (x : Edge) (u : Nat) : Entry :=
  (x.pi, x.child.label.getD x.child.level 0 + x.j * f.down.getD x.child.level 0, ⟨x.ci, x.pi, u⟩)

def pEnt (f : FatTree) (x : Edge) (u : Nat) : Entry :=
  (x.ci, x.parent.label.getD x.child.level 0 + x.j * f.up.getD x.child.level 0, ⟨x.ci, x.pi, u⟩)

def stepE (f : FatTree) (st : St) (x : Edge) : St := (st.1 + 1, cEnt f x st.1 :: st.2.1, pEnt f x st.1 :: st.2.2)

theorem buildSt_edges (f : FatTree) (nodes : List FNode) :
    buildSt f nodes = (edges f nodes).foldl (stepE f) (f.uidOff, [], []) := by
  unfold buildSt edges
  rw [List.foldl_flatMap]
  congr 1
  funext st ci
  unfold stepC
  cases nodes[ci]? with
  | none => rfl
  | some child =>
    simp only [Option.toList, List.flatMap_cons, List.flatMap_nil, List.append_nil, List.foldl_flatMap]
    congr 1
    funext st pi
    unfold stepP
    cases nodes[pi]? with
    | none => rfl
    | some parent =>
      simp only [List.foldl_cons, List.foldl_nil]
      by_cases h : areRelated f.levels parent child = true
      · rw [if_pos h, if_pos h, List.foldl_map]; rfl
      · rw [if_neg h, if_neg h]; rfl

theorem mem_children (f : FatTree) (nodes : List FNode) (e : Entry) :
    e ∈ (buildSt f nodes).2.1 ↔ ∃ x u, (x, u) ∈ (edges f nodes).zipIdx f.uidOff ∧ e = cEnt f x u := by
  rw [buildSt_edges, mem_foldl_tag (·.1) (·.2.1) (stepE f) (fun x u => [cEnt f x u]) (fun _ _ => rfl) (fun _ _ => rfl)]
  simp only [List.not_mem_nil, false_or, List.mem_singleton]

theorem mem_parents (f : FatTree) (nodes : List FNode) (e : Entry) :
    e ∈ (buildSt f nodes).2.2 ↔ ∃ x u, (x, u) ∈ (edges f nodes).zipIdx f.uidOff ∧ e = pEnt f x u := by
  rw [buildSt_edges, mem_foldl_tag (·.1) (·.2.2) (stepE f) (fun x u => [pEnt f x u]) (fun _ _ => rfl) (fun _ _ => rfl)]
  simp only [List.not_mem_nil, false_or, List.mem_singleton]

theorem areRelated_iff {L : Nat} {p c : FNode} :
    areRelated L p c = true ↔
      p.level = c.level + 1 ∧ ∀ i, i < L → i ≠ c.level → p.label.getD i 0 = c.label.getD i 0 := by
  unfold areRelated
  simp only [Bool.and_eq_true, beq_iff_eq, List.all_eq_true, List.mem_range, Bool.or_eq_true]
  refine and_congr_right fun h1 => forall₂_congr fun i _ => ?_
  rw [Decidable.or_iff_not_imp_right, h1, Nat.add_right_cancel_iff]

theorem node_digit_lt (f : FatTree) (hf : f.WF) (nodes : List FNode) (hN : NodesOk f nodes) (c : Nat) (n : FNode)
    (hc : nodes[c]? = some n) (i : Nat) (hi : i < f.levels) :
    n.label.getD i 0 < if i + 1 > n.level then f.down.getD i 0 else f.up.getD i 0 := by
  obtain ⟨_, j, _, _, hlab⟩ := hN.inv c n hc
  rw [hlab, ← maxLabel_getD _ _ _ hi]
  exact digitsOf_lt _ (maxLabel_pos f hf _) j i (by rw [maxLabel_length]; exact hi)

/-- all mixed-radix combinations occur at every level: one level above a node `cn` (`p` its level) or one level below
(`p` that level) there is the node labelled like `cn` except digit `p := v`; the radices of the two levels differ at
digit `p` only -/
theorem node_with_digit (f : FatTree) (hf : f.WF) (nodes : List FNode) (hN : NodesOk f nodes)
    (hbl : ∀ l, l ≤ f.levels → bl f l = FatTree.nLeaves.prod' (f.maxLabel l)) (c : Nat) (cn : FNode)
    (hc : nodes[c]? = some cn) (l' p v : Nat) (hl' : l' ≤ f.levels)
    (hadj : l' = p + 1 ∧ cn.level = p ∨ l' = p ∧ cn.level = p + 1)
    (hv : p < f.levels → v < (f.maxLabel l').getD p 0) :
    ∃ n, (∃ k, nodes[levelStart f l' + k]? = some n) ∧ n.level = l' ∧
      ∀ i, i < f.levels → n.label.getD i 0 = if i = p then v else cn.label.getD i 0 := by
  obtain ⟨k, hk, hd⟩ := digitsOf_surj (f.maxLabel l') (fun i => if i = p then v else cn.label.getD i 0) (by
    intro i hi
    rw [maxLabel_length] at hi
    by_cases e : i = p
    · rw [if_pos e, e]; exact hv (e ▸ hi)
    · rw [if_neg e]
      have := node_digit_lt f hf nodes hN c cn hc i hi
      rw [maxLabel_getD _ _ _ hi]
      split at this <;> split <;> first | exact this | omega)
  rw [← hbl l' hl'] at hk
  obtain ⟨n, hn, hnl, hnlab⟩ := hN.get l' hl' k hk
  refine ⟨n, ⟨k, hn⟩, hnl, ?_⟩
  intro i hi
  rw [hnlab]
  exact hd i (by rw [maxLabel_length]; exact hi)

theorem index_lt_top (f : FatTree) (l k : Nat) (hl : l < f.levels) (hk : k < bl f l) :
    levelStart f l + k < levelStart f f.levels := by
  rw [levelStart_eq, levelStart_eq]
  have := sumTo_le (bl f) f.levels l hl
  omega

theorem edge_facts (f : FatTree) (hf : f.WF) (nodes : List FNode) (hN : NodesOk f nodes) (x : Edge) (hx : x ∈ edges f nodes) :
    nodes[x.ci]? = some x.child ∧ nodes[x.pi]? = some x.parent ∧ x.parent.level = x.child.level + 1 ∧
    (∀ i, i < f.levels → i ≠ x.child.level → x.parent.label.getD i 0 = x.child.label.getD i 0) ∧
    (x.child.level < f.levels → x.child.label.getD x.child.level 0 < f.down.getD x.child.level 0 ∧
      x.parent.label.getD x.child.level 0 < f.up.getD x.child.level 0) := by
  obtain ⟨_, hc, _, hp, hr, _⟩ := (mem_edges f nodes x).1 hx
  obtain ⟨r1, r2⟩ := areRelated_iff.1 hr
  refine ⟨hc, hp, r1, r2, fun hl => ⟨?_, ?_⟩⟩
  · have := node_digit_lt f hf nodes hN _ _ hc _ hl
    rwa [if_pos (Nat.lt_succ_self _)] at this
  · have := node_digit_lt f hf nodes hN _ _ hp _ hl
    rwa [r1, if_neg (Nat.lt_irrefl _)] at this

theorem digit_port {lab j w : Nat} (h : lab < w) : lab = (lab + j * w) % w := by
  rw [Nat.add_mul_mod_self_right, Nat.mod_eq_of_lt h]

/-- **every related pair gets its cables**: the child is below the top level, so `connect_node_to_parents` runs on it, and
the parent is among the nodes of the next level it scans -/
theorem edge_tagged (f : FatTree) (nodes : List FNode) (hN : NodesOk f nodes) (ci pi : Nat) (child parent : FNode)
    (hc : nodes[ci]? = some child) (hp : nodes[pi]? = some parent) (hlev : child.level < f.levels)
    (hr : areRelated f.levels parent child = true) (j : Nat) (hj : j < f.count.getD child.level 0) :
    ∃ u, ((⟨ci, child, pi, parent, j⟩ : Edge), u) ∈ (edges f nodes).zipIdx f.uidOff := by
  obtain ⟨_, j0, hj0, hcj0, _⟩ := hN.inv ci child hc
  obtain ⟨_, i, hi, hpi, _⟩ := hN.inv pi parent hp
  rw [(areRelated_iff.1 hr).1] at hi hpi
  exact tag_total _ _ _ ((mem_edges f nodes _).2 ⟨hcj0 ▸ index_lt_top f _ _ hlev hj0, hc, ⟨i, hi, hpi.symm⟩, hp, hr, hj⟩)

theorem build_up (f : FatTree) (hf : f.WF) (nodes : List FNode) (hN : NodesOk f nodes)
    (hbl : ∀ l, l ≤ f.levels → bl f l = FatTree.nLeaves.prod' (f.maxLabel l))
    (c : Nat) (cn : FNode) (hc : nodes[c]? = some cn) (hlev : cn.level < f.levels) (port : Nat)
    (hport : port < f.up.getD cn.level 0 * f.count.getD cn.level 0) :
    ∃ (l : FLink) (pn : FNode),
      ((buildSt f nodes).2.2.find? (fun e => e.1 == c && e.2.1 == port)).map (·.2.2) = some l ∧ l.child = c ∧
      nodes[l.parent]? = some pn ∧ pn.level = cn.level + 1 ∧
      LabelSet f.levels pn.label cn.label cn.level (port % f.up.getD cn.level 0) := by
  have hw : 0 < f.up.getD cn.level 0 := (hf.2 _ hlev).2.1
  -- the related parent with digit `port % w`: its cable number `port / w` is stored at `port`
  obtain ⟨pn, ⟨k, hpn⟩, hpl, hplab⟩ := node_with_digit f hf nodes hN hbl c cn hc (cn.level + 1) cn.level
    (port % f.up.getD cn.level 0) (by omega) (Or.inl ⟨rfl, rfl⟩)
    (fun _ => by rw [maxLabel_getD _ _ _ hlev, if_neg (by omega)]; exact Nat.mod_lt _ hw)
  obtain ⟨u, hu⟩ := edge_tagged f nodes hN c _ cn pn hc hpn hlev
    (areRelated_iff.2 ⟨hpl, fun i hi hne => by rw [hplab i hi, if_neg hne]⟩) _ (Nat.div_lt_of_lt_mul hport)
  -- the first entry with the key is the parent end of an edge from `c`
  obtain ⟨e, he, hk, hfind⟩ := find?_of_mem (fun e : Entry => e.1 == c && e.2.1 == port) _ _
    ((mem_parents f nodes _).2 ⟨_, u, hu, rfl⟩) (by
      simp only [pEnt, Bool.and_eq_true, beq_iff_eq, true_and]
      rw [hplab _ hlev, if_pos rfl, Nat.mul_comm]; exact Nat.mod_add_div _ _)
  simp only [Bool.and_eq_true, beq_iff_eq] at hk
  obtain ⟨h1, h2⟩ := hk
  obtain ⟨x, u', hx, rfl⟩ := (mem_parents f nodes e).1 he
  obtain ⟨g1, g2, g3, g4, g5⟩ := edge_facts f hf nodes hN x (List.fst_mem_of_mem_zipIdx hx)
  change x.ci = c at h1
  rw [h1, hc] at g1
  cases g1
  refine ⟨_, x.parent, by rw [hfind]; rfl, h1, g2, g3, ?_⟩
  intro i hi
  by_cases e' : i = x.child.level
  · rw [if_pos e', e', ← h2]
    exact digit_port (g5 hlev).2
  · rw [if_neg e']; exact g4 i hi e'

theorem build_down (f : FatTree) (hf : f.WF) (nodes : List FNode) (hN : NodesOk f nodes)
    (hbl : ∀ l, l ≤ f.levels → bl f l = FatTree.nLeaves.prod' (f.maxLabel l))
    (c : Nat) (cn : FNode) (hc : nodes[c]? = some cn) (hlev : cn.level ≠ 0) (port : Nat)
    (hport : port < f.down.getD (cn.level - 1) 0 * f.count.getD (cn.level - 1) 0) :
    ∃ (l : FLink) (ch : FNode),
      ((buildSt f nodes).2.1.find? (fun e => e.1 == c && e.2.1 == port)).map (·.2.2) = some l ∧ l.parent = c ∧
      nodes[l.child]? = some ch ∧ ch.level + 1 = cn.level ∧
      LabelSet f.levels ch.label cn.label (cn.level - 1) (port % f.down.getD (cn.level - 1) 0) := by
  obtain ⟨p, hp⟩ := Nat.exists_eq_add_one_of_ne_zero hlev
  rw [hp, Nat.add_sub_cancel] at hport ⊢
  have hlm : p + 1 ≤ f.levels := hp ▸ (hN.inv c cn hc).1
  have hm : 0 < f.down.getD p 0 := (hf.2 _ hlm).1
  -- the related child with digit `port % m`: its cable number `port / m` is stored at `port`
  obtain ⟨ch, ⟨k, hch⟩, rfl, hchlab⟩ := node_with_digit f hf nodes hN hbl c cn hc p p
    (port % f.down.getD p 0) (Nat.le_of_lt hlm) (Or.inr ⟨rfl, hp⟩)
    (fun _ => by rw [maxLabel_getD _ _ _ hlm, if_pos (Nat.lt_add_one _)]; exact Nat.mod_lt _ hm)
  obtain ⟨u, hu⟩ := edge_tagged f nodes hN _ c ch cn hch hc hlm
    (areRelated_iff.2 ⟨hp, fun i hi hne => by rw [hchlab i hi, if_neg hne]⟩) _ (Nat.div_lt_of_lt_mul hport)
  -- the first entry with the key is the child end of an edge to `c`
  obtain ⟨e, he, hk, hfind⟩ := find?_of_mem (fun e : Entry => e.1 == c && e.2.1 == port) _ _
    ((mem_children f nodes _).2 ⟨_, u, hu, rfl⟩) (by
      simp only [cEnt, Bool.and_eq_true, beq_iff_eq, true_and]
      rw [hchlab _ hlm, if_pos rfl, Nat.mul_comm]; exact Nat.mod_add_div _ _)
  simp only [Bool.and_eq_true, beq_iff_eq] at hk
  obtain ⟨h1, h2⟩ := hk
  obtain ⟨x, u', hx, rfl⟩ := (mem_children f nodes e).1 he
  obtain ⟨g1, g2, g3, g4, g5⟩ := edge_facts f hf nodes hN x (List.fst_mem_of_mem_zipIdx hx)
  change x.pi = c at h1
  rw [h1, hc] at g2
  cases g2
  have r3 : x.child.level = ch.level := Nat.succ.inj (g3.symm.trans hp)
  refine ⟨_, x.child, by rw [hfind]; rfl, h1, g1, by rw [r3], ?_⟩
  intro i hi
  by_cases e' : i = ch.level
  · rw [if_pos e', e', ← h2, ← r3]
    exact digit_port (g5 (r3 ▸ hlm)).1
  · rw [if_neg e']; exact (g4 i hi (r3 ▸ e')).symm

/-- **the modelled construction is well formed, for all well-formed parameters.**
Only hypothesis besides `f.WF`: `num_children_per_node_` has exactly `levels` entries (the parser guarantees it;
`nLeaves` multiplies the WHOLE list while the labels only use the first `levels` radices). -/
theorem build_wf_of_down (f : FatTree) (hf : f.WF) (hdown : f.down.length = f.levels) : FTables.WF f f.build := by
  have hN := mkNodes_ok f hf
  have hbl := bl_eq f hdown
  rw [build_eq]
  refine ⟨?_, ?_, ?_, ?_, ?_⟩
  · intro c cn hc
    exact (hN.inv c cn hc).1
  · intro c cn hc hlev port hport
    exact build_up f hf _ hN hbl c cn hc hlev port hport
  · intro c cn hc hlev port hport
    exact build_down f hf _ hN hbl c cn hc hlev port hport
  · intro c cn hc h0 j hj
    have := node_digit_lt f hf _ hN c cn hc j hj
    rw [h0, if_pos (by omega)] at this
    exact this
  · intro c cn c2 cn2 hc hc2 h0 h02 hag
    obtain ⟨_, j, hj, hcj, hlab⟩ := hN.inv c cn hc
    obtain ⟨_, j2, hj2, hcj2, hlab2⟩ := hN.inv c2 cn2 hc2
    rw [h0] at hj hcj hlab
    rw [h02] at hj2 hcj2 hlab2
    rw [hbl 0 (Nat.zero_le _)] at hj hj2
    have : j2 = j := by
      apply digitsOf_inj (f.maxLabel 0) (maxLabel_pos f hf 0) j2 j hj2 hj
      intro i hi
      rw [maxLabel_length] at hi
      rw [← hlab, ← hlab2]
      exact (hag i (Nat.zero_le _) hi).symm
    rw [hcj, hcj2, this]

end FTBuild

open FTBuild

/-- the statement with the three list lengths (only the first one is used) -/
theorem build_wf (f : FatTree) (hf : f.WF)
    (hlen : f.down.length = f.levels ∧ f.up.length = f.levels ∧ f.count.length = f.levels) :
    FTables.WF f f.build :=
  FTBuild.build_wf_of_down f hf hlen.1

/-- non-vacuity: a 2-level fat tree (4 leaves, 2 + 2 switches, doubled top cables) meets the hypotheses -/
example : FTables.WF ⟨2, [2, 2], [1, 2], [1, 2], false, true, true, 0, 0⟩
    (FatTree.build ⟨2, [2, 2], [1, 2], [1, 2], false, true, true, 0, 0⟩) :=
  build_wf _ (paramsOk_sound _ (by decide)) (by decide)

example : FTables.WF ⟨3, [2, 3, 2], [2, 1, 3], [1, 2, 1], true, false, false, 5, 7⟩
    (FatTree.build ⟨3, [2, 3, 2], [2, 1, 3], [1, 2, 1], true, false, false, 5, 7⟩) :=
  build_wf _ (paramsOk_sound _ (by decide)) (by decide)

/-- the length hypothesis is needed: with a second (ignored by the labels) entry in `num_children_per_node_` the model creates
4 leaves for radices `[2]`, two leaves get the same label and `leaf_inj` fails -/
example : (⟨1, [2, 2], [1], [1], false, false, false, 0, 0⟩ : FatTree).WF ∧
    ¬ FTables.WF ⟨1, [2, 2], [1], [1], false, false, false, 0, 0⟩
      (FatTree.build ⟨1, [2, 2], [1], [1], false, false, false, 0, 0⟩) := by
  refine ⟨paramsOk_sound _ (by decide), fun h => ?_⟩
  have := h.leaf_inj 0 ⟨0, 0, 0, [0]⟩ 2 ⟨2, 0, 2, [0]⟩ (by decide) (by decide) rfl rfl (fun _ _ _ => rfl)
  omega

end SgVerif.C26
