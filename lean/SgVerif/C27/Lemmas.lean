import SgVerif.C27.Model
/-
C27 — helper lemmas: association lists, the digit scanner.
-/
namespace SgVerif.C27
open SgVerif.Xbt

theorem mem_of_lookup_eq_some {t : Table} {u : String} {v : Q} (h : t.lookup u = some v) : (u, v) ∈ t := by
  obtain ⟨l₁, l₂, rfl, _⟩ := List.lookup_eq_some_iff.mp h
  simp

/-- each entry of either association list is what the other answers for its key -/
def agreeOnKeys (t1 t2 : Table) : Bool :=
  t1.all (fun p => t2.lookup p.1 == some p.2) && t2.all (fun p => t1.lookup p.1 == some p.2)

theorem lookup_ext (t1 t2 : Table) (h : agreeOnKeys t1 t2 = true) (u : String) : t1.lookup u = t2.lookup u := by
  simp only [agreeOnKeys, Bool.and_eq_true, List.all_eq_true, beq_iff_eq] at h
  cases h1 : t1.lookup u with
  | some v => exact (h.1 _ (mem_of_lookup_eq_some h1)).symm
  | none =>
    cases h2 : t2.lookup u with
    | none => rfl
    | some w => exact (h1 ▸ h.2 _ (mem_of_lookup_eq_some h2)).symm ▸ rfl

def stops (p : Char → Bool) : List Char → Bool
  | [] => true
  | c :: _ => !p c

theorem spanP_append (p : Char → Bool) (ds r : List Char) (hd : ∀ c ∈ ds, p c = true) (hr : stops p r = true) :
    spanP p (ds ++ r) = (ds, r) := by
  unfold spanP
  rw [List.takeWhile_append_of_pos hd, List.dropWhile_append_of_pos hd]
  cases r with
  | nil => simp
  | cons c t => simp [stops] at hr; simp [hr]

theorem parseDecimal_digit (c : Char) (t : List Char) (hd : isDigit c = true) :
    ∃ v r, parseDecimal (c :: t) = some (v, r) := by
  unfold parseDecimal spanP
  simp only [List.takeWhile_cons, hd, if_true, List.isEmpty_cons, Bool.false_and, Bool.false_eq_true, if_false]
  exact ⟨_, _, rfl⟩

theorem parseDecimal_point (t : List Char) :
    (parseDecimal ('.' :: t)).isSome = (match t with | d :: _ => isDigit d | [] => false) := by
  have h0 : isDigit '.' = false := by decide
  cases t with
  | nil => decide
  | cons d t' =>
    unfold parseDecimal spanP takeFrac
    by_cases hd : isDigit d = true <;> simp [h0, spanP, hd]

theorem nat_not_underflows (n : Nat) : underflows (n : Rat) = false := by
  have h : ((n : Rat) * two 1074).isInt = true := by
    unfold two
    rw [← Rat.natCast_mul, Rat.isInt, Rat.den_natCast]
    rfl
  unfold underflows
  rw [h]
  simp

theorem nat_not_overflows (n : Nat) (h : n < 2 ^ 1023) : overflows (n : Rat) = false := by
  unfold overflows two
  have h1 : ((n : Nat) : Rat) < ((2 ^ 1023 : Nat) : Rat) := by exact_mod_cast h
  have h2 : ((2 ^ 1024 : Nat) : Rat) = 2 * ((2 ^ 1023 : Nat) : Rat) := by
    have : (2 ^ 1024 : Nat) = 2 * 2 ^ 1023 := by rw [Nat.pow_succ]; omega
    rw [this]; push_cast; rfl
  have h3 : ((2 ^ 970 : Nat) : Rat) < ((2 ^ 1023 : Nat) : Rat) := by
    have : (2 ^ 970 : Nat) < 2 ^ 1023 := Nat.pow_lt_pow_right (by omega) (by omega)
    exact_mod_cast this
  simp only [decide_eq_false_iff_not]
  grind

/-- what may follow an integer literal without being absorbed into the number: not a digit, not a point, not the `x`
of a hexadecimal prefix, and not an exponent (`e`/`E` followed by a digit or a sign) -/
def unitSafe : List Char → Bool
  | [] => true
  | c :: t =>
    !isDigit c && !(c == '.') && !(lower c == 'x') &&
      (!(lower c == 'e') || (match t with
        | [] => true
        | d :: _ => !isDigit d && !(d == '+') && !(d == '-')))

theorem digit_facts (c : Char) (h : isDigit c = true) :
    isSpace c = false ∧ (c == '+') = false ∧ (c == '-') = false ∧ (lower c == 'x') = false := by
  have hr : 48 ≤ c.toNat ∧ c.toNat ≤ 57 := by simpa [isDigit] using h
  have hl : lower c = c := by
    unfold lower
    rw [if_neg]
    simp only [Bool.and_eq_true, decide_eq_true_eq]
    omega
  -- `c` is none of the characters below: none of them is a digit
  have ne : ∀ d : Char, isDigit d = false → (c == d) = false := by
    intro d hd
    rw [beq_eq_false_iff_ne]
    rintro rfl
    rw [h] at hd
    cases hd
  rw [hl]
  unfold isSpace
  rw [ne ' ' (by decide), ne '\t' (by decide), ne '\n' (by decide), ne '\r' (by decide), ne '+' (by decide),
    ne '-' (by decide), ne 'x' (by decide)]
  simp
  omega

theorem parseExp_unitSafe (r : List Char) (h : unitSafe r = true) : parseExp 'e' r = (0, r) := by
  cases r with
  | nil => rfl
  | cons c t =>
    unfold parseExp
    by_cases he : (lower c == 'e') = true
    · simp only [he, if_true]
      simp only [unitSafe, he, Bool.not_true, Bool.false_or, Bool.and_eq_true, Bool.not_eq_eq_eq_not] at h
      cases t with
      | nil => simp [takeSign, spanP]
      | cons d u =>
        obtain ⟨_, h4⟩ := h
        simp only [Bool.and_eq_true, Bool.not_eq_eq_eq_not, Bool.not_true] at h4
        obtain ⟨⟨h5, h6⟩, h7⟩ := h4
        simp [takeSign, h6, h7, spanP, h5]
    · simp [he]

theorem scale_zero (m : Nat) : scale m 10 0 = (m : Rat) := by
  unfold scale
  simp [Rat.mul_one]

end SgVerif.C27
