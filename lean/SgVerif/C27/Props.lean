import SgVerif.C27.Lemmas
/-
C27 — Values with units are parsed to the documented magnitudes.  `Gen.lean` is regenerated from xbt_parse_units.cpp
on every check, so rebuilding this file re-proves the theorems against what the code says now.  Theorems about tables
are enumerations of the finite generated tables lifted to all strings by `lookup_ext`; theorems about parsing are for
all strings.
-/
namespace SgVerif.C27
open SgVerif.Xbt

/-- (finite tables) Agreement with the specification and `unitSafe` of the keys are stated together, and the five kinds
evaluated at once, because building the tables is the dear part of either check and what the kernel has worked out
about a table it remembers for one declaration only. -/
theorem tables_checked (k : Kind) :
    (table k).any (fun t => agreeOnKeys t (docTable k) && t.all (fun p => unitSafe p.1.toList)) = true := by
  have h : ∀ k ∈ [Kind.time, .size, .bandwidth, .bandwidths, .speed],
      (table k).any (fun t => agreeOnKeys t (docTable k) && t.all (fun p => unitSafe p.1.toList)) = true := by
    decide +kernel
  exact h k (by cases k <;> decide)

theorem table_spec (k : Kind) : ∃ t, table k = some t ∧ agreeOnKeys t (docTable k) = true ∧
    ∀ p ∈ t, unitSafe p.1.toList = true := by
  obtain ⟨t, ht, h⟩ := (Option.any_eq_true _ _).mp (tables_checked k)
  rw [Bool.and_eq_true, List.all_eq_true] at h
  exact ⟨t, ht, h⟩

theorem table_agrees_doc (k : Kind) : (table k).any (agreeOnKeys · (docTable k)) = true := by
  obtain ⟨t, ht, h, _⟩ := table_spec k
  rw [ht]; exact h

/-- `THROW_IMPOSSIBLE` is never reached while building the four tables -/
theorem tables_built (k : Kind) : (table k).isSome := by
  obtain ⟨t, ht, _⟩ := table_spec k
  rw [ht]; rfl

theorem table_some (k : Kind) : ∃ t, table k = some t ∧ ∀ u, lookup k u = t.lookup u := by
  obtain ⟨t, ht, _⟩ := table_spec k
  exact ⟨t, ht, fun u => by rw [lookup, ht]⟩

/-- `emplace` never changes what an existing table answers: a repeated key keeps its first value, and a new key
does not disturb the others (∀ tables, keys, values). -/
theorem emplace_keeps_existing (t : Table) (k : String) (v : Q) (u : String) (w : Q)
    (h : t.lookup u = some w) : (emplace t k v).lookup u = some w := by
  unfold emplace
  split
  · exact h
  · rw [List.lookup_append, h]; rfl

/-- **Every unit has the documented magnitude** (full statement): for every kind and *every string* `u`, what
`units.find(u)` returns in the table built by the code equals the hand-written SI/IEC specification — a unit of the
table has the documented multiplier, a string that is not a documented unit is not in the table.
(enum over the entries of the generated and of the specified tables, lifted to all strings by `lookup_ext`.)
Before fix commit "zetta" in /repo this was false for `zetaflops`/`zettaflops` (see the regression below). -/
theorem units_match_doc : ∀ (k : Kind) (u : String), lookup k u = documented k u := by
  intro k u
  obtain ⟨t, ht, h, _⟩ := table_spec k
  unfold lookup documented
  rw [ht]
  exact lookup_ext t _ h u

/-- the two unit names on which code and documentation differed before the fix commit "zetta" in /repo -/
def zetaNames (k : Kind) (u : String) : Prop := k = .speed ∧ (u = "zetaflops" ∨ u = "zettaflops")

instance (k : Kind) (u : String) : Decidable (zetaNames k u) := by unfold zetaNames; infer_instance

/-- regression (fixed defect): the documented `zettaflops` is accepted with 10^21 and the misspelt `zetaflops`,
which the code used to accept instead, is rejected -/
theorem units_match_doc_zetta_regression :
    lookup .speed "zettaflops" = some ⟨1000000000000000000000, 1⟩ ∧ lookup .speed "zetaflops" = none := by
  rw [units_match_doc, units_match_doc]; decide

/-- **Every unit name the documentation lists is accepted** (XML_reference.rst `<link>` section and simgrid.dtd,
extracted by the translator on every run).  (enum over the generated list.)  Before the two fix commits this failed
for `KBps`, `Kbps` (capital K in XML_reference.rst) and `zettaflops`. -/
theorem doc_listed_units_accepted : ∀ p ∈ Gen.docListed, (lookup p.1 p.2).isSome := by
  simp only [units_match_doc]; decide +kernel

/-- the default unit of each kind is the documented one and is in the table (enum: 5 kinds) -/
theorem default_unit_documented :
    ∀ k : Kind, lookup k (Gen.defaultUnit k) = some ⟨1, 1⟩ ∧ documented k (Gen.defaultUnit k) = some ⟨1, 1⟩ := by
  intro k
  have h : documented k (Gen.defaultUnit k) = some ⟨1, 1⟩ := by cases k <;> decide
  exact ⟨units_match_doc k _ ▸ h, h⟩

/-- the unit actually looked up: the rest of the string, or the default unit when nothing follows the number -/
def unitOf (k : Kind) (rest : List Char) : String :=
  if rest.isEmpty then Gen.defaultUnit k else String.ofList rest

/-- **Unknown units are rejected**: whatever the number, if what follows it is not in the table the call throws
`unknown unit`. -/
theorem unknown_unit_rejected (k : Kind) (entity : Bool) (s : List Char) (neg : Bool) (n : Num) (rest : List Char)
    (hs : strtod s = .ok neg n rest) (hu : lookup k (unitOf k rest) = none) :
    parseValue k entity s = .errUnit (unitOf k rest) := by
  obtain ⟨t, ht, hl⟩ := table_some k
  rw [hl] at hu
  unfold unitOf at hu ⊢
  simp only [parseValue, ht, hs, hu]

/-- … in particular every string that is not a documented unit (∀ strings, through `units_match_doc`) -/
theorem undocumented_unit_rejected_partial (k : Kind) (entity : Bool) (s : List Char) (neg : Bool) (n : Num)
    (rest : List Char) (hs : strtod s = .ok neg n rest) (hz : ¬ zetaNames k (unitOf k rest))
    (hd : documented k (unitOf k rest) = none) :
    parseValue k entity s = .errUnit (unitOf k rest) :=
  unknown_unit_rejected k entity s neg n rest hs (units_match_doc k _ ▸ hd)

/-- **The value is the number times the multiplier of the unit** (exact arithmetic), with the deprecation warning
exactly for a non-zero unit-less value of a named entity. -/
theorem value_is_number_times_multiplier (k : Kind) (entity : Bool) (s : List Char) (neg : Bool) (v : Rat)
    (rest : List Char) (m : Q) (hs : strtod s = .ok neg (.fin v) rest) (hu : lookup k (unitOf k rest) = some m) :
    parseValue k entity s = .value (signed neg v * m.toRat) (rest.isEmpty && decide (v ≠ 0) && entity) := by
  obtain ⟨t, ht, hl⟩ := table_some k
  rw [hl] at hu
  unfold unitOf at hu
  simp only [parseValue, ht, hs, hu]

/-- … hence number × *documented* multiplier for every documented unit (∀ strings) -/
theorem value_is_number_times_documented_partial (k : Kind) (entity : Bool) (s : List Char) (neg : Bool) (v : Rat)
    (rest : List Char) (m : Q) (hs : strtod s = .ok neg (.fin v) rest) (hz : ¬ zetaNames k (unitOf k rest))
    (hd : documented k (unitOf k rest) = some m) :
    parseValue k entity s = .value (signed neg v * m.toRat) (rest.isEmpty && decide (v ≠ 0) && entity) :=
  value_is_number_times_multiplier k entity s neg v rest m hs (units_match_doc k _ ▸ hd)

/-- specification of "starts with a number": after white space and an optional sign comes a digit, a point followed
by a digit, or (any case) `inf` / `nan` -/
def startsNumber (s : List Char) : Bool :=
  match (takeSign (s.dropWhile isSpace)).2 with
  | [] => false
  | c :: t =>
    if isDigit c then true
    else if c == '.' then (match t with | d :: _ => isDigit d | [] => false)
    else (dropWord wInf (c :: t)).isSome || (dropWord wNan (c :: t)).isSome

theorem dropWord_append (w w' : List Char) : ∀ s, dropWord (w ++ w') s = (dropWord w s).bind (dropWord w') := by
  induction w with
  | nil => intro s; cases w' <;> rfl
  | cons a w ih =>
    intro s
    cases s with
    | nil => rfl
    | cons c s =>
      simp only [List.cons_append, dropWord]
      split
      · exact ih s
      · rfl

theorem dropWord_infinity_inf (s : List Char) (h : dropWord wInf s = none) : dropWord wInfinity s = none := by
  rw [show wInfinity = wInf ++ ['i', 'n', 'i', 't', 'y'] from rfl, dropWord_append, h]
  rfl

theorem parseWord_isSome (s : List Char) :
    (parseWord s).isSome = ((dropWord wInf s).isSome || (dropWord wNan s).isSome) := by
  unfold parseWord
  cases h2 : dropWord wInf s with
  | none => rw [dropWord_infinity_inf s h2]; cases dropWord wNan s <;> rfl
  | some r => cases dropWord wInfinity s <;> rfl

theorem parseMagnitude_isSome (s : List Char) :
    (parseMagnitude (takeSign (s.dropWhile isSpace)).2).isSome = startsNumber s := by
  unfold startsNumber
  generalize (takeSign (s.dropWhile isSpace)).2 = s2
  cases s2 with
  | nil => rfl
  | cons c t =>
    by_cases hd : isDigit c = true
    · -- a digit: the decimal conversion succeeds, and every branch of the test for "0x" ends in a number
      obtain ⟨v, r, hv⟩ := parseDecimal_digit c t hd
      simp only [hd, if_true, parseMagnitude, Bool.true_or, hv, Option.map_some]
      repeat' split
      all_goals rfl
    · by_cases hp : (c == '.') = true
      · have hc : c = '.' := by simpa using hp
        subst hc
        have h0 : (('.' : Char) == '0') = false := by decide
        simp only [hd, hp, parseMagnitude, Bool.or_true, if_true, h0, Bool.false_eq_true, if_false,
          Option.isSome_map, parseDecimal_point]
        cases t <;> rfl
      · simp only [hd, hp, parseMagnitude, Bool.or_self, Bool.false_eq_true, if_false, parseWord_isSome]

theorem strtod_noconv_iff (s : List Char) : strtod s = .noconv ↔ startsNumber s = false := by
  rw [← parseMagnitude_isSome]
  unfold strtod
  generalize takeSign (s.dropWhile isSpace) = p
  obtain ⟨neg, s2⟩ := p
  simp only
  generalize parseMagnitude s2 = m
  rcases m with _ | ⟨n, r⟩
  · simp
  · cases n
    · simp only [Option.isSome_some, reduceCtorEq, iff_false]; split <;> simp
    · simp
    · simp

/-- **Malformed numbers are rejected**: a string that does not start with a number throws `cannot parse number`
(∀ strings) … -/
theorem malformed_number_rejected (k : Kind) (entity : Bool) (s : List Char) (h : startsNumber s = false) :
    parseValue k entity s = .errNoNumber := by
  obtain ⟨t, ht, _⟩ := table_some k
  simp only [parseValue, ht, (strtod_noconv_iff s).mpr h]

/-- … and a string that does start with a number is never rejected as "cannot parse number" (so the
characterisation is exact). -/
theorem number_start_converts (s : List Char) (h : startsNumber s = true) : strtod s ≠ .noconv := by
  intro hn
  rw [(strtod_noconv_iff s).mp hn] at h
  cases h

/-- **Integer literal**: a non-empty digit string followed by anything that cannot continue the number is converted
to its decimal value (positive sign, no ERANGE below 2^1023), and the rest is handed to the unit lookup. -/
theorem strtod_integer (ds rest : List Char) (hne : ds ≠ []) (hd : ∀ c ∈ ds, isDigit c = true)
    (hr : unitSafe rest = true) (hbig : natOfDigits ds < 2 ^ 1023) :
    strtod (ds ++ rest) = .ok false (.fin (natOfDigits ds : Rat)) rest := by
  cases ds with
  | nil => exact absurd rfl hne
  | cons d ds' =>
    have hdd : isDigit d = true := hd d (by simp)
    obtain ⟨f1, f2, f3, _⟩ := digit_facts d hdd
    have hstop : stops isDigit rest = true := by
      cases rest with
      | nil => rfl
      | cons c t => simp only [unitSafe, Bool.and_eq_true] at hr; simp only [stops]; exact hr.1.1.1
    have hdec : parseDecimal (d :: ds' ++ rest) = some ((natOfDigits (d :: ds') : Rat), rest) := by
      unfold parseDecimal
      have hsp := spanP_append isDigit (d :: ds') rest hd hstop
      rw [hsp]
      have hfrac : takeFrac isDigit rest = ([], rest) := by
        cases rest with
        | nil => rfl
        | cons c t =>
          simp only [unitSafe, Bool.and_eq_true, Bool.not_eq_eq_eq_not, Bool.not_true] at hr
          simp [takeFrac, hr.1.1.2]
      simp only [hfrac, parseExp_unitSafe rest hr, List.isEmpty_cons, Bool.false_and, Bool.false_eq_true, if_false,
        List.append_nil, List.length_nil]
      simp [scale_zero]
    have hmag : parseMagnitude (d :: ds' ++ rest) = some (.fin (natOfDigits (d :: ds') : Rat), rest) := by
      unfold parseMagnitude
      simp only [List.cons_append] at hdec ⊢
      simp only [hdd, Bool.true_or, if_true, hdec, Option.map_some]
      split
      · split
        · rfl
        · rename_i x t' hx
          have hxx : (lower x == 'x') = false := by
            cases ds' with
            | nil =>
              subst hx
              simp only [unitSafe, Bool.and_eq_true, Bool.not_eq_eq_eq_not, Bool.not_true] at hr
              exact hr.1.2
            | cons e ds'' =>
              simp only [List.cons_append, List.cons.injEq] at hx
              obtain ⟨hx1, _⟩ := hx
              subst hx1
              exact (digit_facts e (hd e (by simp))).2.2.2
          simp [hxx]
      · rfl
    unfold strtod
    have hdw : List.dropWhile isSpace (d :: ds' ++ rest) = d :: ds' ++ rest := by
      simp [f1]
    rw [hdw]
    have hts : takeSign (d :: ds' ++ rest) = (false, d :: ds' ++ rest) := by
      simp [takeSign, f2, f3]
    rw [hts]
    simp only [hmag, nat_not_overflows _ hbig, nat_not_underflows, Bool.or_self, Bool.false_eq_true, if_false]

/-- every unit of the four tables may directly follow an integer literal (enum over the generated tables) -/
theorem table_units_safe : ∀ k : Kind, ∀ p ∈ (table k).getD [], unitSafe p.1.toList = true := by
  intro k
  obtain ⟨t, ht, _, h⟩ := table_spec k
  rw [ht]
  exact h

/-- **Integer × unit**: for every digit string and every unit `u` of kind `k` with multiplier `m`, the string
`<digits><u>` is worth `digits × m`, without warning. -/
theorem integer_with_unit (k : Kind) (entity : Bool) (ds : List Char) (u : String) (m : Q)
    (hne : ds ≠ []) (hd : ∀ c ∈ ds, isDigit c = true) (hbig : natOfDigits ds < 2 ^ 1023)
    (hsafe : unitSafe u.toList = true) (hu0 : u.toList ≠ []) (hu : lookup k u = some m) :
    parseValue k entity (ds ++ u.toList) = .value ((natOfDigits ds : Rat) * m.toRat) false := by
  have he : u.toList.isEmpty = false := List.isEmpty_eq_false_iff.mpr hu0
  have hunit : unitOf k u.toList = u := by simp [unitOf, he, String.ofList_toList]
  rw [value_is_number_times_multiplier k entity _ false _ u.toList m
    (strtod_integer ds u.toList hne hd hsafe hbig) (hunit.symm ▸ hu)]
  simp [signed, he]

example : lookup .bandwidth "MiBps" = some ⟨1048576, 1⟩ ∧ documented .bandwidth "MiBps" = some ⟨1048576, 1⟩ := by
  rw [units_match_doc]; decide
example : lookup .size "kb" = some ⟨125, 1⟩ ∧ lookup .size "b" = some ⟨1, 8⟩ ∧ lookup .time "ms" = some ⟨1, 1000⟩ := by
  simp only [units_match_doc]; decide
example : ¬ zetaNames .speed "Zf" ∧ lookup .speed "Zf" = some ⟨1000000000000000000000, 1⟩ := by
  rw [units_match_doc]; decide
example : lookup .time "kBps" = none ∧ documented .time "kBps" = none := by rw [units_match_doc]; decide
example : parseValue .bandwidth true ("42".toList ++ "kBps".toList) = .value ((natOfDigits "42".toList : Rat) * (Q.mk 1000 1).toRat) false :=
  integer_with_unit .bandwidth true "42".toList "kBps" ⟨1000, 1⟩ (by decide) (by decide)
    (by have : natOfDigits "42".toList = 42 := by decide
        rw [this]; exact Nat.lt_of_lt_of_le (by decide : 42 < 2 ^ 6) (Nat.pow_le_pow_right (by omega) (by omega)))
    (by decide) (by decide) (by rw [units_match_doc]; decide)
example : startsNumber "x10s".toList = false ∧ startsNumber " -.5s".toList = true ∧ startsNumber ".s".toList = false := by decide

end SgVerif.C27
