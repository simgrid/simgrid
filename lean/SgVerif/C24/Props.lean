import SgVerif.C24.Lemmas
import SgVerif.C24.FullZone
/-
C24 — Hierarchical routes are composed correctly.  All theorems are for EVERY platform description `P : Plat`: any zone
tree (`parent`, `zoneOf` are arbitrary functions; the only structural hypothesis is that a walk to the root does not meet
a zone twice), any local-route tables `loc`, any bypass tables, any latencies, any recursion bound.
-/
namespace SgVerif.C24

/-- a walk to the root never meets the same zone twice (true of every tree) -/
def TreeLike (P : Plat) : Prop := ∀ np, (allEnglobing P np).Nodup

/-- no bypass route declares a destination gateway that lives in a zone whose `get_local_route` inserts at the front
(DijkstraZone).  Needed only by the regression theorems about the code *before* the fix
`bypass-tail-in-dijkstra-zone` (`globalRouteV false`), see `global_route_is_concat_prefix_counterexample`. -/
def BypassGwNotInPrependZone (P : Plat) : Prop :=
  ∀ z k b g, (k, b) ∈ P.bypass z → b.gwDst = some g → P.prepend (P.zoneOf g) = false

theorem lookupKey_mem (tbl : List ((Np × Np) × Bypass)) (k : Np × Np) (b : Bypass)
    (h : lookupKey tbl k = some b) : (k, b) ∈ tbl := by
  unfold lookupKey at h
  split at h
  · rename_i e he
    have hm := List.mem_of_find?_eq_some he
    have hk := List.find?_some he
    simp only [beq_iff_eq] at hk
    cases h
    rw [← hk]; exact hm
  · cases h

theorem bpLookup_declared (P : Plat) (tbl) (ps pd : List Zn) (i j : Nat) (k : Np × Np) (b : Bypass)
    (h : bpLookup P tbl ps pd i j = some (k, b)) : lookupKey tbl k = some b := by
  unfold bpLookup at h
  split at h
  · simp only at h
    split at h
    · rename_i b' hb; cases h; exact hb
    · cases h
  · cases h

theorem bpSearch_declared (P : Plat) (tbl) (ps pd : List Zn) (k : Np × Np) (b : Bypass)
    (h : bpSearch P tbl ps pd = some (k, b)) : lookupKey tbl k = some b := by
  unfold bpSearch at h
  obtain ⟨mx, _, hmx⟩ := List.exists_of_findSome?_eq_some h
  split at hmx
  · rename_i r hr
    cases hmx
    obtain ⟨i, _, hi⟩ := List.exists_of_findSome?_eq_some hr
    split at hi
    · rename_i r' hr'; cases hi; exact bpLookup_declared P tbl ps pd _ _ k b hr'
    · exact bpLookup_declared P tbl ps pd _ _ k b hi
  · exact bpLookup_declared P tbl ps pd _ _ k b hmx

theorem bypassFind_declared (P : Plat) (z : Zn) (src dst : Np) :
    match bypassFind P z src dst with
    | .none => True
    | .direct b => lookupKey (P.bypass z) (src, dst) = some b
    | .via k b => lookupKey (P.bypass z) k = some b := by
  fun_cases bypassFind P z src dst
  · trivial
  · assumption
  · trivial
  · exact bpSearch_declared P _ _ _ _ _ ‹_›
  · trivial

theorem bypassFind_via_declared (P : Plat) (z : Zn) (src dst : Np) (k : Np × Np) (b : Bypass)
    (h : bypassFind P z src dst = .via k b) : lookupKey (P.bypass z) k = some b := by
  have := bypassFind_declared P z src dst
  rw [h] at this; exact this

theorem bypassOk_of (P : Plat) (h : BypassGwNotInPrependZone P) : BypassOk P := by
  intro z src dst key b g hv hg
  exact h z key b g (lookupKey_mem _ _ _ (bypassFind_via_declared P z src dst key b hv)) hg

/-- the composition theorem (`global_route_is_concat`) with an arbitrary prefix already accumulated in the in/out
parameters (what the recursive calls made by `get_bypass_route` rely on) — full strength: whatever was accumulated
stays in front, in every kind of zone -/
theorem global_route_appends (P : Plat) (hT : TreeLike P) (f : Nat) (src dst : Np) (links : List Lk) (lat : Int) :
    globalRoute P f src dst links lat = lift P lat (links ++ ·) (specRoute P f src dst) :=
  globalRouteV_spec true P hT (Or.inl rfl) f src dst links lat (Or.inl rfl)

/-- **Composition (up ++ ancestor/bypass ++ down, in path order) — full strength.**  For every platform (the only
structural hypothesis: a walk to the root does not meet a zone twice), every recursion bound, every pair of netpoints:
the iterative `get_global_route_with_netzones` returns exactly the concatenation of the segments of the recursive
specification, in that order, and the latency it accumulated is the sum over those segments; errors coincide too.
(The code before the fix `bypass-tail-in-dijkstra-zone`, `globalRouteV false`, satisfies it only under
`BypassGwNotInPrependZone`: the `_prefix_` theorems.) -/
theorem global_route_is_concat (P : Plat) (hT : TreeLike P) (f : Nat) (src dst : Np) :
    globalRoute P f src dst [] 0 = lift P 0 (fun l => l) (specRoute P f src dst) := by
  have h := global_route_appends P hT f src dst [] 0
  simpa using h

/-- the composition theorem for the code before the fix (`globalRouteV false`): it needs the extra hypothesis on
bypass routes -/
theorem global_route_is_concat_prefix_partial (P : Plat) (hT : TreeLike P) (hB : BypassGwNotInPrependZone P)
    (f : Nat) (src dst : Np) :
    globalRouteV false P f src dst [] 0 = lift P 0 (fun l => l) (specRoute P f src dst) := by
  have h := globalRouteV_spec false P hT (Or.inr (bypassOk_of P hB)) f src dst [] 0 (Or.inr (Or.inl rfl))
  simpa using h

theorem global_route_appends_prefix_partial (P : Plat) (hT : TreeLike P) (hB : BypassGwNotInPrependZone P)
    (f : Nat) (src dst : Np) (links : List Lk) (lat : Int) (h : links = [] ∨ P.prepend (P.zoneOf src) = false) :
    globalRouteV false P f src dst links lat = lift P lat (links ++ ·) (specRoute P f src dst) :=
  globalRouteV_spec false P hT (Or.inr (bypassOk_of P hB)) f src dst links lat (Or.inr h)

/-- platforms without any Dijkstra zone satisfy the pre-fix hypothesis trivially -/
theorem bypassGw_ok_of_no_prepend (P : Plat) (h : ∀ z, P.prepend z = false) : BypassGwNotInPrependZone P :=
  fun _ _ _ g _ _ => h (P.zoneOf g)

theorem bypassGw_ok_of_no_bypass (P : Plat) (h : ∀ z, P.bypass z = []) : BypassGwNotInPrependZone P := by
  intro z k b g hm; rw [h z] at hm; cases hm

def AllValid (P : Plat) : Except Err (List Seg) → Prop
  | .ok segs => ∀ s ∈ segs, s.valid P
  | .error _ => True

theorem allValid_nil (P : Plat) : AllValid P (.ok []) := fun _ h => nomatch h

theorem allValid_single {P : Plat} (s : Seg) (h : s.valid P) : AllValid P (.ok [s]) :=
  fun _ hs => List.mem_singleton.mp hs ▸ h

theorem allValid_append {P : Plat} {a b : List Seg} (ha : AllValid P (.ok a)) (hb : AllValid P (.ok b)) :
    AllValid P (.ok (a ++ b)) :=
  fun s hs => (List.mem_append.mp hs).elim (ha s) (hb s)

theorem specUp_valid (P : Plat) (np : Np) (path : List Zn) (gw : Np) : AllValid P (specUp P np path gw) := by
  fun_induction specUp P np path gw with
  | case1 => exact allValid_nil P
  | case2 | case4 | case5 | case6 | case7 => trivial
  | case3 path gw hz hg r hl => exact allValid_single (.loc _ _ _ r) hl
  | case8 gw hz z rest r hl g hi segs hs ih => exact allValid_append (hs ▸ ih) (allValid_single (.loc _ _ _ r) hl)

theorem specDown_valid (P : Plat) (np : Np) (path : List Zn) (gw : Np) : AllValid P (specDown P np path gw) := by
  fun_induction specDown P np path gw with
  | case1 => exact allValid_nil P
  | case2 | case4 | case5 | case6 | case7 => trivial
  | case3 path gw hz hg r hl => exact allValid_single (.loc _ _ _ r) hl
  | case8 gw hz z rest r hl g hi segs hs ih => exact allValid_append (allValid_single (.loc _ _ _ r) hl) (hs ▸ ih)

theorem specCross_valid (P : Plat) (src dst : Np) (ca : Zn) (sp dp : List Zn) :
    AllValid P (specCross P src dst ca sp dp) := by
  have hup : ∀ r : Route, AllValid P (match sp with
      | [] => .ok []
      | _ :: rest =>
        match r.gwSrc with
        | none => .error .noGwSrc
        | some g => specUp P src rest g) := by
    intro r
    cases sp with
    | nil => exact allValid_nil P
    | cons _ rest =>
      cases r.gwSrc with
      | none => trivial
      | some g => exact specUp_valid P src rest g
  fun_cases specCross P src dst ca sp dp with
  | case1 | case2 | case4 | case5 => trivial
  | case3 a r up u hu b hl => exact allValid_append (hu ▸ hup r) (allValid_single (.loc _ _ _ r) hl)
  | case6 a r up u hu z rest g hg d hd b hl =>
    exact allValid_append (hu ▸ hup r) (allValid_append (allValid_single (.loc _ _ _ r) hl) (hd ▸ specDown_valid P dst rest g))

theorem allValid_first {P : Plat} {c : Prop} [Decidable c] {og : Option Np} {F : Np → Except Err (List Seg)}
    (h : ∀ g, AllValid P (F g)) :
    AllValid P (if c then
        match og with
        | none => .error .bypassNoGw
        | some g => F g
      else .ok []) := by
  split
  · cases og with
    | none => trivial
    | some g => exact h g
  · exact allValid_nil P

theorem specRoute_valid (P : Plat) (f : Nat) (src dst : Np) : AllValid P (specRoute P f src dst) := by
  fun_induction specRoute P f src dst with
  | case1 | case2 | case4 | case5 | case6 | case9 => trivial
  | case3 f src dst ca sp dp _ b hb =>
    have := bypassFind_declared P ca src dst
    rw [hb] at this
    exact allValid_single (.byp ..) this
  | case7 f src dst ca sp dp _ key b hb first s1 h1 _ g _ s2 h2 ih1 ih2 =>
    exact allValid_append (h1 ▸ allValid_first ih1)
      (allValid_append (allValid_single (.byp ..) (bypassFind_via_declared P ca src dst key b hb)) (h2 ▸ ih2))
  | case8 f src dst ca sp dp _ key b hb first s1 h1 _ ih1 =>
    exact allValid_append (h1 ▸ allValid_first ih1)
      (allValid_single (.byp ..) (bypassFind_via_declared P ca src dst key b hb))
  | case10 f src dst ca sp dp _ _ _ r hl => exact allValid_single (.loc _ _ _ r) hl
  | case11 f src dst ca sp dp => exact specCross_valid P src dst ca sp dp

/-- **Each segment is the local route of the zone crossed, or a declared bypass route** — for every platform,
every recursion bound (no hypothesis at all). -/
theorem spec_segments_declared (P : Plat) : ∀ (f : Nat) (src dst : Np) (segs : List Seg),
    specRoute P f src dst = .ok segs → ∀ s ∈ segs, s.valid P := by
  intro f src dst segs h
  have := specRoute_valid P f src dst
  rw [h] at this; exact this

/-- **Latency = Σ link latencies + Σ coordinate terms of the zones crossed** — full strength (corollary of the
composition theorem, same single hypothesis). -/
theorem latency_is_sum (P : Plat) (hT : TreeLike P)
    (f : Nat) (src dst : Np) (l : List Lk) (t : Int) (h : globalRoute P f src dst [] 0 = .ok (l, t)) :
    ∃ segs, specRoute P f src dst = .ok segs ∧ l = flatLinks segs ∧ t = sumLat P l + segsExtra segs := by
  rw [global_route_is_concat P hT] at h
  cases hs : specRoute P f src dst with
  | error e => simp [hs, lift] at h
  | ok segs =>
    simp only [hs, lift, Except.ok.injEq, Prod.mk.injEq] at h
    refine ⟨segs, rfl, h.1.symm, ?_⟩
    rw [← h.2, ← h.1]; simp [segsLat]

/-- **A route declared symmetrical is stored reversed for the opposite direction** (FullZone::add_route +
new_extended_route): same links in reverse order, gateways swapped — for every table, endpoints, link list. -/
theorem symmetric_route_reversed (recursive : Bool) (t t' : Table) (src dst : Np) (gs gd : Option Np)
    (links : List Lk) (hne : src ≠ dst) (h : fullAddRoute recursive t src dst gs gd links true = some t') :
    (fullLocal t' src dst).links = links ∧ (fullLocal t' dst src).links = links.reverse ∧
    (recursive = true → gs.isSome → gd.isSome →
      (fullLocal t' src dst).gwSrc = gs ∧ (fullLocal t' src dst).gwDst = gd ∧
      (fullLocal t' dst src).gwSrc = gd ∧ (fullLocal t' dst src).gwDst = gs) := by
  have e := fullAddRoute_eq h
  rw [if_pos (by simp [hne])] at e
  have hne' : (dst, src) ≠ (src, dst) := fun e => hne (Prod.mk.inj e).2
  have e1 := tableGet_cons (src, dst) (newExtendedRoute recursive gs gd links true) t src dst
  rw [if_pos rfl] at e1
  rw [e, fullLocal_of_get (by rw [tableGet_cons, if_neg hne', e1]), fullLocal_of_get (by rw [tableGet_cons, if_pos rfl])]
  refine ⟨rfl, rfl, ?_⟩
  intro hr hs hd
  simp [newExtendedRoute, hr, hs, hd]

/-- a route declared with `symmetrical = false` leaves the opposite direction untouched -/
theorem oneway_route_not_reversed (recursive : Bool) (t t' : Table) (src dst : Np) (gs gd : Option Np)
    (links : List Lk) (hne : src ≠ dst) (h : fullAddRoute recursive t src dst gs gd links false = some t') :
    (fullLocal t' src dst).links = links ∧ tableGet t' dst src = tableGet t dst src := by
  have e := fullAddRoute_eq h
  rw [if_neg (by simp)] at e
  have hne' : (src, dst) ≠ (dst, src) := fun e => hne (Prod.mk.inj e).1
  rw [e, fullLocal_of_get (by rw [tableGet_cons, if_pos rfl]), tableGet_cons, if_neg hne']
  exact ⟨rfl, rfl⟩

/-- **Latency = Σ link latencies + Σ over the Vivaldi segments of the model's coordinate term** — full strength.
For every platform whose Vivaldi zones answer what the model of `VivaldiZone::get_local_route` answers
(`FollowsVivaldi`: Star part, gateways, assertion when coordinates are missing, and the term
`vivaldiTerm (coords src) (coords dst)` = `(√((x₁-x₂)²+(y₁-y₂)²) + |h₁| + |h₂|) / 1000`) and whose other zones add
nothing beyond their links: the latency of every route is the sum of its links' latencies plus, for each Vivaldi
segment crossed, in path order, the term computed from the coordinates of the two ends of that segment.
`ρ` is the numeric evaluation of a term in latency units (the library: double sqrt, `/ 1000.0`); it is arbitrary here —
`latency_is_sum_vivaldi_exact` and `latency_is_sum_vivaldi_bracket` say what follows when it is exact / accurate. -/
theorem latency_is_sum_vivaldi (P : Plat) (hT : TreeLike P) (V : Viv) (ρ : VTerm → Int)
    (hV : FollowsVivaldi P V ρ) (hN : OnlyVivaldiAdds P V)
    (f : Nat) (src dst : Np) (l : List Lk) (t : Int) (h : globalRoute P f src dst [] 0 = .ok (l, t)) :
    ∃ segs, specRoute P f src dst = .ok segs ∧ l = flatLinks segs ∧
      t = sumLat P l + ((vivTerms V segs).map ρ).sum := by
  obtain ⟨segs, hs, hl, ht⟩ := latency_is_sum P hT f src dst l t h
  refine ⟨segs, hs, hl, ?_⟩
  rw [ht, segsExtra_eq_vivTerms P V ρ hV hN segs (spec_segments_declared P f src dst segs hs)]

/-- without Vivaldi zones (no zone adds anything beyond its links): latency = Σ latencies of the returned links -/
theorem latency_is_sum_of_links (P : Plat) (hT : TreeLike P)
    (hX : ∀ z a b r, P.loc z a b = some r → r.extra = 0)
    (f : Nat) (src dst : Np) (l : List Lk) (t : Int) (h : globalRoute P f src dst [] 0 = .ok (l, t)) :
    t = sumLat P l := by
  let V : Viv := { isViv := fun _ => false, tab := fun _ => [], verts := fun _ => [], coords := fun _ => none,
                   routerOf := fun _ => none }
  obtain ⟨segs, _, _, ht⟩ := latency_is_sum_vivaldi P hT V (fun _ => 0) (fun _ hz => nomatch hz)
    (fun z a b r _ hl => hX z a b r hl) f src dst l t h
  have hnil : vivTerms V segs = [] := List.filterMap_eq_nil_iff.mpr fun s _ => by cases s <;> rfl
  rw [ht, hnil]; exact Int.add_zero _

/-- each of those terms is the model's term of a Vivaldi segment of the route: `vivaldiTerm` of the coordinates of the
segment's two ends (a local route of a Vivaldi zone, declared in the platform) -/
theorem vivaldi_terms_are_segment_terms (P : Plat) (V : Viv) (f : Nat) (src dst : Np) (segs : List Seg)
    (hs : specRoute P f src dst = .ok segs) (t : VTerm) (ht : t ∈ vivTerms V segs) :
    ∃ z a b r ca cb, Seg.loc z a b r ∈ segs ∧ P.loc z a b = some r ∧ V.isViv z = true ∧
      V.coords a = some ca ∧ V.coords b = some cb ∧ t = vivaldiTerm ca cb := by
  obtain ⟨z, a, b, r, ca, cb, hm, hz, hca, hcb, e⟩ := vivTerms_mem V segs t ht
  exact ⟨z, a, b, r, ca, cb, hm, spec_segments_declared P f src dst segs hs _ hm, hz, hca, hcb, e⟩

/-- **Exact form** (latencies in seconds, `U` latency units per second): when the evaluation is exact — `ρ term / U` is
the value of the term, i.e. `v * 1000 - (|h₁| + |h₂|)` is the non-negative square root of `(x₁-x₂)² + (y₁-y₂)²` — the
latency in seconds is the sum of the links' latencies plus the values `val x` of the model's terms `x`, one per Vivaldi segment. -/
theorem latency_is_sum_vivaldi_exact (P : Plat) (hT : TreeLike P) (V : Viv) (ρ : VTerm → Int)
    (hV : FollowsVivaldi P V ρ) (hN : OnlyVivaldiAdds P V) (U : Nat)
    (hρ : ∀ z a b ca cb, V.isViv z = true → V.coords a = some ca → V.coords b = some cb →
      (vivaldiTerm ca cb).HasValue ((ρ (vivaldiTerm ca cb) : Rat) / U))
    (f : Nat) (src dst : Np) (l : List Lk) (t : Int) (h : globalRoute P f src dst [] 0 = .ok (l, t)) :
    ∃ segs, ∃ val : VTerm → Rat, specRoute P f src dst = .ok segs ∧ l = flatLinks segs ∧
      (∀ x ∈ vivTerms V segs, x.HasValue (val x)) ∧
      (t : Rat) / U = (sumLat P l : Rat) / U + ((vivTerms V segs).map val).sum := by
  obtain ⟨segs, hs, hl, ht⟩ := latency_is_sum_vivaldi P hT V ρ hV hN f src dst l t h
  refine ⟨segs, fun x => (ρ x : Rat) / U, hs, hl, vivTerms_forall V segs _ hρ, ?_⟩
  · have e := ratCast_sum_div (vivTerms V segs) ρ U
    rw [ht, Rat.intCast_add, ← e]
    grind

/-- **Accurate evaluation**: when `ρ` lands within `ε` of the rational bracket `[lo, hi]` of each term (the bracket the
driver computes: floor / ceiling in latency units of `(lo√ + hsum)/1000`, `(hi√ + hsum)/1000` with `lo√ ≤ √rad ≤ hi√`,
see `termBracket_sound`), the latency is within `n·ε` of `Σ links + Σ brackets`, `n` = number of Vivaldi segments. -/
theorem latency_is_sum_vivaldi_bracket (P : Plat) (hT : TreeLike P) (V : Viv) (ρ : VTerm → Int)
    (hV : FollowsVivaldi P V ρ) (hN : OnlyVivaldiAdds P V) (U m : Nat) (ε : Int)
    (hρ : ∀ z a b ca cb, V.isViv z = true → V.coords a = some ca → V.coords b = some cb →
      (termBracket U m (vivaldiTerm ca cb)).1 - ε ≤ ρ (vivaldiTerm ca cb) ∧
      ρ (vivaldiTerm ca cb) ≤ (termBracket U m (vivaldiTerm ca cb)).2 + ε)
    (f : Nat) (src dst : Np) (l : List Lk) (t : Int) (h : globalRoute P f src dst [] 0 = .ok (l, t)) :
    ∃ segs, specRoute P f src dst = .ok segs ∧ l = flatLinks segs ∧
      sumLat P l + ((vivTerms V segs).map (fun x => (termBracket U m x).1)).sum - (vivTerms V segs).length * ε ≤ t ∧
      t ≤ sumLat P l + ((vivTerms V segs).map (fun x => (termBracket U m x).2)).sum + (vivTerms V segs).length * ε := by
  obtain ⟨segs, hs, hl, ht⟩ := latency_is_sum_vivaldi P hT V ρ hV hN f src dst l t h
  refine ⟨segs, hs, hl, ?_⟩
  have := sum_between (vivTerms V segs) ρ (fun x => (termBracket U m x).1) (fun x => (termBracket U m x).2) ε
    (vivTerms_forall V segs _ hρ)
  omega

/-- the value of a term is unique: `HasValue` specifies a function of the coordinates (√ of the radicand) -/
theorem vivaldi_value_unique (t : VTerm) (v w : Rat) (hv : t.HasValue v) (hw : t.HasValue w) : v = w := by
  obtain ⟨hv0, hv2⟩ := hv
  obtain ⟨hw0, hw2⟩ := hw
  have h1 : v * 1000 - t.hsum ≤ w * 1000 - t.hsum :=
    rat_le_of_sq_le (v * 1000 - t.hsum) (w * 1000 - t.hsum) hw0 (by rw [hv2, hw2]; exact Rat.le_refl)
  have h2 : w * 1000 - t.hsum ≤ v * 1000 - t.hsum :=
    rat_le_of_sq_le (w * 1000 - t.hsum) (v * 1000 - t.hsum) hv0 (by rw [hv2, hw2]; exact Rat.le_refl)
  grind

/-- the model's term does not depend on the direction: `vivaldiTerm a b` and `vivaldiTerm b a` have the same values -/
theorem vivaldi_term_symmetric (a b : Coord) (v : Rat) (h : (vivaldiTerm a b).HasValue v) :
    (vivaldiTerm b a).HasValue v :=
  vivaldiTerm_comm a b ▸ h

/-- **the rational bracket of a term (what the driver compares the library's term with) contains the value of the
term**: for any scale `m > 0` and any latency unit, `lo ≤ v · unit ≤ hi`, where `v` is the value in seconds of
`vivaldiTerm a b` (specified by `HasValue`) and `(lo, hi) = termBracket unit m (vivaldiTerm a b)`. -/
theorem vivaldi_value_in_bracket (unit m : Nat) (hm : 0 < m) (a b : Coord) (v : Rat)
    (hv : (vivaldiTerm a b).HasValue v) :
    ((termBracket unit m (vivaldiTerm a b)).1 : Rat) ≤ v * unit ∧
      v * unit ≤ ((termBracket unit m (vivaldiTerm a b)).2 : Rat) :=
  termBracket_sound unit m hm _ v hv

/-- **The composition consults the gateways returned by the zone's local answer, not the zones' default gateways**
(item: Torus / FatTree / Dragonfly zones whose leaves are netzones return `gw_src_ = get_gateway(src->id())`, the entry
of ClusterBase's table filled by `fill_leaf_from_cb`): on a platform whose local answers name the gateway of every
end that is a netzone, the route and latency of every pair are the same whatever the `NetZoneImpl` default gateways
(`seal`'s rules, `set_gateway`) are — for every platform, every pair, both variants.  Together with
`global_route_is_concat`: the route is a function of the answers `loc` (links, gw_src, gw_dst) alone; the kind of a
zone appears nowhere in the composition. -/
theorem route_independent_of_default_gateways (P Q : Plat) (h : SameButGateway P Q) (hG : GatewaysDeclared P)
    (src dst : Np) : routeTo Q src dst = routeTo P src dst := by
  obtain ⟨γ, rfl⟩ := h.exists_eq
  exact globalRouteV_gw P γ _ hG _ src dst [] 0

theorem global_route_independent_of_default_gateways (P Q : Plat) (h : SameButGateway P Q) (hG : GatewaysDeclared P)
    (f : Nat) (src dst : Np) (links : List Lk) (lat : Int) :
    globalRoute Q f src dst links lat = globalRoute P f src dst links lat := by
  obtain ⟨γ, rfl⟩ := h.exists_eq
  exact globalRouteV_gw P γ _ hG f src dst links lat

/-- root(0) Full { Z0(1) {g=10},  Z1(2) Star { r1=11, Z2(3) Full { h=12, r2=13 } } };
Z2: h→r2 = [1,2];  Z1: Z2@r2 → r1 = [3,4];  root: Z1@r1 → Z0@g = [5,6]  (and the symmetric reverses). -/
def witnessD4 : Plat where
  parent := fun z => match z with | 1 => some 0 | 2 => some 0 | 3 => some 2 | _ => none
  zoneOf := fun n => match n with | 10 => 1 | 11 => 2 | 12 => 3 | 13 => 3 | 3 => 2 | _ => 0
  zoneNp := fun z => z
  isZone := fun n => n < 4
  gateway := fun z => match z with | 1 => some 10 | 2 => some 11 | 3 => some 13 | _ => none
  prepend := fun _ => false
  loc := fun z a b => match z, a, b with
    | 3, 12, 13 => some { links := [1, 2], gwSrc := none, gwDst := none }
    | 3, 13, 12 => some { links := [2, 1], gwSrc := none, gwDst := none }
    | 2, 3, 11 => some { links := [3, 4], gwSrc := some 13, gwDst := none }
    | 2, 11, 3 => some { links := [4, 3], gwSrc := none, gwDst := some 13 }
    | 0, 2, 1 => some { links := [5, 6], gwSrc := some 11, gwDst := some 10 }
    | 0, 1, 2 => some { links := [6, 5], gwSrc := some 10, gwDst := some 11 }
    | _, _, _ => none
  bypass := fun _ => []
  lat := fun l => (2 : Int) ^ l
  depth := 4

theorem witnessD4_tree : TreeLike witnessD4 := by
  intro np
  unfold allEnglobing witnessD4
  dsimp only
  split <;> decide

/-- the hypotheses of the composition theorem are satisfiable, on a 3-level platform with an upward inter-zone
route of two links (the witness of the defect fixed by 5b4d2adf5e): h→g is `1 2 3 4 5 6`, g→h the reverse,
latency = Σ 2^link -/
example : TreeLike witnessD4 ∧ BypassGwNotInPrependZone witnessD4 ∧
    routeTo witnessD4 12 10 = .ok ([1, 2, 3, 4, 5, 6], 126) ∧
    routeTo witnessD4 10 12 = .ok ([6, 5, 4, 3, 2, 1], 126) ∧
    (specRouteTo witnessD4 12 10).toOption.map flatLinks = some [1, 2, 3, 4, 5, 6] :=
  ⟨witnessD4_tree, bypassGw_ok_of_no_bypass _ (fun _ => rfl), by decide, by decide, by decide⟩

/-- root(0) Full { Z0(1) Full {g=10,k=11},  Z1(2) Dijkstra {h=12,m=13} };  bypass in root Z0→Z1 through k and m = [7];
Z0: g→k = [1];  Z1: m→h = [2] -/
def witnessBypassDijkstra : Plat where
  parent := fun z => match z with | 1 => some 0 | 2 => some 0 | _ => none
  zoneOf := fun n => match n with | 10 => 1 | 11 => 1 | 12 => 2 | 13 => 2 | _ => 0
  zoneNp := fun z => z
  isZone := fun n => n < 3
  gateway := fun _ => none
  prepend := fun z => z == 2
  loc := fun z a b => match z, a, b with
    | 1, 10, 11 => some { links := [1], gwSrc := none, gwDst := none }
    | 2, 13, 12 => some { links := [2], gwSrc := none, gwDst := none }
    | _, _, _ => none
  bypass := fun z => match z with
    | 0 => [((1, 2), { gwSrc := some 11, gwDst := some 13, links := [7] })]
    | _ => []
  lat := fun _ => 1
  depth := 3

theorem witnessBypassDijkstra_tree : TreeLike witnessBypassDijkstra := by
  intro np
  unfold allEnglobing witnessBypassDijkstra
  dsimp only
  split <;> decide

/-- **Regression witness of the fixed defect `bypass-tail-in-dijkstra-zone`**: a bypass route whose destination
gateway lies in a Dijkstra zone.  Before the fix the implementation handed the accumulated list to
`DijkstraZone::get_local_route`, which inserts at the front: g→h came out as `2 1 7` (last segment first) where the
concatenation in path order is `1 7 2` — the pre-fix variant violates the full-strength statement, and the platform
does not satisfy the hypothesis the pre-fix theorem needed.  (Corpus case `bypass-dijkstra` replays it on the library.) -/
theorem global_route_is_concat_prefix_counterexample :
    TreeLike witnessBypassDijkstra ∧ ¬ BypassGwNotInPrependZone witnessBypassDijkstra ∧
    routeToV false witnessBypassDijkstra 10 12 = .ok ([2, 1, 7], 3) ∧
    (specRouteTo witnessBypassDijkstra 10 12).toOption.map flatLinks = some [1, 7, 2] ∧
    globalRouteV false witnessBypassDijkstra 5 10 12 [] 0 ≠
      lift witnessBypassDijkstra 0 (fun l => l) (specRoute witnessBypassDijkstra 5 10 12) :=
  ⟨witnessBypassDijkstra_tree,
   fun h => absurd (h 0 (1, 2) { gwSrc := some 11, gwDst := some 13, links := [7] } 13 (by simp [witnessBypassDijkstra]) rfl)
     (by decide),
   by decide, by decide, by decide⟩

/-- the same platform on the code as it is now: `1 7 2`, the concatenation in path order (non-vacuity of
`global_route_is_concat` on a platform that does not satisfy `BypassGwNotInPrependZone`) -/
theorem global_route_is_concat_fixed_witness :
    routeTo witnessBypassDijkstra 10 12 = .ok ([1, 7, 2], 3) ∧
    globalRoute witnessBypassDijkstra 5 10 12 [] 0 =
      lift witnessBypassDijkstra 0 (fun l => l) (specRoute witnessBypassDijkstra 5 10 12) :=
  ⟨by decide, global_route_is_concat _ witnessBypassDijkstra_tree 5 10 12⟩

def c10 : Coord := { x := 3000, y := 4000, h := -1000 }
def c11 : Coord := { x := 0, y := 0, h := 2000 }

/-- Z1 = Vivaldi { h = 10 at (3000, 4000, -1000) ms, g = 11 at (0, 0, 2000) ms }, peer links 1 (of h) and 2 (of g) -/
def witnessViv : Viv where
  isViv := fun z => z == 1
  tab := fun _ => [(10, { up := [1], down := [1], upSet := true, downSet := true }),
                   (11, { up := [2], down := [2], upSet := true, downSet := true })]
  verts := fun _ => [10, 11]
  coords := fun n => match n with | 10 => some c10 | 11 => some c11 | _ => none
  routerOf := fun _ => none

/-- evaluation of a term in whole seconds (exact on this platform: √(3000² + 4000²) = 5000 ms) -/
def witnessEval (t : VTerm) : Int := (termBracket 1 1 t).1

/-- root(0) Full { Z1(1) = `witnessViv`, Z2(2) Full { k = 12 } };  root: Z1@g → Z2@k = [5].  The answers of Z1 are
the Vivaldi model's. -/
def witnessVivaldi : Plat where
  parent := fun z => match z with | 1 => some 0 | 2 => some 0 | _ => none
  zoneOf := fun n => match n with | 10 => 1 | 11 => 1 | 12 => 2 | _ => 0
  zoneNp := fun z => z
  isZone := fun n => n < 3
  gateway := fun _ => none
  prepend := fun _ => false
  loc := fun z a b =>
    if z == 1 then (witnessViv.local (fun n => n < 3) 1 a b).map (VRoute.toRoute witnessEval)
    else match z, a, b with
      | 0, 1, 2 => some { links := [5], gwSrc := some 11, gwDst := some 12 }
      | 0, 2, 1 => some { links := [5], gwSrc := some 12, gwDst := some 11 }
      | _, _, _ => none
  bypass := fun _ => []
  lat := fun _ => 1
  depth := 3

theorem witnessVivaldi_tree : TreeLike witnessVivaldi := by
  intro np
  unfold allEnglobing witnessVivaldi
  dsimp only
  split <;> decide

theorem witnessVivaldi_follows : FollowsVivaldi witnessVivaldi witnessViv witnessEval := by
  intro z hz a b
  have hz1 : z = 1 := by simpa [witnessViv] using hz
  subst hz1
  rfl

theorem witnessVivaldi_only : OnlyVivaldiAdds witnessVivaldi witnessViv := by
  intro z a b r hz h
  have hz1 : (z == 1) = false := hz
  unfold witnessVivaldi at h
  dsimp only at h
  rw [hz1, if_neg Bool.false_ne_true] at h
  split at h <;> cases h <;> rfl

theorem witnessVivaldi_exact (z : Zn) (a b : Np) (ca cb : Coord) (_ : witnessViv.isViv z = true)
    (ha : witnessViv.coords a = some ca) (hb : witnessViv.coords b = some cb) :
    (vivaldiTerm ca cb).HasValue ((witnessEval (vivaldiTerm ca cb) : Rat) / (1 : Nat)) := by
  simp only [witnessViv] at ha hb
  split at ha <;> cases ha <;> split at hb <;> cases hb <;>
    (show (0 : Rat) ≤ _ ∧ _ = _) <;> decide +kernel

/-- non-vacuity of `latency_is_sum_vivaldi` (and of its `_exact` / `_bracket` forms): h → k crosses the Vivaldi segment
(h, g): links `1 2 5` (1 s each), coordinate term (√(3000² + 4000²) + 1000 + 2000) / 1000 = 8 s: 11 s in all; the terms
of the route are exactly `[vivaldiTerm c10 c11]`, with value 8 -/
example : TreeLike witnessVivaldi ∧ FollowsVivaldi witnessVivaldi witnessViv witnessEval ∧
    OnlyVivaldiAdds witnessVivaldi witnessViv ∧
    routeTo witnessVivaldi 10 12 = .ok ([1, 2, 5], 11) ∧
    routeTo witnessVivaldi 12 10 = .ok ([5, 2, 1], 11) ∧
    (specRouteTo witnessVivaldi 10 12).toOption.map (vivTerms witnessViv) = some [vivaldiTerm c10 c11] ∧
    witnessEval (vivaldiTerm c10 c11) = 8 ∧ (vivaldiTerm c10 c11).HasValue 8 ∧
    (∀ z a b ca cb, witnessViv.isViv z = true → witnessViv.coords a = some ca → witnessViv.coords b = some cb →
      (vivaldiTerm ca cb).HasValue ((witnessEval (vivaldiTerm ca cb) : Rat) / (1 : Nat))) ∧
    termBracket 1 1 (vivaldiTerm c10 c11) = (8, 8) :=
  ⟨witnessVivaldi_tree, witnessVivaldi_follows, witnessVivaldi_only, by decide +kernel, by decide +kernel,
   by decide +kernel, by decide +kernel, by (show (0 : Rat) ≤ _ ∧ _ = _); decide +kernel, witnessVivaldi_exact,
   by decide +kernel⟩

/- a cluster-like zone with netzone leaves: T(1) = "torus" { A(2) {10, 11}, B(3) {12, 13}, router 14 },
   X(4) {15} next to it under root(0).  T's answers between its leaves carry the gateways of its table (A ↦ 11, B ↦ 12);
   towards its router it answers nothing (`if (dst->is_router() || src->is_router()) return;`). -/
def witnessTorusG (withRouterRoutes : Bool) (gw : Zn → Option Np) : Plat where
  parent := fun z => match z with | 1 => some 0 | 2 => some 1 | 3 => some 1 | 4 => some 0 | _ => none
  zoneOf := fun n => match n with | 10 => 2 | 11 => 2 | 12 => 3 | 13 => 3 | 14 => 1 | 15 => 4 | 2 => 1 | 3 => 1 | _ => 0
  zoneNp := fun z => z
  isZone := fun n => n < 5
  gateway := gw
  prepend := fun _ => false
  loc := fun z a b => match z, a, b with
    | 2, 10, 11 => some { links := [1], gwSrc := none, gwDst := none }
    | 3, 12, 13 => some { links := [2], gwSrc := none, gwDst := none }
    | 1, 2, 3 => some { links := [100], gwSrc := some 11, gwDst := some 12 }
    | 1, 3, 2 => some { links := [100], gwSrc := some 12, gwDst := some 11 }
    | 1, 2, 14 => if withRouterRoutes then some { links := [], gwSrc := none, gwDst := none } else none
    | 0, 1, 4 => if withRouterRoutes then some { links := [7], gwSrc := some 14, gwDst := some 15 } else none
    | _, _, _ => none
  bypass := fun _ => []
  lat := fun _ => 1
  depth := 4

def torusDefaults : Zn → Option Np := fun z => match z with | 2 => some 11 | 3 => some 12 | _ => none

theorem witnessTorus_declared : GatewaysDeclared (witnessTorusG false torusDefaults) := by
  intro z a b r h
  unfold witnessTorusG at h ⊢
  dsimp only at h ⊢
  split at h <;> first | (cases h; simp) | (simp at h)

/-- non-vacuity of `route_independent_of_default_gateways`: between the leaves of the torus the route `1 100 2` goes
through the gateways of the torus' table, with or without default gateways on the leaves -/
example : SameButGateway (witnessTorusG false torusDefaults) (witnessTorusG false (fun _ => none)) ∧
    GatewaysDeclared (witnessTorusG false torusDefaults) ∧
    routeTo (witnessTorusG false torusDefaults) 10 13 = .ok ([1, 100, 2], 3) ∧
    routeTo (witnessTorusG false (fun _ => none)) 10 13 = .ok ([1, 100, 2], 3) :=
  ⟨⟨rfl, rfl, rfl, rfl, rfl, rfl, rfl, rfl, rfl⟩, witnessTorus_declared, by decide, by decide⟩

/-- the hypothesis `GatewaysDeclared` is needed: towards the torus' router the zone's answer has no gateway and the
composition falls back on the leaf's default gateway (`(*it)->get_gateway()`) — `1 7` with it, an error without -/
theorem route_depends_on_default_gateway_when_answer_has_none :
    SameButGateway (witnessTorusG true torusDefaults) (witnessTorusG true (fun _ => none)) ∧
    ¬ GatewaysDeclared (witnessTorusG true torusDefaults) ∧
    routeTo (witnessTorusG true torusDefaults) 10 15 = .ok ([1, 7], 2) ∧
    routeTo (witnessTorusG true (fun _ => none)) 10 15 = .error .noGateway :=
  ⟨⟨rfl, rfl, rfl, rfl, rfl, rfl, rfl, rfl, rfl⟩,
   fun h => absurd ((h 1 2 14 { links := [], gwSrc := none, gwDst := none } rfl).1 (by decide)) (by decide),
   by decide, by decide⟩

/-- non-vacuity of `vivaldi_value_unique`, `vivaldi_term_symmetric`, `vivaldi_value_in_bracket`: the 3-4-5 triangle with
heights -1000 and 2000 ms: value 8 s in both directions, bracket [8, 8] at unit 1 s; and an irrational case: the bracket
of (1,1)–(0,0) at 2^-50 s is one unit wide -/
example : (vivaldiTerm c10 c11).HasValue 8 ∧ (vivaldiTerm c11 c10).HasValue 8 ∧
    termBracket 1 1 (vivaldiTerm c10 c11) = (8, 8) ∧
    termBracket (2 ^ 50) (2 ^ 64) (vivaldiTerm ⟨1, 1, 0⟩ ⟨0, 0, 0⟩) = (1592262918131, 1592262918132) :=
  ⟨by (show (0 : Rat) ≤ _ ∧ _ = _); decide +kernel, by (show (0 : Rat) ≤ _ ∧ _ = _); decide +kernel,
   by decide +kernel, by decide +kernel⟩

/-- non-vacuity of `symmetric_route_reversed`: a 3-link inter-zone route with gateways -/
example : ∃ t', fullAddRoute true [] 1 2 (some 11) (some 13) [5, 6, 7] true = some t' ∧
    (fullLocal t' 2 1).links = [7, 6, 5] ∧ (fullLocal t' 2 1).gwSrc = some 13 := ⟨_, rfl, by decide, by decide⟩

end SgVerif.C24
