import SgVerif.C24.Model
import SgVerif.Common.Rat
/-
Each loop of the C++ (`get_interzone_route`, `find_common_ancestors`) is shown equal to its recursive counterpart in the
specification through `lift`, which says how segments end up in the in/out accumulators; `globalRouteV_spec` assembles them.
Then the coordinate term of Vivaldi segments with its rational bracket, and platforms that differ by their default gateways.
-/
namespace SgVerif.C24

theorem sumLat_nil (P : Plat) : sumLat P [] = 0 := by simp [sumLat]

theorem sumLat_append (P : Plat) (a b : List Lk) : sumLat P (a ++ b) = sumLat P a + sumLat P b := by
  simp [sumLat, List.sum_append]

theorem sumLat_reverse (P : Plat) (a : List Lk) : sumLat P a.reverse = sumLat P a := by
  rw [sumLat, List.map_reverse, List.sum_reverse]; rfl

theorem flatLinks_nil : flatLinks [] = [] := rfl

theorem flatLinks_append (a b : List Seg) : flatLinks (a ++ b) = flatLinks a ++ flatLinks b := by
  simp [flatLinks]

theorem flatLinks_cons (s : Seg) (b : List Seg) : flatLinks (s :: b) = s.links ++ flatLinks b := by
  simp [flatLinks]

theorem flatLinks_single (s : Seg) : flatLinks [s] = s.links := by
  simp [flatLinks]

theorem segsExtra_append (a b : List Seg) : segsExtra (a ++ b) = segsExtra a + segsExtra b := by
  simp [segsExtra, List.sum_append]

theorem segsLat_nil (P : Plat) : segsLat P [] = 0 := by
  simp [segsLat, flatLinks, segsExtra, sumLat]

theorem segsLat_append (P : Plat) (a b : List Seg) : segsLat P (a ++ b) = segsLat P a + segsLat P b := by
  simp only [segsLat, flatLinks_append, sumLat_append, segsExtra_append]; omega

theorem segsLat_cons (P : Plat) (s : Seg) (b : List Seg) :
    segsLat P (s :: b) = sumLat P s.links + s.extra + segsLat P b := by
  simp only [segsLat, flatLinks_cons, sumLat_append, segsExtra, List.map_cons, List.sum_cons]; omega

theorem segsLat_single (P : Plat) (s : Seg) : segsLat P [s] = sumLat P s.links + s.extra := by
  rw [segsLat_cons, segsLat_nil]; omega

theorem segsLat_loc (P : Plat) (z : Zn) (a b : Np) (r : Route) : segsLat P [.loc z a b r] = routeLat P r := by
  rw [segsLat_single]; rfl

/-- the result of a model function expressed from the segments of the spec: links placed by `place`, latency added -/
def lift (P : Plat) (lat : Int) (place : List Lk → List Lk) : Except Err (List Seg) → Except Err (List Lk × Int)
  | .error e => .error e
  | .ok segs => .ok (place (flatLinks segs), lat + segsLat P segs)

/-- `lift` commutes with sequencing.  The `match`es below are not syntactically those of `Model`: apply with `refine`,
which unifies through them, not `rw`. -/
theorem lift_bind {P : Plat} {lat : Int} {links : List Lk} {x : Except Err (List Lk × Int)}
    {y : Except Err (List Seg)} {k : List Lk → Int → Except Err (List Lk × Int)}
    {k' : List Seg → Except Err (List Seg)} (hxy : x = lift P lat (links ++ ·) y)
    (hk : ∀ s, k (links ++ flatLinks s) (lat + segsLat P s) = lift P lat (links ++ ·) (k' s)) :
    (match (generalizing := false) x with
      | .error e => .error e
      | .ok (l, t) => k l t) =
    lift P lat (links ++ ·) (match (generalizing := false) y with
      | .error e => .error e
      | .ok s => k' s) := by
  subst hxy
  cases y with
  | error e => rfl
  | ok s => exact hk s

theorem interzone_up (P : Plat) (np : Np) (path : List Zn) (gw : Np) :
    ∀ (links : List Lk) (lat : Int),
      interzone P np false path gw links lat = lift P lat (· ++ links) (specUp P np path gw) := by
  fun_induction specUp P np path gw with
  | case1 path hz => intro links lat; rw [interzone.eq_def]; simp [lift, flatLinks_nil, segsLat_nil]
  | case2 | case4 | case5 | case6 | case7 => intro links lat; rw [interzone.eq_def]; simp [*, lift]
  | case3 path gw hz hg r hl =>
    intro links lat; rw [interzone.eq_def]; simp [hz, hg, hl, lift, flatLinks_single, Seg.links, segsLat_loc]
  | case8 gw hz z rest r hl g hi segs hs ih =>
    intro links lat; rw [interzone.eq_def]
    simp only [hz, hl, hi, ih, hs, lift, ne_eq, not_false_eq_true, if_true, Bool.false_eq_true, if_false,
      flatLinks_append, flatLinks_single, Seg.links, segsLat_append, segsLat_loc, List.append_assoc]
    congr 2; omega

theorem interzone_down (P : Plat) (np : Np) (path : List Zn) (gw : Np) :
    ∀ (links : List Lk) (lat : Int),
      interzone P np true path gw links lat = lift P lat (links ++ ·) (specDown P np path gw) := by
  fun_induction specDown P np path gw with
  | case1 path hz => intro links lat; rw [interzone.eq_def]; simp [lift, flatLinks_nil, segsLat_nil]
  | case2 | case4 | case5 | case6 | case7 => intro links lat; rw [interzone.eq_def]; simp [*, lift]
  | case3 path gw hz hg r hl =>
    intro links lat; rw [interzone.eq_def]; simp [hz, hg, hl, lift, flatLinks_single, Seg.links, segsLat_loc]
  | case8 gw hz z rest r hl g hi segs hs ih =>
    intro links lat; rw [interzone.eq_def]
    simp only [hz, hl, hi, ih, hs, lift, ne_eq, not_false_eq_true, if_true, flatLinks_cons, Seg.links,
      segsLat_cons, Seg.extra, List.append_assoc]
    congr 2; simp only [routeLat]; omega

/-- `a` is the zone before the two paths, `i` its index, `k` the number of common zones after it -/
theorem caIndex_split : ∀ (as bs : List Zn) (a : Zn) (i : Nat), ∃ k ca, caIndex as bs (i+1) i = i + k ∧
    (a :: as)[k]? = some ca ∧ (a :: bs)[k]? = some ca ∧ splitCommon a as bs = (ca, as.drop k, bs.drop k)
  | [], _, a, i => ⟨0, a, rfl, rfl, rfl, rfl⟩
  | _ :: _, [], a, i => ⟨0, a, rfl, rfl, rfl, rfl⟩
  | x :: xs, y :: ys, a, i => by
    rw [caIndex, splitCommon]
    by_cases h : x = y
    · obtain ⟨k, ca, h1, h2, h3, h4⟩ := caIndex_split xs ys x (i+1)
      rw [if_neg (fun hn => hn h), if_pos h]
      exact ⟨k + 1, ca, by rw [h1, Nat.add_assoc, Nat.add_comm 1], h2, h ▸ h3, h4⟩
    · rw [if_pos h, if_neg h]
      exact ⟨0, a, rfl, rfl, rfl, rfl⟩

theorem not_mem_drop_succ {l : List Zn} {k : Nat} {x : Zn} (hn : l.Nodup) (h : l[k]? = some x) :
    x ∉ l.drop (k + 1) := by
  intro hm
  obtain ⟨j, hj⟩ := List.mem_iff_getElem?.mp hm
  rw [List.getElem?_drop, ← h] at hj
  have := (List.getElem?_inj (List.getElem?_eq_some_iff.mp h).1 hn).mp hj.symm
  omega

theorem specAnc_sameZone (P : Plat) (src dst : Np) (h : P.zoneOf src = P.zoneOf dst) :
    specAncestors P src dst = .ok (P.zoneOf src, [], []) := by
  simp [specAncestors, h]

theorem findCA_sameZone (P : Plat) (src dst : Np) (h : P.zoneOf src = P.zoneOf dst) (sp dp : List Zn) :
    findCommonAncestors P src dst sp dp =
      .ok { ca := P.zoneOf src, sa := P.zoneOf src, da := P.zoneOf src, sp := sp, dp := dp } := by
  simp [findCommonAncestors, h]

/-- the index loop + the two `erase` of find_common_ancestors compute what the simultaneous descent computes; on a
tree the common ancestor is not met again below it -/
theorem findCA_eq (P : Plat) (src dst : Np) (hs : (allEnglobing P src).Nodup) (hd : (allEnglobing P dst).Nodup) :
    match specAncestors P src dst with
    | .error e => findCommonAncestors P src dst (allEnglobing P src) (allEnglobing P dst) = .error e
    | .ok (ca, sp, dp) => ∃ A, findCommonAncestors P src dst (allEnglobing P src) (allEnglobing P dst) = .ok A ∧
        A.ca = ca ∧ (P.zoneOf src ≠ P.zoneOf dst →
          A = { ca := ca, sa := frontOr sp ca, da := frontOr dp ca, sp := sp, dp := dp } ∧ ca ∉ sp ∧ ca ∉ dp) := by
  by_cases hz : P.zoneOf src = P.zoneOf dst
  · rw [specAnc_sameZone P src dst hz, findCA_sameZone P src dst hz]
    exact ⟨_, rfl, rfl, fun h => absurd hz h⟩
  unfold findCommonAncestors specAncestors
  simp only [hz, if_false]
  cases hs' : allEnglobing P src with
  | nil => simp
  | cons s0 ss =>
    cases hd' : allEnglobing P dst with
    | nil => simp
    | cons d0 ds =>
      by_cases h0 : s0 = d0
      · subst h0
        obtain ⟨k, ca, h1, h2, h3, h4⟩ := caIndex_split ss ds s0 0
        simp only [ne_eq, not_true_eq_false, if_false, caIndex, h1, Nat.zero_add, h2, h4, List.drop_succ_cons]
        exact ⟨_, rfl, rfl, fun _ => ⟨rfl, not_mem_drop_succ (hs' ▸ hs) h2, not_mem_drop_succ (hd' ▸ hd) h3⟩⟩
      · simp [h0]

theorem global_cross (P : Plat) (src dst : Np) (links : List Lk) (lat : Int) (ca : Zn) (sp dp : List Zn)
    (hsp : ca ∉ sp) (hdp : ca ∉ dp) :
    crossRoute P src dst links lat { ca := ca, sa := frontOr sp ca, da := frontOr dp ca, sp := sp, dp := dp } =
    lift P lat (links ++ ·) (specCross P src dst ca sp dp) := by
  unfold crossRoute specCross
  cases sp with
  | nil =>
    cases dp with
    | nil =>
      simp only [frontOr, ne_eq, not_true_eq_false, if_false]
      cases P.loc ca src dst with
      | none => rfl
      | some r => simp [lift, flatLinks_single, Seg.links, segsLat_loc]
    | cons zd rd =>
      have hd : zd ≠ ca := fun e => hdp (e ▸ List.mem_cons_self ..)
      simp only [frontOr, ne_eq, not_true_eq_false, if_false, hd, not_false_eq_true, if_true, List.tail_cons]
      cases P.loc ca src (P.zoneNp zd) with
      | none => rfl
      | some r =>
        simp only []
        cases r.gwDst with
        | none => rfl
        | some g =>
          simp only [interzone_down]
          cases specDown P dst rd g with
          | error e => rfl
          | ok d =>
            simp only [lift, List.nil_append, flatLinks_cons, Seg.links, segsLat_cons, Seg.extra, List.append_assoc]
            congr 2; simp only [routeLat]; omega
  | cons zs rs =>
    have hs : zs ≠ ca := fun e => hsp (e ▸ List.mem_cons_self ..)
    cases dp with
    | nil =>
      simp only [frontOr, ne_eq, not_true_eq_false, if_false, hs, not_false_eq_true, if_true, List.tail_cons]
      cases P.loc ca (P.zoneNp zs) dst with
      | none => rfl
      | some r =>
        simp only []
        cases r.gwSrc with
        | none => rfl
        | some g =>
          simp only [interzone_up]
          cases specUp P src rs g with
          | error e => rfl
          | ok u =>
            simp only [lift, List.append_nil, flatLinks_append, flatLinks_single, Seg.links, segsLat_append,
              segsLat_loc, List.append_assoc]
            congr 2; omega
    | cons zd rd =>
      have hd : zd ≠ ca := fun e => hdp (e ▸ List.mem_cons_self ..)
      simp only [frontOr, ne_eq, hd, hs, not_false_eq_true, if_true, List.tail_cons]
      cases P.loc ca (P.zoneNp zs) (P.zoneNp zd) with
      | none => rfl
      | some r =>
        simp only []
        cases r.gwSrc with
        | none => rfl
        | some g =>
          simp only [interzone_up]
          cases specUp P src rs g with
          | error e => rfl
          | ok u =>
            simp only [lift, List.append_nil]
            cases r.gwDst with
            | none => rfl
            | some g2 =>
              simp only [interzone_down]
              cases specDown P dst rd g2 with
              | error e => rfl
              | ok d =>
                simp only [lift, List.nil_append, flatLinks_append, flatLinks_cons, Seg.links, segsLat_append,
                  segsLat_cons, Seg.extra, List.append_assoc]
                congr 2; simp only [routeLat]; omega

/-- what the main lemma needs, for the code before the fix, of the destination gateways of bypass routes, phrased on
the search result (`Props`: `BypassGwNotInPrependZone`, on the declared tables, implies it) -/
def BypassOk (P : Plat) : Prop :=
  ∀ z src dst key b g, bypassFind P z src dst = .via key b → b.gwDst = some g → P.prepend (P.zoneOf g) = false

/-- Main lemma: the iterative code with its in/out accumulators = the recursive specification, for every fuel,
every accumulated prefix `links`/`lat`, for both variants of the same-zone case.  With `fx = true` (the code as it
is now) there is no side condition; the pre-fix variant needs `BypassOk` and the side condition on `links`
(what the front insertion of Dijkstra zones needs, see `Props`). -/
theorem globalRouteV_spec (fx : Bool) (P : Plat) (hn : ∀ np, (allEnglobing P np).Nodup) (H : fx = true ∨ BypassOk P) :
    ∀ (f : Nat) (src dst : Np) (links : List Lk) (lat : Int),
      (fx = true ∨ links = [] ∨ P.prepend (P.zoneOf src) = false) →
      globalRouteV fx P f src dst links lat = lift P lat (links ++ ·) (specRoute P f src dst) := by
  intro f
  induction f with
  | zero => intro src dst links lat _; rfl
  | succ f ih =>
    intro src dst links lat hpre
    rw [globalRouteV, specRoute]
    have hA := findCA_eq P src dst (hn src) (hn dst)
    cases hsa : specAncestors P src dst with
    | error e => rw [hsa] at hA; rw [hA]; rfl
    | ok t =>
      obtain ⟨ca, sp, dp⟩ := t
      rw [hsa] at hA
      obtain ⟨A, hA, rfl, hA'⟩ := hA
      rw [hA]
      simp only []
      cases hb : bypassFind P A.ca src dst with
      | direct b =>
        simp only [lift, flatLinks_single, Seg.links, segsLat_single, Seg.extra]
        congr 2; omega
      | none =>
        simp only []
        by_cases hz : P.zoneOf src = P.zoneOf dst
        · have hca : P.zoneOf src = A.ca :=
            (Prod.mk.inj (Except.ok.inj ((specAnc_sameZone P src dst hz).symm.trans hsa))).1
          rw [if_pos hz, if_pos hz, ← hca]
          cases P.loc (P.zoneOf src) src dst with
          | none => rfl
          | some r =>
            simp only [lift, flatLinks_single, Seg.links, segsLat_loc]
            rcases hpre with hf | hl | hp
            · simp [hf]
            · subst hl; simp
            · simp [hp]
        · obtain ⟨hAe, hsp, hdp⟩ := hA' hz
          rw [if_neg hz, if_neg hz, hAe]
          exact global_cross P src dst links lat A.ca sp dp hsp hdp
      | via key b =>
        simp only []
        refine lift_bind ?_ (fun s1 => ?_)
        · by_cases hs : src = key.1
          · simp [hs, lift, flatLinks_nil, segsLat_nil]
          · rw [if_pos hs, if_pos hs]
            cases b.gwSrc with
            | none => rfl
            | some g => exact ih src g links lat hpre
        · by_cases hd : dst = key.2
          · simp only [hd, ne_eq, not_true_eq_false, if_false, lift, flatLinks_append, flatLinks_single, Seg.links,
              segsLat_append, segsLat_single, Seg.extra, List.append_assoc]
            congr 2; omega
          · rw [if_pos hd, if_pos hd]
            cases hg : b.gwDst with
            | none => rfl
            | some g =>
              simp only []
              rw [ih g dst _ _ (H.elim Or.inl (fun H => Or.inr (Or.inr (H _ src dst key b g hb hg))))]
              cases specRoute P f g dst with
              | error e => rfl
              | ok s2 =>
                simp only [lift, flatLinks_append, flatLinks_cons, Seg.links, segsLat_append, segsLat_cons,
                  Seg.extra, List.append_assoc]
                congr 2; omega

/-- the Route (`Plat.loc` entry) made of an answer of the Vivaldi model, its term evaluated by `ρ` -/
def VRoute.toRoute (ρ : VTerm → Int) (m : VRoute) : Route :=
  { links := m.links, gwSrc := m.gwSrc, gwDst := m.gwDst, extra := ρ m.term }

/-- the Vivaldi zones of `P` answer what the model of VivaldiZone::get_local_route answers (`V.local`: links of the
Star part, gateways, exception when an end has no coordinates …), and what they add to the latency beyond their links is
the model's coordinate term `vivaldiTerm (coords src) (coords dst)` evaluated by `ρ` (the numeric evaluation of
`(√rad + hsum) / 1000` in latency units — the only thing left abstract). -/
def FollowsVivaldi (P : Plat) (V : Viv) (ρ : VTerm → Int) : Prop :=
  ∀ z, V.isViv z = true → ∀ a b, P.loc z a b = (V.local P.isZone z a b).map (VRoute.toRoute ρ)

/-- no other zone adds anything to the latency beyond its links -/
def OnlyVivaldiAdds (P : Plat) (V : Viv) : Prop :=
  ∀ z a b r, V.isViv z = false → P.loc z a b = some r → r.extra = 0

theorem vivaldiTerm_comm (a b : Coord) : vivaldiTerm b a = vivaldiTerm a b := by
  have sq : ∀ x y : Rat, (y - x) * (y - x) = (x - y) * (x - y) := fun x y => by
    rw [← Rat.neg_sub, Rat.neg_mul, Rat.mul_neg, Rat.neg_neg]
  simp only [vivaldiTerm, sq, Rat.add_comm (ratAbs b.h)]

theorem vivaldiLocal_term (isZone : Np → Bool) (routerOf : Np → Option Np) (coords : Np → Option Coord)
    (t : StarTab) (verts : List Np) (a b : Np) (m : VRoute)
    (h : vivaldiLocal isZone routerOf coords t verts a b = some m) :
    ∃ ca cb, coords a = some ca ∧ coords b = some cb ∧ m.term = vivaldiTerm ca cb := by
  unfold vivaldiLocal at h
  simp only at h
  split at h
  · cases h
  · split at h
    · rename_i ca cb hca hcb
      cases h
      exact ⟨ca, cb, hca, hcb, rfl⟩
    · cases h

theorem seg_extra_eq (P : Plat) (V : Viv) (ρ : VTerm → Int) (hV : FollowsVivaldi P V ρ) (hN : OnlyVivaldiAdds P V)
    (s : Seg) (hs : s.valid P) :
    s.extra = match s.vterm V with
      | some t => ρ t
      | none => 0 := by
  cases s with
  | byp z k b => rfl
  | loc z a b r =>
    simp only [Seg.valid] at hs
    cases hz : V.isViv z with
    | false =>
      simp only [Seg.vterm, hz, Bool.false_eq_true, if_false, Seg.extra]
      exact hN z a b r hz hs
    | true =>
      have h1 := hV z hz a b
      rw [hs] at h1
      cases hm : V.local P.isZone z a b with
      | none => rw [hm] at h1; cases h1
      | some m =>
        rw [hm] at h1
        simp only [Option.map_some, Option.some.injEq] at h1
        obtain ⟨ca, cb, hca, hcb, ht⟩ := vivaldiLocal_term _ _ _ _ _ _ _ _ hm
        simp only [Seg.vterm, hz, if_true, hca, hcb, Seg.extra]
        rw [h1, ← ht]; rfl

theorem segsExtra_eq_vivTerms (P : Plat) (V : Viv) (ρ : VTerm → Int) (hV : FollowsVivaldi P V ρ)
    (hN : OnlyVivaldiAdds P V) (segs : List Seg) (hs : ∀ s ∈ segs, s.valid P) :
    segsExtra segs = ((vivTerms V segs).map ρ).sum := by
  induction segs with
  | nil => rfl
  | cons s ss ih =>
    obtain ⟨hs1, hs'⟩ := List.forall_mem_cons.mp hs
    have h1 := seg_extra_eq P V ρ hV hN s hs1
    have h2 := ih hs'
    simp only [segsExtra, List.map_cons, List.sum_cons] at *
    simp only [vivTerms, List.filterMap_cons]
    cases hv : s.vterm V with
    | none => simp only [hv] at h1 ⊢; rw [h1, h2]; simp [vivTerms]
    | some t => simp only [hv] at h1 ⊢; rw [h1, h2]; simp [vivTerms]

theorem vivTerms_mem (V : Viv) (segs : List Seg) (t : VTerm) (h : t ∈ vivTerms V segs) :
    ∃ z a b r ca cb, Seg.loc z a b r ∈ segs ∧ V.isViv z = true ∧ V.coords a = some ca ∧ V.coords b = some cb ∧
      t = vivaldiTerm ca cb := by
  simp only [vivTerms, List.mem_filterMap] at h
  obtain ⟨s, hs, hst⟩ := h
  cases s with
  | byp z k b => simp [Seg.vterm] at hst
  | loc z a b r =>
    simp only [Seg.vterm] at hst
    split at hst
    · rename_i hz
      split at hst
      · rename_i ca cb hca hcb
        cases hst
        exact ⟨z, a, b, r, ca, cb, hs, hz, hca, hcb, rfl⟩
      · cases hst
    · cases hst

theorem vivTerms_forall (V : Viv) (segs : List Seg) (p : VTerm → Prop)
    (h : ∀ z a b ca cb, V.isViv z = true → V.coords a = some ca → V.coords b = some cb → p (vivaldiTerm ca cb)) :
    ∀ x ∈ vivTerms V segs, p x := by
  intro x hx
  obtain ⟨z, a, b, _, ca, cb, _, hz, hca, hcb, e⟩ := vivTerms_mem V segs x hx
  exact e ▸ h z a b ca cb hz hca hcb

theorem ratCast_sum_div {α : Type} (l : List α) (g : α → Int) (U : Nat) :
    (((l.map g).sum : Int) : Rat) / U = (l.map (fun x => (g x : Rat) / U)).sum := by
  induction l with
  | nil => simp only [List.map_nil, List.sum_nil]; grind
  | cons x xs ih =>
    simp only [List.map_cons, List.sum_cons]
    rw [Rat.intCast_add, ← ih]
    grind

theorem sum_between {α : Type} (l : List α) (g lo hi : α → Int) (ε : Int)
    (h : ∀ x ∈ l, lo x - ε ≤ g x ∧ g x ≤ hi x + ε) :
    (l.map lo).sum - l.length * ε ≤ (l.map g).sum ∧ (l.map g).sum ≤ (l.map hi).sum + l.length * ε := by
  induction l with
  | nil => simp
  | cons x xs ih =>
    obtain ⟨h1, h'⟩ := List.forall_mem_cons.mp h
    have h2 := ih h'
    simp only [List.map_cons, List.sum_cons, List.length_cons]
    have e : ((xs.length + 1 : Nat) : Int) * ε = xs.length * ε + ε := by
      rw [Int.natCast_add, Int.add_mul]; simp
    rw [e]
    omega

theorem rat_le_of_sq_le (a b : Rat) (hb : 0 ≤ b) (h : a * a ≤ b * b) : a ≤ b :=
  Rat.not_lt.mp fun hlt =>
    have h1 : b * b ≤ b * a := Rat.mul_le_mul_of_nonneg_left (Rat.le_of_lt hlt) hb
    have h2 : a * b < a * a := Rat.mul_lt_mul_of_pos_left hlt (Std.lt_of_le_of_lt hb hlt)
    Rat.lt_irrefl (Std.lt_of_lt_of_le (Std.lt_of_le_of_lt (Rat.mul_comm b a ▸ h1) h2) h)

/-- `x = s · (den · m)` squares to the integer `n · den · m²` whose integer square root the bracket uses -/
theorem scaled_sq (q s : Rat) (m : Nat) (hs : 0 ≤ s) (hq : s * s = q) :
    (s * ((q.den * m : Nat) : Rat)) * (s * ((q.den * m : Nat) : Rat)) =
      ((q.num.toNat * q.den * (m * m) : Nat) : Rat) := by
  have hn : 0 ≤ q.num := Rat.num_nonneg.mpr (hq ▸ Rat.mul_nonneg hs hs)
  have e1 : ((q.num.toNat : Nat) : Rat) = (q.num : Rat) := by
    rw [← Rat.intCast_natCast, Int.toNat_of_nonneg hn]
  have e2 : q * (q.den : Rat) = (q.num : Rat) := by
    have h := Rat.mkRat_eq_div q.num q.den
    rw [Rat.mkRat_self] at h
    have hd : ((q.den : Nat) : Rat) ≠ 0 := by
      have := q.den_pos
      simp only [ne_eq, Rat.natCast_eq_zero_iff]; omega
    have := Rat.div_mul_cancel (a := (q.num : Rat)) hd
    rw [← h] at this
    exact this
  simp only [Rat.natCast_mul, e1]
  rw [← e2, ← hq]
  grind

theorem sqrtBracket_sound (m : Nat) (hm : 0 < m) (q s : Rat) (hs : 0 ≤ s) (hq : s * s = q) :
    (sqrtBracket m q).1 ≤ s ∧ s ≤ (sqrtBracket m q).2 := by
  have hx := scaled_sq q s m hs hq
  have hD : (0 : Rat) < ((q.den * m : Nat) : Rat) :=
    Rat.natCast_pos.mpr (Nat.mul_pos q.den_pos hm)
  generalize hDd : ((q.den * m : Nat) : Rat) = D at hx hD
  generalize hN : q.num.toNat * q.den * (m * m) = N at hx
  have hx0 : 0 ≤ s * D := Rat.mul_nonneg hs (Rat.le_of_lt hD)
  have hlo : ((Nat.sqrt N : Nat) : Rat) ≤ s * D := by
    apply rat_le_of_sq_le _ _ hx0
    rw [hx, ← Rat.natCast_mul]
    exact Rat.natCast_le_natCast.mpr (Nat.sqrt_le N)
  have hhi : s * D ≤ ((Nat.sqrt N + 1 : Nat) : Rat) := by
    apply rat_le_of_sq_le _ _ Rat.natCast_nonneg
    rw [hx, ← Rat.natCast_mul]
    exact Rat.natCast_le_natCast.mpr (Nat.le_of_lt (Nat.lt_succ_sqrt N))
  unfold sqrtBracket
  simp only [hN, hDd]
  split
  · rename_i heq
    -- perfect square: s · D = √N exactly
    have hle : s * D ≤ ((Nat.sqrt N : Nat) : Rat) := by
      apply rat_le_of_sq_le _ _ Rat.natCast_nonneg
      rw [hx, ← Rat.natCast_mul, heq]
      exact Rat.le_refl
    exact ⟨(rat_div_le_iff hD).mpr hlo, (rat_le_div_iff hD).mpr hle⟩
  · exact ⟨(rat_div_le_iff hD).mpr hlo, (rat_le_div_iff hD).mpr hhi⟩

theorem termBracket_sound (unit m : Nat) (hm : 0 < m) (t : VTerm) (v : Rat) (hv : t.HasValue v) :
    ((termBracket unit m t).1 : Rat) ≤ v * unit ∧ v * unit ≤ ((termBracket unit m t).2 : Rat) := by
  obtain ⟨h0, hsq⟩ := hv
  obtain ⟨hlo, hhi⟩ := sqrtBracket_sound m hm t.rad (v * 1000 - t.hsum) h0 hsq
  have hu : (0 : Rat) ≤ (unit : Rat) := Rat.natCast_nonneg
  have e : v * (unit : Rat) = ((v * 1000 - t.hsum) + t.hsum) / 1000 * unit := by grind
  unfold termBracket
  simp only
  rw [e]
  constructor
  · refine Rat.le_trans (Rat.floor_le _) (Rat.mul_le_mul_of_nonneg_right ?_ hu)
    grind
  · refine Rat.le_trans (Rat.mul_le_mul_of_nonneg_right ?_ hu) Rat.le_ceil
    grind

/- `get_interzone_route` / `get_global_route_with_netzones` take the gateways from the zone's local answer
   (`route.gw_src_` / `route.gw_dst_`: for Torus / FatTree / Dragonfly zones with netzone leaves, the entry of
   ClusterBase's gateway table `get_gateway(id)`; for Star / Vivaldi zones, the gateway declared with the route …) and
   look at the NetZoneImpl default gateway (`get_gateway()`, `seal`'s rules) only when the answer has none. -/

/-- two platforms that differ at most by the zones' default gateways -/
structure SameButGateway (P Q : Plat) : Prop where
  parent : Q.parent = P.parent
  zoneOf : Q.zoneOf = P.zoneOf
  zoneNp : Q.zoneNp = P.zoneNp
  isZone : Q.isZone = P.isZone
  prepend : Q.prepend = P.prepend
  loc : Q.loc = P.loc
  bypass : Q.bypass = P.bypass
  lat : Q.lat = P.lat
  depth : Q.depth = P.depth

/-- every local answer names the gateway of an end that is a netzone (true of the routes between the leaves of a
cluster-like zone: `fill_leaf_from_cb` asserts that a netzone leaf has a gateway; and of declared zone routes) -/
def GatewaysDeclared (P : Plat) : Prop :=
  ∀ z a b r, P.loc z a b = some r →
    (P.isZone a = true → r.gwSrc ≠ none) ∧ (P.isZone b = true → r.gwDst ≠ none)

theorem SameButGateway.exists_eq {P Q : Plat} (h : SameButGateway P Q) : ∃ γ, Q = { P with gateway := γ } := by
  obtain ⟨h1, h2, h3, h4, h5, h6, h7, h8, h9⟩ := h
  cases Q; cases P
  simp only at h1 h2 h3 h4 h5 h6 h7 h8 h9
  subst h1 h2 h3 h4 h5 h6 h7 h8 h9
  exact ⟨_, rfl⟩

variable (P : Plat) (γ : Zn → Option Np)

theorem routeLat_gw (r : Route) : routeLat { P with gateway := γ } r = routeLat P r := rfl

theorem inferGw_gw (d : Option Np) (cur : Np) (z : Zn) (hd : P.isZone cur = true → d ≠ none) :
    inferGw { P with gateway := γ } d cur z = inferGw P d cur z := by
  unfold inferGw
  cases d with
  | some x => rfl
  | none =>
    cases hc : P.isZone cur with
    | true => exact absurd rfl (hd hc)
    | false => rfl

theorem upPath_gw : ∀ (n : Nat) (z : Zn), upPath { P with gateway := γ } n z = upPath P n z := by
  intro n
  induction n with
  | zero => intro z; rfl
  | succ n ih => intro z; simp only [upPath, ih]

theorem bpSearch_gw (tbl) (ps pd : List Zn) :
    bpSearch { P with gateway := γ } tbl ps pd = bpSearch P tbl ps pd := rfl

theorem bypassFind_gw (z : Zn) (src dst : Np) :
    bypassFind { P with gateway := γ } z src dst = bypassFind P z src dst := by
  simp only [bypassFind, upPath_gw, bpSearch_gw]

theorem interzone_gw (hG : GatewaysDeclared P) (np : Np) (toNp : Bool)
    (path : List Zn) : ∀ (gw : Np) (links : List Lk) (lat : Int),
      interzone { P with gateway := γ } np toNp path gw links lat = interzone P np toNp path gw links lat := by
  induction path with
  | nil =>
    intro gw links lat
    unfold interzone
    simp only [routeLat_gw]
  | cons z rest ih =>
    intro gw links lat
    unfold interzone
    simp only [routeLat_gw]
    by_cases hz : P.zoneOf np = P.zoneOf gw
    · simp only [hz, ne_eq, not_true_eq_false, if_false]
    · simp only [hz, ne_eq, not_false_eq_true, if_true]
      cases toNp with
      | true =>
        simp only [if_true]
        cases hl : P.loc (P.zoneOf gw) gw (P.zoneNp z) with
        | none => rfl
        | some r =>
          simp only []
          rw [inferGw_gw P γ r.gwDst (P.zoneNp z) z (hG _ _ _ r hl).2]
          cases inferGw P r.gwDst (P.zoneNp z) z with
          | none => rfl
          | some g => simp only []; exact ih g _ _
      | false =>
        simp only [Bool.false_eq_true, if_false]
        cases hl : P.loc (P.zoneOf gw) (P.zoneNp z) gw with
        | none => rfl
        | some r =>
          simp only []
          rw [inferGw_gw P γ r.gwSrc (P.zoneNp z) z (hG _ _ _ r hl).1]
          cases inferGw P r.gwSrc (P.zoneNp z) z with
          | none => rfl
          | some g => simp only []; exact ih g _ _

/-- apart from `inferGw`, nothing in the composition reads `gateway` -/
theorem globalRouteV_gw (fx : Bool) (hG : GatewaysDeclared P) :
    ∀ (f : Nat) (src dst : Np) (links : List Lk) (lat : Int),
      globalRouteV fx { P with gateway := γ } f src dst links lat = globalRouteV fx P f src dst links lat := by
  intro f
  induction f with
  | zero => intro src dst links lat; rfl
  | succ f ih =>
    intro src dst links lat
    simp only [globalRouteV, allEnglobing, findCommonAncestors, upPath_gw, bypassFind_gw, crossRoute, sumLat,
      routeLat_gw, interzone_gw P γ hG, ih]

end SgVerif.C24
