import SgVerif.C24.Model
/-
FullZone tables: what `tableGet` finds in a table with a new entry in front, and the table `fullAddRoute` builds.
-/
namespace SgVerif.C24

theorem tableGet_cons (k : Np × Np) (r : Route) (t : Table) (s d : Np) :
    tableGet ((k, r) :: t) s d = if k = (s, d) then some r else tableGet t s d := by
  unfold tableGet
  rw [List.find?_cons]
  by_cases h : k = (s, d)
  · simp [h]
  · simp [h, beq_false_of_ne h]

theorem fullLocal_of_get {t : Table} {s d : Np} {r : Route} (h : tableGet t s d = some r) : fullLocal t s d = r := by
  simp [fullLocal, h]

theorem fullAddRoute_eq {recursive : Bool} {t t' : Table} {src dst : Np} {gs gd : Option Np} {links : List Lk}
    {sym : Bool} (h : fullAddRoute recursive t src dst gs gd links sym = some t') :
    t' = if sym && src ≠ dst then
        ((dst, src), newExtendedRoute recursive (if gs.isSome && gd.isSome then gd else gs)
          (if gs.isSome && gd.isSome then gs else gd) links false) ::
          ((src, dst), newExtendedRoute recursive gs gd links true) :: t
      else ((src, dst), newExtendedRoute recursive gs gd links true) :: t := by
  unfold fullAddRoute at h
  by_cases c1 : (recursive && (gs.isNone || gd.isNone)) = true
  · rw [if_pos c1] at h; cases h
  rw [if_neg c1] at h
  by_cases c2 : (tableGet t src dst).isSome = true
  · rw [if_pos c2] at h; cases h
  rw [if_neg c2] at h
  by_cases c3 : (sym && decide (src ≠ dst)) = true
  · rw [if_pos c3]
    simp only [if_pos c3] at h
    by_cases c4 : (tableGet (((src, dst), newExtendedRoute recursive gs gd links true) :: t) dst src).isSome = true
    · rw [if_pos c4] at h; cases h
    · rw [if_neg c4] at h; exact (Option.some.inj h).symm
  · rw [if_neg c3]
    simp only [if_neg c3] at h
    exact (Option.some.inj h).symm

end SgVerif.C24
