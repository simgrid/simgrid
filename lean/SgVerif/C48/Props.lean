import SgVerif.C48.Model
import SgVerif.C48.Gen
import SgVerif.Xbt.ByteCode
/-
C48 — Configuration flags parse and validate values.  The `gen_*` theorems are enumerations of the item table generated
from the built library; all others are for every configuration set, every name and every value string.
-/
namespace SgVerif.C48
open SgVerif.Xbt

theorem find_update (items : List Item) (real : String) (f : Item → Item) (hf : ∀ it, (f it).name = it.name) :
    (updateItem items real f).find? (fun it => it.name == real) =
      (items.find? (fun it => it.name == real)).map f := by
  induction items with
  | nil => rfl
  | cons x t ih =>
    simp only [updateItem, List.map_cons, List.find?_cons]
    cases hx : x.name == real <;> simp only [hx, hf, if_true, Bool.false_eq_true, if_false]
    · exact ih
    · rfl

theorem any_update (items : List Item) (real n : String) (f : Item → Item) (hf : ∀ it, (f it).name = it.name) :
    (updateItem items real f).any (fun it => it.name == n) = items.any (fun it => it.name == n) := by
  unfold updateItem
  rw [List.any_map]
  congr 1
  funext it
  simp only [Function.comp]
  split <;> simp only [hf]

theorem resolve_update (c : Cfg) (real : String) (f : Item → Item) (hf : ∀ it, (f it).name = it.name) (n : String) :
    resolve { c with items := updateItem c.items real f } n = resolve c n := by
  unfold resolve
  simp only [any_update _ _ _ _ hf]

theorem findItem_some (c : Cfg) (name : String) (it : Item) (h : findItem c name = some it) :
    ∃ real, resolve c name = some real ∧ c.items.find? (fun i => i.name == real) = some it ∧ it.name = real := by
  unfold findItem at h
  cases hr : resolve c name with
  | none => rw [hr] at h; cases h
  | some real =>
    rw [hr] at h
    refine ⟨real, rfl, h, ?_⟩
    have := List.find?_some h
    simpa using this

theorem setAsString_cases (c : Cfg) (name : String) (s : List Char) :
    (findItem c name = none ∧ setAsString c name s = (.unknownName, c)) ∨
    (∃ it e, findItem c name = some it ∧ parse it.ty s = .error e ∧ setAsString c name s = (.parseError e, c)) ∨
    (∃ it v, findItem c name = some it ∧ parse it.ty s = .ok v ∧
      setAsString c name s = (.ok, { c with items := updateItem c.items it.name (applySet v) })) := by
  unfold setAsString
  cases hf : findItem c name with
  | none => exact .inl ⟨rfl, rfl⟩
  | some it =>
    cases hp : parse it.ty s with
    | error e => exact .inr (.inl ⟨it, e, rfl, hp, by simp only [hp]⟩)
    | ok v => exact .inr (.inr ⟨it, v, rfl, hp, by simp only [hp]⟩)

theorem findItem_set (c : Cfg) (name : String) (it : Item) (v : Val) (hf : findItem c name = some it) :
    findItem { c with items := updateItem c.items it.name (applySet v) } name = some (applySet v it) := by
  obtain ⟨real, hr, hfind, hname⟩ := findItem_some c name it hf
  unfold findItem
  rw [resolve_update c it.name (applySet v) (fun _ => rfl), hr]
  simp only
  rw [hname, find_update _ _ (applySet v) (fun _ => rfl), hfind]
  rfl

/-- **set then get**: a value accepted through `set_as_string` (by name or alias) is the value the item's type parser
yields, and `get_value` returns exactly it. -/
theorem set_then_get (c c' : Cfg) (name : String) (s : List Char) (h : setAsString c name s = (.ok, c')) :
    ∃ it v, findItem c name = some it ∧ parse it.ty s = .ok v ∧ getValue c' name = some v := by
  rcases setAsString_cases c name s with ⟨_, h'⟩ | ⟨_, _, _, _, h'⟩ | ⟨it, v, hf, hp, h'⟩ <;> rw [h'] at h <;> cases h
  exact ⟨it, v, hf, hp, by rw [getValue, findItem_set c name it v hf]; rfl⟩

/-- **bad values are rejected**: when the parser of the item's type refuses the string, `set_as_string` throws that
error and nothing is changed (value, default flag, callback count). -/
theorem bad_value_rejected (c : Cfg) (name : String) (s : List Char) (it : Item) (e : PErr)
    (hf : findItem c name = some it) (hp : parse it.ty s = .error e) :
    setAsString c name s = (.parseError e, c) := by
  unfold setAsString
  rw [hf]
  simp only [hp]

/-- … and conversely a `parseError` can only come from the parser of the item's type -/
theorem parse_error_only_from_parser (c c' : Cfg) (name : String) (s : List Char) (e : PErr)
    (h : setAsString c name s = (.parseError e, c')) :
    c' = c ∧ ∃ it, findItem c name = some it ∧ parse it.ty s = .error e := by
  rcases setAsString_cases c name s with ⟨_, h'⟩ | ⟨it, _, hf, hp, h'⟩ | ⟨_, _, _, _, h'⟩ <;> rw [h'] at h <;> cases h
  exact ⟨rfl, it, hf, hp⟩

/-- the booleans accepted are exactly the eight spellings, whatever the case (characterisation of `parse_bool`) -/
theorem parseBool_ok_iff (s : List Char) (b : Bool) :
    parseBool s = .ok b ↔
      (b = true ∧ (lowerS s = "yes".toList ∨ lowerS s = "on".toList ∨ lowerS s = "true".toList ∨ lowerS s = "1".toList)) ∨
      (b = false ∧ (lowerS s = "no".toList ∨ lowerS s = "off".toList ∨ lowerS s = "false".toList ∨ lowerS s = "0".toList)) := by
  unfold parseBool
  simp only
  split
  · rename_i h1
    constructor
    · intro h; cases h; exact Or.inl ⟨rfl, h1⟩
    · rintro (⟨rfl, _⟩ | ⟨rfl, h2⟩)
      · rfl
      · exfalso
        rcases h1 with h | h | h | h <;> rcases h2 with g | g | g | g <;> (rw [h] at g; revert g; decide)
  · rename_i h1
    split
    · rename_i h2
      constructor
      · intro h; cases h; exact Or.inr ⟨rfl, h2⟩
      · rintro (⟨rfl, h⟩ | ⟨rfl, _⟩)
        · exact absurd h h1
        · rfl
    · rename_i h2
      constructor
      · intro h; cases h
      · rintro (⟨_, h⟩ | ⟨_, h⟩)
        · exact absurd h h1
        · exact absurd h h2

/-- an accepted `int` fits in 32 bits, an out-of-range integer is never stored -/
theorem parseInt_in_range (s : List Char) (v : Int) (h : parseInt s = .ok v) :
    -2147483648 ≤ v ∧ v ≤ 2147483647 := by
  unfold parseInt at h
  repeat' split at h
  -- every branch but the last is an error
  all_goals cases h
  omega

/-- every string is a valid value of a `string` item and is stored unchanged -/
theorem string_always_accepted (s : List Char) : parse .string s = .ok (.s (String.ofList s)) := rfl

/-- **unknown names are rejected** (`out_of_range`), nothing is changed -/
theorem unknown_name_rejected (c : Cfg) (name : String) (s : List Char) (h : resolve c name = none) :
    setAsString c name s = (.unknownName, c) := by
  unfold setAsString findItem
  rw [h]

/-- … and only they: `unknownName` is answered exactly when neither an item nor an alias of an item has that name -/
theorem unknown_name_iff (c : Cfg) (name : String) (s : List Char) (hall : ∀ real, resolve c name = some real →
    c.items.any (fun it => it.name == real) = true) :
    (setAsString c name s).1 = .unknownName ↔ resolve c name = none := by
  refine ⟨fun h => ?_, fun h => by rw [unknown_name_rejected c name s h]⟩
  rcases setAsString_cases c name s with ⟨hf, _⟩ | ⟨_, _, _, _, h'⟩ | ⟨_, _, _, _, h'⟩
  · cases hr : resolve c name with
    | none => rfl
    | some real =>
      obtain ⟨it, hit, hn⟩ := List.any_eq_true.mp (hall real hr)
      simp only [findItem, hr] at hf
      exact absurd hn (List.find?_eq_none.mp hf it hit)
  · rw [h'] at h; cases h
  · rw [h'] at h; cases h

/-- **aliases resolve**: setting through an alias is setting through the current name (same answer, same state) -/
theorem alias_resolves (c : Cfg) (a r : String) (s : List Char)
    (ha : c.items.any (fun it => it.name == a) = false) (hl : c.aliases.lookup a = some r)
    (hr : c.items.any (fun it => it.name == r) = true) :
    setAsString c a s = setAsString c r s := by
  have h1 : resolve c a = some r := by unfold resolve; simp [ha, hl, hr]
  have h2 : resolve c r = some r := by unfold resolve; simp [hr]
  unfold setAsString findItem
  rw [h1, h2]

/-- **the callback runs exactly once** per accepted set (and `unset_default` happened); items with another name are
untouched.  (Rejected sets change nothing at all: `bad_value_rejected`, `unknown_name_rejected`.) -/
theorem callback_runs_once (c c' : Cfg) (name : String) (s : List Char) (h : setAsString c name s = (.ok, c')) :
    ∃ it it', findItem c name = some it ∧ findItem c' name = some it' ∧
      it'.cbRuns = it.cbRuns + 1 ∧ it'.isDefault = false ∧
      c'.items.length = c.items.length ∧
      ∀ j (hj : j < c.items.length) (hj' : j < c'.items.length), c.items[j].name ≠ it.name → c'.items[j] = c.items[j] := by
  rcases setAsString_cases c name s with ⟨_, h'⟩ | ⟨_, _, _, _, h'⟩ | ⟨it, v, hf, _, h'⟩ <;> rw [h'] at h <;> cases h
  refine ⟨it, applySet v it, hf, findItem_set c name it v hf, rfl, rfl, by simp [updateItem], ?_⟩
  intro j hj hj' hne
  simp only [updateItem, List.getElem_map]
  exact if_neg (by simpa using hne)

def distinct : List Nat → Bool
  | [] => true
  | a :: l => l.all (fun b => !Nat.beq a b) && distinct l

theorem nodup_of_distinct : ∀ {l : List Nat}, distinct l = true → l.Nodup
  | [], _ => List.nodup_nil
  | a :: l, h => by
    simp only [distinct, Bool.and_eq_true, List.all_eq_true, Bool.not_eq_true'] at h
    exact List.nodup_cons.mpr ⟨fun ha => Nat.ne_of_beq_eq_false (h.1 a ha) rfl, nodup_of_distinct h.2⟩

/-- (finite table) Distinctness and the aliases are stated together, over the byte codes of the names, because turning a
name into its code is the dear part of either and what the kernel has worked out about a name it remembers for one
declaration only. -/
theorem gen_names_checked :
    distinct ((Gen.items.map (·.name)).map byteCode) = true ∧
    ∀ p ∈ Gen.aliases,
      Gen.items.any (fun d => byteCode d.name == byteCode p.2 && d.name == p.2) = true ∧
      Gen.items.any (fun d => byteCode d.name == byteCode p.1 && d.name == p.1) = false := by
  decide +kernel

/-- registered names are pairwise distinct: already their byte codes are -/
theorem gen_names_distinct : (Gen.items.map (·.name)).Nodup := by
  exact List.Pairwise.of_map byteCode (fun _ _ hne e => hne (congrArg byteCode e))
    (nodup_of_distinct gen_names_checked.1)

/-- every alias designates a registered item and is not itself the name of an item: `alias_resolves` applies to all -/
theorem gen_aliases_resolve :
    ∀ p ∈ Gen.aliases, Gen.items.any (fun d => d.name == p.2) = true ∧ Gen.items.any (fun d => d.name == p.1) = false := by
  simpa only [← beq_eq_byteCode_and_beq] using gen_names_checked.2

/-- every boolean / int default printed by the library is accepted again by the parser of its type -/
theorem gen_defaults_reparse :
    ∀ d ∈ Gen.items, (d.ty = .bool → (parseBool d.dflt.toList).isOk = true) ∧ (d.ty = .int → (parseInt d.dflt.toList).isOk = true) := by
  decide +kernel

def exCfg : Cfg := { items := [⟨"a/flag", .bool, .b false, true, 0⟩, ⟨"a/num", .int, .i 3, true, 0⟩],
                     aliases := [("old/num", "a/num")] }
example : (setAsString exCfg "old/num" "0x1F".toList).1 = .ok := by decide
example : (setAsString exCfg "a/flag" "YeS".toList).1 = .ok ∧ (setAsString exCfg "a/flag" "2".toList).1 = .parseError .notBoolean := by
  decide
example : (setAsString exCfg "a/num" "08".toList).1 = .parseError .invalidInteger ∧
    (setAsString exCfg "a/num" "2147483648".toList).1 = .parseError .overflow ∧
    (setAsString exCfg "a_num" "1".toList).1 = .unknownName := by decide

end SgVerif.C48
