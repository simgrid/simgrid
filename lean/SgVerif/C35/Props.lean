import SgVerif.C35.Model
import SgVerif.C35.Modes
import SgVerif.C35.AllocLemmas
import SgVerif.Common.List
import SgVerif.Common.Fold
/-
C35 — private parts of partially shared buffers are transferred exactly.  Property theorems.
All theorems are for ALL block lists (any length), offsets and sizes (only `< 2^64`, as `size_t` values are).
-/
namespace SgVerif.C35

/-- blocks are genuine `size_t` pairs describing non-empty intervals -/
def WfBlocks (vec : List Block) : Prop := ∀ b ∈ vec, b.1 < b.2 ∧ b.2 < W

/-- no private block starts before the message and ends inside or after it -/
def NoStraddle (vec : List Block) (offset : Nat) : Prop := ∀ b ∈ vec, offset ≤ b.1 ∨ b.2 ≤ offset

theorem not_covered_nil (x : Nat) : ¬ Covered [] x := fun ⟨_, hb, _⟩ => nomatch hb

theorem covered_cons (b : Block) (l : List Block) (x : Nat) : Covered (b :: l) x ↔ (b.1 ≤ x ∧ x < b.2) ∨ Covered l x := by
  simp only [Covered, List.mem_cons, exists_eq_or_imp]

theorem covered_append (l₁ l₂ : List Block) (x : Nat) : Covered (l₁ ++ l₂) x ↔ Covered l₁ x ∨ Covered l₂ x := by
  simp only [Covered, List.mem_append, or_and_right, exists_or]

theorem covered_tail {b : Block} {l : List Block} {x : Nat} (h : Covered (b :: l) x) (hx : b.2 ≤ x) : Covered l x :=
  ((covered_cons b l x).mp h).resolve_left fun hb => by omega

theorem Sorted.lt {l : List Block} (h : Sorted l) : ∀ b ∈ l, b.1 < b.2 := by
  induction l with
  | nil => intro b hb; cases hb
  | cons c t ih =>
    intro b hb
    rcases List.mem_cons.mp hb with rfl | hb
    · exact h.1
    · exact ih h.2.2 b hb

theorem Sorted.le_of_covered {b : Block} {l : List Block} {x : Nat} (hs : Sorted (b :: l)) (h : Covered (b :: l) x) :
    b.1 ≤ x := by
  rcases (covered_cons b l x).mp h with hx | ⟨c, hc, hx, _⟩
  · exact hx.1
  · exact Nat.le_trans (Nat.le_trans (Nat.le_of_lt hs.1) (hs.2.1 c hc)) hx

theorem clamp_zero (v n : Nat) : clamp v 0 n = Nat.min v n := by
  unfold clamp Nat.min
  rw [if_neg (Nat.not_lt_zero v)]
  split <;> omega

theorem subWrap_of_le {a b : Nat} (hba : b ≤ a) (ha : a < W) : subWrap a b = a - b := by
  unfold subWrap
  rw [Nat.sub_add_comm hba, Nat.add_mod_right, Nat.mod_eq_of_lt (Nat.lt_of_le_of_lt (Nat.sub_le a b) ha)]

theorem le_subWrap_of_lt {a b n : Nat} (hab : a < b) (hn : b + n < W) : n ≤ subWrap a b := by
  have h : a + W - b < W ∧ n ≤ a + W - b := by omega
  exact Nat.le_trans h.2 (Nat.le_of_eq (Nat.mod_eq_of_lt h.1).symm)

/-- the subtraction of the repaired loop, `b - std::min(b, o)`, is truncated subtraction -/
theorem subWrap_min (b o : Nat) (hb : b < W) : subWrap b (Nat.min b o) = b - o := by
  rw [subWrap_of_le (Nat.min_le_left b o) hb]
  show b - min b o = b - o
  omega

/-- what the loop body does once the subtractions are exact: clipping both ends to `[0, n]` and keeping the pair when
the clipped ends satisfy `0 < hi' ∧ lo' < n` is intersecting `[lo, hi)` with `[0, n)` -/
theorem clip_eq (lo hi n : Nat) (h : hi = 0 ∨ lo < hi) :
    (if Nat.min hi n > 0 ∧ Nat.min lo n < n then some (Nat.min lo n, Nat.min hi n) else none)
      = if lo < Nat.min hi n then some (lo, Nat.min hi n) else none := by
  unfold Nat.min
  by_cases c : lo < min hi n
  · rw [if_pos c, if_pos (by omega), Nat.min_eq_left (by omega)]
  · rw [if_neg c, if_neg (by omega)]

theorem frameOne_eq (o n : Nat) (a : Block) :
    frameOne o n a = if a.1 - o < Nat.min (a.2 - o) n then some (a.1 - o, Nat.min (a.2 - o) n) else none := rfl

theorem frameOne_some {o n : Nat} {a b : Block} (h : frameOne o n a = some b) :
    b = (a.1 - o, min (a.2 - o) n) ∧ a.1 - o < min (a.2 - o) n := by
  obtain ⟨hlt, he⟩ := Option.ite_none_right_eq_some.mp h
  exact ⟨(Option.some.inj he).symm, hlt⟩

/-
FULL STATEMENT (DESIGN §9-D13; FALSE on the loop before its repair, commit 25351bd1c9, see `shift_frame_counterexample`):
  theorem shift_frame_spec (vec) (offset n) (hw : WfBlocks vec) (hn : offset + n < W) :
      shiftFrame vec offset n = shiftFrameSpec vec offset n
`block_begin - offset` wraps for a block that starts before the message; `std::clamp` then yields `buff_size` and the
test `new_block.first < buff_size` drops the block, although `[0, min(e − o, n))` of it lies inside the message.
-/

/-- **shift_frame_spec**, proved with the exact excluding hypothesis `NoStraddle` -/
theorem shift_frame_spec_partial (vec : List Block) (offset n : Nat) (hw : WfBlocks vec) (hn : offset + n < W)
    (hs : NoStraddle vec offset) : shiftFrame vec offset n = shiftFrameSpec vec offset n := by
  apply filterMap_congr_ptw
  intro blk hb
  obtain ⟨h1, h2⟩ := hw blk hb
  dsimp only
  rw [clamp_zero, clamp_zero, frameOne_eq]
  rcases hs blk hb with h3 | h3
  · rw [subWrap_of_le h3 (Nat.lt_trans h1 h2), subWrap_of_le (Nat.le_trans h3 (Nat.le_of_lt h1)) h2]
    exact clip_eq _ _ n (Or.inr (Nat.sub_lt_sub_right h3 h1))
  · -- the block lies before the message: `block_begin - offset` wraps to a value above `n`, the spec's interval is empty
    have e1 : Nat.min (subWrap blk.1 offset) n = n :=
      Nat.min_eq_right (le_subWrap_of_lt (Nat.lt_of_lt_of_le h1 h3) hn)
    have e2 : Nat.min (blk.2 - offset) n = 0 := by rw [Nat.sub_eq_zero_of_le h3]; exact Nat.zero_min n
    rw [e1, e2, if_neg (fun h => Nat.lt_irrefl n h.2), if_neg (Nat.not_lt_zero _)]

/-- the defect: allocation with one private block [0,10), message of 3 bytes starting at offset 5 — all 3 bytes are
private, the function reports no private byte at all -/
theorem shift_frame_counterexample :
    shiftFrame [(0, 10)] 5 3 = [] ∧ shiftFrameSpec [(0, 10)] 5 3 = [(0, 3)] ∧ ¬ NoStraddle [(0, 10)] 5 := by
  refine ⟨by decide, by decide, ?_⟩
  intro h
  have := h (0, 10) List.mem_cons_self
  omega

/-- with proposed_fix.diff the full statement holds -/
theorem shift_frame_spec_fixed (vec : List Block) (offset n : Nat) (hw : WfBlocks vec) :
    shiftFrameFixed vec offset n = shiftFrameSpec vec offset n := by
  apply filterMap_congr_ptw
  intro blk hb
  obtain ⟨h1, h2⟩ := hw blk hb
  dsimp only
  rw [subWrap_min _ _ h2, subWrap_min _ _ (Nat.lt_trans h1 h2)]
  exact clip_eq _ _ n (by omega)

theorem covered_shiftFrameSpec (vec : List Block) (offset n x : Nat) :
    Covered (shiftFrameSpec vec offset n) x ↔ x < n ∧ Covered vec (x + offset) := by
  constructor
  · intro ⟨b, hb, h1, h2⟩
    obtain ⟨a, ha, hf⟩ := List.mem_filterMap.mp hb
    obtain ⟨rfl, _⟩ := frameOne_some hf
    have h2 := Nat.lt_min.mp h2
    exact ⟨h2.2, a, ha, Nat.sub_le_iff_le_add.mp h1, Nat.add_lt_of_lt_sub h2.1⟩
  · intro ⟨hx, a, ha, h1, h2⟩
    have hlo : a.1 - offset ≤ x := Nat.sub_le_iff_le_add.mpr h1
    have hhi : x < min (a.2 - offset) n := Nat.lt_min.mpr ⟨Nat.lt_sub_of_add_lt h2, hx⟩
    exact ⟨_, List.mem_filterMap.mpr ⟨a, ha, (frameOne_eq offset n a).trans (if_pos (Nat.lt_of_le_of_lt hlo hhi))⟩, hlo, hhi⟩

theorem sorted_shiftFrameSpec (vec : List Block) (offset n : Nat) (h : Sorted vec) : Sorted (shiftFrameSpec vec offset n) := by
  unfold shiftFrameSpec
  induction vec with
  | nil => trivial
  | cons b rest ih =>
    obtain ⟨_, h2, h3⟩ := h
    rw [List.filterMap_cons]
    cases hf : frameOne offset n b with
    | none => exact ih h3
    | some b' =>
      obtain ⟨rfl, f3⟩ := frameOne_some hf
      refine ⟨f3, ?_, ih h3⟩
      intro c hc
      obtain ⟨a, ha, hfa⟩ := List.mem_filterMap.mp hc
      obtain ⟨rfl, _⟩ := frameOne_some hfa
      exact Nat.le_trans (Nat.min_le_left _ _) (Nat.sub_le_sub_right (h2 a ha) offset)

theorem mergeFuel_sound (fuel : Nat) (s d : List Block) {S D : List Block} (hs : s ⊆ S) (hd : d ⊆ D) :
    ∀ blk ∈ mergeFuel fuel s d, ∃ a ∈ S, ∃ b ∈ D, blk = (Nat.max a.1 b.1, Nat.min a.2 b.2) ∧ ¬ a.2 ≤ b.1 ∧ ¬ b.2 ≤ a.1 := by
  fun_induction mergeFuel fuel s d with
  | case1 f s0 ss d0 ds c ih => exact ih (List.subset_of_cons_subset hs) hd
  | case2 f s0 ss d0 ds c1 c2 ih => exact ih hs (List.subset_of_cons_subset hd)
  | case3 f s0 ss d0 ds c1 c2 ih1 ih2 =>
    intro blk h
    rcases List.mem_cons.mp h with h | h
    · exact ⟨s0, hs List.mem_cons_self, d0, hd List.mem_cons_self, h, c1, c2⟩
    · split at h
      · exact ih1 (List.subset_of_cons_subset hs) hd blk h
      · exact ih2 hs (List.subset_of_cons_subset hd) blk h
  | case4 => exact fun blk h => nomatch h

/-- **merge_spec, soundness**: every block `merge_private_blocks` returns is the (non-empty) intersection of a source
block and a destination block -/
theorem merge_blocks_are_intersections (s d : List Block) :
    ∀ blk ∈ merge s d, ∃ a ∈ s, ∃ b ∈ d, blk = (Nat.max a.1 b.1, Nat.min a.2 b.2) ∧ ¬ a.2 ≤ b.1 ∧ ¬ b.2 ≤ a.1 :=
  mergeFuel_sound _ s d (List.Subset.refl s) (List.Subset.refl d)

theorem merge_sound (s d : List Block) (x : Nat) (h : Covered (merge s d) x) : Covered s x ∧ Covered d x := by
  obtain ⟨blk, hb, h1, h2⟩ := h
  obtain ⟨a, ha, b, hb', rfl, _, _⟩ := merge_blocks_are_intersections s d blk hb
  have h1 := Nat.max_le.mp h1
  have h2 := Nat.lt_min.mp h2
  exact ⟨⟨a, ha, h1.1, h2.1⟩, ⟨b, hb', h1.2, h2.2⟩⟩

theorem mergeFuel_complete (fuel : Nat) (s d : List Block) (hf : s.length + d.length ≤ fuel) (hs : Sorted s) (hd : Sorted d)
    (x : Nat) (hxs : Covered s x) (hxd : Covered d x) : Covered (mergeFuel fuel s d) x := by
  fun_induction mergeFuel fuel s d with
  | case1 f s0 ss d0 ds c ih =>
    -- `s0` ends before `d0` begins, and `x` is not before `d0`
    exact ih (by simp only [List.length_cons] at hf ⊢; omega) hs.2.2 hd (covered_tail hxs (Nat.le_trans c (hd.le_of_covered hxd))) hxd
  | case2 f s0 ss d0 ds c1 c2 ih =>
    exact ih (Nat.le_of_succ_le_succ hf) hs hd.2.2 hxs (covered_tail hxd (Nat.le_trans c2 (hs.le_of_covered hxs)))
  | case3 f s0 ss d0 ds c1 c2 ih1 ih2 =>
    -- `x` is in the intersection of the two heads, or beyond the head that ends first
    have hlo := Nat.max_le.mpr ⟨hs.le_of_covered hxs, hd.le_of_covered hxd⟩
    rw [covered_cons]
    split
    · rename_i c3
      by_cases hx : x < s0.2
      · exact Or.inl ⟨hlo, Nat.lt_min.mpr ⟨hx, Nat.lt_trans hx c3⟩⟩
      · exact Or.inr (ih1 (by simp only [List.length_cons] at hf ⊢; omega) hs.2.2 hd (covered_tail hxs (Nat.le_of_not_lt hx)) hxd)
    · rename_i c3
      by_cases hx : x < d0.2
      · exact Or.inl ⟨hlo, Nat.lt_min.mpr ⟨Nat.lt_of_lt_of_le hx (Nat.le_of_not_lt c3), hx⟩⟩
      · exact Or.inr (ih2 (Nat.le_of_succ_le_succ hf) hs hd.2.2 hxs (covered_tail hxd (Nat.le_of_not_lt hx)))
  | case4 fuel s d hno =>
    -- both lists are non-empty, so the fuel is positive
    cases s with
    | nil => exact absurd hxs (not_covered_nil x)
    | cons s0 ss =>
      cases d with
      | nil => exact absurd hxd (not_covered_nil x)
      | cons d0 ds =>
        cases fuel with
        | zero => exact absurd hf (Nat.not_succ_le_zero _)
        | succ f => exact absurd rfl (hno f s0 ss d0 ds rfl rfl)

/-- **merge_spec**, completeness half (the soundness half needs no sortedness) -/
theorem merge_complete (s d : List Block) (hs : Sorted s) (hd : Sorted d) (x : Nat) (hxs : Covered s x) (hxd : Covered d x) :
    Covered (merge s d) x :=
  mergeFuel_complete _ s d (Nat.le_refl _) hs hd x hxs hxd

theorem merge_spec (s d : List Block) (hs : Sorted s) (hd : Sorted d) (x : Nat) :
    Covered (merge s d) x ↔ Covered s x ∧ Covered d x :=
  ⟨merge_sound s d x, fun ⟨a, b⟩ => merge_complete s d hs hd x a b⟩

theorem memcpyPrivate_cons (dest src : Buf) (b : Block) (rest : List Block) :
    memcpyPrivate dest src (b :: rest) = memcpyPrivate (copyBlock dest src b) src rest := rfl

theorem memcpyPrivate_not_covered (dest src : Buf) (blocks : List Block) (x : Nat) (h : ¬ Covered blocks x) :
    memcpyPrivate dest src blocks x = dest x :=
  (Pre.eqOn fun d : Buf => d x).foldl_mem blocks (fun _ b hb => if_neg fun hx => h ⟨b, hb, hx⟩) dest

theorem memcpyPrivate_covered (dest src : Buf) (blocks : List Block) (x : Nat) (h : Covered blocks x) :
    memcpyPrivate dest src blocks x = src x := by
  induction blocks generalizing dest with
  | nil => exact absurd h (not_covered_nil x)
  | cons b rest ih =>
    rw [memcpyPrivate_cons]
    by_cases hr : Covered rest x
    · exact ih _ hr
    · -- x is in b and in no later block: later copies leave it alone
      rw [memcpyPrivate_not_covered _ _ _ _ hr]
      exact if_pos (((covered_cons b rest x).mp h).resolve_right hr)

/-- byte `x` of the message lies in a private region of the buffer -/
def PrivateIn (k : BufKind) (x : Nat) : Prop :=
  match k with
  | .notShared => True
  | .shared blocks offset => Covered blocks (x + offset)

/-- the buffer description is sane: sorted disjoint `size_t` blocks, the message fits in the address space -/
def WfKind (k : BufKind) (n : Nat) : Prop :=
  match k with
  | .notShared => True
  | .shared blocks offset => Sorted blocks ∧ WfBlocks blocks ∧ offset + n < W

def NoStraddleKind (k : BufKind) : Prop :=
  match k with
  | .notShared => True
  | .shared blocks offset => NoStraddle blocks offset

theorem framed_covers (fixed : Bool) (k : BufKind) (n x : Nat) (hw : WfKind k n) (hns : fixed = true ∨ NoStraddleKind k)
    (hx : x < n) (hp : PrivateIn k x) : ∃ s, framed fixed k n = some s ∧ Sorted s ∧ Covered s x := by
  cases k with
  | notShared =>
    have h0 : 0 < n := by omega
    exact ⟨[(0, n)], rfl, ⟨h0, (fun _ hc => nomatch hc), trivial⟩, (0, n), List.mem_cons_self, Nat.zero_le x, hx⟩
  | shared blocks offset =>
    obtain ⟨hs, hwb, hn⟩ := hw
    have heq : (if fixed then shiftFrameFixed blocks offset n else shiftFrame blocks offset n) = shiftFrameSpec blocks offset n := by
      cases fixed with
      | true => exact shift_frame_spec_fixed blocks offset n hwb
      | false => exact shift_frame_spec_partial blocks offset n hwb hn (hns.resolve_left Bool.false_ne_true)
    have hcov := (covered_shiftFrameSpec blocks offset n x).mpr ⟨hx, hp⟩
    refine ⟨_, ?_, sorted_shiftFrameSpec blocks offset n hs, hcov⟩
    rw [framed, heq]
    cases hl : shiftFrameSpec blocks offset n with
    | nil => exact absurd (hl ▸ hcov) (not_covered_nil x)
    | cons _ _ => rfl

theorem framed_within (fixed : Bool) (k : BufKind) (n : Nat) (d : List Block) (h : framed fixed k n = some d) :
    ∀ b ∈ d, b.2 ≤ n := by
  cases k with
  | notShared =>
    cases h
    intro b hb
    cases List.mem_singleton.mp hb
    exact Nat.le_refl n
  | shared blocks offset =>
    have hr : ∀ b ∈ (if fixed then shiftFrameFixed blocks offset n else shiftFrame blocks offset n), b.2 ≤ n := by
      intro b hb
      cases fixed
      all_goals
        obtain ⟨a, _, ha⟩ := List.mem_filterMap.mp hb
        cases Option.some.inj (Option.ite_none_right_eq_some.mp ha).2
      · exact Nat.le_trans (Nat.le_of_eq (clamp_zero _ n)) (Nat.min_le_right _ n)
      · exact Nat.min_le_right _ n
    rw [framed] at h
    generalize (if fixed then shiftFrameFixed blocks offset n else shiftFrame blocks offset n) = r at h hr
    split at h
    · cases h
    · cases h; exact hr

theorem callback_copies (fixed : Bool) (srcK dstK : BufKind) (n : Nat) (viaTmp : Bool) (src dst tmp : Buf) (x : Nat)
    (hws : WfKind srcK n) (hwd : WfKind dstK n) (hns : fixed = true ∨ (NoStraddleKind srcK ∧ NoStraddleKind dstK))
    (hx : x < n) (hps : PrivateIn srcK x) (hpd : PrivateIn dstK x) :
    callback fixed srcK dstK n viaTmp src dst tmp x = src x := by
  obtain ⟨s, e1, ss, cs⟩ := framed_covers fixed srcK n x hws (hns.imp id (·.1)) hx hps
  obtain ⟨d, e2, sd, cd⟩ := framed_covers fixed dstK n x hwd (hns.imp id (·.2)) hx hpd
  have hc := merge_complete s d ss sd x cs cd
  unfold callback
  rw [e1, e2]
  cases viaTmp <;> simp only [Bool.false_eq_true, if_true, if_false, memcpyPrivate_covered _ _ _ _ hc]

/-
FULL STATEMENT of the property (FALSE on the loop before its repair, see `private_bytes_copied_counterexample`):
  theorem private_bytes_copied … (hws : WfKind srcK n) (hwd : WfKind dstK n) (hx : x < n)
      (hps : PrivateIn srcK x) (hpd : PrivateIn dstK x) : callback false srcK dstK n viaTmp src dst tmp x = src x
-/

/-- **private_bytes_copied**, on the loop before its repair, when no private block of either allocation straddles the start of
the message (in particular: messages starting at offset 0, or at/after… a block boundary) — with or without the
temporary buffer of the privatization path -/
theorem private_bytes_copied_partial (srcK dstK : BufKind) (n : Nat) (viaTmp : Bool) (src dst tmp : Buf) (x : Nat)
    (hws : WfKind srcK n) (hwd : WfKind dstK n) (hs : NoStraddleKind srcK) (hd : NoStraddleKind dstK)
    (hx : x < n) (hps : PrivateIn srcK x) (hpd : PrivateIn dstK x) :
    callback false srcK dstK n viaTmp src dst tmp x = src x :=
  callback_copies false srcK dstK n viaTmp src dst tmp x hws hwd (Or.inr ⟨hs, hd⟩) hx hps hpd

/-- the defect end to end: the sender's allocation has the private block [0,10), the message is bytes 5..7 of it, the
receiver's buffer is ordinary memory: byte 0 of the message is private on both sides and is NOT copied -/
theorem private_bytes_copied_counterexample :
    callback false (.shared [(0, 10)] 5) .notShared 3 false (fun _ => 7) (fun _ => 0) (fun _ => 0) 0 = 0 ∧
    PrivateIn (.shared [(0, 10)] 5) 0 ∧ PrivateIn .notShared 0 := by
  refine ⟨by decide, ⟨(0, 10), List.mem_cons_self, by decide, by decide⟩, trivial⟩

/-- with proposed_fix.diff: the full property, every offset -/
theorem private_bytes_copied_fixed (srcK dstK : BufKind) (n : Nat) (viaTmp : Bool) (src dst tmp : Buf) (x : Nat)
    (hws : WfKind srcK n) (hwd : WfKind dstK n) (hx : x < n) (hps : PrivateIn srcK x) (hpd : PrivateIn dstK x) :
    callback true srcK dstK n viaTmp src dst tmp x = src x :=
  callback_copies true srcK dstK n viaTmp src dst tmp x hws hwd (Or.inl rfl) hx hps hpd

theorem shared_bytes_untouched (fixed : Bool) (srcK dstK : BufKind) (n : Nat) (src dst tmp : Buf) (x : Nat)
    (h : ∀ s d, framed fixed srcK n = some s → framed fixed dstK n = some d → ¬ Covered (merge s d) x) :
    callback fixed srcK dstK n false src dst tmp x = dst x := by
  unfold callback
  cases e1 : framed fixed srcK n with
  | none => rfl
  | some s =>
    cases e2 : framed fixed dstK n with
    | none => rfl
    | some d =>
      simp only [Bool.false_eq_true, if_false]
      exact memcpyPrivate_not_covered _ _ _ _ (h s d e1 e2)

theorem callback_beyond (fixed : Bool) (srcK dstK : BufKind) (n : Nat) (src dst tmp : Buf) (x : Nat) (hx : n ≤ x) :
    callback fixed srcK dstK n false src dst tmp x = dst x := by
  apply shared_bytes_untouched
  intro s d _ hdst hc
  obtain ⟨b, hb, _, h2⟩ := (merge_sound s d x hc).2
  have := framed_within fixed dstK n d hdst b hb
  omega

theorem modeOf_cases (ssend bsend rma : Bool) (size thresh : Nat) :
    (modeOf ssend bsend rma size thresh = .eager ↔ ssend = false ∧ rma = false ∧ bsend = false ∧ size < thresh) := by
  cases ssend <;> cases rma <;> cases bsend <;> simp [modeOf]

/-- **private_bytes_transferred_all_modes** — eager, detached (Bsend / RMA) and rendezvous sends of a basic datatype:
    whatever the mode (= whichever buffer `Request::start` hands to the copy callback: the heap copy of the whole message
    or the user's buffer), for every layout of private blocks of the sender's and of the receiver's allocation, every
    offset of the two buffers in their allocations, every send and receive size: each byte `x` of the transferred part
    (`x < min(nSend, nRecv)`) that is private on BOTH sides ends up in the receive buffer with the value the sender's
    buffer had when the send started.  Hypothesis for rendezvous: the sender's buffer is not modified before the copy
    (the sender is blocked in MPI_Send / MPI_Ssend; MPI forbids touching the buffer of a pending MPI_Isend). -/
theorem private_bytes_transferred_all_modes (m : Mode) (srcK dstK : BufKind) (nSend nRecv : Nat) (viaTmp : Bool)
    (userAtSend userAtCopy dst tmp : Buf) (x : Nat)
    (hws : WfKind srcK (Nat.min nSend nRecv)) (hwd : WfKind dstK (Nat.min nSend nRecv))
    (hx : x < Nat.min nSend nRecv) (hps : PrivateIn srcK x) (hpd : PrivateIn dstK x)
    (hstable : m = .rendezvous → userAtCopy = userAtSend) :
    transfer m srcK dstK nSend nRecv viaTmp userAtSend userAtCopy dst tmp x = userAtSend x := by
  unfold transfer
  rw [if_neg (by omega)]
  cases m with
  | eager | detached =>
    simp only [seenBuffer, Mode.heapCopy, if_true]
    exact private_bytes_copied_fixed .notShared dstK _ viaTmp userAtSend dst tmp x trivial hwd hx trivial hpd
  | rendezvous =>
    simp only [seenBuffer, Mode.heapCopy, Bool.false_eq_true, if_false]
    rw [hstable rfl]
    exact private_bytes_copied_fixed srcK dstK _ viaTmp userAtSend dst tmp x hws hwd hx hps hpd

/-- in the eager and detached modes a later modification of the sender's buffer (allowed once MPI_Send / MPI_Bsend has
    returned) does not change what the receiver gets: the result does not depend on `userAtCopy` at all -/
theorem heap_copy_modes_ignore_later_writes (m : Mode) (hm : m ≠ .rendezvous) (srcK dstK : BufKind) (nSend nRecv : Nat)
    (viaTmp : Bool) (userAtSend u1 u2 dst tmp : Buf) :
    transfer m srcK dstK nSend nRecv viaTmp userAtSend u1 dst tmp = transfer m srcK dstK nSend nRecv viaTmp userAtSend u2 dst tmp := by
  cases m with
  | rendezvous => exact absurd rfl hm
  | eager => rfl
  | detached => rfl

/-- bytes of the receive buffer at or beyond the transferred size are untouched, in every mode (truncation to the
    receiver's size included); by `callback_beyond` the hypotheses on `dstK` are not needed -/
theorem bytes_beyond_message_untouched (m : Mode) (srcK dstK : BufKind) (nSend nRecv : Nat)
    (userAtSend userAtCopy dst tmp : Buf) (x : Nat) (hwd : WfKind dstK (Nat.min nSend nRecv)) (hx : Nat.min nSend nRecv ≤ x)
    (hd : ∀ blocks offset, dstK = .shared blocks offset → WfBlocks blocks ∧ offset < W) :
    transfer m srcK dstK nSend nRecv false userAtSend userAtCopy dst tmp x = dst x := by
  unfold transfer
  split
  · rfl
  · exact callback_beyond true _ dstK _ _ dst tmp x hx

example : WfBlocks [(8, 16), (32, 40)] ∧ NoStraddle [(8, 16), (32, 40)] 16 ∧ Sorted [(8, 16), (32, 40)] := by
  simp only [WfBlocks, NoStraddle, Sorted]
  decide
example : shiftFrame [(8, 16), (32, 40)] 16 20 = [(16, 20)] ∧ shiftFrame [(8, 16), (32, 40)] 10 30 = [(22, 30)] ∧
    shiftFrameFixed [(8, 16), (32, 40)] 10 30 = [(0, 6), (22, 30)] := by decide
example : merge [(0, 6), (22, 30)] [(4, 25), (26, 28)] = [(4, 6), (22, 25), (26, 28)] := by decide
example : callback true (.shared [(8, 16), (32, 40)] 10) .notShared 30 false (fun i => i + 100) (fun _ => 0) (fun _ => 0) 3 = 103 := by decide

/-- the three modes on one layout: sender's allocation private on [8,16) ∪ [32,40), message = bytes 10.. of it (so the
    first private block straddles the message start), receiver private on [0,20); byte 3 of the message is private on both
    sides and arrives in all three modes; `modeOf` picks the mode from the flags and the threshold -/
example : modeOf false false false 30 65536 = .eager ∧ modeOf false true false 100000 65536 = .detached ∧
    modeOf false false false 100000 65536 = .rendezvous ∧ modeOf true false false 30 65536 = .rendezvous := by decide
example : ∀ m : Mode, transfer m (.shared [(8, 16), (32, 40)] 10) (.shared [(0, 20)] 0) 30 25 false (fun i => i + 100)
    (fun i => i + 100) (fun _ => 0) (fun _ => 0) 3 = 103 := by
  intro m; cases m <;> decide

/-
The copy callback learns the layout of a buffer from `smpi_is_shared`, i.e. from the table `allocs_metadata`.  For EVERY
history of `smpi_shared_malloc_partial` / `smpi_shared_free` calls, whatever addresses the kernel hands out (a freed range
may be reused at once, entirely, partly, or as part of a larger mapping that starts below it), the lookup of an address
answers with the layout and offset of the LIVE allocation containing the address, and with "not shared" for an address in no
live allocation (in particular in a freed one). -/

theorem table_tied_to_live (h : List AEvent) (hf : FreshRun [] h) : Tied (arun [] h) (lrun [] h) :=
  tied_run h [] [] tied_nil hf

/-- **lookup_sound** — whatever `smpi_is_shared` answers is the layout of a live allocation containing the address, with
    the offset of the address in it -/
theorem lookup_sound (h : List AEvent) (hf : FreshRun [] h) (ptr : Nat) (bl : List Block) (off : Nat)
    (hl : isShared (arun [] h) ptr = some (bl, off)) :
    ∃ a ∈ lrun [] h, a.contains ptr ∧ bl = privateOf a.size a.shared ∧ off = ptr - a.addr := by
  have ht := table_tied_to_live h hf
  obtain ⟨x, hx, hin, hr⟩ := (isShared_eq_some _ ptr ht.1 _).mp hl
  obtain ⟨a, ha, rfl⟩ := List.mem_map.mp ((ht.2 x).mp hx)
  cases hr
  exact ⟨a, ha, hin, rfl, rfl⟩

/-- **lookup_complete** — an address inside a live allocation is attributed to THAT allocation (its layout, its offset),
    never to an older allocation that occupied the range -/
theorem lookup_complete (h : List AEvent) (hf : FreshRun [] h) (ptr : Nat) (a : LiveA) (ha : a ∈ lrun [] h)
    (hc : a.contains ptr) : isShared (arun [] h) ptr = some (privateOf a.size a.shared, ptr - a.addr) := by
  have ht := table_tied_to_live h hf
  exact (isShared_eq_some _ ptr ht.1 _).mpr ⟨entryOf a, (ht.2 _).mpr (List.mem_map_of_mem ha), hc, rfl⟩

/-- **lookup_none_outside_live** — an address in no live allocation (e.g. in a freed one) is ordinary memory for the copy -/
theorem lookup_none_outside_live (h : List AEvent) (hf : FreshRun [] h) (ptr : Nat)
    (hn : ∀ a ∈ lrun [] h, ¬ a.contains ptr) : isShared (arun [] h) ptr = none := by
  cases hl : isShared (arun [] h) ptr with
  | none => rfl
  | some r =>
    obtain ⟨a, ha, hc, _⟩ := lookup_sound h hf ptr r.1 r.2 hl
    exact absurd hc (hn a ha)

/-- a freed allocation is not live any more, whatever happened before (so `lookup_none_outside_live` applies to its range
    until the kernel maps something there again) -/
theorem freed_not_live (l : List LiveA) (addr : Nat) : ∀ a ∈ lstep l (.free addr), a.addr ≠ addr :=
  fun _ ha => bne_iff_ne.mp (List.mem_filter.mp ha).2

theorem sharedOk_tail (size : Nat) (a : Block) (rest : List Block) (h : SharedOk size (a :: rest)) :
    a.1 < a.2 ∧ a.2 ≤ size ∧ ∀ c ∈ rest, a.2 < c.1 := by
  induction rest generalizing a with
  | nil => exact ⟨h.1, h.2, fun _ hc => nomatch hc⟩
  | cons b r ih =>
    obtain ⟨h1, h2, h3, h4⟩ := h
    obtain ⟨hb, _, hr⟩ := ih b h4
    refine ⟨h1, h2, ?_⟩
    intro c hc
    rcases List.mem_cons.mp hc with rfl | hc
    · exact h3
    · exact Nat.lt_trans (Nat.lt_trans h3 hb) (hr c hc)

theorem sharedOk_not_covered {size : Nat} {a : Block} {rest : List Block} (h : SharedOk size (a :: rest)) {x : Nat}
    (hx : x < a.2) : ¬ Covered rest x :=
  fun ⟨c, hc, hcx, _⟩ => by
    have := (sharedOk_tail size a rest h).2.2 c hc
    omega

/-- the complement of the shared blocks, one block further: the gap `[lo, p)` before the shared block `[p, q)`, then what
    lies beyond `q`; `C` = "covered by a later shared block", impossible before `q` -/
theorem gap_step {lo p q size x : Nat} {C : Prop} (hp : lo ≤ p) (h1 : p < q) (h2 : q ≤ size) (hC : x < q → ¬ C) :
    (lo ≤ x ∧ x < p) ∨ (q ≤ x ∧ x < size ∧ ¬ C) ↔ lo ≤ x ∧ x < size ∧ ¬ ((p ≤ x ∧ x < q) ∨ C) := by
  by_cases hc : C
  · have : q ≤ x := Nat.le_of_not_lt fun hx => hC hx hc
    simp only [hc, not_true_eq_false, and_false, or_false, or_true, iff_false]
    omega
  · simp only [hc, not_false_eq_true, and_true, or_false]
    omega

theorem gapsThenTail_spec (size : Nat) (rest : List Block) : ∀ (a : Block), SharedOk size (a :: rest) → ∀ x,
    (Covered (gapsThenTail size (a :: rest)) x ↔ a.2 ≤ x ∧ x < size ∧ ¬ Covered rest x) := by
  induction rest with
  | nil =>
    intro a h x
    unfold gapsThenTail
    split
    · simp only [covered_cons, not_covered_nil, or_false, not_false_eq_true, and_true]
    · simp only [not_covered_nil, false_iff]
      omega
  | cons b r ih =>
    intro a h x
    obtain ⟨hb1, hb2, _⟩ := sharedOk_tail size b r h.2.2.2
    rw [gapsThenTail, covered_cons, covered_cons, ih b h.2.2.2 x]
    exact gap_step (Nat.le_of_lt h.2.2.1) hb1 hb2 (sharedOk_not_covered h.2.2.2)

/-- **privateOf_spec** — under the assertions of `smpi_shared_malloc_partial` on its argument, the `private_blocks`
    recorded for an allocation cover exactly the bytes of the allocation lying in no requested shared block -/
theorem privateOf_spec (size : Nat) (shared : List Block) (hne : shared ≠ []) (hok : SharedOk size shared) (x : Nat) :
    Covered (privateOf size shared) x ↔ x < size ∧ ¬ Covered shared x := by
  cases shared with
  | nil => exact absurd rfl hne
  | cons a rest =>
    obtain ⟨ha1, ha2, _⟩ := sharedOk_tail size a rest hok
    have hfront : Covered (if a.1 > 0 then [(0, a.1)] else []) x ↔ 0 ≤ x ∧ x < a.1 := by
      split
      · simp only [covered_cons, not_covered_nil, or_false]
      · simp only [not_covered_nil, false_iff]
        omega
    rw [privateOf, covered_append, hfront, gapsThenTail_spec size rest a hok x, covered_cons,
      gap_step (Nat.zero_le _) ha1 ha2 (sharedOk_not_covered hok)]
    exact and_iff_right (Nat.zero_le x)

theorem gapsThenTail_sorted (size : Nat) (rest : List Block) : ∀ (a : Block), SharedOk size (a :: rest) →
    Sorted (gapsThenTail size (a :: rest)) ∧ ∀ c ∈ gapsThenTail size (a :: rest), a.2 ≤ c.1 ∧ c.2 ≤ size := by
  induction rest with
  | nil =>
    intro a h
    unfold gapsThenTail
    split
    · rename_i hl
      refine ⟨⟨hl, (fun _ hc => nomatch hc), trivial⟩, fun c hc => ?_⟩
      cases List.mem_singleton.mp hc
      exact ⟨Nat.le_refl _, Nat.le_refl _⟩
    · exact ⟨trivial, fun _ hc => nomatch hc⟩
  | cons b r ih =>
    intro a h
    obtain ⟨_, _, h3, h4⟩ := h
    obtain ⟨hb1, hb2, _⟩ := sharedOk_tail size b r h4
    obtain ⟨is, ib⟩ := ih b h4
    have hlo : ∀ c ∈ gapsThenTail size (b :: r), b.1 ≤ c.1 := fun c hc => Nat.le_trans (Nat.le_of_lt hb1) (ib c hc).1
    refine ⟨⟨h3, hlo, is⟩, fun c hc => ?_⟩
    rcases List.mem_cons.mp hc with rfl | hc
    · exact ⟨Nat.le_refl _, Nat.le_trans (Nat.le_of_lt hb1) hb2⟩
    · exact ⟨Nat.le_trans (Nat.le_of_lt h3) (hlo c hc), (ib c hc).2⟩

theorem privateOf_sorted (size : Nat) (shared : List Block) (hok : SharedOk size shared) :
    Sorted (privateOf size shared) ∧ ∀ c ∈ privateOf size shared, c.2 ≤ size := by
  cases shared with
  | nil => exact ⟨trivial, fun _ hc => nomatch hc⟩
  | cons a rest =>
    obtain ⟨ha1, ha2, _⟩ := sharedOk_tail size a rest hok
    obtain ⟨gs, gb⟩ := gapsThenTail_sorted size rest a hok
    rw [privateOf]
    split
    · rename_i h0
      refine ⟨⟨h0, fun c hc => Nat.le_trans (Nat.le_of_lt ha1) (gb c hc).1, gs⟩, fun c hc => ?_⟩
      rcases List.mem_cons.mp hc with rfl | hc
      · exact Nat.le_trans (Nat.le_of_lt ha1) ha2
      · exact (gb c hc).2
    · exact ⟨gs, fun c hc => (gb c hc).2⟩

/-- the requests of a history are accepted by `smpi_shared_malloc_partial` (its assertions) and lie in the address space -/
def ReqOk : AEvent → Prop
  | .malloc a s sh => sh ≠ [] ∧ SharedOk s sh ∧ a + s < W
  | .free _ => True

theorem lrun_requested (h : List AEvent) : ∀ (l : List LiveA), ∀ a ∈ lrun l h,
    a ∈ l ∨ AEvent.malloc a.addr a.size a.shared ∈ h := by
  induction h with
  | nil => exact fun l a ha => Or.inl ha
  | cons e rest ih =>
    intro l a ha
    rcases ih (lstep l e) a ha with h1 | h1
    · cases e with
      | malloc ad s sh =>
        rcases List.mem_cons.mp h1 with rfl | h1
        · exact Or.inr List.mem_cons_self
        · exact Or.inl h1
      | free ad => exact Or.inl (List.mem_filter.mp h1).1
    · exact Or.inr (List.mem_cons_of_mem _ h1)

/-- byte `x` of a message starting at `ptr` is private by the program's REQUEST: it lies in no requested shared block of the
    live allocation containing the buffer (no condition for ordinary memory) -/
def PrivateReq (l : List LiveA) (ptr x : Nat) : Prop :=
  ∀ a ∈ l, a.contains ptr → ¬ Covered a.shared (x + (ptr - a.addr))

/-- a message of `n` bytes at `ptr` lies inside the allocation containing its start -/
def MsgFits (l : List LiveA) (ptr n : Nat) : Prop := ∀ a ∈ l, a.contains ptr → ptr + n ≤ a.addr + a.size

theorem looked_up_kind_ok (h : List AEvent) (hf : FreshRun [] h) (hr : ∀ e ∈ h, ReqOk e) (ptr n x : Nat) (hx : x < n)
    (hfit : MsgFits (lrun [] h) ptr n) (hp : PrivateReq (lrun [] h) ptr x) :
    WfKind (kindOfLookup (isShared (arun [] h) ptr)) n ∧ PrivateIn (kindOfLookup (isShared (arun [] h) ptr)) x := by
  cases hl : isShared (arun [] h) ptr with
  | none => exact ⟨trivial, trivial⟩
  | some r =>
    obtain ⟨bl, off⟩ := r
    obtain ⟨a, ha, hc, rfl, rfl⟩ := lookup_sound h hf ptr bl off hl
    obtain ⟨hne, hok, hw⟩ := hr _ ((lrun_requested h [] a ha).resolve_left fun h0 => nomatch h0)
    obtain ⟨hs, hb⟩ := privateOf_sorted a.size a.shared hok
    have hfa := hfit a ha hc
    have : ptr - a.addr + n < W ∧ x + (ptr - a.addr) < a.size := by
      have := hc.1
      omega
    exact ⟨⟨hs, fun b hb' => ⟨hs.lt b hb', Nat.lt_of_le_of_lt (Nat.le_trans (hb b hb') (Nat.le_add_left _ _)) hw⟩, this.1⟩,
      (privateOf_spec a.size a.shared hne hok _).mpr ⟨this.2, hp a ha hc⟩⟩

/-- **private_bytes_transferred_after_any_history** — the property with the allocation bookkeeping in the loop: after ANY
    history of shared allocations and frees (any addresses the kernel may hand out, freed ranges reused in any way), for a
    send buffer at `ptrS` and a receive buffer at `ptrR` whose layouts the copy callback obtains from `smpi_is_shared`, in all
    three send modes, every byte `x` of the transferred part that lies in no REQUESTED shared block of the live allocation
    containing either buffer arrives with the value it had when the send started.  (Eager / detached: the callback sees the
    heap copy, `seenBuffer`; the lookup of the heap copy's address is `none` as long as it lies in no live shared allocation —
    that is the `.notShared` of `seenBuffer`.) -/
theorem private_bytes_transferred_after_any_history (h : List AEvent) (hf : FreshRun [] h) (hr : ∀ e ∈ h, ReqOk e)
    (m : Mode) (ptrS ptrR nSend nRecv : Nat) (viaTmp : Bool) (userAtSend userAtCopy dst tmp : Buf) (x : Nat)
    (hx : x < Nat.min nSend nRecv)
    (hfs : MsgFits (lrun [] h) ptrS (Nat.min nSend nRecv)) (hfr : MsgFits (lrun [] h) ptrR (Nat.min nSend nRecv))
    (hps : PrivateReq (lrun [] h) ptrS x) (hpr : PrivateReq (lrun [] h) ptrR x)
    (hstable : m = .rendezvous → userAtCopy = userAtSend) :
    transfer m (kindOfLookup (isShared (arun [] h) ptrS)) (kindOfLookup (isShared (arun [] h) ptrR)) nSend nRecv viaTmp
      userAtSend userAtCopy dst tmp x = userAtSend x := by
  obtain ⟨ws, ps⟩ := looked_up_kind_ok h hf hr ptrS _ x hx hfs hps
  obtain ⟨wr, pr⟩ := looked_up_kind_ok h hf hr ptrR _ x hx hfr hpr
  exact private_bytes_transferred_all_modes m _ _ nSend nRecv viaTmp userAtSend userAtCopy dst tmp x ws wr hx ps pr hstable

/-- the history of the missed seeded change: an allocation (first page private) at 0x50000 is freed, a larger one with
    another layout (first page shared) is placed over its range starting below it; an address of the new allocation above the
    old start is attributed to the NEW allocation -/
example :
    let h := [AEvent.malloc 0x50000 0x40000 [(0x1000, 0x40000)], .free 0x50000, .malloc 0x10000 0x80000 [(0, 0x1000)]]
    FreshRun [] h ∧ isShared (arun [] h) 0x52000 = some ([(0x1000, 0x80000)], 0x42000) ∧
      isShared (arun [] [AEvent.malloc 0x50000 0x40000 [(0x1000, 0x40000)], .free 0x50000]) 0x52000 = none := by
  simp only [FreshRun, Fresh, lstep]
  decide

/-- the release really depends on the reference count: with a post-decrement test (`count-- == 0`) the freed entry stays
    and the same lookup answers with the stale layout — the state machine distinguishes the two -/
example :
    let freeBad (m : MMap) (p : Nat) : MMap := match m.find p with
      | some mt => if mt.count = 0 then m.erase p else m.set p { mt with count := mt.count - 1 }
      | none => m
    isShared (mallocStep (freeBad (mallocStep [] 0x50000 0x40000 [(0x1000, 0x40000)]) 0x50000) 0x10000 0x80000 [(0, 0x1000)])
      0x52000 = some ([(0, 0x1000)], 0x2000) := by decide

example : SharedOk 100 [(10, 20), (40, 100)] ∧ privateOf 100 [(10, 20), (40, 100)] = [(0, 10), (20, 40)] ∧
    privateOf 100 [(0, 100)] = [] ∧ privateOf 100 [(0, 30), (50, 60)] = [(30, 50), (60, 100)] := by
  simp only [SharedOk]
  decide

end SgVerif.C35
