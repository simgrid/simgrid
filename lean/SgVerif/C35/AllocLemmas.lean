import SgVerif.C35.Alloc
/-
C35 — invariants of the allocation table (`allocs_metadata`) over histories of malloc / free, and the lookup lemma.
-/
namespace SgVerif.C35

def Before (x y : Nat × Meta) : Prop := x.1 + x.2.size ≤ y.1

/-- the table invariant: sorted by address, ranges pairwise disjoint (`Before` for every ordered pair), no empty range,
    every reference count is 1 -/
def MInv (m : MMap) : Prop := m.Pairwise Before ∧ ∀ x ∈ m, 0 < x.2.size ∧ x.2.count = 1

def entryOf (a : LiveA) : Nat × Meta := (a.addr, { size := a.size, blocks := privateOf a.size a.shared, count := 1 })

/-- table and live set describe the same allocations -/
def Tied (m : MMap) (l : List LiveA) : Prop := MInv m ∧ ∀ x, x ∈ m ↔ x ∈ l.map entryOf

theorem minv_nil : MInv [] := ⟨List.Pairwise.nil, fun _ hx => nomatch hx⟩

theorem minv_cons {x : Nat × Meta} {m : MMap} :
    MInv (x :: m) ↔ (∀ z ∈ m, Before x z) ∧ (0 < x.2.size ∧ x.2.count = 1) ∧ MInv m := by
  unfold MInv
  rw [List.pairwise_cons, List.forall_mem_cons]
  exact ⟨fun ⟨⟨a, b⟩, c, d⟩ => ⟨a, c, b, d⟩, fun ⟨a, c, b, d⟩ => ⟨⟨a, b⟩, c, d⟩⟩

theorem minv_head_le {x : Nat × Meta} {m : MMap} (h : MInv (x :: m)) : ∀ z ∈ x :: m, x.1 ≤ z.1 := by
  intro z hz
  rcases List.mem_cons.mp hz with rfl | hz
  · exact Nat.le_refl _
  · exact Nat.le_trans (Nat.le_add_right _ _) ((minv_cons.mp h).1 z hz)

/-- `allocs_metadata[k] = v` for a range disjoint from every entry: sorted insertion, nothing overwritten -/
theorem set_fresh (m : MMap) (k : Nat) (v : Meta) (hm : MInv m) (hs : 0 < v.size) (hc : v.count = 1)
    (hd : ∀ x ∈ m, x.1 + x.2.size ≤ k ∨ k + v.size ≤ x.1) :
    MInv (m.set k v) ∧ ∀ y, y ∈ m.set k v ↔ y = (k, v) ∨ y ∈ m := by
  induction m with
  | nil => exact ⟨minv_cons.mpr ⟨(fun _ hz => nomatch hz), ⟨hs, hc⟩, minv_nil⟩, fun y => List.mem_cons⟩
  | cons x rest ih =>
    obtain ⟨hpw, hx, hrest⟩ := minv_cons.mp hm
    have hdx := hd x List.mem_cons_self
    unfold MMap.set
    split
    · -- `k` goes in front: every entry starts at or after `x`, so none can end before `k`
      rename_i h1
      refine ⟨minv_cons.mpr ⟨fun z hz => ?_, ⟨hs, hc⟩, hm⟩, fun y => List.mem_cons⟩
      have := minv_head_le hm z hz
      exact (hd z hz).resolve_left fun h => by omega
    · split
      · omega
      · -- `x` stays in front of `k` and of the rest
        rename_i h1 h2
        obtain ⟨ihI, ihM⟩ := ih hrest fun z hz => hd z (List.mem_cons_of_mem _ hz)
        refine ⟨minv_cons.mpr ⟨fun z hz => ?_, hx, ihI⟩, fun y => ?_⟩
        · rcases (ihM z).mp hz with rfl | hz
          · exact hdx.resolve_right fun h => by omega
          · exact hpw z hz
        · rw [List.mem_cons, ihM, List.mem_cons]
          exact or_left_comm

theorem erase_inv (m : MMap) (k : Nat) (hm : MInv m) : MInv (m.erase k) :=
  ⟨List.Pairwise.filter _ hm.1, fun x hx => hm.2 x (List.mem_filter.mp hx).1⟩

theorem find_some (m : MMap) (k : Nat) (mt : Meta) (h : m.find k = some mt) : (k, mt) ∈ m := by
  obtain ⟨x, hf, rfl⟩ := Option.map_eq_some_iff.mp h
  have hk : (x.1 == k) = true := List.find?_some (p := fun y : Nat × Meta => y.1 == k) hf
  cases beq_iff_eq.mp hk
  exact List.mem_of_find?_eq_some hf

theorem find_none (m : MMap) (k : Nat) (h : m.find k = none) : ∀ x ∈ m, x.1 ≠ k := fun x hx e =>
  List.find?_eq_none.mp (Option.map_eq_none_iff.mp h) x hx (beq_iff_eq.mpr e)

/-- `r` is what the lookup of `ptr` reports for entry `x`, whose range contains `ptr` -/
def Answers (ptr : Nat) (r : List Block × Nat) (x : Nat × Meta) : Prop :=
  (x.1 ≤ ptr ∧ ptr < x.1 + x.2.size) ∧ r = (x.2.blocks, ptr - x.1)

theorem fromPrev_some_iff {p : Nat × Meta} {ptr : Nat} {r : List Block × Nat} (hp : p.1 < ptr) :
    fromPrev (some p) ptr = some r ↔ Answers ptr r p := by
  show (if ptr < p.1 + p.2.size then some (p.2.blocks, ptr - p.1) else none) = some r ↔ _
  rw [Option.ite_none_right_eq_some, Option.some_inj]
  exact ⟨fun ⟨hlt, he⟩ => ⟨⟨Nat.le_of_lt hp, hlt⟩, he.symm⟩, fun ⟨⟨_, hlt⟩, he⟩ => ⟨hlt, he.symm⟩⟩

/-- `lower_bound` + predecessor on a sorted table of disjoint ranges: the lookup answers with the entry whose range
    contains the address, and only so.  `prev`, the entry passed last, matters through `fromPrev prev ptr` only: it
    cannot answer when an entry of the rest starts at or before `ptr`. -/
theorem lookupFrom_iff (m : MMap) (ptr : Nat) (r : List Block × Nat) : ∀ (prev : Option (Nat × Meta)),
    MInv m → (∀ z ∈ m, z.1 ≤ ptr → fromPrev prev ptr = none) →
    (lookupFrom prev m ptr = some r ↔ fromPrev prev ptr = some r ∨ ∃ x ∈ m, Answers ptr r x) := by
  induction m with
  | nil =>
    intro prev _ _
    exact (or_iff_left fun ⟨_, h, _⟩ => nomatch h).symm
  | cons y rest ih =>
    intro prev hinv hp
    obtain ⟨hpw, ⟨hys, _⟩, hrest⟩ := minv_cons.mp hinv
    have hskip := hp y List.mem_cons_self
    unfold lookupFrom
    split
    · rename_i h1
      rw [ih (some y) hrest fun z hz hle => if_neg (Nat.not_lt.mpr (Nat.le_trans (hpw z hz) hle)),
        hskip (Nat.le_of_lt h1), fromPrev_some_iff h1]
      simp only [List.mem_cons, exists_eq_or_imp, reduceCtorEq, false_or]
    · split
      · rename_i h2
        rw [hskip (Nat.le_of_eq h2)]
        constructor
        · intro h
          cases h
          exact Or.inr ⟨y, List.mem_cons_self, (by omega), by rw [h2, Nat.sub_self]⟩
        · rintro (h | ⟨x, hx, ⟨hx1, _⟩, rfl⟩)
          · cases h
          · rcases List.mem_cons.mp hx with rfl | hx
            · rw [h2, Nat.sub_self]
            · have : y.1 + y.2.size ≤ x.1 := hpw x hx
              omega
      · -- `ptr` lies before `y`: no entry from `y` on contains it
        rename_i h1 h2
        refine (or_iff_left ?_).symm
        rintro ⟨x, hx, ⟨hx1, _⟩, _⟩
        have := minv_head_le hinv x hx
        omega

theorem isShared_eq_some (m : MMap) (ptr : Nat) (hm : MInv m) (r : List Block × Nat) :
    isShared m ptr = some r ↔ ∃ x ∈ m, Answers ptr r x :=
  (lookupFrom_iff m ptr r none hm fun _ _ _ => rfl).trans (or_iff_right nofun)

theorem tied_nil : Tied [] [] := ⟨minv_nil, fun _ => Iff.rfl⟩

/-- every count in the table is 1, so `smpi_shared_free` erases the entry it finds -/
theorem freeStep_eq_erase (m : MMap) (a : Nat) (hm : MInv m) : freeStep m a = m.erase a := by
  unfold freeStep
  cases hfind : m.find a with
  | none => exact (List.filter_eq_self.mpr fun x hx => bne_iff_ne.mpr (find_none m a hfind x hx)).symm
  | some mt =>
    have hc : mt.count = 1 := (hm.2 _ (find_some m a mt hfind)).2
    show (if mt.count - 1 = 0 then m.erase a else _) = _
    rw [hc]
    rfl

theorem tied_step (m : MMap) (l : List LiveA) (e : AEvent) (ht : Tied m l) (hf : Fresh l e) :
    Tied (astep m e) (lstep l e) := by
  cases e with
  | malloc a s sh =>
    obtain ⟨hI, hM⟩ := set_fresh m a { size := s, blocks := privateOf s sh, count := 1 } ht.1 hf.1 rfl fun x hx => by
      obtain ⟨b, hb, rfl⟩ := List.mem_map.mp ((ht.2 x).mp hx)
      exact hf.2 b hb
    refine ⟨hI, fun x => ?_⟩
    show x ∈ MMap.set m a _ ↔ x ∈ _ :: l.map entryOf
    rw [hM x, ht.2 x, List.mem_cons]
    rfl
  | free a =>
    show Tied (freeStep m a) (l.filter fun x => x.addr != a)
    rw [freeStep_eq_erase m a ht.1]
    refine ⟨erase_inv m a ht.1, fun x => ?_⟩
    -- the table and the live set are filtered by the same test on the address
    show x ∈ m.filter _ ↔ x ∈ (l.filter ((fun y : Nat × Meta => y.1 != a) ∘ entryOf)).map entryOf
    rw [← List.filter_map, List.mem_filter, List.mem_filter, ht.2 x]

theorem tied_run (h : List AEvent) : ∀ (m : MMap) (l : List LiveA), Tied m l → FreshRun l h → Tied (arun m h) (lrun l h) := by
  induction h with
  | nil => intro m l ht _; exact ht
  | cons e rest ih =>
    intro m l ht hf
    exact ih _ _ (tied_step m l e ht hf.1) hf.2

end SgVerif.C35
