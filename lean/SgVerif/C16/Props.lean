/-
C16 — max-min allocations are fair.  Theorems about the model lean/SgVerif/Lmm/Model.lean at eps = 0
(invariants: lean/SgVerif/Lmm/Lemmas.lean, lean/SgVerif/Lmm/Fair.lean); ∀ well-formed systems, ∀ fuel, ∀ initial values.
-/
import SgVerif.Lmm.Fair
import SgVerif.Lmm.Unique
import SgVerif.Lmm.SpecLemmas
import SgVerif.C15.Props
namespace SgVerif.C16
open SgVerif.Lmm

/-- **Every consumer gets a final, positive rate** (SHARED and FATPIPE, with variable bounds): when `maxmin_solve`
returns, the variable of every enabled element with a positive weight has been fixed (made inactive) with a value > 0. -/
theorem maxmin_all_fixed (S : Sys) (hwf : WF S) (val0 : Nat → Rat) (fuel : Nat) (st : St)
    (h : maxminSolve S 0 fuel val0 = some st) :
    ∀ c ∈ S.active, ∀ e ∈ (S.cnst c).elems, 0 < e.2 → st.fixed e.1 = true ∧ 0 < st.value e.1 := by
  obtain ⟨sv, M, hR, hl, _, _⟩ := solve_inv S hwf val0 fuel st h
  intro c hc e he hw
  have hfx := hR.closed hwf hc (by rw [hl]; exact List.not_mem_nil) e he hw
  exact ⟨hfx, hR.g.valpos e.1 hfx⟩

/-- **C16, maxmin, exact arithmetic, full strength: every well-formed system (SHARED and FATPIPE constraints, any
variable bounds).**  When `maxmin_solve` returns, every variable of an enabled element with positive weight is at its
bound, or uses (with positive weight) an active constraint whose `get_load()` — Σ w·value for a summing constraint,
max w·value for a FATPIPE one — equals its capacity and on which no consumer has a larger value·penalty.
(The FATPIPE case rests on `InvA`, Lmm/Fat.lean: usage_ of a light FATPIPE constraint is attained by an unfixed
consumer, which therefore gets `w·value = capacity` when the constraint saturates.) -/
theorem maxmin_bottleneck (S : Sys) (hwf : WF S)
    (val0 : Nat → Rat) (fuel : Nat) (st : St) (h : maxminSolve S 0 fuel val0 = some st) :
    ∀ c ∈ S.active, ∀ e ∈ (S.cnst c).elems, 0 < e.2 →
      (0 < (S.var e.1).bound ∧ st.value e.1 = (S.var e.1).bound) ∨
      ∃ c' ∈ S.active, (∃ e' ∈ (S.cnst c').elems, e'.1 = e.1 ∧ 0 < e'.2) ∧
        load S st.value c' = (S.cnst c').bound ∧
        ∀ e'' ∈ (S.cnst c').elems, 0 < e''.2 →
          st.value e''.1 * (S.var e''.1).penalty ≤ st.value e.1 * (S.var e.1).penalty := by
  obtain ⟨sv, M, hR, _, hBN, _⟩ := solve_inv S hwf val0 fuel st h
  exact fun c hc e he hw => hBN.fair hwf (fun c hc => hR.g.cap hwf hc)
    (maxmin_all_fixed S hwf val0 fuel st h c hc e he hw).1

theorem maxmin_bottleneck_partial (S : Sys) (hwf : WF S) (_hsh : ∀ c ∈ S.active, (S.cnst c).fatpipe = false)
    (val0 : Nat → Rat) (fuel : Nat) (st : St) (h : maxminSolve S 0 fuel val0 = some st) :
    ∀ c ∈ S.active, ∀ e ∈ (S.cnst c).elems, 0 < e.2 →
      (0 < (S.var e.1).bound ∧ st.value e.1 = (S.var e.1).bound) ∨
      ∃ c' ∈ S.active, (∃ e' ∈ (S.cnst c').elems, e'.1 = e.1 ∧ 0 < e'.2) ∧
        load S st.value c' = (S.cnst c').bound ∧
        ∀ e'' ∈ (S.cnst c').elems, 0 < e''.2 →
          st.value e''.1 * (S.var e''.1).penalty ≤ st.value e.1 * (S.var e.1).penalty :=
  maxmin_bottleneck S hwf val0 fuel st h

/-- non-vacuity of `maxmin_bottleneck` on a mixed system: on `C15.exSys` (SHARED capacity 10 + FATPIPE capacity 4, v0
bounded by 1) the solver returns v0 = 1 (at its bound), v1 = 4 and v2 = 2: the FATPIPE constraint c1 has
load = max(2·2, 1·4) = 4 = capacity and v1·1 = v2·2 = 4 is the largest value·penalty on it -/
example : (maxminSolve C15.exSys 0 4 (fun _ => 0)).map
    (fun st => (st.value 0, st.value 1, st.value 2, load C15.exSys st.value 1)) = some (1, 4, 2, 4) := by
  decide +kernel

/-- two summing constraints (capacities 10 and 2), three variables, one bounded: c0 = {v0 (bound 1), v1, v2}, c1 = {v2} -/
def exSh : Sys :=
  { cnst := fun c => if c = 0 then { bound := 10, fatpipe := false, elems := [(2, 1), (1, 1), (0, 1)] }
                     else if c = 1 then { bound := 2, fatpipe := false, elems := [(2, 1)] }
                     else { bound := 0, fatpipe := false, elems := [] },
    var := fun v => if v = 0 then { penalty := 1, bound := 1, cnsts := [(0, 1)] }
                    else if v = 1 then { penalty := 2, bound := -1, cnsts := [(0, 1)] }
                    else if v = 2 then { penalty := 1, bound := -1, cnsts := [(0, 1), (1, 1)] }
                    else { penalty := 0, bound := -1, cnsts := [] },
    active := [0, 1], vorder := [2, 1, 0] }

/-- the solver returns on it: v0 at its bound 1, v2 = 2 limited by c1, v1 = 7 takes the rest of c0 -/
example : (maxminSolve exSh 0 5 (fun _ => 0)).map (fun st => (st.value 0, st.value 1, st.value 2)) = some (1, 7, 2) := by
  decide +kernel

example : ∀ c ∈ exSh.active, (exSh.cnst c).fatpipe = false := by decide

theorem exSh_wf : WF exSh := C15.shSys_wf

theorem exSh_wfv : WFV exSh := C15.shSys_wfv

/-- what `maxmin_solve` returns is a weighted max-min fair allocation in the sense of `FairAlloc` (capacities, variable
bounds, bottleneck condition) — every well-formed system -/
theorem maxmin_fair (S : Sys) (hwf : WF S) (val0 : Nat → Rat) (fuel : Nat) (st : St)
    (h : maxminSolve S 0 fuel val0 = some st) : FairAlloc S st.value := by
  have hf := C15.maxmin_feasible S hwf val0 fuel st h
  exact ⟨hf.1, fun c hc e he _ hb => (hf.2.1 c hc e he).2 hb, maxmin_bottleneck S hwf val0 fuel st h⟩

/-- **C16 `maxmin_unique_shared`, full strength (variable bounds allowed).**  On a well-formed system whose active
constraints are all summing (SHARED): (1) the allocation returned by `maxmin_solve` is weighted max-min fair;
(2) it is the *unique* one: every allocation `y` that respects the capacities and the variable bounds and satisfies the
bottleneck condition gives every consumer the same rate; (3) it equals the water-filling reference `Spec.alloc`
(an independent 60-line definition, Lmm/Spec.lean) on every consumer. -/
theorem maxmin_unique_shared (S : Sys) (hwf : WF S) (hwv : WFV S) (hsh : ∀ c ∈ S.active, (S.cnst c).fatpipe = false)
    (val0 : Nat → Rat) (fuel : Nat) (st : St) (h : maxminSolve S 0 fuel val0 = some st) :
    FairAlloc S st.value ∧
    (∀ y, FairAlloc S y → ∀ c ∈ S.active, ∀ e ∈ (S.cnst c).elems, 0 < e.2 → y e.1 = st.value e.1) ∧
    (∀ c ∈ S.active, ∀ e ∈ (S.cnst c).elems, 0 < e.2 → st.value e.1 = Spec.alloc S e.1) := by
  have hm := maxmin_fair S hwf val0 fuel st h
  refine ⟨hm, fun y hy => fairAlloc_unique S hwf hsh y st.value hy hm, ?_⟩
  exact fairAlloc_unique S hwf hsh st.value (Spec.alloc S) hm (Spec.alloc_fair S hwf hwv hsh)

/-- (2) alone does not need the `variable_set` facts `WFV` -/
theorem maxmin_unique_shared_wf (S : Sys) (hwf : WF S) (hsh : ∀ c ∈ S.active, (S.cnst c).fatpipe = false)
    (val0 : Nat → Rat) (fuel : Nat) (st : St) (h : maxminSolve S 0 fuel val0 = some st) :
    ∀ y, FairAlloc S y → ∀ c ∈ S.active, ∀ e ∈ (S.cnst c).elems, 0 < e.2 → y e.1 = st.value e.1 :=
  fun y hy => fairAlloc_unique S hwf hsh y st.value hy (maxmin_fair S hwf val0 fuel st h)

/-- with termination (`C15.maxmin_terminates`): the solver returns, and returns the reference allocation -/
theorem maxmin_total_eq_spec (S : Sys) (hwf : WF S) (hwv : WFV S) (hsh : ∀ c ∈ S.active, (S.cnst c).fatpipe = false)
    (nv : Nat) (hnv : ∀ c ∈ S.active, ∀ e ∈ (S.cnst c).elems, e.1 < nv) (val0 : Nat → Rat) :
    ∃ st, maxminSolve S 0 (nv + 1) val0 = some st ∧
      ∀ c ∈ S.active, ∀ e ∈ (S.cnst c).elems, 0 < e.2 → st.value e.1 = Spec.alloc S e.1 := by
  obtain ⟨st, hs, _⟩ := C15.maxmin_total_feasible S hwf nv hnv val0
  exact ⟨st, hs, (maxmin_unique_shared S hwf hwv hsh val0 (nv + 1) st hs).2.2⟩

/-- non-vacuity: `exSh` (two summing constraints, one bounded variable) meets all hypotheses; reference = (1, 7, 2),
the values the model returns (example above) -/
example : (Spec.alloc exSh 0, Spec.alloc exSh 1, Spec.alloc exSh 2) = (1, 7, 2) := by decide +kernel

example : FairAlloc exSh (Spec.alloc exSh) :=
  Spec.alloc_fair exSh exSh_wf exSh_wfv
    (by decide)

/-- the BMF fairness acceptance predicate unfolds to the statement of C16 for BMF: every enabled consuming variable is at
its bound (within `tol`) or has, on a saturated (or FATPIPE) constraint it uses, the largest share
`weight·penalty·value` -/
theorem bmfFair_sound (S : Sys) (tol : Rat) (val : Nat → Rat) (h : bmfFair S tol val = true) :
    ∀ v ∈ S.vorder, 0 < (S.var v).penalty → consumes S v = true →
      (0 < (S.var v).bound ∧ (S.var v).bound * (1 - tol) ≤ val v) ∨
      ∃ e ∈ (S.var v).cnsts, 0 < e.2 ∧
        ((S.cnst e.1).fatpipe = true ∨ (S.cnst e.1).bound * (1 - tol) ≤ load S val e.1) ∧
        ∀ e' ∈ (S.cnst e.1).elems, 0 < e'.2 →
          e'.2 * (S.var e'.1).penalty * val e'.1 ≤ e.2 * (S.var v).penalty * val v * (1 + tol) := by
  intro v hv hp hc
  unfold bmfFair at h
  simp only [List.all_eq_true] at h
  have := h v hv
  simp only [hp, hc, and_self, if_true, Bool.or_eq_true, Bool.and_eq_true, decide_eq_true_eq, List.any_eq_true] at this
  rcases this with h1 | ⟨e, he, hw, hs⟩
  · exact Or.inl h1
  · right
    refine ⟨e, he, hw, ?_⟩
    unfold bmfShareMax at hs
    simp only [Bool.and_eq_true, Bool.or_eq_true, decide_eq_true_eq, List.all_eq_true] at hs
    refine ⟨hs.1, ?_⟩
    intro e' he' hw'
    have := hs.2 e' he'
    simp only [hw', if_true, decide_eq_true_eq] at this
    exact this

end SgVerif.C16
