import SgVerif.C32.Model
/-
C32 — helper lemmas: the pid→rank lookup, a pigeonhole lemma (for the `n > size` test of the argument check and the
`n == size` branch of `excl`), the argument checks, MPI's definition of `excl`, the range loop.
-/
namespace SgVerif.C32

theorem rankGo_eq (pid : Nat) : ∀ (i : Nat) (g : List Nat),
    rankGo pid i g = if pid ∈ g then ((i + g.idxOf pid : Nat) : Int) else UNDEFINED
  | _, [] => rfl
  | i, a :: rest => by
    rw [rankGo, rankGo_eq pid (i + 1) rest, List.idxOf_cons]
    by_cases e : a = pid
    · simp [e]
    · have e' : ¬ pid = a := fun h => e h.symm
      have eb : (a == pid) = false := beq_eq_false_iff_ne.mpr e
      simp only [e, e', eb, if_false, List.mem_cons, false_or, cond_false]
      split
      · congr 1; omega
      · rfl

theorem rank_eq_idxOf (g : Group) (pid : Nat) :
    g.rank pid = if pid ∈ g then ((g.idxOf pid : Nat) : Int) else UNDEFINED := by
  rw [Group.rank, rankGo_eq, Nat.zero_add]

theorem rank_undefined_iff (g : Group) (pid : Nat) : g.rank pid = UNDEFINED ↔ pid ∉ g := by
  rw [rank_eq_idxOf]
  by_cases h : pid ∈ g
  · rw [if_pos h]
    exact ⟨fun e => by unfold UNDEFINED at e; omega, fun hn => absurd h hn⟩
  · rw [if_neg h]
    exact ⟨fun _ => h, fun _ => rfl⟩

/-- the double loop of CHECK_GROUP_RANKS in closed form -/
theorem checkRanksGo_eq (size : Nat) : ∀ ranks : List Int, checkRanksGo size ranks =
    if (∀ r ∈ ranks, 0 ≤ r ∧ r < size) ∧ ranks.Nodup then none else some .rank
  | [] => by rw [checkRanksGo, if_pos ⟨nofun, List.nodup_nil⟩]
  | r :: rest => by
    rw [checkRanksGo, checkRanksGo_eq size rest]
    simp only [List.forall_mem_cons, List.nodup_cons, List.contains_iff_mem]
    by_cases h1 : r < 0 ∨ r ≥ size
    · rw [if_pos h1, if_neg (fun h => by omega)]
    · by_cases h2 : r ∈ rest
      · rw [if_neg h1, if_pos h2, if_neg (fun h => h.2.1 h2)]
      · rw [if_neg h1, if_neg h2]
        have hr : 0 ≤ r ∧ r < size := by omega
        simp only [hr, h2, true_and, not_false_eq_true]

theorem pigeon (n : Nat) (l : List Int) (hn : l.Nodup) (hb : ∀ x ∈ l, 0 ≤ x ∧ x < n) :
    l.length ≤ n ∧ (l.length = n → ∀ i : Nat, i < n → (i : Int) ∈ l) := by
  -- `l` lies within `0, …, n - 1`, and within that list less `i` if `i` is missing
  have hR : ∀ x ∈ l, x ∈ (List.range n).map (fun k : Nat => (k : Int)) := fun x hx =>
    have := hb x hx
    List.mem_map.mpr ⟨x.toNat, List.mem_range.mpr (by omega), by omega⟩
  have hlen := hn.length_le_of_subset hR
  rw [List.length_map, List.length_range] at hlen
  refine ⟨hlen, fun hl i hi => Classical.byContradiction fun hni => ?_⟩
  have := hn.length_le_of_subset (l₂ := List.erase _ (i : Int))
    fun x hx => (List.mem_erase_of_ne fun e : x = i => hni (e ▸ hx)).mpr (hR x hx)
  rw [List.length_erase_of_mem (List.mem_map_of_mem (List.mem_range.mpr hi)), List.length_map, List.length_range] at this
  omega

/-- CHECK_GROUP_RANKS in closed form; `n > size` (MPI_ERR_ARG) cannot happen for distinct in-range ranks: `pigeon` -/
theorem checkRanks_eq (g : Group) (ranks : List Int) : checkRanks g ranks =
    if (∀ r ∈ ranks, 0 ≤ r ∧ r < g.length) ∧ ranks.Nodup then none else some .rank := by
  rw [checkRanks, checkRanksGo_eq]
  by_cases h : (∀ r ∈ ranks, 0 ≤ r ∧ r < g.length) ∧ ranks.Nodup
  · rw [if_pos h]
    exact if_neg (Nat.not_lt.mpr (pigeon g.length ranks h.2 h.1).1)
  · rw [if_neg h]

/-- MPI's definition of Group_excl: the members whose rank is not listed, order kept -/
def exclSpec (g : Group) (ranks : List Int) : Group :=
  ((g.zipIdx).filter (fun p => !ranks.contains (p.2 : Int))).map (·.1)

theorem exclGo_spec (ranks : List Int) (i : Nat) (g : List Nat) :
    exclGo ranks i g = ((g.zipIdx i).filter (fun p => !ranks.contains (p.2 : Int))).map (·.1) := by
  induction g generalizing i with
  | nil => rfl
  | cons a rest ih =>
    rw [exclGo, List.zipIdx_cons, List.filter_cons]
    by_cases h : (i : Int) ∈ ranks <;> simp [h, ih]

theorem exclSpec_nil (g : Group) : exclSpec g [] = g :=
  (congrArg _ (List.filter_eq_self.mpr fun _ _ => rfl)).trans (List.zipIdx_map_fst 0 g)

/-- the arithmetic progression MPI writes `first, first+stride, …` (n terms) -/
def progression (first stride : Int) : Nat → List Int
  | 0 => []
  | n + 1 => first :: progression (first + stride) stride n

theorem rangeLoop_spec (size : Nat) (first last stride : Int) (n : Nat) (fuel : Nat) (j : Int) (hf : n ≤ fuel)
    (hin : ∀ k : Nat, k < n → (0 ≤ j + k * stride ∧ j + k * stride < size ∧ isRankInRange (j + k * stride) first last = true))
    (hout : ¬ (0 ≤ j + n * stride ∧ j + n * stride < size ∧ isRankInRange (j + n * stride) first last = true)) :
    rangeLoop size first last stride fuel j = progression j stride n := by
  induction n generalizing fuel j with
  | zero =>
    cases fuel with
    | zero => rfl
    | succ f =>
      simp only [Int.natCast_zero, Int.zero_mul, Int.add_zero] at hout
      rw [rangeLoop, if_neg hout]
      rfl
  | succ n ih =>
    cases fuel with
    | zero => omega
    | succ f =>
      have h0 := hin 0 (by omega)
      simp only [Int.natCast_zero, Int.zero_mul, Int.add_zero] at h0
      rw [rangeLoop, if_pos h0]
      simp only [progression]
      congr 1
      have e : ∀ m : Nat, j + ((m + 1 : Nat) : Int) * stride = j + stride + (m : Int) * stride := fun m => by
        rw [Int.natCast_succ, Int.add_mul]; omega
      apply ih f (j + stride) (by omega)
      · intro k hk
        have := hin (k + 1) (by omega)
        rwa [e] at this
      · rwa [e] at hout

end SgVerif.C32
