import SgVerif.C32.Lemmas
/-
C32 — Groups and communicators follow MPI rules.  Property theorems and the lemmas about `compare` and `Comm::split`.
Every theorem is for ALL groups (lists of actor ids of any length), all rank lists / ranges / colours / keys.
The specification side is the MPI-3.1 §6.3.2 text written as list functions (`filter`, `idxOf`, `zipIdx`, `Perm` + `Pairwise`).
-/
namespace SgVerif.C32

/-- **MPI_Group_union**: all elements of group1, followed by the elements of group2 not in group1 (each in its order) -/
theorem union_spec (g1 g2 : Group) : union g1 g2 = g1 ++ g2.filter (fun a => decide (a ∉ g1)) := by
  unfold union
  congr 1
  apply List.filter_congr
  intro a _
  simp [rank_undefined_iff]

/-- **MPI_Group_intersection**: the elements of group1 that are also in group2, ordered as in group1 -/
theorem intersection_spec (g1 g2 : Group) : intersection g1 g2 = g1.filter (fun a => decide (a ∈ g2)) := by
  unfold intersection
  apply List.filter_congr
  intro a _
  simp [rank_undefined_iff]

/-- **MPI_Group_difference**: the elements of group1 that are not in group2, ordered as in group1 -/
theorem difference_spec (g1 g2 : Group) : difference g1 g2 = g1.filter (fun a => decide (a ∉ g2)) := by
  unfold difference
  apply List.filter_congr
  intro a _
  simp [rank_undefined_iff]

/-- regression of the defect fixed by 9d5c7e41e1 (DESIGN §9-D5): the result is ordered as the FIRST group; the old
loop (over group2) gave (2,1) -/
theorem intersection_order_witness :
    intersection [0, 1, 2] [2, 1, 3] = [1, 2] ∧ intersectionOld [0, 1, 2] [2, 1, 3] = [2, 1] := by decide

theorem inclRaw_spec (g : Group) (ranks : List Int) (hb : ∀ r ∈ ranks, 0 ≤ r ∧ r < g.length) :
    (inclRaw g ranks).length = ranks.length ∧ ∀ i (hi : i < ranks.length), (inclRaw g ranks)[i]? = g[(ranks[i]).toNat]? := by
  unfold inclRaw
  induction ranks with
  | nil => simp
  | cons r rest ih =>
    obtain ⟨hr, hb'⟩ := List.forall_mem_cons.mp hb
    have ha : g.actor r = g[r.toNat]? := by unfold Group.actor; rw [if_pos hr]
    have hga := List.getElem?_eq_getElem (l := g) (i := r.toNat) (by omega)
    have ih' := ih hb'
    rw [List.filterMap_cons, ha, hga]
    refine ⟨by simp [ih'.1], ?_⟩
    intro i hi
    cases i with
    | zero => simp [hga]
    | succ k => simpa using ih'.2 k (Nat.lt_of_succ_lt_succ hi)

/-- `Group_incl` accepts exactly the lists of distinct in-range ranks (not longer than the group) … -/
theorem incl_accepts_iff (g : Group) (ranks : List Int) :
    (∃ out, incl g ranks = .ok out) ↔ (∀ r ∈ ranks, 0 ≤ r ∧ r < g.length) ∧ ranks.Nodup := by
  rw [incl, checkRanks_eq]
  by_cases hv : (∀ r ∈ ranks, 0 ≤ r ∧ r < g.length) ∧ ranks.Nodup
  · rw [if_pos hv]; exact ⟨fun _ => hv, fun _ => ⟨_, rfl⟩⟩
  · rw [if_neg hv]; exact ⟨fun ⟨_, h⟩ => (nomatch h), fun h => absurd h hv⟩

/-- … rejects the others with MPI_ERR_RANK (MPI_ERR_ARG cannot occur: `n > size` implies a duplicate or an out-of-range rank) … -/
theorem incl_rejects (g : Group) (ranks : List Int) (h : ¬ ((∀ r ∈ ranks, 0 ≤ r ∧ r < g.length) ∧ ranks.Nodup)) :
    incl g ranks = .err .rank := by
  rw [incl, checkRanks_eq, if_neg h]

/-- … and **the process with rank i in newgroup is the process with rank ranks[i] in group** -/
theorem incl_spec (g : Group) (ranks : List Int) (out : Group) (h : incl g ranks = .ok out) :
    out.length = ranks.length ∧ ∀ i (hi : i < ranks.length), out[i]? = g[(ranks[i]).toNat]? := by
  have hv := (incl_accepts_iff g ranks).mp ⟨out, h⟩
  rw [incl, checkRanks_eq, if_pos hv] at h
  exact Res.ok.inj h ▸ inclRaw_spec g ranks hv.1

/-- **MPI_Group_excl**: the processes whose rank is not listed, order preserved (all three branches of the PMPI wrapper) -/
theorem excl_spec (g : Group) (ranks : List Int) (out : Group) (h : excl g ranks = .ok out) :
    out = exclSpec g ranks := by
  rw [excl, checkRanks_eq] at h
  by_cases hv : (∀ r ∈ ranks, 0 ≤ r ∧ r < g.length) ∧ ranks.Nodup
  case neg => rw [if_neg hv] at h; cases h
  rw [if_pos hv] at h
  simp only at h
  split at h
  · rename_i h0
    rw [← Res.ok.inj h, List.eq_nil_of_length_eq_zero h0, exclSpec_nil]
  · split at h
    · rename_i hall
      -- every rank of the group is listed (pigeonhole), so nothing is left
      have hin := (pigeon g.length ranks hv.2 hv.1).2 hall
      rw [← Res.ok.inj h]
      symm
      rw [exclSpec, List.map_eq_nil_iff, List.filter_eq_nil_iff]
      intro p hp
      have hlt : p.2 < g.length := by
        have := List.mem_zipIdx hp
        omega
      simp [hin p.2 hlt]
    · rw [← Res.ok.inj h]
      exact exclGo_spec ranks 0 g

theorem excl_rejects (g : Group) (ranks : List Int) (h : ¬ ((∀ r ∈ ranks, 0 ≤ r ∧ r < g.length) ∧ ranks.Nodup)) :
    excl g ranks = .err .rank := by
  rw [excl, checkRanks_eq, if_neg h]

/-- the fuel given to the range loop (`size`) always suffices: the terms are distinct ranks of the group -/
theorem range_fuel_enough (size : Nat) (first stride : Int) (hs : stride ≠ 0) (n : Nat)
    (hin : ∀ k : Nat, k < n → (0 ≤ first + k * stride ∧ first + k * stride < size)) (h0 : 0 ≤ first ∧ first < size) :
    n ≤ size := by
  cases n with
  | zero => omega
  | succ m =>
    have hm := hin m (by omega)
    rcases Int.lt_or_gt_of_ne hs with hneg | hpos
    · have : (m : Int) * stride ≤ (m : Int) * (-1) := Int.mul_le_mul_of_nonneg_left (by omega) (by omega)
      omega
    · have : (m : Int) * 1 ≤ (m : Int) * stride := Int.mul_le_mul_of_nonneg_left (by omega) (by omega)
      omega

/-- **ranges**: the loop of `range_incl` / `range_excl` run with fuel `size` yields `first, first+stride, …` for as long as
the term lies between `first` and `last` (MPI: `first + k·stride`, `k = 0 … ⌊(last−first)/stride⌋`), for positive AND negative
strides -/
theorem range_loop_spec (size : Nat) (first last stride : Int) (hs : stride ≠ 0) (h0 : 0 ≤ first ∧ first < size) (n : Nat)
    (hin : ∀ k : Nat, k < n → (0 ≤ first + k * stride ∧ first + k * stride < size ∧
        isRankInRange (first + k * stride) first last = true))
    (hout : ¬ (0 ≤ first + n * stride ∧ first + n * stride < size ∧ isRankInRange (first + n * stride) first last = true)) :
    rangeLoop size first last stride size first = progression first stride n :=
  rangeLoop_spec size first last stride n size first
    (range_fuel_enough size first stride hs n (fun k hk => ⟨(hin k hk).1, (hin k hk).2.1⟩) h0) hin hout

/-- closed form for an increasing range (`first ≤ last`, `stride > 0`, both inside the group): exactly the
`(last − first) / stride + 1` terms of MPI's formula -/
theorem range_loop_closed_form_pos (size : Nat) (first last stride : Int) (hs : 0 < stride) (hf : 0 ≤ first) (hfl : first ≤ last)
    (hl : last < size) :
    rangeLoop size first last stride size first = progression first stride (((last - first) / stride).toNat + 1) := by
  have hq0 : 0 ≤ (last - first) / stride := Int.ediv_nonneg (by omega) (by omega)
  have hq1 := Int.ediv_mul_le (last - first) (Int.ne_of_gt hs)
  have hq2 := Int.lt_ediv_add_one_mul_self (last - first) hs
  generalize (last - first) / stride = q at hq0 hq1 hq2 ⊢
  obtain ⟨n, rfl⟩ := Int.eq_ofNat_of_zero_le hq0
  rw [Int.add_mul, Int.one_mul] at hq2
  rw [Int.toNat_natCast]
  apply range_loop_spec size first last stride (by omega) ⟨hf, by omega⟩
  · intro k hk
    have h1 : (k : Int) * stride ≤ n * stride := Int.mul_le_mul_of_nonneg_right (by omega) (by omega)
    have h2 : 0 ≤ (k : Int) * stride := Int.mul_nonneg (by omega) (by omega)
    refine ⟨by omega, by omega, ?_⟩
    simp only [isRankInRange, Bool.or_eq_true, Bool.and_eq_true, decide_eq_true_eq]
    left; omega
  · intro ⟨_, _, h3⟩
    simp only [isRankInRange, Bool.or_eq_true, Bool.and_eq_true, decide_eq_true_eq] at h3
    rw [Int.natCast_add, Int.natCast_one, Int.add_mul, Int.one_mul] at h3
    rcases h3 with h3 | h3 <;> omega

/-- `range_incl` = `incl` of the concatenated range terms (so `incl_spec`'s reading applies); `n == 0` gives the empty group -/
theorem range_incl_spec (g : Group) (ranges : List Range) (out : Group) (h : rangeIncl g ranges = .ok out) :
    out = inclRaw g (rangeRanks g ranges) ∧ (ranges = [] → out = []) := by
  unfold rangeIncl at h
  split at h
  · cases h
  · injection h with h; subst h
    refine ⟨rfl, ?_⟩
    intro e; subst e; rfl

/-- `range_excl` = the members whose rank is not a range term, order preserved -/
theorem range_excl_spec (g : Group) (ranges : List Range) (out : Group) (h : rangeExcl g ranges = .ok out) :
    out = exclSpec g (rangeRanks g ranges) := by
  unfold rangeExcl at h
  split at h
  · cases h
  · split at h
    · rename_i h0
      injection h with h; subst h
      rw [List.eq_nil_of_length_eq_zero h0]
      exact (exclSpec_nil g).symm
    · injection h with h; subst h
      exact exclGo_spec _ 0 g

/-- MPI's definition, for one rank -/
def translateSpec (g1 : Group) (g2 : Group) (r : Int) : Int :=
  if r = PROC_NULL then PROC_NULL else
  match g1[r.toNat]? with
  | some a => if a ∈ g2 then ((g2.idxOf a : Nat) : Int) else UNDEFINED
  | none => UNDEFINED

/-- **MPI_Group_translate_ranks**: rank in group2 of the process with rank ranks[i] in group1, MPI_UNDEFINED when it is
not a member, MPI_PROC_NULL kept; an invalid rank gives MPI_ERR_RANK -/
theorem translate_spec (g1 g2 : Group) (ranks : List Int) (vs : List Int) (h : translate g1 ranks g2 = .ok vs) :
    vs = ranks.map (translateSpec g1 g2) ∧ ∀ r ∈ ranks, r = PROC_NULL ∨ (0 ≤ r ∧ r < g1.length) := by
  induction ranks generalizing vs with
  | nil =>
    rw [translate, Res.ok.injEq] at h
    exact ⟨h.symm, fun _ hr => absurd hr List.not_mem_nil⟩
  | cons r rest ih =>
    rw [translate] at h
    split at h
    · cases h
    · rename_i hr
      cases ht : translate g1 rest g2 with
      | err e => rw [ht] at h; cases h
      | ok ws =>
        rw [ht] at h
        obtain ⟨e1, e2⟩ := ih ws ht
        have hr' : r = PROC_NULL ∨ (0 ≤ r ∧ r < g1.length) := by omega
        refine ⟨?_, List.forall_mem_cons.mpr ⟨hr', e2⟩⟩
        rw [← Res.ok.inj h, e1, List.map_cons]
        congr 1
        unfold translateSpec
        by_cases e : r = PROC_NULL
        · rw [if_pos e, if_pos e]
        · rw [if_neg e, if_neg e, Group.actor, if_pos (by omega)]
          cases g1[r.toNat]? with
          | none => rfl
          | some a => exact rank_eq_idxOf g2 a

theorem translate_rejects (g1 g2 : Group) (pre : List Int) (r : Int) (post : List Int)
    (hpre : ∀ x ∈ pre, x = PROC_NULL ∨ (0 ≤ x ∧ x < g1.length)) (hr : r ≠ PROC_NULL ∧ (r < 0 ∨ r ≥ g1.length)) :
    translate g1 (pre ++ r :: post) g2 = .err .rank := by
  induction pre with
  | nil => simp only [List.nil_append]; rw [translate, if_pos hr]
  | cons x xs ih =>
    obtain ⟨hx, hxs⟩ := List.forall_mem_cons.mp hpre
    simp only [List.cons_append]
    rw [translate, if_neg (by omega), ih hxs]

/-- the loop of `Group::compare` in closed form: MPI_UNEQUAL as soon as a member of group1 is missing from group2;
otherwise the result so far when every member has in group2 the rank of its position, MPI_SIMILAR when one has not -/
theorem compareGo_eq (g2 : Group) : ∀ (l : List Nat) (res : Cmp) (i : Nat),
    compareGo g2 res i l =
      if ∀ a ∈ l, a ∈ g2 then (if ∀ p ∈ l.zipIdx i, g2.rank p.1 = (p.2 : Int) then res else .similar) else .unequal
  | [], res, i => by simp [compareGo]
  | x :: xs, res, i => by
    rw [compareGo, compareGo_eq g2 xs, List.zipIdx_cons]
    simp only [rank_undefined_iff, List.forall_mem_cons]
    by_cases hx : x ∈ g2
    · by_cases hr : g2.rank x = (i : Int)
      · simp only [hx, hr, not_true_eq_false, if_false, true_and, ne_eq]
      · simp only [hx, hr, not_true_eq_false, if_false, true_and, false_and, ne_eq, not_false_eq_true, if_true, ite_self]
    · simp only [hx, not_false_eq_true, if_true, false_and, if_false]

/-- `Group::compare` in closed form -/
theorem compare_eq (g1 g2 : Group) : compare g1 g2 =
    if g1.length = g2.length ∧ ∀ a ∈ g1, a ∈ g2 then
      (if ∀ p ∈ g1.zipIdx 0, g2.rank p.1 = (p.2 : Int) then .ident else .similar)
    else .unequal := by
  rw [compare, compareGo_eq]
  by_cases hl : g1.length = g2.length
  · simp only [hl, ne_eq, not_true_eq_false, if_false, true_and]
  · simp only [hl, ne_eq, not_false_eq_true, if_true, false_and, if_false]

/-- when group2 has no duplicates: every member of group1 has in group2 the rank of its position iff the lists are equal -/
theorem positions_iff {g1 g2 : Group} (hnd : g2.Nodup) (h : g1.length = g2.length ∧ ∀ a ∈ g1, a ∈ g2) :
    (∀ p ∈ g1.zipIdx 0, g2.rank p.1 = (p.2 : Int)) ↔ g1 = g2 := by
  constructor
  · intro hk
    apply List.ext_getElem h.1
    intro k h1 h2
    have : g2.rank g1[k] = (k : Int) := hk (g1[k], k) (List.mem_zipIdx_iff_getElem?.mpr (List.getElem?_eq_getElem h1))
    rw [rank_eq_idxOf, if_pos (h.2 _ (List.getElem_mem h1))] at this
    have hidx : g2.idxOf g1[k] = k := by omega
    have := List.getElem_idxOf (hidx ▸ h2)
    simp only [hidx] at this
    exact this.symm
  · rintro rfl p hp
    obtain ⟨hk, e⟩ := List.getElem?_eq_some_iff.mp (List.mem_zipIdx_iff_getElem?.mp hp)
    rw [rank_eq_idxOf, ← e, if_pos (List.getElem_mem hk), List.Nodup.idxOf_getElem hnd _ hk]

/-- **MPI_Group_compare** = MPI_UNEQUAL iff the sizes differ or some member of group1 is not in group2 -/
theorem compare_unequal_iff (g1 g2 : Group) :
    compare g1 g2 = .unequal ↔ g1.length ≠ g2.length ∨ ∃ a ∈ g1, a ∉ g2 := by
  -- the right side is the negation of the condition of `compare_eq`
  have hneg : (g1.length ≠ g2.length ∨ ∃ a ∈ g1, a ∉ g2) ↔ ¬ (g1.length = g2.length ∧ ∀ a ∈ g1, a ∈ g2) := by
    simp only [Classical.not_and_iff_not_or_not, Classical.not_forall, exists_prop, ne_eq]
  rw [compare_eq, hneg]
  split
  · rename_i h
    exact ⟨fun e => (by split at e <;> cases e), fun e => absurd h e⟩
  · rename_i h
    exact ⟨fun _ => h, fun _ => rfl⟩

/-- **MPI_IDENT iff same members in the same order** (group2 without duplicates, which every group the library builds
from valid arguments satisfies) -/
theorem compare_ident_iff (g1 g2 : Group) (hnd : g2.Nodup) : compare g1 g2 = .ident ↔ g1 = g2 := by
  rw [compare_eq]
  split
  · rename_i h
    simp only [positions_iff hnd h]
    split
    · exact ⟨fun _ => ‹_›, fun _ => rfl⟩
    · exact ⟨nofun, fun h => absurd h ‹_›⟩
  · rename_i h
    exact ⟨nofun, fun e => absurd ⟨e ▸ rfl, fun a ha => e ▸ ha⟩ h⟩

/-- hence MPI_SIMILAR iff same size, every member of group1 in group2, but not the same list -/
theorem compare_similar_iff (g1 g2 : Group) (hnd : g2.Nodup) :
    compare g1 g2 = .similar ↔ (g1.length = g2.length ∧ (∀ a ∈ g1, a ∈ g2)) ∧ g1 ≠ g2 := by
  rw [compare_eq]
  split
  · rename_i h
    simp only [positions_iff hnd h]
    split
    · exact ⟨nofun, fun h => absurd ‹_› h.2⟩
    · exact ⟨fun _ => ⟨h, ‹_›⟩, fun _ => rfl⟩
  · exact ⟨nofun, fun h => absurd h.1 ‹_›⟩

theorem lexLe_trans (a b c : Int × Nat) (h1 : lexLe a b = true) (h2 : lexLe b c = true) : lexLe a c = true := by
  simp only [lexLe, Bool.or_eq_true, decide_eq_true_eq, Bool.and_eq_true, beq_iff_eq] at *
  omega

theorem lexLe_total (a b : Int × Nat) : (lexLe a b || lexLe b a) = true := by
  simp only [lexLe, Bool.or_eq_true, decide_eq_true_eq, Bool.and_eq_true, beq_iff_eq]
  omega

theorem lexLe_antisymm (a b : Int × Nat) (h1 : lexLe a b = true) (h2 : lexLe b a = true) : a = b := by
  simp only [lexLe, Bool.or_eq_true, decide_eq_true_eq, Bool.and_eq_true, beq_iff_eq] at h1 h2
  exact Prod.ext (by omega) (by omega)

/-- `std::sort` of the same pairs in another order gives the same vector -/
theorem sort_congr {l₁ l₂ : List (Int × Nat)} (h : l₁.Perm l₂) : l₁.mergeSort lexLe = l₂.mergeSort lexLe :=
  List.Perm.eq_of_pairwise (fun a b _ _ => lexLe_antisymm a b) (List.pairwise_mergeSort lexLe_trans lexLe_total _)
    (List.pairwise_mergeSort lexLe_trans lexLe_total _)
    ((List.mergeSort_perm _ _).trans (h.trans (List.mergeSort_perm _ _).symm))

/-- `members` and `erase`: the two lambdas inside `splitGo` (the colour class as (key, old rank) pairs; the visited colour
erased) under a name, put in place by `splitGo_cons` -/
def members (es : List Entry) (c : Int) : List (Int × Nat) := (es.filter (fun x => x.color = c)).map (fun x => (x.key, x.rank))

def erase (ec : Int) (x : Entry) : Entry := if x.color = ec then { x with color := UNDEFINED } else x

theorem members_cons (e : Entry) (rest : List Entry) (c : Int) :
    members (e :: rest) c = if e.color = c then (e.key, e.rank) :: members rest c else members rest c := by
  unfold members
  rw [List.filter_cons]
  by_cases h : e.color = c <;> simp [h]

theorem members_erase (rest : List Entry) (ec c : Int) (hc : c ≠ UNDEFINED) (hne : c ≠ ec) :
    members (rest.map (erase ec)) c = members rest c := by
  induction rest with
  | nil => rfl
  | cons x xs ih =>
    rw [List.map_cons, members_cons, members_cons, ih]
    by_cases hx : x.color = ec
    · have e1 : (erase ec x).color = UNDEFINED := by simp [erase, hx]
      rw [e1, if_neg (fun e => hc e.symm), if_neg (fun e => hne (e.symm.trans hx))]
    · have e1 : erase ec x = x := by simp [erase, hx]
      rw [e1]

theorem splitGo_cons (e : Entry) (rest : List Entry) :
    splitGo (e :: rest) =
      if e.color ≠ UNDEFINED then
        ((((rest.filter (fun x => x.color = e.color)).map (fun x => (x.key, x.rank))) ++ [(e.key, e.rank)]).mergeSort lexLe)
          :: splitGo (rest.map (erase e.color))
      else splitGo rest := by
  rw [splitGo]
  rfl

/-- induction along the outer loop of `Comm::split` -/
theorem splitGo_ind {P : List Entry → Prop} (nil : P [])
    (take : ∀ e rest, e.color ≠ UNDEFINED → P (rest.map (erase e.color)) → P (e :: rest))
    (skip : ∀ e rest, e.color = UNDEFINED → P rest → P (e :: rest)) : ∀ es, P es := by
  intro es
  generalize hn : es.length = n
  induction n using Nat.strongRecOn generalizing es with
  | _ n ih =>
    cases es with
    | nil => exact nil
    | cons e rest =>
      subst hn
      by_cases hcol : e.color = UNDEFINED
      · exact skip e rest hcol (ih rest.length (Nat.lt_succ_self _) rest rfl)
      · exact take e rest hcol (ih rest.length (Nat.lt_succ_self _) _ (List.length_map _))

theorem color_erase (ec c : Int) (x : Entry) (hc : c ≠ UNDEFINED) : (erase ec x).color = c ↔ x.color = c ∧ c ≠ ec := by
  unfold erase
  by_cases hx : x.color = ec
  · rw [if_pos hx]
    exact ⟨fun h => absurd h.symm hc, fun h => absurd (h.1.symm.trans hx) h.2⟩
  · rw [if_neg hx]
    exact ⟨fun h => ⟨h, fun e => hx (h.trans e)⟩, fun h => h.1⟩

/-- the communicators `Comm::split` creates: one per colour `c ≠ MPI_UNDEFINED` that some process gave, its members being
    the processes that gave `c`, ranked by key and then by old rank -/
theorem mem_splitGo (g : List (Int × Nat)) : ∀ es : List Entry,
    g ∈ splitGo es ↔ ∃ c, c ≠ UNDEFINED ∧ (∃ x ∈ es, x.color = c) ∧ g = (members es c).mergeSort lexLe := by
  refine splitGo_ind ?_ ?_ ?_
  · rw [splitGo]
    exact ⟨fun h => absurd h List.not_mem_nil, fun ⟨_, _, ⟨_, hx, _⟩, _⟩ => absurd hx List.not_mem_nil⟩
  · intro e rest hcol ih
    rw [splitGo_cons, if_pos hcol, List.mem_cons, ih]
    constructor
    · rintro (rfl | ⟨c, hc, ⟨x, hx, hxc⟩, rfl⟩)
      · refine ⟨e.color, hcol, ⟨e, List.mem_cons_self, rfl⟩, sort_congr ?_⟩
        rw [members_cons, if_pos rfl]
        exact List.perm_append_singleton _ _
      · obtain ⟨y, hy, rfl⟩ := List.mem_map.mp hx
        obtain ⟨hyc, hne⟩ := (color_erase _ _ _ hc).mp hxc
        refine ⟨c, hc, ⟨y, List.mem_cons_of_mem _ hy, hyc⟩, ?_⟩
        rw [members_erase rest e.color c hc hne, members_cons, if_neg (fun h => hne h.symm)]
    · rintro ⟨c, hc, ⟨x, hx, hxc⟩, rfl⟩
      by_cases hne : c = e.color
      · subst hne
        refine Or.inl (sort_congr ?_)
        rw [members_cons, if_pos rfl]
        exact (List.perm_append_singleton _ _).symm
      · have hx' : x ∈ rest := (List.mem_cons.mp hx).resolve_left (fun h => hne (hxc.symm.trans (h ▸ rfl)))
        refine Or.inr ⟨c, hc, ⟨_, List.mem_map_of_mem hx', (color_erase _ _ _ hc).mpr ⟨hxc, hne⟩⟩, ?_⟩
        rw [members_erase rest e.color c hc hne, members_cons, if_neg (fun h => hne h.symm)]
  · intro e rest hcol ih
    rw [splitGo_cons, if_neg (fun h => h hcol), ih]
    refine exists_congr fun c => and_congr_right fun hc => ?_
    have hne : ¬ e.color = c := fun h => hc (h.symm.trans hcol)
    rw [members_cons, if_neg hne]
    refine and_congr_left' ⟨fun ⟨x, hx, h⟩ => ⟨x, List.mem_cons_of_mem _ hx, h⟩, fun ⟨x, hx, h⟩ => ⟨x, ?_, h⟩⟩
    exact (List.mem_cons.mp hx).resolve_left (fun e => hne (e ▸ h))

/-- **split_order**: every communicator `Comm::split` creates corresponds to one colour `c ≠ MPI_UNDEFINED` that some
process gave; its members are exactly (a permutation of) the processes that gave `c`, and they are ranked by key, ties
broken by the rank in the old communicator (`Pairwise lexLe`) -/
theorem split_order (es : List Entry) :
    ∀ g ∈ splitGo es, ∃ c, c ≠ UNDEFINED ∧ (∃ x ∈ es, x.color = c) ∧
      g.Pairwise (fun a b => lexLe a b = true) ∧ g.Perm (members es c) := by
  intro g hg
  obtain ⟨c, hc, hx, rfl⟩ := (mem_splitGo g es).mp hg
  exact ⟨c, hc, hx, List.pairwise_mergeSort lexLe_trans lexLe_total _, List.mergeSort_perm _ _⟩

/-- every process that gave a colour other than MPI_UNDEFINED is in one of the created communicators -/
theorem split_covers (es : List Entry) (x : Entry) (hx : x ∈ es) (hc : x.color ≠ UNDEFINED) :
    ∃ g ∈ splitGo es, (x.key, x.rank) ∈ g :=
  ⟨_, (mem_splitGo _ es).mpr ⟨x.color, hc, ⟨x, hx, rfl⟩, rfl⟩,
    List.mem_mergeSort.mpr (List.mem_map_of_mem (f := fun x => (x.key, x.rank)) (List.mem_filter.mpr ⟨hx, decide_eq_true rfl⟩))⟩

example : union [3, 1, 4] [1, 5, 9, 4] = [3, 1, 4, 5, 9] := by decide
example : difference [3, 1, 4, 7] [1, 5, 9, 4] = [3, 7] := by decide
example : incl [10, 11, 12, 13] [3, 0, 2] = .ok [13, 10, 12] ∧ incl [10, 11] [0, 0] = .err .rank ∧
    incl [10, 11] [2] = .err .rank := by decide
example : excl [10, 11, 12, 13] [3, 0] = .ok [11, 12] ∧ excl [10, 11] [1, 0] = .ok [] := by decide
example : rangeIncl [10, 11, 12, 13, 14, 15] [⟨4, 0, -2⟩, ⟨1, 5, 2⟩] = .ok [14, 12, 10, 11, 13, 15] := by decide
example : rangeLoop 6 4 0 (-2) 6 4 = progression 4 (-2) 3 := by decide
example : rangeExcl [10, 11, 12, 13, 14, 15] [⟨4, 0, -2⟩] = .ok [11, 13, 15] := by decide
example : compare [1, 2, 3] [1, 2, 3] = .ident ∧ compare [1, 2, 3] [3, 1, 2] = .similar ∧
    compare [1, 2, 3] [1, 2, 4] = .unequal := by decide
example : translate [5, 6, 7] [2, -666, 0] [7, 5] = .ok [0, -666, 1] ∧ translate [5, 6, 7] [1] [7, 5] = .ok [-333] ∧
    translate [5, 6] [0, 2] [5] = .err .rank := by decide

end SgVerif.C32
