import SgVerif.C47.Lemmas
/-
C47 — Paje traces are well formed.  Property theorems.

Buffer (all histories of insert / dump, any timestamps): `emitted_nondecreasing` holds under the hypothesis the code relies
  on (`okOps`): no event is inserted with a timestamp below something already printed.
  THAT HYPOTHESIS DOES NOT HOLD in the real library (see NOTES.md: events for the interval [now-delta, now] are created
  after a forced dump at `now`; and container creation lines bypass the buffer) — `emitted_nondecreasing_needs_hypothesis`
  is the model-level counterexample, the correspondence finds the real ones.
Automaton: `wfRun` against the declarative `WellFormed` of Spec.lean, none of whose clauses mentions the automaton state.
The lemmas of the buffer half (`insertRev`, `bstep`, the invariant `J`) stand in this file, before their theorems; those of
the automaton half are in Lemmas.lean.
-/
namespace SgVerif.C47

abbrev Desc (l : List Nat) : Prop := l.Pairwise (fun a b => b ≤ a)
abbrev Asc (l : List Nat) : Prop := l.Pairwise (fun a b => a ≤ b)

/-- inserting into the newest-first buffer is core's `merge` of the one-element list, for the order "not older than" -/
theorem insertRev_eq_merge (l : List Nat) (e : Nat) : insertRev l e = List.merge [e] l (fun a b => decide (b ≤ a)) := by
  induction l with
  | nil => rw [insertRev, List.merge_right]
  | cons x t ih => simp only [insertRev, List.cons_merge_cons, decide_eq_true_eq, ih, List.nil_merge]

theorem mem_insertRev (l : List Nat) (e x : Nat) (h : x ∈ insertRev l e) : x = e ∨ x ∈ l := by
  rwa [insertRev_eq_merge, List.mem_merge, List.mem_singleton] at h

theorem insertRev_sorted (l : List Nat) (e : Nat) (h : Desc l) : Desc (insertRev l e) := by
  rw [insertRev_eq_merge]
  -- `pairwise_merge` speaks of the Boolean order: it is transitive and total
  exact (List.pairwise_merge (le := fun a b => decide (b ≤ a))
    (fun _ _ _ hab hbc => decide_eq_true (Nat.le_trans (of_decide_eq_true hbc) (of_decide_eq_true hab)))
    (fun a b => by simpa using Nat.le_total b a) [e] l (List.pairwise_singleton _ _) (h.imp decide_eq_true)).imp
    of_decide_eq_true

theorem bstep_sorted (b : Buf) (op : BOp) (h : Desc b.rbuf) : Desc (bstep b op).rbuf := by
  cases op with
  | insert ts => exact insertRev_sorted _ _ h
  | dump f limit =>
    cases f with
    | true => simp [bstep]
    | false =>
      simp only [bstep]
      exact List.pairwise_reverse.mpr (List.Pairwise.sublist (List.dropWhile_sublist _) (List.pairwise_reverse.mpr h))

theorem brun_sorted (ops : List BOp) : ∀ b : Buf, Desc b.rbuf → Desc (brun b ops).rbuf := by
  induction ops with
  | nil => intro b h; exact h
  | cons op ops ih => intro b h; exact ih _ (bstep_sorted b op h)

/-- **the buffer is always sorted by timestamp** (any history of inserts and dumps, any timestamps) -/
theorem buffer_sorted_invariant (ops : List BOp) : Desc (brun { rbuf := [], out := [] } ops).rbuf :=
  brun_sorted ops _ List.Pairwise.nil

/-- **a dump prints a sorted prefix of the buffer** and keeps the rest: printed ++ kept = buffer; a non-forced dump prints
exactly the events up to the limit (the first kept event, if any, is beyond it) -/
theorem dump_is_sorted_prefix (b : Buf) (force : Bool) (limit : Nat) (h : Desc b.rbuf) :
    ∃ p, (bstep b (.dump force limit)).out = b.out ++ p ∧ p ++ (bstep b (.dump force limit)).fwd = b.fwd ∧ Asc p ∧
      (force = false → (∀ x ∈ p, x ≤ limit) ∧ ∀ y, (bstep b (.dump force limit)).fwd.head? = some y → limit < y) := by
  cases force with
  | true => exact ⟨b.fwd, rfl, by simp [bstep, Buf.fwd], List.pairwise_reverse.mpr h, by intro h; cases h⟩
  | false =>
    refine ⟨b.fwd.takeWhile (· ≤ limit), rfl, by simp [bstep, Buf.fwd], ?_, fun _ => ⟨?_, ?_⟩⟩
    · exact List.Pairwise.sublist (List.takeWhile_sublist _) (List.pairwise_reverse.mpr h)
    · intro x hx; simpa using List.all_eq_true.mp List.all_takeWhile x hx
    · intro y hy
      simp only [bstep, Buf.fwd, List.reverse_reverse] at hy
      have := List.head?_dropWhile_not (p := (· ≤ limit)) (l := b.rbuf.reverse)
      rw [hy] at this
      simp at this; omega

/-- the hypothesis the code relies on: nothing is inserted below what was already printed -/
def okOps (b : Buf) : List BOp → Prop
  | [] => True
  | .insert ts :: ops => (∀ o ∈ b.out, o ≤ ts) ∧ okOps (bstep b (.insert ts)) ops
  | op :: ops => okOps (bstep b op) ops

/-- what was printed followed by what is still buffered, in file order: one sorted list, of which a dump only moves the
boundary between the two parts -/
def J (b : Buf) : Prop := Asc (b.out ++ b.fwd)

theorem J_step (b : Buf) (op : BOp) (hJ : J b) (hop : ∀ ts, op = .insert ts → ∀ o ∈ b.out, o ≤ ts) : J (bstep b op) := by
  unfold J Buf.fwd Asc at hJ ⊢
  cases op with
  | insert ts =>
    rw [List.pairwise_append] at hJ ⊢
    refine ⟨hJ.1, List.pairwise_reverse.mpr (insertRev_sorted _ _ (List.pairwise_reverse.mp hJ.2.1)), fun o ho x hx => ?_⟩
    rcases mem_insertRev _ _ _ (List.mem_reverse.mp hx) with hx | hx
    · rw [hx]; exact hop _ rfl o ho
    · exact hJ.2.2 o ho x (List.mem_reverse.mpr hx)
  | dump f limit =>
    cases f with
    | true => simpa only [bstep, Buf.fwd, List.reverse_nil, List.append_nil] using hJ
    | false =>
      simpa only [bstep, Buf.fwd, List.reverse_reverse, List.append_assoc, List.takeWhile_append_dropWhile] using hJ

theorem J_run (ops : List BOp) : ∀ b : Buf, J b → okOps b ops → J (brun b ops) := by
  induction ops with
  | nil => intro b h _; exact h
  | cons op ops ih =>
    intro b hJ hok
    cases op with
    | insert ts =>
      exact ih _ (J_step b _ hJ (by intro ts' e o ho; cases e; exact hok.1 o ho)) hok.2
    | dump f limit =>
      exact ih _ (J_step b _ hJ (by intro ts' e; cases e)) hok

/-- **what is printed is non-decreasing in time** — for every history in which no event is inserted below an already
printed timestamp -/
theorem emitted_nondecreasing (ops : List BOp) (hok : okOps { rbuf := [], out := [] } ops) :
    Asc (brun { rbuf := [], out := [] } ops).out :=
  (List.pairwise_append.mp (J_run ops ⟨[], []⟩ List.Pairwise.nil hok)).1

/-- without that hypothesis the output is not sorted: forced dump at 5, then an event dated 3 -/
theorem emitted_nondecreasing_needs_hypothesis :
    ¬ Asc (brun { rbuf := [], out := [] } [.insert 5, .dump true 5, .insert 3, .dump true 6]).out := by decide

theorem wfStep_time (s s' : WF) (l : Line) (h : wfStep s l = .ok s') :
    s.now ≤ s'.now ∧ ∀ ts, lineTs l = some ts → s.now ≤ ts ∧ s'.now = ts := by
  obtain ⟨hok, rfl⟩ := wfStep_ok h
  cases hl : lineTs l with
  | none => exact ⟨by simp [wfNext, hl], nofun⟩
  | some ts =>
    have := hok.clock ts hl
    exact ⟨by simpa [wfNext, hl] using this, fun _ e => Option.some.inj e ▸ ⟨this, by simp [wfNext, hl]⟩⟩

/-- **accepted ⇒ non-decreasing timestamps** -/
theorem wf_time_nondecreasing (ls : List Line) (s s' : WF) (h : wfRun s ls = .ok s') :
    Asc (ls.filterMap lineTs) ∧ (∀ t ∈ ls.filterMap lineTs, s.now ≤ t) ∧ s.now ≤ s'.now := by
  induction ls generalizing s with
  | nil => simp [wfRun] at h; subst h; simp
  | cons l ls ih =>
    simp only [wfRun] at h
    split at h
    · rename_i s1 h1
      obtain ⟨hm, ht⟩ := wfStep_time s s1 l h1
      obtain ⟨ia, ib, ic⟩ := ih s1 h
      cases hl : lineTs l with
      | none =>
        simp only [List.filterMap_cons, hl]
        exact ⟨ia, fun t ht' => by have := ib t ht'; omega, by omega⟩
      | some ts =>
        obtain ⟨h2, h3⟩ := ht ts hl
        simp only [List.filterMap_cons, hl]
        exact ⟨List.pairwise_cons.mpr ⟨fun t ht' => h3 ▸ ib t ht', ia⟩,
          List.forall_mem_cons.mpr ⟨h2, fun t ht' => Nat.le_trans hm (ib t ht')⟩, by omega⟩
    · cases h

/-- **accepted ⇒ a pop always finds a pushed state** (balanced per container and state type) -/
theorem wf_pop_balanced (s s' : WF) (ts t c : Nat) (h : wfStep s (.popState ts t c) = .ok s') :
    0 < getDepth s.depth (c, t) :=
  (wfStep_ok h).1.popBalanced ts t c rfl

/-- **accepted ⇒ the container of a destroy / variable / state line exists and was not destroyed** -/
theorem wf_no_use_after_destroy (s s' : WF) (ts t c : Nat)
    (h : wfStep s (.variable ts t c) = .ok s' ∨ wfStep s (.destroyContainer ts t c) = .ok s' ∨
         wfStep s (.popState ts t c) = .ok s' ∨ wfStep s (.resetState ts t c) = .ok s') :
    c ∈ s.conts ∧ c ∉ s.dead ∧ t ∈ s.types := by
  have key : ∀ l, c ∈ usedConts l → t ∈ usedTypes l → wfStep s l = .ok s' → c ∈ s.conts ∧ c ∉ s.dead ∧ t ∈ s.types :=
    fun l hc ht hs => ⟨(wfStep_ok hs).1.contsDeclared c hc, (wfStep_ok hs).1.alive c hc, (wfStep_ok hs).1.typesDeclared t ht⟩
  rcases h with h | h | h | h <;> exact key _ List.mem_cons_self List.mem_cons_self h

/-- **the automaton is the specification**: `wfRun` from the initial state accepts a trace iff the trace is `WellFormed`
(Spec.lean: for every position, the line is declared-before-use, not a duplicate definition, not back in time, not on a
destroyed container, and a pop finds a pushed state — all stated on the lines before it) -/
theorem wfOk_iff_spec (ls : List Line) : (∃ s, wfRun {} ls = .ok s) ↔ WellFormed ls := by
  have := wfRun_spec ls [] {} abs_init
  cases hr : wfRun {} ls with
  | ok s => rw [hr] at this; exact ⟨fun _ => this.2, fun _ => ⟨s, rfl⟩⟩
  | error e =>
    -- a rejection names a clause of `LineOk` that fails at the first offending line
    rw [hr] at this
    obtain ⟨p, l, q, _, e1, _, e3⟩ := this
    exact ⟨fun ⟨_, h⟩ => (nomatch h), fun hwf => absurd (hwf p l q e1) (violates_not_lineOk p l e e3)⟩

/-- **the state after an accepted trace is what the trace has established**: the id lists hold exactly the defined
types / values, created and destroyed containers (plus the reserved 0), the clock is the largest timestamp, and every
push depth is the declarative `depthOf` -/
theorem wfRun_state_spec (ls : List Line) (s : WF) (h : wfRun {} ls = .ok s) :
    (∀ t, t ∈ s.types ↔ t = 0 ∨ t ∈ definedTypes ls) ∧ (∀ v, v ∈ s.values ↔ v ∈ definedValues ls) ∧
    (∀ c, c ∈ s.conts ↔ c = 0 ∨ c ∈ createdConts ls) ∧ (∀ c, c ∈ s.dead ↔ c ∈ destroyedConts ls) ∧
    s.now = maxTs ls ∧ (∀ x, maxTs ls ≤ x ↔ ∀ ts ∈ timestamps ls, ts ≤ x) ∧
    ∀ k, getDepth s.depth k = depthOf ls k := by
  have habs : Abs ls s := by
    have := wfRun_spec ls [] {} abs_init
    rw [h] at this
    exact this.1
  exact ⟨habs.types, habs.values, habs.conts, habs.dead, habs.now, maxTs_le_iff ls, habs.depth⟩

/-- **a rejected trace: where and why** — the trace splits into a well-formed (accepted) prefix and a first offending
line, and that line violates the clause of `LineOk` named by the reported error class -/
theorem wfRun_error_spec (ls : List Line) (e : Why) (h : wfRun {} ls = .error e) :
    ∃ pre l post, ls = pre ++ l :: post ∧ WellFormed pre ∧ Violates e pre l ∧ ¬ LineOk pre l := by
  have := wfRun_spec ls [] {} abs_init
  rw [h] at this
  obtain ⟨pre, l, post, s1, e1, e2, e3⟩ := this
  exact ⟨pre, l, post, e1, (wfOk_iff_spec pre).mp ⟨s1, e2⟩, e3, violates_not_lineOk pre l e e3⟩

/-- `popEmpty` is reported only at a PopState whose stack is empty according to the lines before it -/
theorem wfRun_popEmpty_spec (ls : List Line) (h : wfRun {} ls = .error .popEmpty) :
    ∃ pre ts t c post, ls = pre ++ .popState ts t c :: post ∧ WellFormed pre ∧ depthOf pre (c, t) = 0 := by
  obtain ⟨pre, l, post, e1, hwf, ⟨ts, t, c, e2, e3⟩, _⟩ := wfRun_error_spec ls .popEmpty h
  subst e2
  exact ⟨pre, ts, t, c, post, e1, hwf, e3⟩

theorem balancedOn_iff (d : List ((Nat × Nat) × Nat)) (c : Nat) :
    balancedOn d c = true ↔ ∀ t, getDepth d (c, t) = 0 := by
  constructor
  · intro h t
    cases hf : d.find? (·.1 == (c, t)) with
    | none => simp [getDepth, hf]
    | some x =>
      have hx : x ∈ d := List.mem_of_find?_eq_some hf
      have hk : x.1 = (c, t) := by simpa using List.find?_some hf
      have h1 := (List.all_eq_true.mp h) x hx
      rw [hk] at h1
      simpa using h1
  · intro h
    apply List.all_eq_true.mpr
    intro x _
    by_cases hc : x.1.1 = c
    · have h1 := h x.1.2
      have hk : (c, x.1.2) = x.1 := by rw [← hc]
      rw [hk] at h1
      simp [h1]
    · simp [hc]

/-- **balance at destruction / at the end, read on the trace**: after an accepted trace `ls`, the driver's test
`balancedOn s.depth c` holds iff every state type of container `c` has push depth 0 according to the lines of `ls`
(`depthOf`: the fold push +1, pop −1, set → max 1, reset → 0 of Spec.lean).  The driver evaluates it on the lines BEFORE each
PajeDestroyContainer of `c`, and for every created container at the end of the trace. -/
theorem destroy_balanced_spec (ls : List Line) (s : WF) (h : wfRun {} ls = .ok s) (c : Nat) :
    balancedOn s.depth c = true ↔ ∀ t, depthOf ls (c, t) = 0 := by
  have hd := (wfRun_state_spec ls s h).2.2.2.2.2.2
  rw [balancedOn_iff]
  exact forall_congr' fun t => by rw [hd]

/-- a push that is never popped is seen: container 5 still has one state pushed, container 6 has none -/
example : balancedOn [((5, 9), 1), ((6, 9), 0)] 5 = false ∧ balancedOn [((5, 9), 1), ((6, 9), 0)] 6 = true := by decide

example : okOps { rbuf := [], out := [] } [.insert 5, .insert 3, .insert 9, .dump false 4, .insert 4, .dump true 9] := by
  simp [okOps, bstep, insertRev, Buf.fwd]
example : (brun { rbuf := [], out := [] } [.insert 5, .insert 3, .insert 9, .dump false 4, .insert 4, .dump true 9]).out
    = [3, 4, 5, 9] := by decide
example : (wfRun {} [.defContainerType 1 0, .createContainer 0 1 1 0, .defStateType 2 1, .defEntityValue 3 2,
    .pushState 5 2 1 3, .popState 7 2 1, .destroyContainer 7 1 1]).toOption.isSome = true := by decide
example : errOf (wfRun {} [.defContainerType 1 0, .createContainer 0 1 1 0, .defStateType 2 1, .popState 7 2 1])
    = some .popEmpty := by decide
example : errOf (wfRun {} [.defContainerType 1 0, .createContainer 5 1 1 0, .defVariableType 2 1, .variable 3 2 1])
    = some .timeDecreases := by decide

/-- a non-trivial well-formed trace, obtained through `wfOk_iff_spec` from a run of the automaton -/
example : WellFormed [.defContainerType 1 0, .createContainer 0 1 1 0, .defStateType 2 1, .defEntityValue 3 2,
    .pushState 5 2 1 3, .popState 7 2 1, .destroyContainer 7 1 1] := (wfOk_iff_spec _).mp ⟨_, rfl⟩
/-- and the declarative functions on it, without the automaton: one state pushed on (container 1, type 2) before the pop -/
example : depthOf [.defContainerType 1 0, .createContainer 0 1 1 0, .defStateType 2 1, .defEntityValue 3 2,
    .pushState 5 2 1 3] (1, 2) = 1 ∧ maxTs [.createContainer 0 1 1 0, .pushState 5 2 1 3, .popState 7 2 1] = 7 := by decide
/-- a trace that is not well formed (pop without push), through the other direction of `wfOk_iff_spec` -/
example : ¬ WellFormed [.defContainerType 1 0, .createContainer 0 1 1 0, .defStateType 2 1, .popState 7 2 1] := by
  intro h
  obtain ⟨s, hs⟩ := (wfOk_iff_spec _).mpr h
  cases hs
/-- not well formed, directly from the specification: use after destroy at the last position -/
example : ¬ WellFormed [.defContainerType 1 0, .createContainer 0 1 1 0, .defVariableType 2 1,
    .destroyContainer 3 1 1, .variable 4 2 1] := by
  intro h
  have := (h [.defContainerType 1 0, .createContainer 0 1 1 0, .defVariableType 2 1, .destroyContainer 3 1 1]
    (.variable 4 2 1) [] rfl).alive 1 (by simp [usedConts])
  exact this (by decide)
/-- hypotheses of `wfRun_state_spec`, `wfRun_error_spec`, `wfRun_popEmpty_spec` are met by concrete runs -/
example : ∃ s, wfRun {} [.defContainerType 1 0, .createContainer 4 1 1 0] = .ok s ∧ s.now = 4 := ⟨_, rfl, rfl⟩
example : wfRun {} [.defContainerType 1 0, .createContainer 0 1 1 0, .defStateType 2 1, .popState 7 2 1]
    = .error .popEmpty := rfl
example : wfRun {} [.defContainerType 1 0, .createContainer 5 1 1 0, .defVariableType 2 1, .variable 3 2 1]
    = .error .timeDecreases := rfl
example : Violates .timeDecreases [.defContainerType 1 0, .createContainer 5 1 1 0, .defVariableType 2 1]
    (.variable 3 2 1) := ⟨3, rfl, 5, by decide, by decide⟩

end SgVerif.C47
