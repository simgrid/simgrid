import SgVerif.C47.Spec
import SgVerif.Common.List
/-
C47 — helper lemmas for `wfOk_iff_spec`: the automaton `wfStep`/`wfRun` (Model.lean) accepts exactly the traces that
satisfy the declarative `WellFormed` (Spec.lean).

`wfStep_spec` is the case analysis of `wfStep` over the 15 line kinds (`getDepth_nextDepth` is the one for the depth
update): each kind is a sequence of guards, and each guard keeps the specification `StepSpec`.  Under the abstraction invariant `Abs pre s`, `StepOk s l` gives `LineOk pre l`, a refused line
`Violates` the clause its error class names, and `Abs` is kept by `wfNext`; `wfRun_spec` is the induction over the trace that carries `Abs`.
-/
namespace SgVerif.C47

theorem find_filter_ne (d : List ((Nat × Nat) × Nat)) (k k' : Nat × Nat) (h : k' ≠ k) :
    (d.filter (·.1 != k)).find? (·.1 == k') = d.find? (·.1 == k') := by
  rw [List.find?_filter]
  congr 1; funext a
  by_cases ha : a.1 = k' <;> simp [ha, h]

theorem getDepth_setDepth (d : List ((Nat × Nat) × Nat)) (k k' : Nat × Nat) (v : Nat) :
    getDepth (setDepth d k v) k' = if k = k' then v else getDepth d k' := by
  unfold getDepth setDepth
  by_cases h : k = k'
  · subst h; simp
  · simp [h, find_filter_ne d k k' (Ne.symm h)]

theorem useCont_ok (s : WF) (ts c : Nat) (s' : WF) :
    useCont s ts c = .ok s' ↔ s.now ≤ ts ∧ c ∉ s.dead ∧ c ∈ s.conts ∧ s' = { s with now := ts } := by
  unfold useCont
  by_cases h1 : ts < s.now
  · simp [h1]; intro h; omega
  · by_cases h2 : c ∈ s.dead
    · simp [h1, h2]
    · by_cases h3 : c ∈ s.conts
      · simp [h1, h2, h3]; constructor
        · intro h; exact ⟨by omega, h.symm⟩
        · intro h; exact h.2.symm
      · simp [h1, h2, h3]

/-- state-level acceptance condition of one line: the clauses of `LineOk`, read on the automaton state -/
structure StepOk (s : WF) (l : Line) : Prop where
  typesDeclared : ∀ t ∈ usedTypes l, t ∈ s.types
  valuesDeclared : ∀ v ∈ usedValues l, v ∈ s.values
  contsDeclared : ∀ c ∈ usedConts l, c ∈ s.conts
  typeFresh : ∀ id, lineDefType l = some id → id ∉ s.types
  contFresh : ∀ id, lineCreates l = some id → id ∉ s.conts
  clock : ∀ ts, lineTs l = some ts → s.now ≤ ts
  alive : ∀ c ∈ usedConts l, c ∉ s.dead
  popBalanced : ∀ ts t c, l = .popState ts t c → 0 < getDepth s.depth (c, t)

/-- the depth update of `wfStep` for the four state lines, and `wfNext` the whole state an accepted line leaves: `wfStep`
writes them inline per line kind, `wfStep_spec` says it returns `wfNext` -/
def nextDepth (d : List ((Nat × Nat) × Nat)) : Line → List ((Nat × Nat) × Nat)
  | .setState _ t c _ => setDepth d (c, t) (max (getDepth d (c, t)) 1)
  | .pushState _ t c _ => setDepth d (c, t) (getDepth d (c, t) + 1)
  | .popState _ t c => setDepth d (c, t) (getDepth d (c, t) - 1)
  | .resetState _ t c => setDepth d (c, t) 0
  | _ => d

def wfNext (s : WF) (l : Line) : WF :=
  { types := (lineDefType l).toList ++ s.types
    values := (lineDefValue l).toList ++ s.values
    conts := (lineCreates l).toList ++ s.conts
    dead := (lineDestroys l).toList ++ s.dead
    now := (lineTs l).getD s.now
    depth := nextDepth s.depth l }

theorem maxTs_le_iff (pre : List Line) (x : Nat) : maxTs pre ≤ x ↔ ∀ ts' ∈ timestamps pre, ts' ≤ x := by
  simp [maxTs, foldl_max_le]

/-- the automaton state `s` is what the accepted prefix `pre` has established -/
structure Abs (pre : List Line) (s : WF) : Prop where
  types : ∀ t, t ∈ s.types ↔ t = 0 ∨ t ∈ definedTypes pre
  values : ∀ v, v ∈ s.values ↔ v ∈ definedValues pre
  conts : ∀ c, c ∈ s.conts ↔ c = 0 ∨ c ∈ createdConts pre
  dead : ∀ c, c ∈ s.dead ↔ c ∈ destroyedConts pre
  now : s.now = maxTs pre
  depth : ∀ k, getDepth s.depth k = depthOf pre k

theorem Abs.late {pre : List Line} {s : WF} (a : Abs pre s) {ts : Nat} (h : ts < s.now) : ∃ ts' ∈ timestamps pre, ts < ts' := by
  have hn : ¬ maxTs pre ≤ ts := by rw [← a.now]; omega
  rw [maxTs_le_iff] at hn
  simpa only [Classical.not_forall, Nat.not_le, exists_prop] using hn

/-- what `wfStep s l` may return: the next state, if the line is acceptable in `s`; otherwise an error class whose
clause of `LineOk` fails after any prefix that `s` abstracts.  Every line kind is a sequence of guards, each of which keeps
this specification (the lemmas below). -/
def StepSpec (s : WF) (l : Line) : Except Why WF → Prop
  | .ok s' => StepOk s l ∧ s' = wfNext s l
  | .error e => ∀ pre, Abs pre s → Violates e pre l

namespace StepSpec
variable {s : WF} {l : Line}

theorem ite {c : Prop} [Decidable c] {x y : Except Why WF} (hx : c → StepSpec s l x) (hy : ¬ c → StepSpec s l y) :
    StepSpec s l (if c then x else y) := by
  split
  · exact hx ‹_›
  · exact hy ‹_›

theorem mem {a : Nat} {xs : List Nat} {x y : Except Why WF} (hx : a ∈ xs → StepSpec s l x) (hy : a ∉ xs → StepSpec s l y) :
    StepSpec s l (if xs.contains a then x else y) :=
  ite (fun h => hx (List.contains_iff_mem.mp h)) fun h => hy fun m => h (List.contains_iff_mem.mpr m)

theorem not_mem {a : Nat} {xs : List Nat} {x y : Except Why WF} (hx : a ∉ xs → StepSpec s l x) (hy : a ∈ xs → StepSpec s l y) :
    StepSpec s l (if !xs.contains a then x else y) :=
  ite (fun h => hx (by simpa using h)) fun h => hy (by simpa using h)

theorem needType {t : Nat} {f : Unit → Except Why WF} (ht : t ∈ usedTypes l) (h : t ∈ s.types → StepSpec s l (f ())) :
    StepSpec s l (needType s t >>= f) := by
  unfold C47.needType
  by_cases hm : t ∈ s.types
  · simp only [List.contains_iff_mem, hm, if_true]; exact h hm
  · simp only [List.contains_iff_mem, hm, if_false]; exact fun pre a => ⟨t, ht, not_or.mp (mt (a.types t).mpr hm)⟩

theorem needValue {v : Nat} {f : Unit → Except Why WF} (hv : v ∈ usedValues l) (h : v ∈ s.values → StepSpec s l (f ())) :
    StepSpec s l (needValue s v >>= f) := by
  unfold C47.needValue
  by_cases hm : v ∈ s.values
  · simp only [List.contains_iff_mem, hm, if_true]; exact h hm
  · simp only [List.contains_iff_mem, hm, if_false]; exact fun pre a => ⟨v, hv, mt (a.values v).mpr hm⟩

theorem useCont {ts c : Nat} {f : WF → Except Why WF} (hts : lineTs l = some ts) (hc : c ∈ usedConts l)
    (h : s.now ≤ ts → c ∉ s.dead → c ∈ s.conts → StepSpec s l (f { s with now := ts })) :
    StepSpec s l (useCont s ts c >>= f) := by
  unfold C47.useCont
  split
  next h1 => exact fun pre a => ⟨ts, hts, a.late h1⟩
  next h1 =>
    split
    next h2 => exact fun pre a => ⟨c, hc, (a.dead c).mp (by simpa using h2)⟩
    next h2 =>
      split
      next h3 => exact fun pre a => ⟨c, hc, not_or.mp (mt (a.conts c).mpr (by simpa using h3))⟩
      next h3 => exact h (Nat.le_of_not_lt h1) (by simpa using h2) (by simpa using h3)

theorem useCont_last {ts c : Nat} (hts : lineTs l = some ts) (hc : c ∈ usedConts l)
    (h : s.now ≤ ts → c ∉ s.dead → c ∈ s.conts → StepSpec s l (.ok { s with now := ts })) :
    StepSpec s l (C47.useCont s ts c) :=
  bind_pure (C47.useCont s ts c) ▸ useCont hts hc h

end StepSpec

theorem wfStep_spec (s : WF) (l : Line) : StepSpec s l (wfStep s l) := by
  -- per line kind: its guards in order, then the eight fields of `StepOk` (`nil`, `no` where the line has nothing of that
  -- kind: a `nofun` per field is several times dearer to check)
  have one {p : Nat → Prop} {a : Nat} (h : p a) : ∀ x ∈ [a], p x := List.forall_mem_singleton.mpr h
  have at_ {p : Nat → Prop} {a : Nat} (h : p a) : ∀ x, some a = some x → p x := fun _ e => Option.some.inj e ▸ h
  have nil {p : Nat → Prop} : ∀ x ∈ [], p x := nofun
  have no {p : Nat → Prop} : ∀ x, none = some x → p x := nofun
  cases l with
  | defContainerType id p | defVariableType id p | defStateType id p | defEventType id p =>
    exact .needType List.mem_cons_self fun hp => .mem (fun h pre a => .inl ⟨id, rfl, (a.types id).mp h⟩) fun h =>
      ⟨⟨one hp, nil, nil, at_ h, no, no, nil, nofun⟩, rfl⟩
  | defLinkType id p a b =>
    exact .needType List.mem_cons_self fun hp => .needType (.tail _ List.mem_cons_self) fun ha =>
      .needType (.tail _ (.tail _ List.mem_cons_self)) fun hb => .mem (fun h pre a => .inl ⟨id, rfl, (a.types id).mp h⟩) fun h =>
      ⟨⟨List.forall_mem_cons.mpr ⟨hp, List.forall_mem_cons.mpr ⟨ha, one hb⟩⟩, nil, nil, at_ h, no, no, nil, nofun⟩,
        rfl⟩
  | defEntityValue id t =>
    exact .needType List.mem_cons_self fun ht => ⟨⟨one ht, nil, nil, no, no, no, nil, nofun⟩, rfl⟩
  | createContainer ts id t p =>
    exact .needType List.mem_cons_self fun ht => .ite (fun h pre a => ⟨ts, rfl, a.late h⟩) fun h1 =>
      .mem (fun h pre a => ⟨p, List.mem_cons_self, (a.dead p).mp h⟩) fun h2 =>
      .not_mem (fun h pre a => ⟨p, List.mem_cons_self, not_or.mp (mt (a.conts p).mpr h)⟩) fun h3 =>
      .mem (fun h pre a => .inr ⟨id, rfl, (a.conts id).mp h⟩) fun h4 =>
      ⟨⟨one ht, nil, one h3, no, at_ h4, at_ (Nat.le_of_not_lt h1), one h2, nofun⟩, rfl⟩
  | destroyContainer ts t c | resetState ts t c =>
    exact .needType List.mem_cons_self fun ht => .useCont rfl List.mem_cons_self fun h1 h2 h3 =>
      ⟨⟨one ht, nil, one h3, no, no, at_ h1, one h2, nofun⟩, rfl⟩
  | «variable» ts t c =>
    exact .needType List.mem_cons_self fun ht => .useCont_last rfl List.mem_cons_self fun h1 h2 h3 =>
      ⟨⟨one ht, nil, one h3, no, no, at_ h1, one h2, nofun⟩, rfl⟩
  | setState ts t c v | pushState ts t c v =>
    exact .needType List.mem_cons_self fun ht => .needValue List.mem_cons_self fun hv =>
      .useCont rfl List.mem_cons_self fun h1 h2 h3 =>
      ⟨⟨one ht, one hv, one h3, no, no, at_ h1, one h2, nofun⟩, rfl⟩
  | newEvent ts t c v =>
    exact .needType List.mem_cons_self fun ht => .needValue List.mem_cons_self fun hv =>
      .useCont_last rfl List.mem_cons_self fun h1 h2 h3 =>
      ⟨⟨one ht, one hv, one h3, no, no, at_ h1, one h2, nofun⟩, rfl⟩
  | popState ts t c =>
    exact .needType List.mem_cons_self fun ht => .useCont rfl List.mem_cons_self fun h1 h2 h3 =>
      .ite (fun h pre a => ⟨ts, t, c, rfl, a.depth (c, t) ▸ h⟩) fun h =>
      ⟨⟨one ht, nil, one h3, no, no, at_ h1, one h2,
        fun _ _ _ e => by cases e; exact Nat.pos_of_ne_zero h⟩, rfl⟩
  | link ts t c e =>
    exact .needType List.mem_cons_self fun ht => .useCont rfl List.mem_cons_self fun h1 h2 h3 =>
      .mem (fun h pre a => ⟨e, .tail _ List.mem_cons_self, (a.dead e).mp h⟩) fun h4 =>
      .not_mem (fun h pre a => ⟨e, .tail _ List.mem_cons_self, not_or.mp (mt (a.conts e).mpr h)⟩) fun h5 =>
      ⟨⟨one ht, nil, List.forall_mem_cons.mpr ⟨h3, one h5⟩, no, no, at_ h1,
        List.forall_mem_cons.mpr ⟨h2, one h4⟩, nofun⟩, rfl⟩

theorem wfStep_ok {s s' : WF} {l : Line} (h : wfStep s l = .ok s') : StepOk s l ∧ s' = wfNext s l := by
  have := wfStep_spec s l
  rwa [h] at this

theorem wfStep_error {s : WF} {l : Line} {e : Why} (h : wfStep s l = .error e) : ∀ pre, Abs pre s → Violates e pre l := by
  have := wfStep_spec s l
  rwa [h] at this

theorem filterMap_snoc {α β : Type} (f : α → Option β) (pre : List α) (l : α) :
    (pre ++ [l]).filterMap f = pre.filterMap f ++ (f l).toList := by
  cases h : f l <;> simp [List.filterMap_append, h]

theorem maxTs_snoc (pre : List Line) (l : Line) :
    maxTs (pre ++ [l]) = max (maxTs pre) ((lineTs l).getD 0) := by
  cases h : lineTs l <;> simp [maxTs, timestamps, h, List.foldl_append]

theorem depthOf_snoc (pre : List Line) (l : Line) (k : Nat × Nat) :
    depthOf (pre ++ [l]) k = depthStep k (depthOf pre k) l := by
  simp [depthOf, List.foldl_append]

theorem getDepth_nextDepth (d : List ((Nat × Nat) × Nat)) (l : Line) (k : Nat × Nat) :
    getDepth (nextDepth d l) k = depthStep k (getDepth d k) l := by
  cases l <;> simp only [nextDepth, depthStep, getDepth_setDepth]
  all_goals
    split
    next h => rw [h]
    next => rfl

theorem abs_init : Abs [] {} := by
  constructor <;> simp [definedTypes, definedValues, createdConts, destroyedConts, maxTs, timestamps, depthOf, getDepth]

theorem StepOk.lineOk {pre : List Line} {s : WF} {l : Line} (h : Abs pre s) (a : StepOk s l) : LineOk pre l where
  typesDeclared t ht := (h.types t).mp (a.typesDeclared t ht)
  valuesDeclared v hv := (h.values v).mp (a.valuesDeclared v hv)
  contsDeclared c hc := (h.conts c).mp (a.contsDeclared c hc)
  typeFresh id hid := not_or.mp (mt (h.types id).mpr (a.typeFresh id hid))
  contFresh id hid := not_or.mp (mt (h.conts id).mpr (a.contFresh id hid))
  clock ts hts := (maxTs_le_iff pre ts).mp (h.now ▸ a.clock ts hts)
  alive c hc := mt (h.dead c).mpr (a.alive c hc)
  popBalanced ts t c e := h.depth (c, t) ▸ a.popBalanced ts t c e

theorem abs_next (pre : List Line) (s : WF) (l : Line) (h : Abs pre s) (hok : StepOk s l) :
    Abs (pre ++ [l]) (wfNext s l) where
  types t := by
    simp only [wfNext, definedTypes, filterMap_snoc, List.mem_append, h.types, or_comm, or_left_comm, or_assoc]
  values v := by
    simp only [wfNext, definedValues, filterMap_snoc, List.mem_append, h.values, or_comm]
  conts c := by
    simp only [wfNext, createdConts, filterMap_snoc, List.mem_append, h.conts, or_comm, or_left_comm, or_assoc]
  dead c := by
    simp only [wfNext, destroyedConts, filterMap_snoc, List.mem_append, h.dead, or_comm]
  now := by
    simp only [wfNext, maxTs_snoc, h.now]
    cases hl : lineTs l with
    | none => simp
    | some ts => exact (Nat.max_eq_right (h.now ▸ hok.clock ts hl)).symm
  depth k := by
    simp only [wfNext, getDepth_nextDepth, depthOf_snoc, h.depth]

theorem violates_not_lineOk (pre : List Line) (l : Line) (e : Why) (hv : Violates e pre l) : ¬ LineOk pre l := by
  intro hl
  cases e <;> simp only [Violates] at hv
  · obtain ⟨t, ht, h0, hn⟩ := hv
    rcases hl.typesDeclared t ht with h | h <;> contradiction
  · obtain ⟨v, hv', hn⟩ := hv
    exact hn (hl.valuesDeclared v hv')
  · obtain ⟨c, hc, h0, hn⟩ := hv
    rcases hl.contsDeclared c hc with h | h <;> contradiction
  · obtain ⟨ts, hts, ts', hm, hlt⟩ := hv
    have := hl.clock ts hts ts' hm
    omega
  · obtain ⟨c, hc, hd⟩ := hv
    exact hl.alive c hc hd
  · obtain ⟨ts, t, c, e1, e2⟩ := hv
    have := hl.popBalanced ts t c e1
    omega
  · rcases hv with ⟨id, e1, e2⟩ | ⟨id, e1, e2⟩
    · have := hl.typeFresh id e1
      rcases e2 with e2 | e2
      · exact this.1 e2
      · exact this.2 e2
    · have := hl.contFresh id e1
      rcases e2 with e2 | e2
      · exact this.1 e2
      · exact this.2 e2

theorem forall_pos_cons {P : List Line → Line → Prop} (l : Line) (post : List Line) :
    (∀ p l' q, l :: post = p ++ l' :: q → P p l') ↔ P [] l ∧ ∀ p l' q, post = p ++ l' :: q → P (l :: p) l' := by
  constructor
  · intro h
    exact ⟨h [] l post rfl, fun p l' q e => h (l :: p) l' q (by rw [e]; rfl)⟩
  · rintro ⟨h0, h1⟩ p l' q e
    cases p with
    | nil => cases e; exact h0
    | cons a p => cases e; exact h1 p l' q rfl

/-- what `wfRun` returns from a state that abstracts `pre`: on acceptance the final state abstracts the whole trace and
every line was acceptable after the lines before it; on rejection the run stops at the first line that violates the clause
named by the error class -/
def RunSpec (pre post : List Line) (s : WF) : Except Why WF → Prop
  | .ok s' => Abs (pre ++ post) s' ∧ ∀ p l q, post = p ++ l :: q → LineOk (pre ++ p) l
  | .error e => ∃ p l q s1, post = p ++ l :: q ∧ wfRun s p = .ok s1 ∧ Violates e (pre ++ p) l

theorem wfRun_spec (post : List Line) : ∀ (pre : List Line) (s : WF), Abs pre s → RunSpec pre post s (wfRun s post) := by
  induction post with
  | nil => intro pre s h; exact ⟨by rwa [List.append_nil], fun p l q e => by cases p <;> cases e⟩
  | cons l post ih =>
    intro pre s h
    simp only [wfRun]
    cases hs : wfStep s l with
    | error e => exact ⟨[], l, post, s, rfl, rfl, (List.append_nil pre).symm ▸ wfStep_error hs pre h⟩
    | ok s1 =>
      obtain ⟨hok, rfl⟩ := wfStep_ok hs
      have ih' := ih _ _ (abs_next pre s l h hok)
      cases hr : wfRun (wfNext s l) post with
      | ok s' =>
        simp only [hr, RunSpec, List.append_assoc, List.singleton_append] at ih' ⊢
        exact ⟨ih'.1, (forall_pos_cons (P := fun p l => LineOk (pre ++ p) l) l post).mpr ⟨(List.append_nil pre).symm ▸ hok.lineOk h, ih'.2⟩⟩
      | error e =>
        simp only [hr, RunSpec, List.append_assoc, List.singleton_append] at ih' ⊢
        obtain ⟨p, l', q, s2, e1, e2, e3⟩ := ih'
        exact ⟨l :: p, l', q, s2, by rw [e1]; rfl, by simp only [wfRun, hs]; exact e2, e3⟩

end SgVerif.C47
