import SgVerif.C21.Model
import SgVerif.Common.FoldMin
import SgVerif.Common.Rat
/- C21: one action through one round of `update_actions_state_full`, the bound `next_occurring_event_full` puts on the
step length, and the invariant every operation keeps on an action. -/
namespace SgVerif.C21

theorem doubleUpdate_nonneg {prec v d : Rat} (hp : 0 ≤ prec) : 0 ≤ doubleUpdate prec v d := by
  unfold doubleUpdate; simp only; split <;> grind

theorem doubleUpdate_le {prec v d : Rat} (hv : 0 ≤ v) (hd : 0 ≤ d) : doubleUpdate prec v d ≤ v := by
  unfold doubleUpdate; simp only; split <;> grind

theorem doubleUpdate_slack {prec v d : Rat} (hp : 0 ≤ prec) (hd : d ≤ v) :
    doubleUpdate prec v d ≤ v - d ∧ (v - d) - doubleUpdate prec v d ≤ prec := by
  unfold doubleUpdate; simp only; split <;> grind

theorem doubleUpdate_pos_or_zero {prec v d : Rat} (hp : 0 ≤ prec) :
    doubleUpdate prec v d = 0 ∨ (0 < doubleUpdate prec v d ∧ doubleUpdate prec v d = v - d) := by
  unfold doubleUpdate; simp only; split
  · left; rfl
  · rename_i h
    by_cases hx : v - d = 0
    · left; exact hx
    · right; constructor <;> grind

/-- facts the constructors and operations of the code maintain -/
structure Action.WF (a : Action) : Prop where
  rem : 0 ≤ a.remains
  fac : 0 ≤ a.factor
  val : 0 ≤ a.varValue
  /-- `disable_var` zeroes the value -/
  dis : a.varPenalty ≤ 0 → a.varValue = 0
  /-- the LMM penalty is either 0 (disabled) or `sharing_penalty_` -/
  pen : a.varPenalty = 0 ∨ a.varPenalty = a.penalty

theorem Action.rate_nonneg {a : Action} (h : a.WF) : 0 ≤ a.rate := by
  unfold Action.rate; split
  · exact Rat.mul_nonneg h.val h.fac
  · exact Rat.le_refl

theorem Action.WF.dis_penalty {a : Action} (h : a.WF) (hp : a.penalty ≤ 0) : a.varValue = 0 := by
  rcases h.pen with h0 | h1
  · exact h.dis (by rw [h0]; exact Rat.le_refl)
  · exact h.dis (by rw [h1]; exact hp)

theorem rint_nonneg {x : Rat} (h : 0 ≤ x) : 0 ≤ Action.rint x := by
  have hf : (0 : Int) ≤ x.floor := Rat.le_floor_iff.mpr (by simpa using h)
  unfold Action.rint; simp only
  split
  · exact hf
  · split
    · omega
    · split <;> omega

/-- exact-work invariant of an action (for `prec = 0`: `done + remains = cost`): nothing is lost before the clamp, and the
clamp loses less than `prec` -/
structure Action.Cons (p : Prec) (a : Action) : Prop where
  le : a.done + a.remains ≤ a.cost
  slack : a.cost - (a.done + a.remains) ≤ p.work
  exact : 0 < a.remains → a.done + a.remains = a.cost

theorem Action.Cons.of_eq {p : Prec} {a b : Action} (hc : a.Cons p) (h1 : b.done = a.done) (h2 : b.remains = a.remains)
    (h3 : b.cost = a.cost) : b.Cons p :=
  ⟨by rw [h1, h2, h3]; exact hc.le, by rw [h1, h2, h3]; exact hc.slack, by rw [h1, h2, h3]; exact hc.exact⟩

/-- actions for which completion can only come from the work: no deadline, not the infinite-bandwidth shortcut -/
def Action.Plain (a : Action) : Prop := a.maxDuration = none ∧ a.noConstraint = false

theorem updateMaxDuration_none {p : Prec} {a : Action} {d : Rat} (h : a.maxDuration = none) :
    a.updateMaxDuration p d = a := by
  unfold Action.updateMaxDuration; rw [h]

theorem applyStep_frame (p : Prec) (now delta amount work : Rat) (a : Action) :
    let b := a.applyStep p now delta amount work
    b.kind = a.kind ∧ b.cost = a.cost ∧ b.factor = a.factor ∧ b.varValue = a.varValue ∧ b.varPenalty = a.varPenalty ∧
    b.penalty = a.penalty ∧ b.done = a.done + work ∧ (b.Plain ↔ a.Plain) ∧
    (b.state = .finished ∧ b.remains = 0 ∨ b.state = a.state ∧ b.remains = doubleUpdate p.work a.remains amount) := by
  unfold Action.applyStep Action.updateMaxDuration Action.updateRemains Action.finishAt Action.Plain
  cases a.maxDuration <;> simp only <;> split <;> simp

theorem applyStep_plain (p : Prec) (hp : 0 ≤ p.work) (now delta amount work : Rat) (a : Action)
    (hm : a.maxDuration = none) (hs : a.state = .started) :
    let b := a.applyStep p now delta amount work
    b.remains = doubleUpdate p.work a.remains amount ∧
    ((b.state = .finished ∧ b.finish = some now ∧ b.remains = 0) ∨
     (b.state = .started ∧ b.finish = a.finish ∧ (0 < a.varPenalty → 0 < b.remains))) := by
  have hnn := doubleUpdate_nonneg (v := a.remains) (d := amount) hp
  unfold Action.applyStep Action.updateMaxDuration Action.updateRemains Action.finishAt Action.completes
  simp only [hm]
  split
  · rename_i hc
    simp at hc
    refine ⟨?_, Or.inl ⟨rfl, rfl, rfl⟩⟩
    simp; grind
  · rename_i hc
    simp at hc
    refine ⟨rfl, Or.inr ⟨hs, rfl, ?_⟩⟩
    intro hv
    simp
    grind

theorem applyStep_le (p : Prec) (hp : 0 ≤ p.work) (now delta amount work : Rat) (a : Action)
    (hr : 0 ≤ a.remains) (ha : 0 ≤ amount) :
    let b := a.applyStep p now delta amount work
    b.remains ≤ a.remains ∧ 0 ≤ b.remains := by
  rcases (applyStep_frame p now delta amount work a).2.2.2.2.2.2.2.2 with h | h <;> simp only <;> rw [h.2]
  · exact ⟨hr, Rat.le_refl⟩
  · exact ⟨doubleUpdate_le hr ha, doubleUpdate_nonneg hp⟩

theorem applyStep_WF (p : Prec) (hp : 0 ≤ p.work) (now delta amount work : Rat) (a : Action)
    (h : a.WF) (ha : 0 ≤ amount) : (a.applyStep p now delta amount work).WF := by
  obtain ⟨_, _, h3, h4, h5, h6, _⟩ := applyStep_frame p now delta amount work a
  exact ⟨(applyStep_le p hp now delta amount work a h.rem ha).2, by rw [h3]; exact h.fac, by rw [h4]; exact h.val,
    by rw [h4, h5]; exact h.dis, by rw [h5, h6]; exact h.pen⟩

theorem cons_doubleUpdate {prec done rem cost amount : Rat} (hp : 0 ≤ prec) (hr : 0 ≤ rem) (ha : 0 ≤ amount)
    (hfit : amount ≤ rem) (hle : done + rem ≤ cost) (hsl : cost - (done + rem) ≤ prec)
    (hex : 0 < rem → done + rem = cost) :
    (done + amount) + doubleUpdate prec rem amount ≤ cost ∧
    cost - ((done + amount) + doubleUpdate prec rem amount) ≤ prec ∧
    (0 < doubleUpdate prec rem amount → (done + amount) + doubleUpdate prec rem amount = cost) := by
  have hs := doubleUpdate_slack hp hfit
  rcases doubleUpdate_pos_or_zero (v := rem) (d := amount) hp with h0 | ⟨hpos, heq⟩
  · rw [h0] at hs ⊢
    by_cases hrem : 0 < rem
    · have := hex hrem; grind
    · grind
  · have := hex (by grind); grind

theorem applyStep_cons (p : Prec) (hp : 0 ≤ p.work) (now delta amount : Rat) (a : Action)
    (hm : a.maxDuration = none) (hs : a.state = .started) (hr : 0 ≤ a.remains)
    (ha : 0 ≤ amount) (hfit : amount ≤ a.remains) (hc : a.Cons p) :
    (a.applyStep p now delta amount amount).Cons p := by
  have hpl := (applyStep_plain p hp now delta amount amount a hm hs).1
  obtain ⟨_, h2, _, _, _, _, h8, _⟩ := applyStep_frame p now delta amount amount a
  have := cons_doubleUpdate hp hr ha hfit hc.le hc.slack hc.exact
  exact ⟨by rw [hpl, h2, h8]; exact this.1, by rw [hpl, h2, h8]; exact this.2.1, by rw [hpl, h2, h8]; exact this.2.2⟩

/-- the value `remains/rate` (0 once `remains <= 0`) the code feeds to the minimum -/
def ttc (a : Action) : Rat := if 0 < a.remains then a.remains / a.rate else 0

/-- the candidates one action feeds to the minimum of `next_occurring_event_full` -/
def candidates (a : Action) : List Rat :=
  if a.state ≠ .started then [] else
    (if 0 < a.rate then [ttc a] else []) ++
      (match a.maxDuration with
       | some d => if 0 ≤ d then [d] else []
       | none => [])

theorem nextEventFull_eq_foldl : ∀ (l : List Action) (m : Option Rat),
    nextEventFull l m = (l.flatMap candidates).foldl minOpt m := by
  intro l
  induction l with
  | nil => intro m; rfl
  | cons a as ih =>
    intro m
    rw [List.flatMap_cons, List.foldl_append, nextEventFull, candidates, ttc]
    split
    · exact ih m
    · rw [ih, List.foldl_append]
      congr 1
      -- folding the candidates of `a` replays the two `let`s of the code
      have h1 : ∀ (v : Rat), (if 0 < a.rate then [v] else []).foldl minOpt m = if 0 < a.rate then minOpt m v else m :=
        fun v => by split <;> rfl
      rw [h1]
      cases a.maxDuration with
      | none => rfl
      | some d => simp only; split <;> rfl

theorem ttc_nonneg {a : Action} (h : a.WF) (hr : 0 < a.rate) : 0 ≤ ttc a := by
  unfold ttc; split
  · exact (rat_le_div_iff hr).mpr (by rw [Rat.zero_mul]; exact h.rem)
  · exact Rat.le_refl

theorem candidates_nonneg {a : Action} (h : a.WF) : ∀ v ∈ candidates a, 0 ≤ v := by
  intro v hv
  unfold candidates at hv
  split at hv
  · cases hv
  · rcases List.mem_append.mp hv with hv | hv
    · split at hv
      · rename_i hr; rw [List.mem_singleton.mp hv]; exact ttc_nonneg h hr
      · cases hv
    · split at hv
      · split at hv
        · rename_i hd; rw [List.mem_singleton.mp hv]; exact hd
        · cases hv
      · cases hv

theorem ttc_mem_candidates {a : Action} (hs : a.state = .started) (hr : 0 < a.rate) : ttc a ∈ candidates a := by
  unfold candidates
  rw [if_neg (by rw [hs]; decide), if_pos hr]
  exact List.mem_append_left _ (List.mem_singleton.mpr rfl)

theorem nextEventFull_spec (l : List Action) (hwf : ∀ a ∈ l, a.WF) :
    match nextEventFull l none with
    | none => ∀ a ∈ l, a.state = .started → ¬ 0 < a.rate
    | some d => 0 ≤ d ∧ ∀ a ∈ l, a.state = .started → 0 < a.rate → d ≤ ttc a := by
  -- `minOpt` is the step of `foldMin_spec` that selects every element and reads it as it is
  obtain ⟨h0, h1⟩ := foldMin_spec (fun m => m) minOpt (fun _ => True) id (l.flatMap candidates)
    (fun a x _ _ => by cases a with | none => rfl | some y => exact (apply_ite some ..).symm) (fun _ _ _ h => absurd trivial h)
    none minOf_none
  have hc : ∀ a ∈ l, a.state = .started → 0 < a.rate → False ∨ ∃ x ∈ l.flatMap candidates, True ∧ id x = ttc a :=
    fun a ha hs hr => Or.inr ⟨_, List.mem_flatMap.mpr ⟨a, ha, ttc_mem_candidates hs hr⟩, trivial, rfl⟩
  rw [nextEventFull_eq_foldl]
  cases hr : (l.flatMap candidates).foldl minOpt none with
  | none => exact fun a ha hs hr' => h0 hr _ (hc a ha hs hr')
  | some d =>
    obtain ⟨hatt, hmin⟩ := h1 d hr
    refine ⟨?_, fun a ha hs hr' => hmin _ (hc a ha hs hr')⟩
    obtain ⟨x, hx, _, rfl⟩ := hatt.resolve_left id
    obtain ⟨a, ha, hv⟩ := List.mem_flatMap.mp hx
    exact candidates_nonneg (hwf a ha) _ hv

theorem rate_mul_le {a : Action} (h : a.WF) {δ : Rat} (hδ0 : 0 ≤ δ) (hb : 0 < a.rate → δ ≤ ttc a) :
    a.rate * δ ≤ a.remains := by
  by_cases hr : 0 < a.rate
  · have hd := hb hr
    unfold ttc at hd
    split at hd
    · exact Rat.mul_comm .. ▸ (rat_le_div_iff hr).mp hd
    · have : δ = 0 := by grind
      rw [this, Rat.mul_zero]; exact h.rem
  · have h0 : a.rate = 0 := by have := Action.rate_nonneg h; grind
    rw [h0, Rat.zero_mul]; exact h.rem

/-- `b` is `a` after the part of an `update_actions_state_full` body that precedes the shared tail: the latency phase and
the infinite-bandwidth shortcut of a network action, nothing for CPUs and disks -/
structure Action.PreTail (a b : Action) : Prop where
  wf : b.WF
  rate : b.rate = a.rate
  rem_le : b.remains ≤ a.remains
  rem : a.noConstraint = false → b.remains = a.remains
  state : b.state = a.state
  kind : b.kind = a.kind
  maxDuration : b.maxDuration = a.maxDuration
  noConstraint : b.noConstraint = a.noConstraint
  cost : b.cost = a.cost
  done : b.done = a.done
  finish : b.finish = a.finish

theorem Action.PreTail.refl {a : Action} (h : a.WF) : a.PreTail a :=
  ⟨h, rfl, Rat.le_refl, fun _ => rfl, rfl, rfl, rfl, rfl, rfl, rfl, rfl⟩

/-- re-enabling the variable at the end of the latency phase does not change the rate: its value was zeroed when it was
disabled -/
theorem payLatency_pre (p : Prec) (δ : Rat) (a : Action) (h : a.WF) : a.PreTail (a.payLatency p δ) := by
  unfold Action.payLatency
  split
  · split
    · refine ⟨⟨h.rem, h.fac, h.val, ?_, Or.inr rfl⟩, ?_, Rat.le_refl, fun _ => rfl, rfl, rfl, rfl, rfl, rfl, rfl, rfl⟩
      · exact h.dis_penalty
      · unfold Action.rate
        rcases h.pen with h0 | h1
        · have hv := h.dis (by rw [h0]; exact Rat.le_refl)
          simp only [h0, hv]; simp [Rat.zero_mul]
        · simp only [h1]
    · exact ⟨⟨h.rem, h.fac, h.val, h.dis, h.pen⟩, rfl, Rat.le_refl, fun _ => rfl, rfl, rfl, rfl, rfl, rfl, rfl, rfl⟩
  · exact .refl h

theorem stepFull_started (p : Prec) (hp : 0 ≤ p.work) (now δ : Rat) (hδ : 0 ≤ δ) (a : Action) (h : a.WF)
    (hst : a.state = .started) :
    ∃ (b : Action) (amount : Rat), a.PreTail b ∧ a.stepFull p now δ = b.applyStep p now δ amount (b.rate * δ) ∧
      0 ≤ amount ∧ (a.kind ≠ .disk → amount = b.rate * δ) := by
  have hamt : 0 ≤ a.rate * δ := Rat.mul_nonneg (Action.rate_nonneg h) hδ
  unfold Action.stepFull
  rw [if_neg (by rw [hst]; decide)]
  cases a.kind with
  | cpu => exact ⟨a, a.rate * δ, .refl h, rfl, hamt, fun _ => rfl⟩
  | disk =>
    exact ⟨a, Action.rint (a.rate * δ), .refl h, rfl, Rat.intCast_nonneg.mpr (rint_nonneg hamt), fun hk => absurd rfl hk⟩
  | net =>
    have h1 := payLatency_pre p δ a h
    simp only [Action.netStepFull]
    generalize a.payLatency p δ = a1 at h1
    have hamt1 : 0 ≤ a1.rate * δ := by rw [h1.rate]; exact hamt
    cases hnc : a1.noConstraint with
    | false => exact ⟨a1, a1.rate * δ, h1, rfl, hamt1, fun _ => rfl⟩
    | true =>
      refine ⟨a1.updateRemains p a1.remains, a1.rate * δ, ?_, rfl, hamt1, fun _ => rfl⟩
      exact ⟨⟨doubleUpdate_nonneg hp, h1.wf.fac, h1.wf.val, h1.wf.dis, h1.wf.pen⟩, h1.rate,
        Rat.le_trans (doubleUpdate_le h1.wf.rem h1.wf.rem) h1.rem_le,
        fun hf => (by rw [← h1.noConstraint, hnc] at hf; cases hf),
        h1.state, h1.kind, h1.maxDuration, h1.noConstraint, h1.cost, h1.done, h1.finish⟩

theorem stepFull_remains_le (p : Prec) (hp : 0 ≤ p.work) (now δ : Rat) (hδ : 0 ≤ δ) (a : Action) (h : a.WF) :
    (a.stepFull p now δ).remains ≤ a.remains := by
  by_cases hst : a.state = .started
  · obtain ⟨b, amount, hb, heq, hamt, _⟩ := stepFull_started p hp now δ hδ a h hst
    rw [heq]
    exact Rat.le_trans (applyStep_le p hp now δ amount _ b hb.wf.rem hamt).1 hb.rem_le
  · unfold Action.stepFull; rw [if_pos hst]; exact Rat.le_refl

theorem stepFull_completion (p : Prec) (hp : 0 ≤ p.work) (now δ : Rat) (hδ : 0 ≤ δ) (a : Action) (h : a.WF)
    (hmd : a.maxDuration = none) (hst : a.state = .started) :
    let b := a.stepFull p now δ
    (b.state = .finished ∧ b.finish = some now ∧ b.remains = 0) ∨
    (b.state = .started ∧ b.finish = a.finish ∧ (0 < b.varPenalty → 0 < b.remains)) := by
  obtain ⟨b, amount, hb, heq, _⟩ := stepFull_started p hp now δ hδ a h hst
  simp only
  rw [heq]
  rcases (applyStep_plain p hp now δ amount (b.rate * δ) b (by rw [hb.maxDuration]; exact hmd)
    (by rw [hb.state]; exact hst)).2 with hfin | ⟨x1, x2, x3⟩
  · exact Or.inl hfin
  · exact Or.inr ⟨x1, by rw [x2, hb.finish], by rw [(applyStep_frame p now δ amount _ b).2.2.2.2.1]; exact x3⟩

theorem stepFull_cons (p : Prec) (hp : 0 ≤ p.work) (now δ : Rat) (hδ : 0 ≤ δ) (a : Action) (h : a.WF)
    (hpl : a.Plain) (hk : a.kind ≠ .disk) (hst : a.state = .started) (hfit : a.rate * δ ≤ a.remains) (hc : a.Cons p) :
    (a.stepFull p now δ).Cons p := by
  obtain ⟨b, amount, hb, heq, hamt, hamount⟩ := stepFull_started p hp now δ hδ a h hst
  have hrem := hb.rem hpl.2
  rw [heq, hamount hk]
  rw [hamount hk] at hamt
  exact applyStep_cons p hp now δ _ b (by rw [hb.maxDuration]; exact hpl.1) (by rw [hb.state]; exact hst) hb.wf.rem
    hamt (by rw [hb.rate, hrem]; exact hfit) (hc.of_eq hb.done hrem hb.cost)

structure ActInv (p : Prec) (a : Action) : Prop where
  wf : a.WF
  fin : a.state = .finished → a.remains = 0
  st : a.state = .started ∨ a.state = .finished
  cons : a.Plain → a.kind ≠ .disk → a.Cons p

/-- validity of a command: what the `xbt_assert`s of the code require of the arguments -/
def Cmd.Valid : Cmd → Prop
  | .start _ cost _ pen _ => 0 ≤ cost ∧ 0 ≤ pen
  | .setPenalty _ q => 0 ≤ q
  | .advance (some o) => 0 ≤ o
  | _ => True

theorem modifyAt_forall {P : Action → Prop} {f : Action → Action} (hf : ∀ a, P a → P (f a)) :
    ∀ (l : List Action) (i : Nat), (∀ a ∈ l, P a) → ∀ a ∈ modifyAt l i f, P a := by
  intro l
  induction l with
  | nil => intro i _ a ha; exact absurd ha List.not_mem_nil
  | cons x xs ih =>
    intro i h
    have h' := List.forall_mem_cons.mp h
    cases i with
    | zero => exact List.forall_mem_cons.mpr ⟨hf x h'.1, h'.2⟩
    | succ j => exact List.forall_mem_cons.mpr ⟨h'.1, ih j h'.2⟩

theorem assignFrom_forall {P : Action → Prop} (rates : List Action → Nat → Rat) (whole : List Action)
    (hr : ∀ i, 0 ≤ rates whole i) (hf : ∀ a v, P a → 0 < a.varPenalty → 0 ≤ v → P { a with varValue := v }) :
    ∀ (l : List Action) (i : Nat), (∀ a ∈ l, P a) → ∀ a ∈ assignFrom rates whole i l, P a := by
  intro l
  induction l with
  | nil => intro i _ a ha; exact absurd ha List.not_mem_nil
  | cons x xs ih =>
    intro i h
    have h' := List.forall_mem_cons.mp h
    refine List.forall_mem_cons.mpr ⟨?_, ih (i + 1) h'.2⟩
    split
    · rename_i hc; exact hf x _ h'.1 hc.1 (hr i)
    · exact h'.1

theorem suspend_inv {p : Prec} {a : Action} (h : ActInv p a) : ActInv p a.suspend := by
  unfold Action.suspend
  split
  · exact { h with
      wf := { h.wf with val := Rat.le_refl, dis := fun _ => rfl, pen := Or.inl rfl }
      cons := fun hp hk => (h.cons hp hk).of_eq rfl rfl rfl }
  · exact h

theorem resume_inv {p : Prec} {a : Action} (h : ActInv p a) : ActInv p a.resume := by
  unfold Action.resume
  split
  · exact { h with
      wf := { h.wf with dis := h.wf.dis_penalty, pen := Or.inr rfl }
      cons := fun hp hk => (h.cons hp hk).of_eq rfl rfl rfl }
  · exact h

theorem setBound_inv {p : Prec} {a : Action} (b : Rat) (h : ActInv p a) : ActInv p (a.setBound b) :=
  { h with wf := { h.wf with }, cons := fun hp hk => (h.cons hp hk).of_eq rfl rfl rfl }

theorem setPenalty_inv {p : Prec} {a : Action} (q : Rat) (h : ActInv p a) : ActInv p (a.setPenalty q) := by
  unfold Action.setPenalty
  refine { h with
    wf := { h.wf with val := ?_, dis := ?_, pen := Or.inr rfl }
    cons := fun hp hk => (h.cons hp hk).of_eq rfl rfl rfl }
  · simp only; split
    · exact h.wf.val
    · exact Rat.le_refl
  · intro hq; simp only at hq ⊢; rw [if_neg (Rat.not_lt.mpr hq)]

theorem stepFull_inv (p : Prec) (hp : 0 ≤ p.work) (now d : Rat) (hd : 0 ≤ d) (a : Action) (h : ActInv p a)
    (hfit : a.state = .started → a.rate * d ≤ a.remains) : ActInv p (a.stepFull p now d) := by
  rcases h.st with hs | hs
  · obtain ⟨b, amount, hb, heq, hamt, _⟩ := stepFull_started p hp now d hd a h.wf hs
    obtain ⟨hk, _, _, _, _, _, _, hpl, hst⟩ := applyStep_frame p now d amount (b.rate * d) b
    have hsb : b.state = .started := by rw [hb.state]; exact hs
    refine ⟨by rw [heq]; exact applyStep_WF p hp now d amount _ b hb.wf hamt, ?_, ?_, ?_⟩
    · rw [heq]; intro hf
      rcases hst with hst | hst
      · exact hst.2
      · rw [hst.1, hsb] at hf; cases hf
    · rw [heq]
      rcases hst with hst | hst
      · exact Or.inr hst.1
      · exact Or.inl (by rw [hst.1, hsb])
    · intro hpl' hk'
      rw [heq] at hpl' hk'
      have hpa : a.Plain := by
        have := hpl.mp hpl'
        exact ⟨by rw [← hb.maxDuration]; exact this.1, by rw [← hb.noConstraint]; exact this.2⟩
      have hka : a.kind ≠ .disk := by rw [← hb.kind, ← hk]; exact hk'
      exact stepFull_cons p hp now d hd a h.wf hpa hka hs (hfit hs) (h.cons hpa hka)
  · have : a.stepFull p now d = a := by unfold Action.stepFull; rw [if_pos (by rw [hs]; decide)]
    rw [this]; exact h

def Sys.Inv (p : Prec) (s : Sys) : Prop := ∀ a ∈ s.acts, ActInv p a

theorem assignRates_inv (p : Prec) (rates : List Action → Nat → Rat) (hr : ∀ l i, 0 ≤ rates l i) (s : Sys)
    (h : s.Inv p) : ∀ a ∈ assignRates rates s.acts, ActInv p a := by
  unfold assignRates
  refine assignFrom_forall rates s.acts (hr s.acts) ?_ s.acts 0 h
  intro a v ha hv hv0
  exact ⟨⟨ha.wf.rem, ha.wf.fac, hv0, fun hle => absurd hv (Rat.not_lt.mpr hle), ha.wf.pen⟩, ha.fin, ha.st,
    fun hp hk => (ha.cons hp hk).of_eq rfl rfl rfl⟩

end SgVerif.C21
