import SgVerif.C21.Lemmas
/-
C21 — Work is conserved and capacity is respected over time (Full update algorithm; the Lazy heap and TI are related to it
in C19).  The LMM solution is an input: only `rates ≥ 0` is assumed (`load_le_capacity` also assumes its feasibility, which is
C15's theorem).  Every precision `p.work ≥ 0`, every finite history of starts / suspend / resume / bound and penalty
changes / engine rounds (with any dates imposed by other models); no bound on sizes or lengths.
-/
namespace SgVerif.C21

/-- **remains reaches 0 exactly at completion** (one engine round on one running CPU/network action without deadline, the
step not overshooting — `step_never_overshoots` shows the engine's choice never does): either the action is FINISHED with
`finish_time = now` and `remains = 0`, or it is still STARTED with the same finish time and, if its variable is enabled,
`remains > 0`. -/
theorem completion_exact (p : Prec) (hp : 0 ≤ p.work) (now δ : Rat) (hδ : 0 ≤ δ) (a : Action) (h : a.WF)
    (hpl : a.Plain) (hk : a.kind ≠ .disk) (hst : a.state = .started) (hfit : a.rate * δ ≤ a.remains) (hc : a.Cons p) :
    ((a.stepFull p now δ).state = .finished ∧ (a.stepFull p now δ).finish = some now ∧ (a.stepFull p now δ).remains = 0) ∨
    ((a.stepFull p now δ).state = .started ∧ (a.stepFull p now δ).finish = a.finish ∧
      (0 < (a.stepFull p now δ).varPenalty → 0 < (a.stepFull p now δ).remains)) :=
  stepFull_completion p hp now δ hδ a h hpl.1 hst

/-- the engine's step never overshoots a completion (what `completion_exact` and conservation rely on) -/
theorem step_never_overshoots (acts : List Action) (other : Option Rat) (hwf : ∀ a ∈ acts, a.WF)
    (ho : ∀ o, other = some o → 0 ≤ o) (d : Rat) (hd : chooseDelta acts other = some d) :
    0 ≤ d ∧ ∀ a ∈ acts, a.state = .started → a.rate * d ≤ a.remains := by
  have hne := nextEventFull_spec acts hwf
  have key : 0 ≤ d ∧ ∀ a ∈ acts, a.state = .started → 0 < a.rate → d ≤ ttc a := by
    unfold chooseDelta at hd
    split at hne <;> rename_i heq <;> rw [heq] at hd
    · cases hot : other with
      | none => rw [hot] at hd; cases hd
      | some o => rw [hot] at hd; cases hd; exact ⟨ho d hot, fun a ha hs hr => absurd hr (hne a ha hs)⟩
    · rename_i m
      have hdm : 0 ≤ d ∧ d ≤ m := by
        cases hot : other with
        | none => rw [hot] at hd; cases hd; exact ⟨hne.1, Rat.le_refl⟩
        | some o => rw [hot] at hd; have := ho o hot; have := hne.1; cases hd; split <;> grind
      exact ⟨hdm.1, fun a ha hs hr => Rat.le_trans hdm.2 (hne.2 a ha hs hr)⟩
  exact ⟨key.1, fun a ha hs => rate_mul_le (hwf a ha) key.1 (key.2 a ha hs)⟩

def rems (l : List Action) : List Rat := l.map (·.remains)

/-- pointwise `≥` on the common prefix: actions keep their position in a run, new ones are appended -/
inductive PrefLE : List Rat → List Rat → Prop
  | nil (ys : List Rat) : PrefLE [] ys
  | cons {x y : Rat} {xs ys : List Rat} : y ≤ x → PrefLE xs ys → PrefLE (x :: xs) (y :: ys)

theorem PrefLE.refl : ∀ l, PrefLE l l
  | [] => .nil _
  | _ :: xs => .cons Rat.le_refl (PrefLE.refl xs)

theorem PrefLE.trans : ∀ {a b c : List Rat}, PrefLE a b → PrefLE b c → PrefLE a c := by
  intro a b c hab
  induction hab generalizing c with
  | nil ys => intro _; exact .nil _
  | cons hxy _ ih =>
    intro hbc
    cases hbc with
    | cons hyz hrest => exact .cons (Rat.le_trans hyz hxy) (ih hrest)

theorem PrefLE.append (l : List Rat) (e : List Rat) : PrefLE l (l ++ e) := by
  induction l with
  | nil => exact .nil _
  | cons x xs ih => exact .cons Rat.le_refl ih

theorem prefLE_map (f : Action → Action) : ∀ (l : List Action), (∀ a ∈ l, (f a).remains ≤ a.remains) →
    PrefLE (rems l) (rems (l.map f)) := by
  intro l
  induction l with
  | nil => intro _; exact .nil _
  | cons x xs ih =>
    intro h
    obtain ⟨h1, h'⟩ := List.forall_mem_cons.mp h
    exact .cons h1 (ih h')

theorem prefLE_modifyAt (f : Action → Action) (hf : ∀ a, (f a).remains = a.remains) :
    ∀ (l : List Action) (i : Nat), PrefLE (rems l) (rems (modifyAt l i f))
  | [], _ => .nil _
  | x :: xs, 0 => .cons (by show (f x).remains ≤ x.remains; rw [hf x]; exact Rat.le_refl) (.refl _)
  | x :: xs, i + 1 => .cons Rat.le_refl (prefLE_modifyAt f hf xs i)

theorem rems_assignFrom (rates : List Action → Nat → Rat) (whole : List Action) :
    ∀ (l : List Action) (i : Nat), rems (assignFrom rates whole i l) = rems l := by
  intro l
  induction l with
  | nil => intro i; rfl
  | cons x xs ih =>
    intro i
    have := ih (i + 1)
    simp [assignFrom, rems] at this ⊢
    refine ⟨?_, this⟩
    split <;> rfl

theorem exec_step (p : Prec) (hp : 0 ≤ p.work) (rates : List Action → Nat → Rat) (hr : ∀ l i, 0 ≤ rates l i)
    (s : Sys) (c : Cmd) (hc : c.Valid) (h : s.Inv p) :
    (s.exec p rates c).Inv p ∧ PrefLE (rems s.acts) (rems (s.exec p rates c).acts) := by
  cases c with
  | start k cost bound pen lat =>
    refine ⟨fun a ha => ?_, by simp only [Sys.exec, rems, List.map_append]; exact PrefLE.append _ _⟩
    simp [Sys.exec] at ha
    rcases ha with ha | rfl
    · exact h a ha
    · -- the Action constructor: `remains = cost`, nothing done yet, variable disabled or at the penalty
      refine ⟨⟨hc.1, (by show (0 : Rat) ≤ 1; grind), Rat.le_refl, fun _ => rfl, ?_⟩, nofun, Or.inl rfl, fun _ _ => ?_⟩
      · simp only; split
        · exact Or.inl rfl
        · exact Or.inr rfl
      · exact ⟨by simp [Rat.zero_add], by simp [Rat.zero_add, Rat.sub_self]; exact hp, fun _ => by simp [Rat.zero_add]⟩
  | suspend i =>
    exact ⟨modifyAt_forall (fun a ha => suspend_inv ha) s.acts i h,
      prefLE_modifyAt _ (fun a => by unfold Action.suspend; split <;> rfl) _ _⟩
  | resume i =>
    exact ⟨modifyAt_forall (fun a ha => resume_inv ha) s.acts i h,
      prefLE_modifyAt _ (fun a => by unfold Action.resume; split <;> rfl) _ _⟩
  | setBound i b =>
    exact ⟨modifyAt_forall (fun a ha => setBound_inv b ha) s.acts i h, prefLE_modifyAt (·.setBound b) (fun _ => rfl) _ _⟩
  | setPenalty i q =>
    exact ⟨modifyAt_forall (fun a ha => setPenalty_inv q ha) s.acts i h,
      prefLE_modifyAt (·.setPenalty q) (fun _ => rfl) _ _⟩
  | advance other =>
    have hacts := assignRates_inv p rates hr s h
    have hrem : rems (assignRates rates s.acts) = rems s.acts := rems_assignFrom rates s.acts s.acts 0
    simp only [Sys.exec]
    cases hcd : chooseDelta (assignRates rates s.acts) other with
    | none => exact ⟨hacts, by simp only; rw [hrem]; exact PrefLE.refl _⟩
    | some d =>
      have ho : ∀ o, other = some o → 0 ≤ o := by intro o ho; subst ho; exact hc
      have hsp := step_never_overshoots _ other (fun a ha => (hacts a ha).wf) ho d hcd
      refine ⟨fun b hb => ?_, ?_⟩
      · obtain ⟨a, ha, rfl⟩ := List.mem_map.mp hb
        exact stepFull_inv p hp _ d hsp.1 a (hacts a ha) (hsp.2 a ha)
      · simp only; rw [← hrem]
        exact prefLE_map _ _ (fun a ha => stepFull_remains_le p hp _ d hsp.1 a (hacts a ha).wf)

theorem run_step (p : Prec) (hp : 0 ≤ p.work) (rates : List Action → Nat → Rat) (hr : ∀ l i, 0 ≤ rates l i) :
    ∀ (cmds : List Cmd) (s : Sys), (∀ c ∈ cmds, c.Valid) → s.Inv p →
      (Sys.run p rates s cmds).Inv p ∧ PrefLE (rems s.acts) (rems (Sys.run p rates s cmds).acts) := by
  intro cmds
  induction cmds with
  | nil => intro s _ h; exact ⟨h, PrefLE.refl _⟩
  | cons c cs ih =>
    intro s hv h
    obtain ⟨hc, hv'⟩ := List.forall_mem_cons.mp hv
    have h1 := exec_step p hp rates hr s c hc h
    have h2 := ih _ hv' h1.1
    exact ⟨h2.1, PrefLE.trans h1.2 h2.2⟩

/-- **work_conserved** (CPU and network actions, no deadline).  At every point of every run, for every action:
nothing is lost (`done + remains ≤ cost`), at most the clamp precision is missing (`cost - (done+remains) ≤ prec`), and an
action that completed has `remains = 0`: it received `cost` up to `prec` — exactly `cost` when `prec = 0` (next theorem).
`done` is the ghost sum Σ rate·δ over the engine rounds of the action's life. -/
theorem work_conserved (p : Prec) (hp : 0 ≤ p.work) (rates : List Action → Nat → Rat) (hr : ∀ l i, 0 ≤ rates l i)
    (cmds : List Cmd) (hv : ∀ c ∈ cmds, c.Valid) :
    ∀ a ∈ (Sys.run p rates {} cmds).acts, a.Plain → a.kind ≠ .disk →
      a.done + a.remains ≤ a.cost ∧ a.cost - (a.done + a.remains) ≤ p.work ∧
      (a.state = .finished → a.remains = 0 ∧ a.cost - p.work ≤ a.done ∧ a.done ≤ a.cost) := by
  have hinv := (run_step p hp rates hr cmds {} hv (by intro a ha; cases ha)).1
  intro a ha hpl hk
  have hi := hinv a ha
  have hc := hi.cons hpl hk
  refine ⟨hc.le, hc.slack, ?_⟩
  intro hf
  have h0 := hi.fin hf
  have h1 := hc.le; have h2 := hc.slack
  rw [h0] at h1 h2
  exact ⟨h0, by grind, by grind⟩

/-- exact arithmetic (`sg_precision_workamount·sg_precision_timing = 0`): a completed action received exactly its cost -/
theorem work_conserved_exact (p : Prec) (hp : p.work = 0) (rates : List Action → Nat → Rat) (hr : ∀ l i, 0 ≤ rates l i)
    (cmds : List Cmd) (hv : ∀ c ∈ cmds, c.Valid) :
    ∀ a ∈ (Sys.run p rates {} cmds).acts, a.Plain → a.kind ≠ .disk →
      a.done + a.remains = a.cost ∧ (a.state = .finished → a.done = a.cost ∧ a.remains = 0) := by
  intro a ha hpl hk
  have h := work_conserved p (by rw [hp]; exact Rat.le_refl) rates hr cmds hv a ha hpl hk
  rw [hp] at h
  refine ⟨by grind, fun hf => ?_⟩
  have := h.2.2 hf
  exact ⟨by grind, this.1⟩

/-- **remaining_monotone**: along every run, the remaining work of every action never increases (and stays ≥ 0, see
`run_step`): the list of `remains` after the run is pointwise ≤ the list before, position by position. -/
theorem remaining_monotone (p : Prec) (hp : 0 ≤ p.work) (rates : List Action → Nat → Rat) (hr : ∀ l i, 0 ≤ rates l i) :
    ∀ (cmds : List Cmd) (s : Sys), (∀ c ∈ cmds, c.Valid) → s.Inv p →
      PrefLE (rems s.acts) (rems (Sys.run p rates s cmds).acts) :=
  fun cmds s hv h => (run_step p hp rates hr cmds s hv h).2

theorem remaining_nonneg (p : Prec) (hp : 0 ≤ p.work) (rates : List Action → Nat → Rat) (hr : ∀ l i, 0 ≤ rates l i)
    (cmds : List Cmd) (hv : ∀ c ∈ cmds, c.Valid) : ∀ a ∈ (Sys.run p rates {} cmds).acts, 0 ≤ a.remains :=
  fun a ha => ((run_step p hp rates hr cmds {} hv (by intro a ha; cases ha)).1 a ha).wf.rem

/-- `Constraint::get_load()` of a SHARED constraint used (weight 1) by the actions at the positions selected by `uses`:
Σ value over the enabled variables of running actions -/
def load (uses : Nat → Bool) : Nat → List Action → Rat
  | _, [] => 0
  | i, a :: as => (if uses i ∧ 0 < a.varPenalty ∧ a.state = .started then a.varValue else 0) + load uses (i + 1) as

/-- what the solver allocates on that constraint -/
def allocated (uses : Nat → Bool) (rates : List Action → Nat → Rat) (whole : List Action) : Nat → List Action → Rat
  | _, [] => 0
  | i, a :: as => (if uses i ∧ 0 < a.varPenalty ∧ a.state = .started then rates whole i else 0)
      + allocated uses rates whole (i + 1) as

theorem load_assignFrom (uses : Nat → Bool) (rates : List Action → Nat → Rat) (whole : List Action) :
    ∀ (l : List Action) (i : Nat), load uses i (assignFrom rates whole i l) = allocated uses rates whole i l := by
  intro l
  induction l with
  | nil => intro i; rfl
  | cons a as ih =>
    intro i
    simp only [assignFrom, load, allocated, ih (i + 1)]
    by_cases h1 : 0 < a.varPenalty ∧ a.state = .started
    · simp only [if_pos h1]
    · simp only [if_neg h1]
      have : ¬ (uses i = true ∧ 0 < a.varPenalty ∧ a.state = .started) := fun h => h1 h.2
      simp [this]

/-- **load_le_capacity**: if the allocation chosen by `rates` is feasible for a constraint of capacity `cap` (C15), the load
observed after the solve (`Host::get_load`, `Link::get_load`) is within the capacity, and suspending / resuming / changing
bounds between two solves never raises it. -/
theorem load_le_capacity (uses : Nat → Bool) (rates : List Action → Nat → Rat) (cap : Rat) (l : List Action)
    (hfeas : allocated uses rates l 0 l ≤ cap) : load uses 0 (assignRates rates l) ≤ cap := by
  unfold assignRates; rw [load_assignFrom]; exact hfeas

theorem load_modifyAt_le (uses : Nat → Bool) (f : Action → Action)
    (hf : ∀ a : Action, 0 ≤ a.varValue →
      (if 0 < (f a).varPenalty ∧ (f a).state = .started then (f a).varValue else 0) ≤
        (if 0 < a.varPenalty ∧ a.state = .started then a.varValue else 0)) :
    ∀ (l : List Action) (i j : Nat), (∀ a ∈ l, 0 ≤ a.varValue) → load uses j (modifyAt l i f) ≤ load uses j l := by
  intro l
  induction l with
  | nil => intro i j _; exact Rat.le_refl
  | cons a as ih =>
    intro i j hv
    cases i with
    | zero =>
      simp only [modifyAt, load]
      cases uses j with
      | true => simp only [true_and]; exact Rat.add_le_add_right.mpr (hf a (hv a (List.mem_cons_self ..)))
      | false => simp only [Bool.false_eq_true, false_and, if_false]; exact Rat.le_refl
    | succ k =>
      simp only [modifyAt, load]
      exact Rat.add_le_add_left.mpr (ih k (j + 1) (fun b hb => hv b (List.mem_cons_of_mem _ hb)))

/-- suspending an action never raises a load (`disable_var` zeroes its value) -/
theorem load_suspend_le (uses : Nat → Bool) (l : List Action) (i : Nat) (hv : ∀ a ∈ l, 0 ≤ a.varValue) :
    load uses 0 (modifyAt l i Action.suspend) ≤ load uses 0 l := by
  refine load_modifyAt_le uses _ ?_ l i 0 hv
  intro a ha
  unfold Action.suspend
  split
  · rw [if_neg (fun h => absurd h.1 Rat.lt_irrefl)]
    split
    · exact ha
    · exact Rat.le_refl
  · exact Rat.le_refl

theorem sum_eq_of_forall_eq (x : List Rat) (v : Rat) (h : ∀ w ∈ x, w = v) : x.sum = x.length * v := by
  induction x with
  | nil => simp
  | cons a as ih =>
    obtain ⟨h1, h'⟩ := List.forall_mem_cons.mp h
    have h2 := ih h'
    simp only [List.sum_cons, List.length_cons, Rat.natCast_add, Rat.add_mul]
    have : ((1 : Nat) : Rat) * v = v := by simp [Rat.one_mul]
    grind

/-- symmetric max-min system in general form: `k = x.length` variables of equal penalty and bound `B` on one constraint
of capacity `C` (weight 1): feasibility + bottleneck condition force `min(B, C/k)` for everybody -/
theorem sym_share (B C : Rat) (x : List Rat) (hbound : ∀ v ∈ x, v ≤ B) (hcap : x.sum ≤ C)
    (hbn : ∀ v ∈ x, v = B ∨ (x.sum = C ∧ ∀ w ∈ x, w ≤ v)) :
    ∀ v ∈ x, v = if (x.length : Rat) * B ≤ C then B else C / x.length := by
  intro v hv
  have hkq : (0 : Rat) < (x.length : Rat) := Rat.natCast_pos.mpr (List.length_pos_of_mem hv)
  by_cases hall : ∀ w ∈ x, w = B
  · rw [if_pos (by rw [← sum_eq_of_forall_eq x B hall]; exact hcap)]
    exact hall v hv
  · -- somebody is below the bound: the constraint is saturated and he is maximal, so everybody sits at his level
    have ⟨v0, hv0, hne⟩ : ∃ v0 ∈ x, v0 ≠ B := Classical.byContradiction fun hno =>
      hall fun w hw => Classical.byContradiction fun hne => hno ⟨w, hw, hne⟩
    have ⟨hsum, hmax0⟩ := (hbn v0 hv0).resolve_left hne
    have hlt0 : v0 < B := Rat.lt_of_le_of_ne (hbound v0 hv0) hne
    have hall0 : ∀ w ∈ x, w = v0 := fun w hw =>
      Rat.le_antisymm (hmax0 w hw) (((hbn w hw).resolve_left
        fun h => absurd (h ▸ hmax0 w hw) (Rat.not_le.mpr hlt0)).2 v0 hv0)
    have hprod : v0 * x.length = C := by rw [Rat.mul_comm, ← sum_eq_of_forall_eq x v0 hall0]; exact hsum
    rw [if_neg (by rw [← hprod, Rat.mul_comm]; exact Rat.not_le.mpr ((Rat.mul_lt_mul_right hkq).mpr hlt0)),
      hall0 v hv, ← hprod, Rat.mul_div_cancel (Rat.ne_of_gt hkq)]

/-- max-min fair allocations of `k = x.length` execs of `t` threads each (`variable_new(action, 1/t, t·S, 1)`: equal
penalties, bound `t·S`) on an `n`-core host of speed `S` (capacity `n·S`, weight 1) -/
structure MaxMinSymT (S : Rat) (n t : Nat) (x : List Rat) : Prop where
  nonneg : ∀ v ∈ x, 0 ≤ v
  bound : ∀ v ∈ x, v ≤ t * S
  cap : x.sum ≤ n * S
  bottleneck : ∀ v ∈ x, v = t * S ∨ (x.sum = n * S ∧ ∀ w ∈ x, w ≤ v)

/-- **equal_execs_share_threads**: in every max-min fair allocation of `k` equal `t`-thread execs on an `n`-core host of
speed `S`, each progresses at `S·min(t, n/k)` (`equalShareT`: what the per-step monitor of the driver compares the sampled
runs with, `S` being the speed the platform description puts in force during the step). -/
theorem equal_execs_share_threads (S : Rat) (hS : 0 < S) (n t : Nat) (x : List Rat) (h : MaxMinSymT S n t x) :
    ∀ v ∈ x, v = equalShareT S n x.length t := by
  intro v hv
  have key := sym_share (t * S) (n * S) x h.bound h.cap h.bottleneck v hv
  rw [key]
  unfold equalShareT
  have hassoc : (x.length : Rat) * (t * S) = ((x.length * t : Nat) : Rat) * S := by
    rw [Rat.natCast_mul, Rat.mul_assoc]
  by_cases hc : x.length * t ≤ n
  · have h1 : ((x.length * t : Nat) : Rat) * S ≤ n * S :=
      Rat.mul_le_mul_of_nonneg_right (Rat.natCast_le_natCast.mpr hc) (Rat.le_of_lt hS)
    rw [if_pos (by rw [hassoc]; exact h1), if_pos hc]
  · have h1 : (n : Rat) * S < ((x.length * t : Nat) : Rat) * S :=
      (Rat.mul_lt_mul_right hS).mpr (Rat.natCast_lt_natCast.mpr (by omega))
    have h2 : ¬ ((x.length : Rat) * (t * S) ≤ n * S) := by rw [hassoc]; grind
    rw [if_neg h2, if_neg hc, Rat.mul_comm]

theorem equalShareT_one (S : Rat) (n k : Nat) : equalShareT S n k 1 = equalShare S n k := by
  unfold equalShareT equalShare
  simp [Rat.one_mul]

/-- max-min fair allocations of the symmetric system: `k = x.length` variables of penalty 1 and bound `S` (single-core
execs) sharing one constraint of capacity `n·S` (an `n`-core host) with weight 1 — feasibility plus the bottleneck
condition characterising max-min fairness (every variable is at its bound, or sits on a saturated constraint on which
it is maximal).  Stated on its own: no theorem ties it to `FairAlloc` of Lmm (C16) or to what the solver returns. -/
structure MaxMinSym (S : Rat) (n : Nat) (x : List Rat) : Prop where
  nonneg : ∀ v ∈ x, 0 ≤ v
  bound : ∀ v ∈ x, v ≤ S
  cap : x.sum ≤ n * S
  bottleneck : ∀ v ∈ x, v = S ∨ (x.sum = n * S ∧ ∀ w ∈ x, w ≤ v)

/-- **equal_execs_share**: in every max-min fair allocation of `k` equal single-core execs on an `n`-core host of speed
`S`, each exec progresses at `S·min(1, n/k)` (closed form `equalShare`, what the sampled runs are compared with). -/
theorem equal_execs_share (S : Rat) (hS : 0 < S) (n : Nat) (x : List Rat) (h : MaxMinSym S n x) :
    ∀ v ∈ x, v = equalShare S n x.length := by
  intro v hv
  have h1 : ((1 : Nat) : Rat) * S = S := by simp [Rat.one_mul]
  rw [← equalShareT_one]
  exact equal_execs_share_threads S hS n 1 x
    ⟨h.nonneg, by rw [h1]; exact h.bound, h.cap, by rw [h1]; exact h.bottleneck⟩ v hv

/-- `MaxMinSymT` is inhabited: 2 execs of 2 threads on 4 cores of speed 6 get 12 each; 3 execs of 2 threads get 8 each -/
example : MaxMinSymT 6 4 2 [12, 12] := by
  refine ⟨?_, ?_, ?_, ?_⟩ <;> simp <;> grind

example : MaxMinSymT 6 4 2 [8, 8, 8] := by
  refine ⟨?_, ?_, ?_, ?_⟩ <;> simp <;> grind

/-- hypotheses of `work_conserved` / `remaining_monotone` are satisfiable by a non-trivial history -/
example : ∀ c ∈ [Cmd.start .cpu 10 (-1) 1 0, .start .net 100 (-1) 2 3, .advance (some 1), .suspend 0, .advance none,
                 .resume 0, .setPenalty 1 4, .setBound 0 5, .advance none], c.Valid := by
  intro c hc
  simp at hc
  rcases hc with rfl | rfl | rfl | rfl | rfl | rfl | rfl | rfl | rfl <;> simp [Cmd.Valid] <;> grind

/-- … and such a run does complete actions with exactly their cost (evaluation of the model, `prec = 0`, rate 5):
`#eval` of `(Sys.run ⟨0,0⟩ (fun _ _ => 5) {} [.start .cpu 10 (-1) 1 0, .advance none]).acts.map (·.done)` gives `[10]`. -/
example : (∀ l i, (0 : Rat) ≤ (fun (_ : List Action) (_ : Nat) => (5 : Rat)) l i) := by intro _ _; grind

/-- hypotheses of `completion_exact`: a running action of cost 10 with 4 left, rate 2, step 2 (completes), step 1 (does not) -/
example : let a : Action := { cost := 10, remains := 4, done := 6, varValue := 2 }
    a.WF ∧ a.Plain ∧ a.kind ≠ .disk ∧ a.state = .started ∧ a.rate * 2 ≤ a.remains ∧ a.Cons ⟨0, 0⟩ := by
  refine ⟨?_, ⟨rfl, rfl⟩, nofun, rfl, ?_, ?_⟩
  · constructor <;> decide +kernel
  · decide +kernel
  · constructor <;> decide +kernel

/-- `MaxMinSym` is inhabited in both regimes: 3 execs on 2 cores of speed 6 get 4 each, 2 execs on 4 cores get 6 each -/
example : MaxMinSym 6 2 [4, 4, 4] := by
  refine ⟨?_, ?_, ?_, ?_⟩ <;> simp <;> grind

example : MaxMinSym 6 4 [6, 6] := by
  refine ⟨?_, ?_, ?_, ?_⟩ <;> simp <;> grind

end SgVerif.C21
