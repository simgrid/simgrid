import SgVerif.C23.Model
import Mathlib.Tactic.Linarith
import Mathlib.Algebra.Order.Field.Basic
import Mathlib.Tactic.Ring
import Mathlib.Tactic.SplitIfs
/-
C23 — energy accounting integrates the power model.
All theorems are for every platform description (power tables, speeds, cores), every timeline (any number of intervals).
`integral` sums `watts`, the model of `get_current_watts_value()`; `watts_is_power_model` says when that is the documented
function.
-/
namespace SgVerif.C23

/-- the documented power function: off power while off, idle power when unloaded, `epsilon + load*(max - epsilon)` of the
current pstate otherwise, with `load` = used fraction of the cores (here: flop/s in use / (speed * cores), at most 1) -/
theorem watts_is_power_model (c : HostCfg) (ps : Nat) (load : Rat) (r : PowerRange) (speed : Rat)
    (hr : c.ranges[ps]? = some r) (hs : c.speeds.getD ps 0 = speed) (hsp : 0 < speed) (hc : 0 < c.cores)
    (hl0 : 0 ≤ load) (hl1 : load ≤ speed * c.cores) :
    watts c none load = c.wattsOff ∧
    watts c (some ps) load =
      (if load = 0 then r.idle else r.epsilon + (load / (speed * c.cores)) * (r.max - r.epsilon)) := by
  refine ⟨rfl, ?_⟩
  have hne : c.ranges.isEmpty = false := by
    cases h : c.ranges with
    | nil => rw [h] at hr; simp at hr
    | cons _ _ => rfl
  have hcq : (0 : Rat) < (c.cores : Rat) := by exact_mod_cast hc
  have hle : load / speed / (c.cores : Rat) ≤ 1 := by
    rw [div_div, div_le_one (mul_pos hsp hcq)]; exact hl1
  simp only [watts, hs, not_le.mpr hsp, if_false, hne, Bool.false_eq_true, hr, not_lt.mpr hle]
  by_cases h0 : load = 0
  · simp [h0]
  · have hpos : 0 < load := lt_of_le_of_ne hl0 (Ne.symm h0)
    have hpos2 : load / (speed * (c.cores : Rat)) > 0 := div_pos hpos (mul_pos hsp hcq)
    simp only [h0, if_false, div_div]
    rw [if_pos hpos2]

/-- **energy_eq_integral**: if `update` is called at the end of every interval on which load, pstate and on/off are
constant (which is what the plugin's subscriptions to on_onoff / on_speed_change / on_exec_state_change / Exec::on_start
provide, each firing before the LMM is solved again), the accumulated energy is the integral of the power function:
`total = total_0 + Σ power(state_i, load_i) * dur_i` — ∀ timelines with positive durations. -/
theorem energy_eq_integral (c : HostCfg) (h : HE) (segs : List Seg)
    (hdur : ∀ s ∈ segs, 0 < s.dur) (hstate : ∀ s, segs.head? = some s → h.pstate = s.state) :
    (runSegs c h segs).total = h.total + integral c segs := by
  induction segs generalizing h with
  | nil => simp [runSegs, integral]
  | cons s r ih =>
    obtain ⟨hd, hdur'⟩ := List.forall_mem_cons.mp hdur
    have hps : h.pstate = s.state := hstate s rfl
    have hlt : h.last < h.last + s.dur := by linarith
    cases r with
    | nil =>
      simp only [runSegs, update, hlt, if_true, integral, hps]
      ring
    | cons s2 r2 =>
      simp only [runSegs]
      rw [ih _ hdur']
      · simp only [update, hlt, if_true, integral, hps]
        ring
      · intro x hx
        simp only [List.head?_cons, Option.some.injEq] at hx
        subst hx
        simp only [update, stateOn, statePs]
        cases s2.state <;> rfl

/-- **energy_monotone**: with non-negative powers in the platform description, an `update` never decreases the total -/
theorem energy_monotone (c : HostCfg) (h : HE) (now load : Rat) (isOn : Bool) (ps : Nat)
    (hw : ∀ st l, 0 ≤ watts c st l) : h.total ≤ (update c h now load isOn ps).total := by
  simp only [update]
  split_ifs with hlt
  · have := hw h.pstate load
    have : 0 ≤ watts c h.pstate load * (now - h.last) := mul_nonneg this (by linarith)
    simp only
    linarith
  · exact le_refl _

/-- the hypothesis of `energy_monotone` follows from non-negative entries `0 ≤ idle`, `0 ≤ epsilon ≤ max`, `0 ≤ off` -/
theorem watts_nonneg (c : HostCfg) (hoff : 0 ≤ c.wattsOff)
    (hr : ∀ r ∈ c.ranges, 0 ≤ r.idle ∧ 0 ≤ r.epsilon ∧ r.epsilon ≤ r.max) (st : Option Nat) (l : Rat) :
    0 ≤ watts c st l := by
  cases st with
  | none => exact hoff
  | some ps =>
    simp only [watts]
    by_cases h1 : c.ranges.isEmpty = true
    · simp [h1]
    · simp only [h1]
      cases hq : c.ranges[ps]? with
      | none => simp
      | some r =>
        have hm := hr r (List.mem_of_getElem? hq)
        have key : ∀ cl : Rat, 0 ≤ (if cl > 0 then r.epsilon + cl * (r.max - r.epsilon) else r.idle) := by
          intro cl
          split_ifs with h5
          · have : 0 ≤ cl * (r.max - r.epsilon) := mul_nonneg (le_of_lt h5) (by linarith [hm.2.2])
            linarith [hm.2.1]
          · exact hm.1
        exact key _

/-- **link energy**: `update` at the end of every interval of constant load accumulates the integral of
`idle + (busy - idle) * load / bandwidth` -/
theorem link_energy_eq_integral (idle busy bw : Rat) (l : LE) (segs : List (Rat × Rat)) :
    (linkRun idle busy bw l segs).total = l.total + linkIntegral idle busy bw segs := by
  induction segs generalizing l with
  | nil => simp [linkRun, linkIntegral]
  | cons s r ih =>
    obtain ⟨d, load⟩ := s
    simp only [linkRun, linkIntegral]
    rw [ih]
    simp only [linkUpdate]
    ring

example : (runSegs { ranges := [{ idle := 100, epsilon := 120, max := 200 }], speeds := [1024], cores := 4, wattsOff := 10 }
    { total := 0, last := 0, pstate := some 0 } [{ dur := 2, load := 1024, state := some 0 }, { dur := 3, load := 0, state := none }]).total
    = 0 + integral { ranges := [{ idle := 100, epsilon := 120, max := 200 }], speeds := [1024], cores := 4, wattsOff := 10 }
        [{ dur := 2, load := 1024, state := some 0 }, { dur := 3, load := 0, state := none }] := by
  apply energy_eq_integral
  · intro s hs; simp at hs; rcases hs with rfl | rfl <;> norm_num
  · intro s hs; simp at hs; subst hs; rfl

end SgVerif.C23
