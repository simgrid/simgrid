/-
C05 — Semaphore semantics: token conservation, reported capacity, FIFO, timeouts.

Model: SgVerif/Sync/Model.lean (SemaphoreImpl.cpp as it is now: a timer is armed when timeout >= 0, so a zero timeout
times out at the next scheduling point instead of blocking for ever) + the ghost run of C05/Model.lean.
History-level theorems are for EVERY history of acquire / acquire_timeout / release / timer events by any actors,
any capacity.  `value_` is an unsigned int in the code; wrap-around after 2^32 releases is not modelled.
The `split_*` theorems take SEM_ASYNC_LOCK and SEM_WAIT (the path of the model checker) as separate events, in any
interleaving (run of C05/Split.lean).
-/
import SgVerif.C05.Lemmas
import SgVerif.C05.SplitLemmas
namespace SgVerif.C05
open SgVerif.Sync

structure Inv (t : St) : Prop where
  conserve : t.s.value + t.grants = t.cap + t.releases
  empty : t.s.queue ≠ [] → t.s.value = 0
  waited : ∀ q ∈ t.s.queue, q.waited = true

/-- every reachable state of the one-simcall run is, ghosts aside, a reachable state of the split run (`GInv`) -/
theorem inv_run {c : Nat} {es : List SEv} {t : St} {o : Outs} (h : run (St.init c) es = .ok (t, o)) :
    Inv t ∧ t.cap = c := by
  obtain ⟨g, hg, rfl⟩ := grun_of_run es (g := GSt.init c) h
  obtain ⟨x, k, hx, hc, hw, rfl⟩ := ginv_run es (ginv_init c) hg
  exact ⟨⟨hx.conserve, hx.empty, hw⟩, hc⟩

/-- Token conservation: never more grants than capacity + releases (every history). -/
theorem sem_conservation (c : Nat) (es : List SEv) (t : St) (o : Outs) (h : run (St.init c) es = .ok (t, o)) :
    t.grants ≤ c + t.releases := by
  obtain ⟨hi, hcap⟩ := inv_run h
  have := hi.conserve
  omega

/-- The reported capacity (get_capacity = value_) is capacity + releases − grants at every point of every history —
in particular when nobody waits; and somebody waits only when it is 0. -/
theorem capacity_eq (c : Nat) (es : List SEv) (t : St) (o : Outs) (h : run (St.init c) es = .ok (t, o)) :
    t.s.value + t.grants = t.cap + t.releases ∧ (t.s.queue ≠ [] → t.s.value = 0) :=
  ⟨(inv_run h).1.conserve, (inv_run h).1.empty⟩

/-- A timeout consumes no token and is not a grant: value_, grants and releases are unchanged by the timer event. -/
theorem timeout_consumes_nothing (t t' : St) (a : Aid) (o : Outs) (h : step t (.timeout a) = .ok (t', o)) :
    t'.s.value = t.s.value ∧ t'.grants = t.grants ∧ t'.releases = t.releases ∧ o = [(a, .flag true)] := by
  simp only [step] at h
  split at h
  · cases h
  · rename_i hs
    obtain ⟨rfl, rfl⟩ := Prod.mk.inj (Except.ok.inj h)
    obtain ⟨rfl, rfl, -⟩ := timeout_ok hs
    exact ⟨rfl, rfl, rfl, rfl⟩

/-- the timer event is possible only for an acquisition that is still waiting (not granted) with a timer armed -/
theorem timeout_only_if_not_granted (s : Sem) (a : Aid) (s' : Sem) (r : Res) (h : s.timeout a = .ok (s', r)) :
    ∃ q ∈ s.queue, q.issuer = a ∧ q.waited = true ∧ q.timed = true :=
  (timeout_ok h).2.2

/-- SemAcquisitionImpl::finish(): a timeout is reported iff a timer was armed, it fired, and the acquisition was not
granted — so a grant that arrives exactly at the deadline wins (the `granted_` test). -/
theorem timeout_reported_iff (hasTimer fired granted : Bool) :
    semFinish hasTimer fired granted = true ↔ (hasTimer = true ∧ fired = true ∧ granted = false) := by
  cases hasTimer <;> cases fired <;> cases granted <;> simp [semFinish]

theorem grant_at_deadline_wins : semFinish true true true = false := rfl

/-- a waiter woken by a release never reports a timeout, whatever its timer (it has not fired: the action is unref'd) -/
theorem release_completion_not_timeout (t t' : St) (a : Aid) (o : Outs) (h : step t (.release a) = .ok (t', o)) :
    ∀ b r, (b, r) ∈ o → r = .unit ∨ r = .flag false := by
  simp only [step] at h
  split at h
  · simp at h
  · simp only [Except.ok.injEq, Prod.mk.injEq] at h
    obtain ⟨-, rfl⟩ := h
    intro b r hm
    simp only [List.mem_append, List.mem_singleton, Prod.mk.injEq] at hm
    rcases hm with hm | hm
    · split at hm
      · split at hm
        · simp only [List.mem_singleton, Prod.mk.injEq] at hm
          right; rw [hm.2]; simp [semFinish]
        · simp at hm
      · simp at hm
    · left; exact hm.2

/-- FIFO (step level): release grants the head of the queue; a new waiter goes to the tail; a timeout removes only
its own entry.  -/
theorem sem_fifo_partial (s : Sem) (a : Aid) :
    (∀ acq rest, s.queue = acq :: rest → s.release = ({ s with queue := rest }, some acq)) ∧
    ((s.acquireAsync a).1.queue = s.queue ∨ (s.acquireAsync a).1.queue = s.queue ++ [{ issuer := a }]) ∧
    ((eraseS a s.queue).filter (fun q => q.issuer ≠ a) = s.queue.filter (fun q => q.issuer ≠ a)) := by
  refine ⟨fun _ _ => release_cons, ?_, ?_⟩
  · unfold Sem.acquireAsync; split <;> simp
  · induction s.queue with
    | nil => rfl
    | cons x xs ih =>
      simp only [eraseS]
      split
      · rename_i hx; simp [hx]
      · rename_i hx
        simp only [ne_eq, decide_not] at ih
        simp [hx, ih]

/-! `grun` is `run` with ticket ghosts attached (C05/Model.lean; `sem_fifo_same_run`: same states, same answers, same
accepted histories).  Ticket k = the k-th request of the history that had to queue; `g.reqs[k]` its issuer. -/

/-- **FIFO, every history** of acquire / acquire_timeout / release / timer events, any capacity, any actors:
(1) the tickets granted by `release` to blocked acquirers so far, in the order of the grants, followed by the tickets
still in `ongoing_acquisitions_`, in queue order, are exactly ALL tickets in request order minus those removed by their
timeout — so the sequence of grants is the request sequence with the timed-out requests struck out, cut at the number
of grants; (2) each of those grants went to the actor that issued that request; (3) the ghost queue is the kernel
queue, position by position. -/
theorem sem_fifo (c : Nat) (es : List SEv) (g : GSt) (o : Outs) (h : grun (GSt.init c) es = .ok (g, o)) :
    g.granted.map (·.1) ++ g.tq = (List.range g.reqs.length).filter (fun k => !g.touts.contains k) ∧
    (∀ x ∈ g.granted, g.reqs[x.1]? = some x.2) ∧
    g.tq.map (fun k => g.reqs[k]?) = g.t.s.queue.map (fun x => some x.issuer) := by
  obtain ⟨_, _, hi, -, -, rfl⟩ := ginv_run es (ginv_init c) h
  exact ⟨hi.part, hi.gr, hi.par⟩

/-- the ticket ghosts observe, they do not steer: a history is accepted by `run` iff it is by `grun`, with the same
semaphore state, counters and answers -/
theorem sem_fifo_same_run (c : Nat) (es : List SEv) :
    (∀ g o, grun (GSt.init c) es = .ok (g, o) → run (St.init c) es = .ok (g.t, o)) ∧
    (∀ t o, run (St.init c) es = .ok (t, o) → ∃ g, grun (GSt.init c) es = .ok (g, o) ∧ g.t = t) :=
  ⟨fun _ _ h => grun_t es h, fun _ _ h => grun_of_run es (g := GSt.init c) h⟩

/-- blocked acquirers are granted in request order: the tickets of successive grants increase strictly, and everything
still queued is younger than every grant made -/
theorem sem_fifo_grant_order (c : Nat) (es : List SEv) (g : GSt) (o : Outs) (h : grun (GSt.init c) es = .ok (g, o)) :
    (g.granted.map (·.1)).Pairwise (· < ·) ∧ g.tq.Pairwise (· < ·) ∧
    ∀ k ∈ g.granted.map (·.1), ∀ j ∈ g.tq, k < j := by
  obtain ⟨_, _, hi, -, -, rfl⟩ := ginv_run es (ginv_init c) h
  exact List.pairwise_append.mp hi.sorted

/-- no overtaking: when a request has been granted, every earlier request has been granted before it or was removed
by its own timeout -/
theorem sem_fifo_no_overtake (c : Nat) (es : List SEv) (g : GSt) (o : Outs) (h : grun (GSt.init c) es = .ok (g, o))
    (k : Nat) (hk : k ∈ g.granted.map (·.1)) (j : Nat) (hj : j < k) : j ∈ g.granted.map (·.1) ∨ j ∈ g.touts := by
  obtain ⟨_, _, hi, -, -, rfl⟩ := ginv_run es (ginv_init c) h
  exact hi.no_overtake hk hj

/-- the next `release` serves the oldest outstanding request: the head of the queue has the smallest ticket among the
requests neither granted nor timed out -/
theorem sem_fifo_next_is_oldest (c : Nat) (es : List SEv) (g : GSt) (o : Outs) (h : grun (GSt.init c) es = .ok (g, o))
    (k : Nat) (ks : List Nat) (hq : g.tq = k :: ks) (j : Nat) (hj : j < g.reqs.length)
    (hng : j ∉ g.granted.map (·.1)) (hnt : j ∉ g.touts) : k ≤ j := by
  obtain ⟨_, _, hi, -, -, rfl⟩ := ginv_run es (ginv_init c) h
  exact hi.next_is_oldest hq hj hng hnt

example : ((run (St.init 1) [.acquire 0 false, .acquire 1 true, .acquire 2 true, .timeout 1, .release 0]).toOption.map
    (fun r => (r.1.s.value, r.1.grants, r.1.releases, r.2))) =
    some (0, 2, 1, [(0, .flag false), (1, .flag true), (2, .flag false), (0, .unit)]) := by decide

/-- a timer event for an actor that is not waiting is not a history -/
example : (run (St.init 1) [.acquire 0 true, .timeout 0]).toOption.isNone = true := by decide

/-- FIFO with a timeout in the middle: 0 takes the token; 1 (timed), 2, 3 (timed) queue with tickets 0, 1, 2; the timer
of 1 fires; two releases serve tickets 1 then 2, i.e. actors 2 then 3 -/
example : ((grun (GSt.init 1) [.acquire 0 false, .acquire 1 true, .acquire 2 false, .acquire 3 true, .timeout 1,
      .release 0, .release 2]).toOption.map (fun r => (r.1.reqs, r.1.granted, r.1.touts, r.1.tq))) =
    some ([1, 2, 3], [(1, 2), (2, 3)], [0], []) := by decide

/-- … and the answers of that history: 0 at once, 1 timed out, 2 then 3 woken by the releases without timeout -/
example : ((grun (GSt.init 1) [.acquire 0 false, .acquire 1 true, .acquire 2 false, .acquire 3 true, .timeout 1,
      .release 0, .release 2]).toOption.map (fun r => r.2)) =
    some [(0, .flag false), (1, .flag true), (2, .flag false), (0, .unit), (3, .flag false), (2, .unit)] := by decide

/-! Whole histories of the split path: ALL sequences of SEM_ASYNC_LOCK / SEM_WAIT / SEM_UNLOCK / timer events (`xrun`,
C05/Split.lean; no well-formedness condition at all).  A grant = an acquisition granted at once by SEM_ASYNC_LOCK or popped
by a release (whether or not its issuer already executed its SEM_WAIT). -/

/-- `World.step` on the split events applies exactly the functions the split run applies, with the same answers -/
theorem split_step_is_world_step (w : World) (a : Aid) (s : Nat) (timed : Bool) :
    w.step (.semAsync a s) =
      .ok ({ w with sems := upd w.sems s ((w.sems s).acquireAsync a).1,
                    hgrant := upd w.hgrant a ((w.sems s).acquireAsync a).2 }, [(a, .unit)]) ∧
    w.step (.semWait a s timed) =
      .ok ({ w with sems := upd w.sems s ((w.sems s).waitFor a (w.hgrant a) timed).1 },
           optOut a ((w.sems s).waitFor a (w.hgrant a) timed).2) :=
  ⟨rfl, rfl⟩

/-- split path, token conservation and reported capacity, every history -/
theorem split_sem_conservation (c : Nat) (es : List XEv) (x : XSt) (o : Outs)
    (h : xrun (XSt.init c) es = .ok (x, o)) :
    x.grants ≤ c + x.releases ∧ x.s.value + x.grants = c + x.releases ∧ (x.s.queue ≠ [] → x.s.value = 0) := by
  obtain ⟨hi, (hcap : x.cap = c)⟩ := xinv_run es (xinv_init c) h
  have := hi.conserve
  exact ⟨by omega, by omega, hi.empty⟩

/-- split path, FIFO, every history (same ticket statement as `sem_fifo`): grants made by `release` to queued
acquisitions, in grant order, followed by the tickets still queued = all tickets in SEM_ASYNC_LOCK order minus the
timed-out ones; each grant went to the issuer of that acquisition; the ghost queue is the kernel queue — whatever the
interleaving of the SEM_WAITs -/
theorem split_sem_fifo (c : Nat) (es : List XEv) (x : XSt) (o : Outs) (h : xrun (XSt.init c) es = .ok (x, o)) :
    x.granted.map (·.1) ++ x.tq = (List.range x.reqs.length).filter (fun k => !x.touts.contains k) ∧
    (∀ y ∈ x.granted, x.reqs[y.1]? = some y.2) ∧
    x.tq.map (fun k => x.reqs[k]?) = x.s.queue.map (fun q => some q.issuer) :=
  let hi := (xinv_run es (xinv_init c) h).1
  ⟨hi.part, hi.gr, hi.par⟩

/-- split path, no overtaking: a granted acquisition ⇒ every earlier queued acquisition was granted before it or
removed by its timeout -/
theorem split_sem_fifo_no_overtake (c : Nat) (es : List XEv) (x : XSt) (o : Outs)
    (h : xrun (XSt.init c) es = .ok (x, o)) (k : Nat) (hk : k ∈ x.granted.map (·.1)) (j : Nat) (hj : j < k) :
    j ∈ x.granted.map (·.1) ∨ j ∈ x.touts :=
  (xinv_run es (xinv_init c) h).1.no_overtake hk hj

/-- non-vacuity, split path: 0 takes the token; 1, 2, 3 lock asynchronously (tickets 0, 1, 2); 2 waits first, then 1
(timed), whose timer fires; release serves ticket 1 (actor 2, registered: answered), a second release serves ticket 2
(actor 3, not yet waiting: granted silently), whose late SEM_WAIT returns at once -/
example : ((xrun (XSt.init 1) [.async 0, .wait 0 false, .async 1, .async 2, .async 3, .wait 2 false, .wait 1 true,
      .timeout 1, .release 0, .release 2, .wait 3 false]).toOption.map
      (fun r => (r.1.reqs, r.1.granted, r.1.touts, r.1.tq))) =
    some ([1, 2, 3], [(1, 2), (2, 3)], [0], []) := by decide

example : ((xrun (XSt.init 1) [.async 0, .wait 0 false, .async 1, .async 2, .async 3, .wait 2 false, .wait 1 true,
      .timeout 1, .release 0, .release 2, .wait 3 false]).toOption.map (fun r => r.2)) =
    some [(0, .unit), (0, .flag false), (1, .unit), (2, .unit), (3, .unit), (1, .flag true), (2, .flag false),
          (0, .unit), (2, .unit), (3, .flag false)] := by decide

end SgVerif.C05
