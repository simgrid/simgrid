/-
C05 — the invariant `XInv` of the split-path history run (C05/Split.lean): token conservation and the ticket invariant;
and the one-simcall run with tickets (`grun`, C05/Model.lean) as the special case of the split run in which every
SEM_ASYNC_LOCK is followed at once by its SEM_WAIT.  Core only.
-/
import SgVerif.C05.Split
import SgVerif.C05.Lemmas
namespace SgVerif.C05
open SgVerif.Sync

theorem markS_nil_iff (a : Aid) (t : Bool) (q : List SAcq) : markS a t q = [] ↔ q = [] := by
  cases q with
  | nil => simp [markS]
  | cons x xs => simp only [markS]; split <;> simp

structure XInv (x : XSt) : Prop where
  conserve : x.s.value + x.grants = x.cap + x.releases
  -- somebody waits only when no token is left
  empty : x.s.queue ≠ [] → x.s.value = 0
  -- the ticket queue is the kernel queue, position by position (ticket ↦ its issuer)
  par : x.tq.map (fun k => x.reqs[k]?) = x.s.queue.map (fun q => some q.issuer)
  -- tickets granted so far, then those still queued = all tickets in request order minus the timed-out ones
  part : x.granted.map (·.1) ++ x.tq = (List.range x.reqs.length).filter (fun k => !x.touts.contains k)
  -- every grant went to the issuer of that ticket; timed-out tickets exist
  gr : ∀ y ∈ x.granted, x.reqs[y.1]? = some y.2
  tb : ∀ k ∈ x.touts, k < x.reqs.length

theorem xinv_init (c : Nat) : XInv (XSt.init c) := by
  constructor <;> simp [XSt.init]

theorem XInv.len {x : XSt} (hi : XInv x) : x.tq.length = x.s.queue.length := by
  have := congrArg List.length hi.par
  simpa using this

theorem XInv.mem_iff {x : XSt} (hi : XInv x) {k : Nat} :
    k ∈ x.granted.map (·.1) ++ x.tq ↔ k < x.reqs.length ∧ k ∉ x.touts := by
  rw [hi.part, List.mem_filter, List.mem_range]; simp

theorem XInv.nodup {x : XSt} (hi : XInv x) : (x.granted.map (·.1) ++ x.tq).Nodup := by
  rw [hi.part]
  exact List.Pairwise.filter _ List.nodup_range

theorem XInv.sorted {x : XSt} (hi : XInv x) : (x.granted.map (·.1) ++ x.tq).Pairwise (· < ·) := by
  rw [hi.part]
  exact List.Pairwise.filter _ List.pairwise_lt_range

theorem XInv.no_overtake {x : XSt} (hi : XInv x) {k j : Nat} (hk : k ∈ x.granted.map (·.1)) (hj : j < k) :
    j ∈ x.granted.map (·.1) ∨ j ∈ x.touts :=
  Classical.byCases .inr fun ht => by
    have hkl := (hi.mem_iff.mp (List.mem_append_left _ hk)).1
    refine (List.mem_append.mp (hi.mem_iff.mpr ⟨by omega, ht⟩)).imp_right fun hm => ?_
    have := (List.pairwise_append.mp hi.sorted).2.2 k hk j hm
    omega

theorem XInv.next_is_oldest {x : XSt} (hi : XInv x) {k j : Nat} {ks : List Nat} (hq : x.tq = k :: ks)
    (hj : j < x.reqs.length) (hng : j ∉ x.granted.map (·.1)) (hnt : j ∉ x.touts) : k ≤ j := by
  have hm := (List.mem_append.mp (hi.mem_iff.mpr ⟨hj, hnt⟩)).resolve_left hng
  have hs := (List.pairwise_append.mp hi.sorted).2.1
  rw [hq] at hm hs
  rcases List.mem_cons.mp hm with rfl | hm
  · exact Nat.le_refl _
  · exact Nat.le_of_lt ((List.pairwise_cons.mp hs).1 j hm)

theorem xinv_step {x x' : XSt} {e : XEv} {o : Outs} (hi : XInv x) (h : xstep x e = .ok (x', o)) :
    XInv x' ∧ x'.cap = x.cap := by
  cases e with
  | async a =>
    simp only [xstep] at h
    obtain ⟨rfl, -⟩ := Prod.mk.inj (Except.ok.inj h)
    refine ⟨?_, rfl⟩
    by_cases hv : 0 < x.s.value
    · rw [acquire_granted a hv]
      refine ⟨?_, ?_, hi.par, hi.part, hi.gr, hi.tb⟩
      all_goals dsimp only
      · have := hi.conserve; rw [if_pos rfl]; omega
      · intro hq; have := hi.empty hq; omega
    · have hv : x.s.value = 0 := by omega
      rw [acquire_queued a hv]
      simp only [Bool.false_eq_true, ↓reduceIte]
      have hold : ∀ k, k < x.reqs.length → (x.reqs ++ [a])[k]? = x.reqs[k]? :=
        fun k hk => List.getElem?_append_left hk
      refine ⟨hi.conserve, fun _ => hv, ?_, ?_, ?_, ?_⟩
      all_goals dsimp only
      · rw [List.map_append, List.map_append, ← hi.par]
        congr 1
        · exact List.map_congr_left fun k hk => hold k (hi.mem_iff.mp (List.mem_append_right _ hk)).1
        · simp
      · rw [List.length_append, List.length_singleton, List.range_succ, List.filter_append, ← List.append_assoc,
          hi.part]
        congr 1
        have hnm : x.reqs.length ∉ x.touts := fun hm => Nat.lt_irrefl _ (hi.tb _ hm)
        simp [hnm]
      · intro y hy
        rw [hold _ (hi.mem_iff.mp (List.mem_append_left _ (List.mem_map_of_mem hy))).1]
        exact hi.gr y hy
      · intro k hk
        rw [List.length_append]
        exact Nat.lt_add_right _ (hi.tb k hk)
  | wait a timed =>
    simp only [xstep] at h
    obtain ⟨rfl, -⟩ := Prod.mk.inj (Except.ok.inj h)
    refine ⟨?_, rfl⟩
    unfold Sem.waitFor
    split
    · exact hi
    · refine ⟨hi.conserve, fun hq => hi.empty (mt (markS_nil_iff a timed _).mpr hq), ?_, hi.part, hi.gr, hi.tb⟩
      dsimp only
      rw [markS_issuers]; exact hi.par
  | release a =>
    simp only [xstep] at h
    cases hqq : x.s.queue with
    | nil =>
      rw [release_nil hqq] at h
      obtain ⟨rfl, -⟩ := Prod.mk.inj (Except.ok.inj h)
      refine ⟨?_, rfl⟩
      refine ⟨?_, fun hne => absurd hqq hne, hi.par, hi.part, hi.gr, hi.tb⟩
      have := hi.conserve
      dsimp only; omega
    | cons acq rest =>
      rw [release_cons hqq] at h
      have hlen := hi.len
      have hpar := hi.par
      cases htq : x.tq with
      | nil => rw [htq, hqq] at hlen; cases hlen
      | cons k ks =>
        rw [htq] at h
        obtain ⟨rfl, -⟩ := Prod.mk.inj (Except.ok.inj h)
        refine ⟨?_, rfl⟩
        have hz := hi.empty (by rw [hqq]; exact nofun)
        rw [htq, hqq, List.map_cons, List.map_cons, List.cons.injEq] at hpar
        refine ⟨?_, fun _ => hz, hpar.2, ?_, ?_, hi.tb⟩
        all_goals dsimp only
        · have := hi.conserve; omega
        · rw [List.map_append, List.append_assoc, ← hi.part, htq]; rfl
        · intro y hy
          rcases List.mem_append.mp hy with hy | hy
          · exact hi.gr y hy
          · rw [List.mem_singleton.mp hy]; exact hpar.1
  | timeout a =>
    simp only [xstep] at h
    split at h
    · cases h
    rename_i s1 r hs
    obtain ⟨rfl, -⟩ := Prod.mk.inj (Except.ok.inj h)
    refine ⟨?_, rfl⟩
    obtain ⟨rfl, -, q, hq, hqa, -⟩ := timeout_ok hs
    obtain ⟨k, hk1, hk2, hk3⟩ := eraseTicket_some a x.s.queue x.tq hi.len ⟨q, hq, hqa⟩
    have hnd := List.nodup_append.mp hi.nodup
    have hkg : k ∉ x.granted.map (·.1) := fun hm => hnd.2.2 k hm k hk2 rfl
    rw [hk1]
    refine ⟨hi.conserve, fun hne => hi.empty fun hq0 => hne ?_, eraseTicket_par a _ _ _ hi.par, ?_, hi.gr, ?_⟩
    all_goals dsimp only [Option.toList_some]
    · rw [hq0]; rfl
    · rw [filter_contains_snoc, ← hi.part, ← hi.nodup.erase_eq_filter, List.erase_append_right _ hkg, hk3 hnd.2.1]
    · intro j hj
      rcases List.mem_append.mp hj with hj | hj
      · exact hi.tb j hj
      · rw [List.mem_singleton.mp hj]
        exact (hi.mem_iff.mp (List.mem_append_right _ hk2)).1

theorem xinv_run : ∀ (es : List XEv) {x x' : XSt} {o : Outs}, XInv x → xrun x es = .ok (x', o) →
    XInv x' ∧ x'.cap = x.cap
  | [], _, _, _, hi, h => by cases h; exact ⟨hi, rfl⟩
  | e :: es, _, _, _, hi, h => by
    simp only [xrun] at h
    split at h
    · cases h
    rename_i he
    split at h
    · cases h
    rename_i hr
    obtain ⟨rfl, -⟩ := Prod.mk.inj (Except.ok.inj h)
    obtain ⟨hi1, hc1⟩ := xinv_step hi he
    obtain ⟨hi2, hc2⟩ := xinv_run es hi1 hr
    exact ⟨hi2, hc2.trans hc1⟩

/-- the split-path state as a state of the one-simcall run with tickets; `k` is the count of timer events, which the split
run does not keep -/
abbrev XSt.toG (x : XSt) (k : Nat) : GSt :=
  { t := { s := x.s, cap := x.cap, grants := x.grants, releases := x.releases, timeouts := k },
    reqs := x.reqs, tq := x.tq, granted := x.granted, touts := x.touts }

/-- the kernel events of one call of `s4u::Semaphore` when SEM_ASYNC_LOCK and SEM_WAIT are separate events -/
def SEv.split : SEv → List XEv
  | .acquire a timed => [.async a, .wait a timed]
  | .release a => [.release a]
  | .timeout a => [.timeout a]

theorem gstep_is_split {x : XSt} {k : Nat} {e : SEv} {g' : GSt} {o : Outs} (hw : ∀ q ∈ x.s.queue, q.waited = true)
    (h : gstep (x.toG k) e = .ok (g', o)) :
    ∃ x' o' k', xrun x e.split = .ok (x', o') ∧ (∀ q ∈ x'.s.queue, q.waited = true) ∧ x'.toG k' = g' := by
  cases e with
  | acquire a timed =>
    simp only [gstep, step] at h
    split at h
    · cases h
    rename_i hs
    split at hs
    · cases hs
    rename_i hb
    obtain ⟨rfl, -⟩ := Prod.mk.inj (Except.ok.inj hs)
    obtain ⟨rfl, -⟩ := Prod.mk.inj (Except.ok.inj h)
    simp only [SEv.split, xrun, xstep, upd_same]
    by_cases hv : 0 < x.s.value
    · rw [acquire_granted a hv]
      simp only [Sem.waitFor, if_true, Nat.lt_irrefl, if_false]
      exact ⟨_, _, k, rfl, hw, rfl⟩
    · have hfresh : ∀ q ∈ x.s.queue, q.issuer ≠ a := fun q hq e =>
        hb (List.any_eq_true.mpr ⟨q, hq, by simpa using e⟩)
      rw [acquire_queued a (by omega)]
      simp only [Sem.waitFor, Bool.false_eq_true, if_false, markS_fresh a timed x.s.queue hfresh, List.length_append,
        List.length_singleton, Nat.lt_add_one, if_true]
      refine ⟨_, _, k, rfl, fun q hq => ?_, rfl⟩
      rcases List.mem_append.mp hq with hq | hq
      · exact hw q hq
      · rw [List.mem_singleton.mp hq]
  | release a =>
    simp only [gstep, step] at h
    split at h
    · cases h
    rename_i hs
    split at hs
    · cases hs
    obtain ⟨rfl, -⟩ := Prod.mk.inj (Except.ok.inj hs)
    obtain ⟨rfl, -⟩ := Prod.mk.inj (Except.ok.inj h)
    simp only [SEv.split, xrun, xstep]
    cases hqq : x.s.queue with
    | nil =>
      rw [release_nil hqq]
      exact ⟨_, _, k, rfl, hw, rfl⟩
    | cons acq rest =>
      rw [release_cons hqq]
      have hw' : ∀ q ∈ rest, q.waited = true := fun q hq => hw q (hqq ▸ List.mem_cons_of_mem _ hq)
      cases x.tq <;> exact ⟨_, _, k, rfl, hw', rfl⟩
  | timeout a =>
    simp only [gstep, step] at h
    split at h
    · cases h
    rename_i hs
    split at hs
    · cases hs
    rename_i s1 r hto
    obtain ⟨rfl, -⟩ := Prod.mk.inj (Except.ok.inj hs)
    obtain ⟨rfl, -⟩ := Prod.mk.inj (Except.ok.inj h)
    simp only [SEv.split, xrun, xstep, hto]
    obtain ⟨rfl, -⟩ := timeout_ok hto
    exact ⟨_, _, k + 1, rfl, fun q hq => hw q (eraseS_mem hq), rfl⟩

/-- what holds of the states of the one-simcall run with tickets started with capacity `c`: each is a state of the split
run in which every queued acquisition is registered -/
def GInv (c : Nat) (g : GSt) : Prop :=
  ∃ (x : XSt) (k : Nat), XInv x ∧ x.cap = c ∧ (∀ q ∈ x.s.queue, q.waited = true) ∧ x.toG k = g

theorem ginv_init (c : Nat) : GInv c (GSt.init c) := ⟨XSt.init c, 0, xinv_init c, rfl, nofun, rfl⟩

theorem ginv_step {c : Nat} {g g' : GSt} {e : SEv} {o : Outs} (hi : GInv c g) (h : gstep g e = .ok (g', o)) :
    GInv c g' := by
  obtain ⟨x, k, hx, hc, hw, rfl⟩ := hi
  obtain ⟨x', o', k', hr, hw', rfl⟩ := gstep_is_split hw h
  obtain ⟨hx', hc'⟩ := xinv_run _ hx hr
  exact ⟨x', k', hx', hc'.trans hc, hw', rfl⟩

theorem ginv_run {c : Nat} (es : List SEv) {g g' : GSt} {o : Outs} (hi : GInv c g) (h : grun g es = .ok (g', o)) :
    GInv c g' := by
  induction es generalizing g o with
  | nil => cases h; exact hi
  | cons e es ih =>
    simp only [grun] at h
    split at h
    · cases h
    rename_i he
    split at h
    · cases h
    rename_i hr
    obtain ⟨rfl, -⟩ := Prod.mk.inj (Except.ok.inj h)
    exact ih (ginv_step hi he) hr

end SgVerif.C05
