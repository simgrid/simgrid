/-
C05 — the list functions under `Sem` (`markS`, `eraseS` of Sync/Model.lean, and the ticket twin `eraseTicket` of
C05/Model.lean), `Sem.timeout` inverted, and the run with tickets `grun` as the run `run` observed.  Core only.
-/
import SgVerif.C05.Model
import SgVerif.Sync.Lemmas
namespace SgVerif.C05
open SgVerif.Sync

theorem eraseS_mem {a : Aid} {q : List SAcq} {x : SAcq} (h : x ∈ eraseS a q) : x ∈ q := by
  induction q with
  | nil => simp [eraseS] at h
  | cons y ys ih =>
    simp only [eraseS] at h
    split at h
    · exact List.mem_cons_of_mem _ h
    · rcases List.mem_cons.mp h with rfl | h'
      · exact List.mem_cons_self
      · exact List.mem_cons_of_mem _ (ih h')

theorem markS_issuers (a : Aid) (t : Bool) (q : List SAcq) :
    (markS a t q).map (fun x => some x.issuer) = q.map (fun x => some x.issuer) := by
  induction q with
  | nil => rfl
  | cons x xs ih =>
    simp only [markS]
    split
    · rfl
    · simp only [List.map_cons, ih]

theorem timeout_ok {s s' : Sem} {a : Aid} {r : Res} (h : s.timeout a = .ok (s', r)) :
    s' = { s with queue := eraseS a s.queue } ∧ r = .flag true ∧
      ∃ q ∈ s.queue, q.issuer = a ∧ q.waited = true ∧ q.timed = true := by
  unfold Sem.timeout at h
  split at h
  · rename_i hh
    obtain ⟨rfl, rfl⟩ := Prod.mk.inj (Except.ok.inj h)
    exact ⟨rfl, rfl, by simpa using hh⟩
  · cases h

theorem eraseTicket_par (a : Aid) (f : Nat → Option Aid) : ∀ (q : List SAcq) (tq : List Nat),
    tq.map f = q.map (fun x => some x.issuer) →
    (eraseTicket a q tq).1.map f = (eraseS a q).map (fun x => some x.issuer)
  | [], [], _ => by simp [eraseTicket, eraseS]
  | [], _ :: _, h => by simp at h
  | _ :: _, [], h => by simp at h
  | x :: xs, k :: ks, h => by
    simp only [List.map_cons, List.cons.injEq] at h
    simp only [eraseTicket, eraseS]
    split
    · exact h.2
    · simp only [List.map_cons, List.cons.injEq]
      exact ⟨h.1, eraseTicket_par a f xs ks h.2⟩

theorem eraseTicket_some (a : Aid) : ∀ (q : List SAcq) (tq : List Nat), tq.length = q.length →
    (∃ x ∈ q, x.issuer = a) →
    ∃ k, (eraseTicket a q tq).2 = some k ∧ k ∈ tq ∧ (tq.Nodup → (eraseTicket a q tq).1 = tq.erase k)
  | [], _, _, h => by simp at h
  | _ :: _, [], h, _ => by simp at h
  | x :: xs, k :: ks, hl, hex => by
    simp only [eraseTicket]
    split
    · exact ⟨k, rfl, List.mem_cons_self, fun _ => (List.erase_cons_head k ks).symm⟩
    · rename_i hx
      have hex' : ∃ y ∈ xs, y.issuer = a := by
        obtain ⟨y, hy, hya⟩ := hex
        rcases List.mem_cons.mp hy with rfl | hy
        · exact absurd hya hx
        · exact ⟨y, hy, hya⟩
      obtain ⟨k', h1, h2, h3⟩ := eraseTicket_some a xs ks (by simpa using hl) hex'
      refine ⟨k', h1, List.mem_cons_of_mem _ h2, fun hnd => ?_⟩
      obtain ⟨hk, hnd⟩ := List.nodup_cons.mp hnd
      rw [List.erase_cons_tail fun e => hk ((eq_of_beq e : k = k') ▸ h2), h3 hnd]

theorem filter_contains_snoc (l touts : List Nat) (k : Nat) :
    l.filter (fun j => !(touts ++ [k]).contains j) = (l.filter (fun j => !touts.contains j)).filter (fun j => j != k) := by
  rw [List.filter_filter]
  apply List.filter_congr
  intro j _
  by_cases e : j = k
  · subst e; simp
  · simp [e]

theorem gstep_proj (g : GSt) (e : SEv) : (gstep g e).map (fun r => (r.1.t, r.2)) = step g.t e := by
  unfold gstep
  cases step g.t e with
  | error err => rfl
  | ok r =>
    cases e with
    | acquire a timed => simp only [Except.map]; split <;> rfl
    | release a => simp only [Except.map]; split <;> rfl
    | timeout a => rfl

theorem grun_proj (es : List SEv) : ∀ g : GSt, (grun g es).map (fun r => (r.1.t, r.2)) = run g.t es := by
  induction es with
  | nil => intro g; rfl
  | cons e es ih =>
    intro g
    rw [run, ← gstep_proj, grun]
    cases gstep g e with
    | error err => rfl
    | ok r1 =>
      simp only [Except.map]
      rw [← ih r1.1]
      cases grun r1.1 es <;> rfl

theorem grun_t (es : List SEv) {g g' : GSt} {o : Outs} (h : grun g es = .ok (g', o)) : run g.t es = .ok (g'.t, o) := by
  rw [← grun_proj, h]; rfl

theorem grun_of_run (es : List SEv) {g : GSt} {t' : St} {o : Outs} (h : run g.t es = .ok (t', o)) :
    ∃ g', grun g es = .ok (g', o) ∧ g'.t = t' := by
  rw [← grun_proj] at h
  cases hg : grun g es with
  | error err => rw [hg] at h; cases h
  | ok r =>
    rw [hg] at h
    obtain ⟨rfl, rfl⟩ := Prod.mk.inj (Except.ok.inj h)
    exact ⟨r.1, rfl, rfl⟩

end SgVerif.C05
