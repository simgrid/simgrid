import SgVerif.C20.Lemmas
/-
C20 — isolated activities follow the documented formulas.
Every theorem is for ALL positive rationals (sizes, speeds, latencies, bandwidths), all route lengths, all factor sets.
-/
namespace SgVerif.C20

/-- **comm_alone** (as the CODE computes).  A communication alone on a route of `n ≥ 1` distinct shared links, with any
configuration (factor sets, weight-S, TCP-gamma, cross-traffic), any back route that crosses each forward constraint
exactly once when cross-traffic is on (e.g. the reversed route of a symmetric declaration), lasts
`L*lf(s) + s / (bf(s) * min(bw/x, gamma/(2L)))` with `L = Σ lat`, `bw = min bandwidth`, `x = 1.05` with cross-traffic
(else 1), the `gamma` term only when `gamma > 0` and `L > 0`.  Derived from `communicate` → `comm_action_set_bounds` /
`comm_action_set_variable` / `comm_action_expand_constraints` + the one-variable max-min solution + the two phases. -/
theorem comm_alone (cfg : NetCfg) (route back : List Link) (size : Rat)
    (hne : route ≠ []) (hnd : (route.map (·.cid)).Nodup) (hbw : ∀ l ∈ route, 0 < l.bw)
    (hlat : ∀ l ∈ route, 0 ≤ l.lat) (hfat : ∀ l ∈ route, l.fatpipe = false)
    (hbf : 0 < cfg.bwF.eval size) (hws : 0 ≤ cfg.weightS)
    (hback : cfg.crosstraffic = true → (∀ b ∈ back, b.cid ∈ route.map (·.cid)) ∧ ∀ l ∈ route, cnt l.cid back = 1) :
    commDuration cfg route back size
      = some (commCode cfg (latSum route) (bwMin route) (xdiv cfg) size) := by
  have hm := bwMin_pos route hne hbw
  have hL := latSum_nonneg route hlat
  have hx1 : 1 ≤ xdiv cfg := by unfold xdiv; split_ifs <;> norm_num
  have hx : 0 < xdiv cfg := one_pos.trans_le hx1
  have hmx : 0 < bwMin route / xdiv cfg := div_pos hm hx
  have hmxle : bwMin route / xdiv cfg ≤ bwMin route := div_le_self hm.le hx1
  unfold commDuration
  rw [communicate_eq cfg route back size hne hnd hbw hfat hbf hback]
  simp only
  -- the penalty the variable is solved with is positive
  generalize hpd : (if _ > (0 : Rat) then _ else sharingPenalty cfg route) = pen
  have hpen : 0 < pen := by
    rw [← hpd]
    by_cases hl : latSum route * cfg.latF.eval size > 0
    · have hLpos : 0 < latSum route := by
        rcases hL.lt_or_eq with h | h
        · exact h
        · rw [← h, zero_mul] at hl; exact absurd hl (lt_irrefl 0)
      simp only [hl, if_true, gt_iff_lt, lt_self_iff_false, if_false]
      exact hLpos.trans_le (le_sharingPenalty cfg route hws hbw)
    · simp only [hl, if_false, gt_iff_lt, zero_lt_one, if_true]
  simp only [hpen, not_true_eq_false, if_false]
  rw [solveOne_of_minUsage _ _ (bwMin route / xdiv cfg) _ hpen (minUsage_route _ _ hpen hx route hne hbw)]
  -- the value is min(bound of the variable, bw/x), and `bw/x ≤ bw`
  unfold commCode
  simp only [and_comm (a := cfg.gamma > 0), rmin_eq_min]
  by_cases hg : latSum route > 0 ∧ cfg.gamma > 0
  · have hgb : 0 < cfg.gamma / (2 * latSum route) := div_pos hg.2 (by linarith [hg.1])
    simp only [hg, and_self, if_true]
    rw [← rmin_eq_min (bwMin route), bounded_value (rmin_pos hm hgb), rmin_eq_min, rmin_eq_min, min_right_comm,
      min_eq_right hmxle, if_pos (mul_pos (lt_min hmx hgb) hbf), mul_comm (cfg.bwF.eval size)]
  · simp only [hg, if_false]
    rw [bounded_value hm, rmin_eq_min, min_eq_right hmxle, if_pos (mul_pos hmx hbf), mul_comm (cfg.bwF.eval size)]

/-- **Documented form** (`lat*lf + s / min(bw*bf/x, gamma/(2 lat))`, property text and Models.rst).
FULL-STRENGTH STATEMENT (false on the current code, see `comm_doc_differs`):
  `commCode cfg L bw x s = commDoc cfg L (bw / x) 1 s` for every configuration.
Proved here with the exact excluding hypothesis: the bandwidth factor is 1, or TCP-gamma is off / the latency is 0, or
the gamma bound is slack for both readings. -/
theorem comm_doc_agrees_partial (cfg : NetCfg) (L bw x size : Rat)
    (h : cfg.bwF.eval size = 1 ∨ ¬ (cfg.gamma > 0 ∧ L > 0) ∨
         (bw / x ≤ cfg.gamma / (2 * L) ∧ bw * cfg.bwF.eval size / x ≤ cfg.gamma / (2 * L))) :
    commCode cfg L bw x size = commDoc cfg L bw x size := by
  unfold commCode commDoc
  simp only
  rcases h with h | h | h
  · rw [h]; simp
  · simp only [h, if_false]
    congr 2
    ring
  · by_cases hg : cfg.gamma > 0 ∧ L > 0
    · simp only [hg, and_self, if_true]
      unfold rmin
      rw [if_pos h.1, if_pos h.2]
      congr 2
      ring
    · simp only [hg, if_false]
      congr 2
      ring

/-- **The code and the documented formula differ** whenever the bandwidth factor is not 1 and the TCP-gamma bound binds
(for both readings): the code then transfers at `bf * gamma/(2 lat)`, the documentation says `gamma/(2 lat)`.
This is the finding `tcp-gamma-bound-scaled-by-bandwidth-factor` (LV08: bf = 0.97, SMPI: bf from the table). -/
theorem comm_doc_differs (cfg : NetCfg) (L bw x size : Rat) (hsize : 0 < size)
    (hbf : 0 < cfg.bwF.eval size) (hbf1 : cfg.bwF.eval size ≠ 1) (hg : cfg.gamma > 0) (hL : L > 0)
    (h1 : cfg.gamma / (2 * L) < bw / x) (h2 : cfg.gamma / (2 * L) < bw * cfg.bwF.eval size / x) :
    commCode cfg L bw x size ≠ commDoc cfg L bw x size := by
  unfold commCode commDoc
  simp only [hg, hL, and_self, if_true]
  have hgb : 0 < cfg.gamma / (2 * L) := div_pos hg (by linarith)
  rw [rmin_eq_min, rmin_eq_min, min_eq_right h1.le, min_eq_right h2.le]
  -- `s / (bf·g) = s / g` with `s, g > 0` forces `bf = 1`
  intro h
  have h' := add_left_cancel h
  rw [mul_comm, ← div_div, div_eq_iff hbf.ne'] at h'
  exact hbf1 ((mul_right_eq_self₀.mp h'.symm).resolve_right (div_pos hsize hgb).ne')

/-- concrete witness (LV08, one shared link 1.25 GB/s, 10 ms, no cross-traffic, 1 GB): the hypotheses of
`comm_doc_differs` are satisfiable — this is the replayed corpus line `comm LV08 0 d 1000000000 1 1.25e9 0.01 S`. -/
theorem comm_doc_counterexample :
    commCode { cfgLV08 with crosstraffic := false } (1/100) 1250000000 1 1000000000
      ≠ commDoc { cfgLV08 with crosstraffic := false } (1/100) 1250000000 1 1000000000 := by
  apply comm_doc_differs <;> simp [cfgLV08, constF, FactorSet.eval, factorGo] <;> norm_num

/-- **exec_alone**: `W` flops, one thread, on a host of speed `S` with `c ≥ 1` cores and no binding user bound take `W/S`. -/
theorem exec_alone (S W ub : Rat) (c : Nat) (hS : 0 < S) (hc : 1 ≤ c) (hub : ub ≤ 0 ∨ S ≤ ub) :
    execDuration S c W 1 ub = some (W / S) := by
  rw [execDuration_one S W ub c hS hc, if_neg (fun h => hub.elim (not_le.mpr h.1) (not_le.mpr h.2))]

/-- with a user bound `0 < ub < S` the execution proceeds at `ub` (`Exec::set_bound`) -/
theorem exec_alone_bound (S W ub : Rat) (c : Nat) (hc : 1 ≤ c) (hub : 0 < ub) (hub2 : ub < S) :
    execDuration S c W 1 ub = some (W / ub) := by
  rw [execDuration_one S W ub c (hub.trans hub2) hc, if_pos ⟨hub, hub2⟩]

/-- multi-threaded execution (`set_thread_count(k)`, `k ≥ 2`): cost `k*W`, `k` requested cores: `W/S` while every
thread has its core, `k*W/(c*S)` beyond. -/
theorem exec_threads (S W ub : Rat) (c k : Nat) (hS : 0 < S) (hc : 1 ≤ c) (hk : 2 ≤ k) :
    execDuration S c W k ub = some (if k ≤ c then W / S else (k : Rat) * W / ((c : Rat) * S)) := by
  have hk0 : k ≠ 0 := by omega
  have hk1 : k ≠ 1 := by omega
  have hkq : (0 : Rat) < (k : Rat) := by exact_mod_cast (by omega : 0 < k)
  have hkS : 0 < (k : Rat) * S := mul_pos hkq hS
  have hcS : 0 < (c : Rat) * S := mul_pos (by exact_mod_cast (by omega : 0 < c)) hS
  have hneg : ¬ ((0 : Rat) < -1 ∧ (-1 : Rat) < (k : Rat) * S) := fun h => absurd h.1 (by norm_num)
  unfold execDuration
  simp only [hk0, hk1, if_false, gt_iff_lt, hneg]
  -- the variable gets min(k·S, c·S)
  rw [solveOne_single _ _ _ (one_div_pos.mpr hkq) hkS hcS, rmin_eq_min]
  by_cases hkc : k ≤ c
  · rw [min_eq_left (mul_le_mul_of_nonneg_right (by exact_mod_cast hkc) hS.le)]
    simp only [hkS, hkc, if_true]
    rw [mul_div_mul_left _ _ hkq.ne']
  · rw [min_eq_right (mul_le_mul_of_nonneg_right (by exact_mod_cast (not_le.mp hkc).le) hS.le)]
    simp only [hcS, hkc, if_true, if_false]

/-- **sleep_alone**: a sleep of `d` at least the timing precision takes `d` (below it: the precision, `CpuCas01::sleep`) -/
theorem sleep_alone (prec d : Rat) (hp : 0 < prec) (hd : prec ≤ d) : sleepDuration prec d = d := by
  unfold sleepDuration rmax
  have : d > 0 := by linarith
  simp [this, hd]

theorem sleep_clamped (prec d : Rat) (hd0 : 0 < d) (hd : d < prec) : sleepDuration prec d = prec := by
  unfold sleepDuration rmax
  simp [hd0, not_le.mpr hd]

/-- **io_alone**: `s` bytes on a disk with read rate `r` and write rate `w` take `s/r` (read) or `s/w` (write) -/
theorem io_alone (r w s : Rat) (hr : 0 < r) (hw : 0 < w) (op : IoOp) :
    ioDuration r w s op = some (s / (match op with | .read => r | .write => w)) := by
  cases op
  · simp only [ioDuration]
    rw [solveOne_two _ _ hr (rmax_ge_left r w)]
    simp only [gt_iff_lt, hr, if_true]
  · simp only [ioDuration]
    rw [solveOne_two _ _ hw (rmax_ge_right r w)]
    simp only [gt_iff_lt, hw, if_true]

/-- **ptask_pure_compute**: a parallel task without communication on distinct hosts (speed `S_i > 0`, any core count,
`w_i ≥ 0` flops, at least one `w_i > 0`) takes `max_i w_i / S_i`. -/
theorem ptask_pure_compute (parts : List Part) (h : ∀ p ∈ parts, 0 < p.speed ∧ 1 ≤ p.cores ∧ 0 ≤ p.flops)
    (hsome : ∃ p ∈ parts, p.flops > 0) : ptaskDuration parts = some (maxRatio parts) := by
  rcases ptask_aux parts h with ⟨h1, _, _⟩ | ⟨b, mi, h1, h2, hb, hbmi, h3⟩
  · obtain ⟨p, hp, hf⟩ := hsome
    exact absurd hf (cpuBound_none parts h1 p hp)
  · unfold ptaskDuration
    rw [h1, h2, h3]
    have hv : (if b > 0 then rmin mi b else mi) = b := by
      rw [if_pos hb]
      unfold rmin
      split_ifs with hle
      · exact le_antisymm hle hbmi
      · rfl
    simp only []
    rw [hv]
    simp only [gt_iff_lt, hb, and_self, if_true]

/-- the fair-bottleneck loop ends after its first round: the value reaches the variable's bound (so the `none` branch of
`ptaskDuration`, "the solver iterates", is never taken on the property's domain) -/
theorem ptask_value_is_bound (parts : List Part) (h : ∀ p ∈ parts, 0 < p.speed ∧ 1 ≤ p.cores ∧ 0 ≤ p.flops)
    (hsome : ∃ p ∈ parts, p.flops > 0) : (ptaskDuration parts).isSome := by
  rw [ptask_pure_compute parts h hsome]; rfl

/-- `comm_alone` on a concrete 2-link symmetric route with cross-traffic: the hypotheses hold -/
example : let route : List Link := [{ cid := 0, bw := 1250000000, lat := 1/1000 }, { cid := 2, bw := 1000000000, lat := 2/1000 }]
    commDuration cfgLV08 route route.reverse 1000
      = some (commCode cfgLV08 (latSum route) (bwMin route) (xdiv cfgLV08) 1000) := by
  intro route
  apply comm_alone
  · simp [route]
  · simp [route]
  · intro l hl; simp [route] at hl; rcases hl with rfl | rfl <;> norm_num
  · intro l hl; simp [route] at hl; rcases hl with rfl | rfl <;> norm_num
  · intro l hl; simp [route] at hl; rcases hl with rfl | rfl <;> rfl
  · simp [cfgLV08, constF, FactorSet.eval, factorGo]
  · simp [cfgLV08]
  · intro _
    constructor
    · intro b hb; simp [route] at hb ⊢; rcases hb with rfl | rfl <;> simp
    · intro l hl; simp [route] at hl; rcases hl with rfl | rfl <;> simp [route, cnt]

example : execDuration 1000000000 4 2000000000 1 0 = some 2 := by
  rw [exec_alone _ _ _ _ (by norm_num) (by norm_num) (Or.inl (le_refl _))]; norm_num

example : ptaskDuration [{ speed := 1000, cores := 1, flops := 2000 }, { speed := 2000, cores := 4, flops := 1000 }]
    = some (maxRatio [{ speed := 1000, cores := 1, flops := 2000 }, { speed := 2000, cores := 4, flops := 1000 }]) := by
  apply ptask_pure_compute
  · intro p hp; simp at hp; rcases hp with rfl | rfl <;> norm_num
  · exact ⟨{ speed := 1000, cores := 1, flops := 2000 }, by simp, by norm_num⟩

end SgVerif.C20
