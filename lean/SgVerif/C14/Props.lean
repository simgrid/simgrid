/-
C14 — real runs conform to the reference interleaving semantics: the property theorems.

Full statement (DESIGN §8 C14): for every synchronisation-only program `p` of the mini-language and every history `h`
(the order in which maestro handles the simcalls of a normal run), if the one-simcall machine accepts `h` and ends in
`o`, then `o.s` is reachable in the split-transition reference LTS (`engine_run_reachable`); if `o` is stuck then `o.s`
is a deadlock state of the LTS (`deadlock_report_sound`); hence a program without reachable deadlock never gets stuck
(`no_reachable_deadlock_never_reported`).

What is PROVED here, for all programs, all histories, no bound on actors / operations / objects:
  * object kinds covered: MUTEXES (lock, try_lock, unlock; non-recursive), SEMAPHORES (acquire, release) and BARRIERS
    (wait; sizes in [1, 2^32)), freely mixed in one program (`SyncOnly` = static actors over these six operations).
    Condition variables and mailboxes are executed by the same machine (`ostep`) and tied to the LTS by the
    correspondence check only (the driver re-checks `execPath o.s path = some o'.s` at every step of every observed
    history).
  * NO hypothesis on the history.  On the code before the repair of finding `mutex-relock-by-owner-returns`
    (props/C14/fix_series/01-mutex-relock.patch) the statements fail when an actor calls `lock()` on a mutex it already
    owns: `MutexAcquisitionImpl::wait_for` tested `mutex_->get_owner() == issuer_` instead of `granted_`, so in a normal
    run the second `lock()` returned at once, whereas under the checker MUTEX_WAIT is enabled only when the acquisition
    is granted (`MutexAcquisitionObserver::is_enabled`).  `wait_for` now tests `granted_` (`Sync.Mutex.waitFor`) and the
    second `lock()` blocks.  The old behaviour is kept as a regression statement about the pre-repair machine `orunPre`
    of C14/PreFix.lean (`single_simcall_is_atomic_split_prefix_counterexample`, `prefix_machine_agrees_without_relock`).
-/
import SgVerif.C14.Main
import SgVerif.C14.PreFix
namespace SgVerif.C14
open SgVerif.McRef

/-- A state of the reference LTS is reachable when some path of enabled split transitions leads to it.  (Paths of
(actor index, times_considered) through `labelAt`/`step`; no theorem relates this to `C38.Lemmas.Reach`, on `moves`, or to
`mcLTS.run`, on labels.) -/
def Reachable (p : Program) (s : State) : Prop := ∃ path, execPath (initState p) path = some s

/-- One simcall of a normal run is the atomic composition of the split transitions of the reference LTS:
executing `Mutex::lock` / `try_lock` / `unlock` in ONE kernel step (Sync model) reaches the LTS state reached by
executing `MUTEX_ASYNC_LOCK` then — when granted — `MUTEX_WAIT` (resp. `MUTEX_UNLOCK` then the `MUTEX_WAIT` of the
actor that received the hand-off) back to back; `Semaphore::acquire` = `SEM_ASYNC_LOCK` [+ `SEM_WAIT` when a token was
there], `Semaphore::release` = `SEM_UNLOCK` [+ the `SEM_WAIT` of the head waiter]; `Barrier::wait` =
`BARRIER_ASYNC_LOCK`, and when it completes the group, the `BARRIER_WAIT` of every released waiter in queue order then
the caller's own; every one of these transitions being enabled; and the state correspondence `R` and the invariant are
preserved.  (Mutex, semaphore, barrier operations; any other pending simcall contradicts `Inv`.) -/
theorem single_simcall_is_atomic_split {o o' : OState} {i : Nat} {path : Path} (hR : R o) (hI : Inv o)
    (h : ostep o i = some (o', path)) :
    execPath o.s path = some o'.s ∧ R o' ∧ Inv o' :=
  ostep_sound hR hI h

/-- Every history accepted by the one-simcall machine maps to a path of the reference LTS: the final state of a
normal run is in the reachable set of the LTS. -/
theorem engine_run_reachable (p : Program) (hp : SyncOnly p) (h : List Nat) {o : OState} {path : Path}
    (hr : orun (initO p) h = some (o, path)) :
    execPath (initState p) path = some o.s ∧ Reachable p o.s := by
  obtain ⟨hR, hI⟩ := init_sound p hp
  obtain ⟨e, _, _⟩ := orun_sound h hR hI hr
  exact ⟨e, path, e⟩

/-- If the one-simcall world is stuck (every live actor blocked, nothing enabled: what `EngineImpl::run` reports as a
deadlock), the corresponding LTS state is a deadlock state (no transition enabled, some actor not terminated) — and it
is reachable. -/
theorem deadlock_report_sound (p : Program) (hp : SyncOnly p) (h : List Nat) {o : OState} {path : Path}
    (hr : orun (initO p) h = some (o, path)) (hs : ostuck o = true) :
    isDeadlock o.s = true ∧ Reachable p o.s := by
  obtain ⟨hR, hI⟩ := init_sound p hp
  obtain ⟨e, _, hI'⟩ := orun_sound h hR hI hr
  exact ⟨stuck_is_deadlock hI' hs, path, e⟩

/-- A program with no reachable deadlock never reports one. -/
theorem no_reachable_deadlock_never_reported (p : Program) (hp : SyncOnly p)
    (hnd : ∀ s, Reachable p s → isDeadlock s = false) (h : List Nat) {o : OState} {path : Path}
    (hr : orun (initO p) h = some (o, path)) : ostuck o = false := by
  cases hs : ostuck o with
  | false => rfl
  | true =>
    obtain ⟨hd, hreach⟩ := deadlock_report_sound p hp h hr hs
    rw [hnd o.s hreach] at hd
    cases hd

/-- `H m=1 ; A T0 L0`: try_lock succeeds, then the owner locks again. -/
def relockProg : Program := { nmutex := 1, statics := [[.trylock 0, .lock 0]] }

example : SyncOnly relockProg := by
  refine ⟨rfl, ?_⟩
  decide

/-- The witness of the repaired finding on the current machine: the second `lock()` blocks, the run is stuck, its split
path IS a path of the LTS and ends in a deadlock state (what simgrid-mc always reported for this program). -/
theorem relock_blocks_and_is_a_reference_deadlock :
    (orun (initO relockProg) [0, 0]).map
      (fun r => (r.1.s.actors.map (·.obs), [ostuck r.1, isDeadlock r.1.s, (execPath (initState relockProg) r.2).isSome], r.2))
    = some ([[1]], [true, true, true], [(0, 0), (0, 0)]) := by decide

/-- REGRESSION statement about the code before the repair (`orunPre`, C14/PreFix.lean: owner test in `wait_for`): that
machine (= the real run of the old code) let the second `lock()` return — the actor terminated with observation `[1]` —
but the split path it stands for is NOT a path of the reference LTS (its MUTEX_WAIT is never enabled: the reference
deadlocks).  So on the old code `single_simcall_is_atomic_split` fails at the re-lock by the owner — and only there:
`prefix_machine_agrees_without_relock`. -/
theorem single_simcall_is_atomic_split_prefix_counterexample :
    (orunPre (initO relockProg) [0, 0]).map
        (fun r => (r.1.s.actors.map (·.obs), allDone r.1.s, r.2, (execPath (initState relockProg) r.2).isSome))
      = some ([[1]], true, [(0, 0), (0, 0), (0, 0)], false) := by
  decide

/-- the repair touches nothing else: on a step that is not a re-lock by the owner the old and the current machine do
the same -/
theorem prefix_machine_agrees_without_relock {o : OState} {i : Nat} (hI : Inv o) (hok : stepOK o i) :
    ostepPre o i = ostep o i := by
  unfold ostepPre ostep
  cases ha : o.s.actors[i]? with
  | none => rfl
  | some a =>
    simp only []
    split
    · rfl
    · split
      · rename_i m hp
        have hpi : pendOf o.s i = some (.mutexAsyncLock m) := by rw [pendOf_of_get ha, hp]
        simp only [hp]
        exact oLockPre_eq_oLock o i a m (hok m hpi)
      · rfl

/-- lock-order inversion `H m=2 ; A L0 L1 U1 U0 ; A L1 L0 U0 U1` -/
def abba : Program :=
  { nmutex := 2, statics := [[.lock 0, .lock 1, .unlock 1, .unlock 0], [.lock 1, .lock 0, .unlock 0, .unlock 1]] }

example : SyncOnly abba := by
  refine ⟨rfl, ?_⟩
  decide

/-- the history of the real run (round-robin) is accepted and ends stuck: the theorems apply
with a non-trivial conclusion (a reachable deadlock of the LTS) -/
example : (orun (initO abba) [0, 1, 0, 1]).map (fun r => (ostuck r.1, isDeadlock r.1.s, r.2))
    = some (true, true, [(0, 0), (0, 0), (1, 0), (1, 0), (0, 0), (1, 0)]) := by decide

/-- a history with a hand-off: actor 0 takes both, actor 1 queues on mutex 1, actor 0 unlocks it (MUTEX_UNLOCK then
the MUTEX_WAIT of actor 1) -/
example : (orun (initO abba) [0, 0, 1, 0]).map (fun r => (ostuck r.1, r.2))
    = some (false, [(0, 0), (0, 0), (0, 0), (0, 0), (1, 0), (0, 0), (1, 0)]) := by decide

/-- semaphore with one token shared by two actors: `H s=1 ; A A0 R0 ; A A0 R0` -/
def semProg : Program := { sems := [1], statics := [[.acquire 0, .release 0], [.acquire 0, .release 0]] }

/-- two rounds of a barrier of 2: `H b=2 ; A B0 B0 ; A B0 B0` -/
def barProg : Program := { bars := [2], statics := [[.barrier 0, .barrier 0], [.barrier 0, .barrier 0]] }

/-- an incomplete barrier group and a semaphore without token: `H b=3 s=0 ; A B0 ; A A0` -/
def barStuck : Program := { bars := [3], sems := [0], statics := [[.barrier 0], [.acquire 0]] }

example : SyncOnly semProg ∧ SyncOnly barProg ∧ SyncOnly barStuck := by
  refine ⟨⟨rfl, ?_⟩, ⟨rfl, ?_⟩, ⟨rfl, ?_⟩⟩ <;> decide

/-- semaphores: 0 takes the token (SEM_ASYNC_LOCK + SEM_WAIT), 1 queues (SEM_ASYNC_LOCK), the release of 0 serves 1
(SEM_UNLOCK + SEM_WAIT of 1), 1 releases: accepted, everybody done -/
example : (orun (initO semProg) [0, 1, 0, 1]).map (fun r => (ostuck r.1, allDone r.1.s, r.2))
    = some (false, true, [(0, 0), (0, 0), (1, 0), (0, 0), (1, 0), (1, 0)]) := by decide

/-- barriers, two rounds: 0 arrives, 1 completes the group (BARRIER_ASYNC_LOCK of 1, BARRIER_WAIT of 0, BARRIER_WAIT
of 1); second round in the other order -/
example : (orun (initO barProg) [0, 1, 1, 0]).map (fun r => (ostuck r.1, allDone r.1.s, r.2))
    = some (false, true, [(0, 0), (1, 0), (0, 0), (1, 0), (1, 0), (0, 0), (1, 0), (0, 0)]) := by decide

/-- an incomplete group and an empty semaphore: the run is stuck, the LTS state is a (reachable) deadlock -/
example : (orun (initO barStuck) [0, 1]).map (fun r => (ostuck r.1, isDeadlock r.1.s, r.2))
    = some (true, true, [(0, 0), (1, 0)]) := by decide

/-- an ordinary history (hand-off) is executed identically by the pre-repair machine -/
example : (orunPre (initO abba) [0, 0, 1, 0]).map (fun r => (ostuck r.1, r.2))
    = (orun (initO abba) [0, 0, 1, 0]).map (fun r => (ostuck r.1, r.2)) := by decide

end SgVerif.C14
