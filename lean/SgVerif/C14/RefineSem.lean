/-
C14 — refinement, semaphores: `Semaphore::acquire` in one simcall = SEM_ASYNC_LOCK [+ SEM_WAIT when granted];
`Semaphore::release` = SEM_UNLOCK [+ the SEM_WAIT of the waiter it serves].  Same structure as `lock_sound` /
`unlock_sound` (C14/Refine.lean), without owner.  Core only.
-/
import SgVerif.C14.Refine
namespace SgVerif.C14
open SgVerif.McRef

theorem sync_step_acquire (w : Sync.World) (i k : Nat) :
    w.step (.acquire i k false) =
      .ok ({ w with sems := Sync.upd w.sems k (((w.sems k).acquireAsync i).1.waitFor i ((w.sems k).acquireAsync i).2 false).1 },
           Sync.optOut i (((w.sems k).acquireAsync i).1.waitFor i ((w.sems k).acquireAsync i).2 false).2) := rfl

theorem queueOf_setS (s : State) (k : Nat) (x : McRef.Sem) (hk : k < s.sems.length) (p : Pend) :
    queueOf (setS s k x) p = if p = .semWait k then x.queue else queueOf s p := by
  cases p with
  | semWait k' =>
    simp only [Pend.semWait.injEq]
    exact get_modifyAt_ite (fun o => match o with | some se => se.queue | none => []) s.sems x hk k'
  | _ => rfl

theorem R.getS {o : OState} (hR : R o) {k : Nat} (hk : k < o.s.sems.length) :
    o.s.sems[k]? = some (absS (o.w.sems k)) :=
  (hR.rs k _ (List.getElem?_eq_getElem hk)) ▸ List.getElem?_eq_getElem hk

theorem R_setS {o : OState} {k : Nat} {S' : Sync.Sem} {s' : State} (hR : R o)
    (h : SameObjs s' (setS o.s k (absS S'))) : R { w := { o.w with sems := Sync.upd o.w.sems k S' }, s := s' } :=
  ⟨fun m mu hmu => hR.rm m mu (h.mutexes ▸ hmu), fun k' se hse => abs_upd absS k S' hR.rs h.sems k' se hse,
    fun b ba hba => hR.rb b ba (h.bars ▸ hba)⟩

theorem SInv_setS {w : Sync.World} {k : Nat} {S' : Sync.Sem} (hS : SInv w)
    (h2 : ∀ q ∈ S'.queue, q.waited = true) : SInv { w with sems := Sync.upd w.sems k S' } :=
  ⟨hS.nrec, hS.mwaited, upd_forall (fun S : Sync.Sem => ∀ q ∈ S.queue, q.waited = true) h2 hS.swaited, hS.bwaited⟩

theorem setS_of_modify {s : State} {k : Nat} {x se : McRef.Sem} {f : McRef.Sem → McRef.Sem}
    (hx : s.sems[k]? = some x) (h : f x = se) : { s with sems := modifyAt s.sems k f } = setS s k se := by
  rw [setS, modifyAt_congr f (fun _ => se) _ _ _ hx h]

theorem enabled_semWait {s : State} {k j : Nat} (hk : k < s.sems.length) {se : McRef.Sem} (hj : j ∉ se.queue) :
    pendEnabled (setS s k se) j (.semWait k) = true := by
  simp [pendEnabled, setS, modifyAt_get_eq, List.getElem?_eq_getElem hk, hj]

theorem R.queue_semWait {o : OState} (hR : R o) {k : Nat} (hk : k < o.s.sems.length) :
    queueOf o.s (.semWait k) = (absS (o.w.sems k)).queue := by
  simp only [queueOf, queueS, hR.getS hk]

theorem execPend_semAsyncLock {s : State} {k : Nat} {x : McRef.Sem} (hx : s.sems[k]? = some x) (i : Nat)
    (a : Actor) (tc : Nat) :
    execPend s i a (.semAsyncLock k) tc = setPend (setS s k (semAcquireAsync x i)) i a (.semWait k) := 
  congrArg (setPend · i a _) (setS_of_modify hx rfl)

theorem execPend_semUnlock {s : State} {k : Nat} {x : McRef.Sem} (hx : s.sems[k]? = some x) (i : Nat)
    (a : Actor) (tc : Nat) :
    execPend s i a (.semUnlock k) tc = finishStep (setS s k (semRelease x)) i a := 
  congrArg (finishStep · i a) (setS_of_modify hx rfl)

/-- `Semaphore::acquire`: SEM_ASYNC_LOCK, answered iff a token was there -/
theorem absS_acquire {S : Sync.Sem} (i : Nat) (hwt : ∀ q ∈ S.queue, q.waited = true) (hi : i ∉ (absS S).queue) :
    ∃ S' out, (S.acquireAsync i).1.waitFor i (S.acquireAsync i).2 false = (S', out) ∧
      absS S' = semAcquireAsync (absS S) i ∧ (∀ q ∈ S'.queue, q.waited = true) ∧
      BlockShape i (absS S).queue (absS S').queue (Sync.optOut i out) := by
  by_cases hv : 0 < S.value
  · refine ⟨{ S with value := S.value - 1 }, some (.flag false), by rw [Sync.acquire_granted i hv]; rfl, ?_, hwt,
      .inr ⟨[], rfl, rfl⟩⟩
    simp [semAcquireAsync, absS, hv]
  · have hv0 : S.value = 0 := Nat.eq_zero_of_not_pos hv
    refine ⟨{ S with queue := S.queue ++ [{ issuer := i, waited := true, timed := false }] }, none, ?_, ?_,
      List.forall_mem_append.2 ⟨hwt, List.forall_mem_singleton.2 rfl⟩, .inl ⟨rfl, by simp [absS]⟩⟩
    · simp [Sync.acquire_queued i hv0, Sync.Sem.waitFor,
        Sync.markS_fresh i false S.queue fun x hxm e => hi (e ▸ List.mem_map_of_mem hxm)]
    · simp [semAcquireAsync, absS, hv0]

/-- `Semaphore::release`: SEM_UNLOCK; the head of the queue, if any, is served -/
theorem absS_release {S : Sync.Sem} (hwt : ∀ q ∈ S.queue, q.waited = true) :
    absS S.release.1 = semRelease (absS S) ∧ (∀ q ∈ S.release.1.queue, q.waited = true) ∧
    match S.release.2 with
    | none => (absS S).queue = [] ++ (absS S.release.1).queue
    | some acq => acq.waited = true ∧ (absS S).queue = [acq.issuer] ++ (absS S.release.1).queue := by
  cases hq : S.queue with
  | nil =>
    rw [Sync.release_nil hq]
    exact ⟨by simp [semRelease, absS, hq], fun q h => hwt q h, rfl⟩
  | cons acq rest =>
    rw [Sync.release_cons hq]
    have hw' : ∀ q ∈ acq :: rest, q.waited = true := hq ▸ hwt
    exact ⟨by simp [semRelease, absS, hq], fun q h => hw' q (List.mem_cons_of_mem _ h), hw' acq List.mem_cons_self,
      by simp [absS, hq]⟩

theorem acquire_sound {o : OState} {i k : Nat} {a : Actor} (hR : R o) (hI : Inv o) (ha : o.s.actors[i]? = some a)
    (herr : o.s.err = 0) (hp : a.pend = some (.semAsyncLock k))
    {o' : OState} {path : Path} (h : oAcquire o i a k = some (o', path)) :
    execPath o.s path = some o'.s ∧ R o' ∧ Inv o' := by
  by_cases hk : k < o.s.sems.length
  · have hqS := hR.queue_semWait hk
    obtain ⟨S', out, hr, hab, hwt, hsh⟩ := absS_acquire (S := o.w.sems k) i (hI.sy.swaited k)
      (hqS ▸ not_mem_queue hI.lt ha hp rfl (.semWait k))
    simp only [oAcquire, hk, ↓reduceIte, sync_step_acquire, hr, Sync.upd_same, Option.some.injEq, Prod.mk.injEq] at h
    obtain ⟨rfl, rfl⟩ := h
    have hE := execPend_semAsyncLock (hR.getS hk) i a 0
    rw [← hab] at hE
    obtain ⟨e1, e2, e3⟩ := block_sound hI.lt herr ha hp rfl (.sem k) (queueOf_setS _ _ _ hk) rfl rfl hE
      (hqS.symm ▸ hsh) fun j _ => enabled_semWait hk
    exact ⟨e1, R_setS hR e3, SInv_setS hI.sy hwt, e2⟩
  · simp [oAcquire, hk] at h

theorem sync_step_release (w : Sync.World) (i k : Nat) :
    w.step (.release i k) =
      (match (w.sems k).release.2 with
       | some acq =>
         if acq.waited then
           .ok ({ w with sems := Sync.upd w.sems k (w.sems k).release.1 },
                [(acq.issuer, .flag (Sync.semFinish acq.timed false true)), (i, .unit)])
         else .ok ({ w with sems := Sync.upd w.sems k (w.sems k).release.1,
                            hgrant := Sync.upd w.hgrant acq.issuer true }, [(i, .unit)])
       | none => .ok ({ w with sems := Sync.upd w.sems k (w.sems k).release.1 }, [(i, .unit)])) := rfl

theorem release_sound {o : OState} {i k : Nat} {a : Actor} (hR : R o) (hI : Inv o) (ha : o.s.actors[i]? = some a)
    (herr : o.s.err = 0) (hp : a.pend = some (.semUnlock k))
    {o' : OState} {path : Path} (h : oRelease o i a k = some (o', path)) :
    execPath o.s path = some o'.s ∧ R o' ∧ Inv o' := by
  by_cases hk : k < o.s.sems.length
  · simp only [oRelease, hk, ↓reduceIte, sync_step_release] at h
    obtain ⟨hab, hwt, hsh⟩ := absS_release (hI.sy.swaited k)
    have hE := execPend_semUnlock (hR.getS hk) i a 0
    rw [← hab] at hE
    have hqS := hR.queue_semWait hk
    cases hfin : (o.w.sems k).release.2 with
    | none =>
      simp only [hfin, Sync.upd_same, Option.some.injEq, Prod.mk.injEq] at h hsh
      obtain ⟨rfl, rfl⟩ := h
      obtain ⟨e1, e2, e3⟩ := run_sound (outs := []) hI.lt herr ha hp rfl (.sem k) (queueOf_setS _ _ _ hk) rfl rfl hE
        (hqS.trans hsh) (fun j hj => nomatch hj) (hI.lt.pid i a ha) (hI.lt.ops i a ha) rfl
      exact ⟨e1, R_setS hR e3, SInv_setS hI.sy hwt, e2⟩
    | some acq =>
      simp only [hfin] at hsh
      simp only [hfin, hsh.1, if_true, Sync.upd_same, Option.some.injEq, Prod.mk.injEq] at h
      obtain ⟨rfl, rfl⟩ := h
      obtain ⟨e1, e2, e3⟩ := handoff_sound hI.lt herr ha hp rfl (.sem k) (queueOf_setS _ _ _ hk) rfl rfl hE
        (hqS.trans hsh.2) (enabled_semWait hk)
      exact ⟨e1, R_setS hR e3, SInv_setS hI.sy hwt, e2⟩
  · simp [oRelease, hk] at h

end SgVerif.C14
