/-
C14 — refinement, barriers: `Barrier::wait` in one simcall = BARRIER_ASYNC_LOCK, then — when the group is complete — the
BARRIER_WAIT of every released waiter in queue order, then the caller's own BARRIER_WAIT.  Core only.
-/
import SgVerif.C14.RefineSem
namespace SgVerif.C14
open SgVerif.McRef

theorem queueOf_setB (s : State) (k : Nat) (x : McRef.Bar) (hk : k < s.bars.length) (p : Pend) :
    queueOf (setB s k x) p = if p = .barWait k then x.queue else queueOf s p := by
  cases p with
  | barWait k' =>
    simp only [Pend.barWait.injEq]
    exact get_modifyAt_ite (fun o => match o with | some ba => ba.queue | none => []) s.bars x hk k'
  | _ => rfl

theorem R_setB {o : OState} {b : Nat} {B' : Sync.Bar} {s' : State} (hg : Nat → Bool) (hR : R o)
    (h : SameObjs s' (setB o.s b (absB B'))) :
    R { w := { o.w with bars := Sync.upd o.w.bars b B', hgrant := hg }, s := s' } :=
  ⟨fun m mu hmu => hR.rm m mu (h.mutexes ▸ hmu), fun k se hse => hR.rs k se (h.sems ▸ hse),
    fun b' ba hba => abs_upd absB b B' hR.rb h.bars b' ba hba⟩

theorem SInv_setB {w : Sync.World} {b : Nat} {B' : Sync.Bar} (hg : Nat → Bool) (hS : SInv w)
    (h2 : ∀ q ∈ B'.queue, q.waited = true) : SInv { w with bars := Sync.upd w.bars b B', hgrant := hg } :=
  ⟨hS.nrec, hS.mwaited, hS.swaited, upd_forall (fun B : Sync.Bar => ∀ q ∈ B.queue, q.waited = true) h2 hS.bwaited⟩

theorem setB_of_modify {s : State} {b : Nat} {x ba : McRef.Bar} {f : McRef.Bar → McRef.Bar}
    (hx : s.bars[b]? = some x) (h : f x = ba) : { s with bars := modifyAt s.bars b f } = setB s b ba := by
  rw [setB, modifyAt_congr f (fun _ => ba) _ _ _ hx h]

theorem enabled_barWait {s : State} {b j : Nat} (hb : b < s.bars.length) {ba : McRef.Bar} (hj : j ∉ ba.queue) :
    pendEnabled (setB s b ba) j (.barWait b) = true := by
  simp [pendEnabled, setB, modifyAt_get_eq, List.getElem?_eq_getElem hb, hj]

theorem execPend_barAsyncLock {s : State} {b : Nat} {x : McRef.Bar} (hx : s.bars[b]? = some x) (i : Nat)
    (a : Actor) (tc : Nat) :
    execPend s i a (.barAsyncLock b) tc = setPend (setB s b (barAcquireAsync x i)) i a (.barWait b) := 
  congrArg (setPend · i a _) (setB_of_modify hx rfl)

/-- `Barrier::wait` on a barrier of size in [1, 2^32) whose queued acquisitions are all registered, seen through
`absB`: BARRIER_ASYNC_LOCK; the caller queues, or completes the group and everybody is answered in queue order, the
caller last.  (The result of `acquire_async` is not computed in the statement: its 2^32 literals do not reduce
symbolically.) -/
theorem absB_wait {B : Sync.Bar} (i : Nat) (h1 : 1 ≤ B.expected) (h2 : B.expected < 4294967296)
    (hwt : ∀ q ∈ B.queue, q.waited = true) (hi : i ∉ (absB B).queue) :
    ∃ B' outs, (∀ w b, Sync.barWaitStepR w i b (B.acquireAsync i) =
        ({ w with bars := Sync.upd w.bars b B', hgrant := Sync.grantUnwaitedB w.hgrant (B.acquireAsync i).2.2 }, outs)) ∧
      absB B' = barAcquireAsync (absB B) i ∧ (∀ q ∈ B'.queue, q.waited = true) ∧
      BlockShape i (absB B).queue (absB B').queue outs := by
  have hlen : (absB B).queue.length < (absB B).expected - 1 ↔ B.queue.length < B.threshold := by
    rw [Sync.threshold_eq _ h1 h2]; simp only [absB, List.length_map]
  by_cases hlt : B.queue.length < B.threshold
  · refine ⟨{ B with queue := B.queue ++ [{ issuer := i, waited := true }] }, [], fun w b => ?_, ?_, ?_, .inl ⟨rfl, ?_⟩⟩
    · rw [Sync.acquireAsync_queue i hlt]
      simp only [Sync.barWaitStepR, Sync.Bar.waitFor, Bool.false_eq_true, if_false,
        Sync.markB_fresh i _ fun x hxm e => hi (e ▸ List.mem_map_of_mem hxm), List.filter_nil, List.map_nil,
        List.append_nil]
    · rw [barAcquireAsync, if_pos (hlen.2 hlt)]; simp [absB]
    · exact List.forall_mem_append.2 ⟨hwt, List.forall_mem_singleton.2 rfl⟩
    · simp [absB]
  · refine ⟨{ B with queue := [] }, B.queue.map (fun q => (q.issuer, Sync.Res.flag false)) ++ [(i, .flag true)],
      fun w b => ?_, ?_, (fun _ h => nomatch h), .inr ⟨(absB B).queue, (List.append_nil _).symm, ?_⟩⟩
    · rw [Sync.acquireAsync_open i hlt]
      simp only [Sync.barWaitStepR, Sync.Bar.waitFor, if_true, List.filter_eq_self.mpr hwt, Sync.Bar.wasLast,
        List.isEmpty_nil]
    · rw [barAcquireAsync, if_neg (mt hlen.1 hlt)]; rfl
    · simp [absB, List.map_map, Function.comp_def]

theorem barrier_sound {o : OState} {i b : Nat} {a : Actor} (hR : R o) (hI : Inv o) (ha : o.s.actors[i]? = some a)
    (herr : o.s.err = 0) (hp : a.pend = some (.barAsyncLock b))
    {o' : OState} {path : Path} (h : oBarrier o i a b = some (o', path)) :
    execPath o.s path = some o'.s ∧ R o' ∧ Inv o' := by
  unfold oBarrier at h
  cases hx0 : o.s.bars[b]? with
  | none => simp [hx0] at h
  | some ba =>
    simp only [hx0] at h
    by_cases hexp : 1 ≤ ba.expected ∧ ba.expected < 4294967296
    · simp only [hexp, and_self, ↓reduceIte] at h
      have hb : b < o.s.bars.length := (List.getElem?_eq_some_iff.mp hx0).1
      cases hR.rb b _ hx0
      have hqB : queueOf o.s (.barWait b) = (absB (o.w.bars b)).queue := by simp only [queueOf, queueB, hx0]
      obtain ⟨B', outs, hst, hab, hwt, hsh⟩ := absB_wait i hexp.1 hexp.2 (hI.sy.bwaited b)
        (hqB ▸ not_mem_queue hI.lt ha hp rfl (.barWait b))
      have h0 : o.w.step (.barWait i b) = .ok (Sync.barWaitStepR o.w i b ((o.w.bars b).acquireAsync i)) := rfl
      rw [h0, hst] at h
      simp only [Sync.upd_same, Option.some.injEq, Prod.mk.injEq] at h
      obtain ⟨rfl, rfl⟩ := h
      have hE := execPend_barAsyncLock hx0 i a 0
      rw [← hab] at hE
      obtain ⟨e1, e2, e3⟩ := block_sound hI.lt herr ha hp rfl (.bar b) (queueOf_setB _ _ _ hb) rfl rfl hE
        (hqB.symm ▸ hsh) fun j _ => enabled_barWait hb
      exact ⟨e1, R_setB _ hR e3, SInv_setB _ hI.sy hwt, e2⟩
    · simp [hexp] at h

end SgVerif.C14
