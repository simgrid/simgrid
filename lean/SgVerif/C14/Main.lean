/-
C14 — assembling the refinement: every accepted history of the one-simcall machine maps to a path of the reference
LTS (`orun_sound`), the initial states correspond (`init_sound`), a stuck world is a deadlock state
(`stuck_is_deadlock`).  Core only.
-/
import SgVerif.C14.RefineBar
namespace SgVerif.C14
open SgVerif.McRef

theorem ostep_sound {o o' : OState} {i : Nat} {path : Path} (hR : R o) (hI : Inv o)
    (h : ostep o i = some (o', path)) : execPath o.s path = some o'.s ∧ R o' ∧ Inv o' := by
  unfold ostep at h
  cases ha : o.s.actors[i]? with
  | none => simp [ha] at h
  | some a =>
    simp only [ha] at h
    split at h
    · cases h
    · rename_i hg
      have herr : o.s.err = 0 := Decidable.byContradiction fun e => hg (Or.inl e)
      cases hp : a.pend with
      | none => simp [hp] at h
      | some p =>
        simp only [hp] at h
        cases p with
        | mutexAsyncLock m => exact lock_sound hR hI ha herr hp h
        | mutexTrylock m => exact trylock_sound hR hI ha herr hp h
        | mutexUnlock m => exact unlock_sound hR hI ha herr hp h
        | semAsyncLock k => exact acquire_sound hR hI ha herr hp h
        | semUnlock k => exact release_sound hR hI ha herr hp h
        | barAsyncLock b => exact barrier_sound hR hI ha herr hp h
        | cvAsyncLock | cvSignal | cvBroadcast =>
          -- not a covered call and not a `*_WAIT` of a queue: excluded by the invariant
          rcases hI.lt.pok i _ List.not_mem_nil ((pendOf_of_get ha).trans hp) with hc | hq
          · cases hc
          · cases hq
        | _ => cases h

theorem execPath_append {s s' : State} : ∀ {p1 : Path} (p2 : Path), execPath s p1 = some s' →
    execPath s (p1 ++ p2) = execPath s' p2 := by
  intro p1
  induction p1 generalizing s with
  | nil => intro p2 h; simp [execPath] at h; subst h; rfl
  | cons x rest ih =>
    intro p2 h
    obtain ⟨i, tc⟩ := x
    simp only [execPath, List.cons_append] at h ⊢
    split at h
    · rename_i hl; simp only [hl, ↓reduceIte]; exact ih p2 h
    · cases h

theorem orun_sound : ∀ (h : List Nat) {o o' : OState} {path : Path}, R o → Inv o →
    orun o h = some (o', path) → execPath o.s path = some o'.s ∧ R o' ∧ Inv o'
  | [], o, o', path, hR, hI, hr => by
    simp [orun] at hr; obtain ⟨rfl, rfl⟩ := hr; exact ⟨rfl, hR, hI⟩
  | i :: h, o, o', path, hR, hI, hr => by
    simp only [orun] at hr
    split at hr
    · cases hr
    · rename_i o1 p1 h1
      split at hr
      · cases hr
      · rename_i o2 p2 h2
        cases hr
        obtain ⟨e1, hR1, hI1⟩ := ostep_sound hR hI h1
        obtain ⟨e2, hR2, hI2⟩ := orun_sound h hR1 hI1 h2
        exact ⟨(execPath_append p2 e1).trans e2, hR2, hI2⟩

theorem pendEnabled_of_mem_queue {s : State} {i : Nat} {p : Pend} (h : i ∈ queueOf s p) : pendEnabled s i p = false := by
  have hc {l : List Nat} (h : i ∈ l) (b : Bool) : (b && !l.contains i) = false := by
    rw [List.contains_iff_mem.2 h]; exact Bool.and_false b
  cases p with
  | mutexWait m =>
    simp only [queueOf, queueM] at h
    simp only [pendEnabled]
    cases hm : s.mutexes[m]? <;> simp only [hm] at h ⊢
    exact hc h _
  | semWait k =>
    simp only [queueOf, queueS] at h
    simp only [pendEnabled]
    cases hm : s.sems[k]? <;> simp only [hm] at h ⊢
    exact hc h true
  | barWait b =>
    simp only [queueOf, queueB] at h
    simp only [pendEnabled]
    cases hm : s.bars[b]? <;> simp only [hm] at h ⊢
    exact hc h true
  | _ => cases h

theorem stuck_is_deadlock {o : OState} (hI : Inv o) (hs : ostuck o = true) : isDeadlock o.s = true := by
  simp only [ostuck, Bool.and_eq_true] at hs
  obtain ⟨⟨herr, hall⟩, hany⟩ := hs
  have hmv : ∀ i, movesOf o.s i = [] := by
    intro i
    simp only [movesOf]
    cases ha : o.s.actors[i]? with
    | none => rfl
    | some a =>
      cases hp : a.pend with
      | none => simp [hp]
      | some p =>
        -- a live actor of a stuck world is blocked: by the invariant it sits in the queue it waits on
        have h1 := List.all_eq_true.mp hall a (List.mem_of_getElem? ha)
        simp [hp, hI.lt.pid i a ha] at h1
        have hq : i ∈ queueOf o.s p := by
          rcases hI.lt.pok i p List.not_mem_nil ((pendOf_of_get ha).trans hp) with hc | hq
          · cases p <;> simp [isWaitPend, covPend] at h1 hc
          · exact hq
        simp [actorEnabled, ha, hp, pendEnabled_of_mem_queue hq]
  have : moves o.s = [] := by
    simp [moves, hmv]
  simp only [isDeadlock, this, List.isEmpty_nil, Bool.and_true, Bool.and_eq_true]
  exact ⟨herr, hany⟩

/-- synchronisation-only programs covered by the theorems: static actors over the covered operations -/
def SyncOnly (p : Program) : Prop := p.children = [] ∧ ∀ ops ∈ p.statics, ∀ op ∈ ops, covOp op = true

/-- the first `execute_actors()`: no actor waits in a queue yet, and each runs to its first simcall in turn -/
theorem init_fold : ∀ (l : List Nat) (s : State), LInv s → (∀ q, queueOf s q = []) →
    LInv (l.foldl wake s) ∧ SameObjs (l.foldl wake s) s
  | [], s, hL, _ => ⟨hL, rfl, rfl, rfl⟩
  | i :: l, s, hL, hE => by
    have hso := sameObjs_wake s i
    have hL1 : LInv (wake s i) := by
      unfold wake
      cases ha : s.actors[i]? with
      | none => exact hL
      | some a =>
        exact LInvH_finish (hole_open hL fun p hj => by rw [hE p] at hj; cases hj) ha (hL.pid i a ha) (hL.ops i a ha)
    obtain ⟨r1, r2⟩ := init_fold l (wake s i) hL1 fun q => (queueOf_actors hso q).trans (hE q)
    exact ⟨r1, r2.trans hso⟩

theorem init_sound (p : Program) (hp : SyncOnly p) : R (initO p) ∧ Inv (initO p) := by
  obtain ⟨hch, hops⟩ := hp
  -- `s0`: the state before the first `execute_actors()`, as `McRef.initState` builds it
  unfold initO initState
  extract_lets s0
  show R { w := initW p, s := (List.range p.statics.length).foldl wake s0 } ∧
    Inv { w := initW p, s := (List.range p.statics.length).foldl wake s0 }
  have hmem : ∀ a ∈ s0.actors, a.pid ≠ 0 ∧ a.pend = none ∧ ∀ op ∈ a.todo, covOp op = true := by
    intro a ha
    simp only [s0, hch, List.map_nil, List.append_nil, List.mem_map] at ha
    obtain ⟨x, hx, rfl⟩ := ha
    exact ⟨by simp, rfl, hops x.1 (List.fst_mem_of_mem_zipIdx hx)⟩
  have hpend0 : ∀ j, pendOf s0 j = none := fun j => by
    unfold pendOf
    cases ha : s0.actors[j]? with
    | none => rfl
    | some a => exact (hmem a (List.mem_of_getElem? ha)).2.1
  have hq0 : ∀ q, queueOf s0 q = [] := by
    intro q
    cases q with
    | mutexWait m =>
      simp only [queueOf, queueM, s0]
      cases h : (List.replicate p.nmutex ({} : McRef.Mutex))[m]? with
      | none => rfl
      | some mu => rw [(List.mem_replicate.1 (List.mem_of_getElem? h)).2]
    | semWait k => simp only [queueOf, queueS, s0, List.getElem?_map]; cases p.sems[k]? <;> rfl
    | barWait k => simp only [queueOf, queueB, s0, List.getElem?_map]; cases p.bars[k]? <;> rfl
    | _ => rfl
  have hL0 : LInv s0 :=
    ⟨fun j a ha => (hmem a (List.mem_of_getElem? ha)).1, fun j a ha => (hmem a (List.mem_of_getElem? ha)).2.2,
      fun q => by rw [hq0 q]; exact ⟨List.nodup_nil, fun _ h => nomatch h⟩,
      fun j q _ hj => by rw [hpend0] at hj; cases hj⟩
  obtain ⟨hL, hm, hs, hb⟩ := init_fold (List.range p.statics.length) s0 hL0 hq0
  refine ⟨⟨?_, ?_, ?_⟩, ⟨⟨?_, ?_, ?_, ?_⟩, hL⟩⟩
  · intro m mu hmu
    simp only [hm] at hmu
    have := List.mem_of_getElem? hmu
    simp only [s0, List.mem_replicate] at this
    rw [this.2]; rfl
  · intro k se hse
    simp only [hs] at hse
    simp only [s0, List.getElem?_map] at hse
    cases h : p.sems[k]? with
    | none => simp [h] at hse
    | some v => simp [h] at hse; subst hse; simp [initW, h, absS]
  · intro b ba hba
    simp only [hb] at hba
    simp only [s0, List.getElem?_map] at hba
    cases h : p.bars[b]? with
    | none => simp [h] at hba
    | some v => simp [h] at hba; subst hba; simp [initW, h, absB]
  · intro m; rfl
  · intro m q hq; simp [initW] at hq
  · intro k q hq
    simp only [initW] at hq
    cases h : p.sems[k]? <;> simp [h] at hq
  · intro b q hq
    simp only [initW] at hq
    cases h : p.bars[b]? <;> simp [h] at hq

end SgVerif.C14
