/-
C14 — the refinement proof: every step of the one-simcall machine is the atomic composition of the split
transitions of the reference LTS it returns, and preserves `R` and `Inv`.  What each kernel operation is under the
abstraction and whom it answers (`absM_lock` …) meets what a transition of the caller followed by the answers to a released
prefix of a queue does in the LTS, for any object (`block_sound`, `run_sound`).  Core only.
-/
import SgVerif.C14.Lemmas
import SgVerif.Sync.Lemmas
import SgVerif.Common.List
namespace SgVerif.C14
open SgVerif.McRef

theorem pendOf_congr {s s' : State} (h : s'.actors = s.actors) (j : Nat) : pendOf s' j = pendOf s j := by
  unfold pendOf; rw [h]

theorem pendOf_upd_ne {s s' : State} {i k : Nat} {a' : Actor} (h : s'.actors = modifyAt s.actors i (fun _ => a'))
    (hk : k ≠ i) : pendOf s' k = pendOf s k := by
  simp [pendOf, h, modifyAt_get_ne _ _ _ _ (Ne.symm hk)]

theorem pendOf_upd_eq {s s' : State} {i : Nat} {a0 a' : Actor} (h : s'.actors = modifyAt s.actors i (fun _ => a'))
    (ha : s.actors[i]? = some a0) : pendOf s' i = a'.pend := by
  simp [pendOf, h, modifyAt_get_eq, ha]

/-! ### moving an actor through the LTS invariant
`LInvH s H` exempts the actors of `H` ("in transit") from the clause that ties a pending simcall to a queue.  A step of
actor `i` puts `i` in transit (`hole_open`: it is in no queue, `not_mem_queue`), changes an object — its queue gains `i`
(`obj_push`) or loses a prefix, whose actors go in transit (`obj_drop`) —, changes the pending simcall of an actor in transit
(`act_set`), and takes out of `H` whoever is fine again where it stands (`hole_close`). -/

theorem hole_open {s : State} {H : List Nat} {i : Nat} (hI : LInvH s H) (hq : ∀ p, i ∉ queueOf s p) :
    LInvH s (i :: H) := by
  refine ⟨hI.pid, hI.ops, fun p => ⟨(hI.qs p).1, fun j hj => ?_⟩, ?_⟩
  · obtain ⟨hjH, hjp⟩ := (hI.qs p).2 j hj
    refine ⟨fun hmem => ?_, hjp⟩
    cases hmem with
    | head => exact hq p hj
    | tail _ h' => exact hjH h'
  · intro j p hj hjp
    exact hI.pok j p (fun h => hj (List.mem_cons_of_mem _ h)) hjp

theorem not_mem_queue {s : State} {H : List Nat} {i : Nat} {a : Actor} {p0 : Pend} (hI : LInvH s H)
    (ha : s.actors[i]? = some a) (hp : a.pend = some p0) (hc : covPend p0 = true) (p : Pend) : i ∉ queueOf s p := by
  intro hj
  cases hp.symm.trans ((pendOf_of_get ha).symm.trans ((hI.qs p).2 i hj).2)
  cases p0 <;> first | cases hj | cases hc

theorem obj_push {s s' : State} {H : List Nat} {i : Nat} {P : Pend} (hI : LInvH s (i :: H)) (hact : s'.actors = s.actors)
    (hq : ∀ p, queueOf s' p = if p = P then queueOf s P ++ [i] else queueOf s p)
    (hi : i ∉ H) (hpi : pendOf s i = some P) : LInvH s' H := by
  have hp := pendOf_congr hact
  refine ⟨fun j a h => hI.pid j a (hact ▸ h), fun j a h => hI.ops j a (hact ▸ h), fun p => ?_, fun j p hj hjp => ?_⟩
  · rw [hq p]
    split
    · rename_i e
      subst e
      refine ⟨nodup_concat (hI.qs p).1 fun h => ((hI.qs p).2 i h).1 List.mem_cons_self, fun j hj => ?_⟩
      rw [hp j]
      rcases List.mem_append.1 hj with h | h
      · exact ⟨fun hm => ((hI.qs p).2 j h).1 (List.mem_cons_of_mem _ hm), ((hI.qs p).2 j h).2⟩
      · cases List.mem_singleton.1 h
        exact ⟨hi, hpi⟩
    · exact ⟨(hI.qs p).1, fun j hj => ⟨fun hm => ((hI.qs p).2 j hj).1 (List.mem_cons_of_mem _ hm), hp j ▸ ((hI.qs p).2 j hj).2⟩⟩
  · rw [hp j] at hjp
    rw [hq p]
    by_cases hji : j = i
    · subst hji
      cases Option.some.inj (hpi.symm.trans hjp)
      exact .inr (by simp)
    · refine (hI.pok j p (fun hm => (List.mem_cons.1 hm).elim hji hj) hjp).imp id fun h => ?_
      split
      · rename_i e; exact List.mem_append_left _ (e ▸ h)
      · exact h

theorem obj_drop {s s' : State} {H H' : List Nat} {P : Pend} {pre t : List Nat} (hI : LInvH s H)
    (hact : s'.actors = s.actors) (hP : queueOf s P = pre ++ t)
    (hq : ∀ p, queueOf s' p = if p = P then t else queueOf s p) (hH' : ∀ j, j ∈ H' ↔ j ∈ pre ∨ j ∈ H) : LInvH s' H' := by
  have hp := pendOf_congr hact
  have hnd := List.nodup_append.1 (hP ▸ (hI.qs P).1)
  refine ⟨fun j a h => hI.pid j a (hact ▸ h), fun j a h => hI.ops j a (hact ▸ h), fun p => ?_, fun j p hj hjp => ?_⟩
  · rw [hq p]
    split
    · rename_i e
      subst e
      refine ⟨hnd.2.1, fun j hj => ?_⟩
      obtain ⟨h1, h2⟩ := (hI.qs p).2 j (hP ▸ List.mem_append_right _ hj)
      exact ⟨fun hm => ((hH' j).1 hm).elim (fun h => hnd.2.2 j h j hj rfl) h1, hp j ▸ h2⟩
    · rename_i e
      refine ⟨(hI.qs p).1, fun j hj => ?_⟩
      obtain ⟨h1, h2⟩ := (hI.qs p).2 j hj
      refine ⟨fun hm => ((hH' j).1 hm).elim (fun h => ?_) h1, hp j ▸ h2⟩
      -- j ∈ pre: its pending simcall is P, not p
      exact e (Option.some.inj (h2.symm.trans ((hI.qs P).2 j (hP ▸ List.mem_append_left _ h)).2))
  · rw [hp j] at hjp
    refine (hI.pok j p (fun h => hj ((hH' j).2 (.inr h))) hjp).imp id fun h => ?_
    rw [hq p]
    split
    · rename_i e
      subst e
      exact (List.mem_append.1 (hP ▸ h)).resolve_left fun h' => hj ((hH' j).2 (.inl h'))
    · exact h

theorem act_set {s s' : State} {H : List Nat} {i : Nat} {a0 a' : Actor} (hI : LInvH s H)
    (hact : s'.actors = modifyAt s.actors i (fun _ => a')) (hq : ∀ p, queueOf s' p = queueOf s p)
    (ha : s.actors[i]? = some a0) (hi : i ∈ H) (hpid : a'.pid ≠ 0) (hops : ∀ op ∈ a'.todo, covOp op = true) :
    LInvH s' H := by
  have hne : ∀ j, j ∉ H → pendOf s' j = pendOf s j := by
    intro j hj
    exact pendOf_upd_ne hact (fun e => hj (e ▸ hi))
  -- what holds of `a'` and of every actor of `s` holds of every actor of `s'`
  have hall (Q : Actor → Prop) (hQ : Q a') (h : ∀ (j : Nat) a, s.actors[j]? = some a → Q a) (j : Nat) (a : Actor)
      (hj : s'.actors[j]? = some a) : Q a := by
    rw [hact] at hj
    by_cases hji : i = j
    · rw [← hji, modifyAt_get_eq, ha] at hj; exact Option.some.inj hj ▸ hQ
    · rw [modifyAt_get_ne _ _ _ _ hji] at hj; exact h j a hj
  refine ⟨hall (·.pid ≠ 0) hpid hI.pid, hall (∀ op ∈ ·.todo, covOp op = true) hops hI.ops, ?_, ?_⟩
  · intro p
    rw [hq p]
    refine ⟨(hI.qs p).1, ?_⟩
    intro j hj
    obtain ⟨h1, h2⟩ := (hI.qs p).2 j hj
    exact ⟨h1, by rw [hne j h1]; exact h2⟩
  · intro j p hj hjp
    rw [hne j hj] at hjp
    rw [hq p]
    exact hI.pok j p hj hjp

theorem hole_close {s : State} {H : List Nat} {i : Nat} (hI : LInvH s (i :: H))
    (hfine : ∀ p, pendOf s i = some p → covPend p = true ∨ i ∈ queueOf s p) : LInvH s H := by
  refine ⟨hI.pid, hI.ops, ?_, ?_⟩
  · intro p
    refine ⟨(hI.qs p).1, ?_⟩
    intro j hj
    obtain ⟨h1, h2⟩ := (hI.qs p).2 j hj
    exact ⟨fun hm => h1 (List.mem_cons_of_mem _ hm), h2⟩
  · intro j p hj hjp
    by_cases hji : j = i
    · subst hji; exact hfine p hjp
    · exact hI.pok j p (fun hm => (List.mem_cons.1 hm).elim hji hj) hjp

theorem queueOf_setM (s : State) (k : Nat) (x : McRef.Mutex) (hk : k < s.mutexes.length) (p : Pend) :
    queueOf (setM s k x) p = if p = .mutexWait k then x.queue else queueOf s p := by
  cases p with
  | mutexWait k' =>
    simp only [Pend.mutexWait.injEq]
    exact get_modifyAt_ite (fun o => match o with | some mu => mu.queue | none => []) s.mutexes x hk k'
  | _ => rfl

theorem queueOf_actors {s s' : State} (h : SameObjs s' s) (p : Pend) : queueOf s' p = queueOf s p := by
  cases p <;> simp only [queueOf, queueM, queueS, queueB, h.mutexes, h.sems, h.bars]

theorem LInvH_finish {s1 : State} {H : List Nat} {i : Nat} {a a1 : Actor} (hI : LInvH s1 (i :: H))
    (ha : s1.actors[i]? = some a) (hpid : a1.pid ≠ 0) (hops : ∀ op ∈ a1.todo, covOp op = true) :
    LInvH (finishStep s1 i a1) H := by
  have hadv := advance_cov s1 i a1 a1.todo hops
  have hact := finishStep_actors s1 i a1
  have hq : ∀ p, queueOf (finishStep s1 i a1) p = queueOf s1 p :=
    queueOf_actors (sameObjs_finishStep s1 i a1)
  have h1 := act_set hI hact hq ha List.mem_cons_self (by rw [hadv.2.2.2]; exact hpid) hadv.2.2.1
  exact hole_close h1 (by
    intro p hp
    rw [pendOf_upd_eq hact ha] at hp
    exact Or.inl (hadv.2.1 p hp))

theorem queueOf_setPend (X : State) (i : Nat) (a : Actor) (P p : Pend) : queueOf (setPend X i a P) p = queueOf X p :=
  queueOf_actors (sameObjs_setPend X i a P) p

/-! ### the actors that a simcall answers
One simcall of actor `i`, sitting on the first simcall `p0` of a covered call, is one transition of `i` on one kernel
object, followed by the `*_WAIT` transitions of the actors that the kernel answers: a prefix `pre` of the queue of that
object, which the transition of `i` has dropped from it — and `i` itself, last, when its call blocks and is granted in
the same simcall. -/

/-- the `*_WAIT` simcalls of the covered calls: each waits in the queue of one kernel object -/
inductive QWait : Pend → Prop
  | mutex (m : Nat) : QWait (.mutexWait m)
  | sem (k : Nat) : QWait (.semWait k)
  | bar (b : Nat) : QWait (.barWait b)

theorem pendEnabled_sameObjs {s' s : State} (h : SameObjs s' s) {P : Pend} (hw : QWait P) (j : Nat) :
    pendEnabled s' j P = pendEnabled s j P := by
  cases hw <;> simp only [pendEnabled, h.mutexes, h.sems, h.bars]

/-- the actors in transit on `P`, each enabled there, are answered one after the other -/
theorem wakeAll_sound {P : Pend} (hw : QWait P) : ∀ (outs : Sync.Outs) (s : State), s.err = 0 →
    (∀ j ∈ outs.map (·.1), pendEnabled s j P = true) →
    (outs.map (·.1)).Nodup → LInvH s (outs.map (·.1)) →
    (∀ j ∈ outs.map (·.1), pendOf s j = some P) →
    execPath s (pathOf outs) = some (wakeAll s outs) ∧ LInv (wakeAll s outs) ∧ SameObjs (wakeAll s outs) s
  | [], s, _, _, _, hI, _ => ⟨rfl, hI, rfl, rfl, rfl⟩
  | (j, r) :: rest, s, herr, hen, hnd, hI, hpend => by
    simp only [List.map_cons, List.nodup_cons] at hnd
    obtain ⟨aj, haj, hpaj⟩ := pendOf_some (hpend j List.mem_cons_self)
    have hpid := hI.pid j aj haj
    have hops := hI.ops j aj haj
    obtain ⟨hlab, hstep⟩ := step_enabled haj hpaj herr hpid (hen j List.mem_cons_self) (by cases hw <;> exact Nat.one_pos)
    have hfin : execPend s j aj P 0 = finishStep s j aj := by cases hw <;> rfl
    have hwk : wake s j = finishStep s j aj := by simp only [wake, haj]
    have hact := finishStep_actors s j aj
    have herr1 : (finishStep s j aj).err = 0 := by
      rw [finishStep_err _ _ _ hops]; exact herr
    have hI1 : LInvH (finishStep s j aj) (rest.map (·.1)) := LInvH_finish hI haj hpid hops
    have hpend1 : ∀ j' ∈ rest.map (·.1), pendOf (finishStep s j aj) j' = some P := by
      intro j' hj'
      rw [pendOf_upd_ne hact fun e => hnd.1 (e ▸ hj')]
      exact hpend j' (List.mem_cons_of_mem _ hj')
    have hen1 : ∀ j' ∈ rest.map (·.1), pendEnabled (finishStep s j aj) j' P = true := fun j' hj' =>
      (pendEnabled_sameObjs (sameObjs_finishStep s j aj) hw j').trans (hen j' (List.mem_cons_of_mem _ hj'))
    obtain ⟨e1, e2, e3⟩ := wakeAll_sound hw rest (finishStep s j aj) herr1 hen1 hnd.2 hI1 hpend1
    have hwa : wakeAll s ((j, r) :: rest) = wakeAll (finishStep s j aj) rest := by
      simp only [wakeAll, List.foldl_cons, hwk]
    have hpath : pathOf ((j, r) :: rest) = (j, 0) :: pathOf rest := rfl
    rw [hwa, hpath, execPath_cons hlab, hstep, hfin]
    exact ⟨e1, e2, e3.trans (sameObjs_finishStep s j aj)⟩

/-- what a blocking call of `i` does to the queue `q` it waits in, and whom the kernel answers: `i` joins the queue and
nobody is answered, or a prefix of the queue and then `i` are answered -/
def BlockShape (i : Nat) (q q' : List Nat) (outs : Sync.Outs) : Prop :=
  (outs = [] ∧ q' = q ++ [i]) ∨ ∃ pre, q = pre ++ q' ∧ outs.map (·.1) = pre ++ [i]

/-! Below, `s1` is `s` with one object replaced, which turns the queue of `P` into `q'` and leaves every other
queue alone (`hq`, the form `queueOf_setM` & co. give); `hE` is the transition of `i` in the reference LTS. -/
section answers
variable {s s1 : State} {i : Nat} {a : Actor} {p0 P : Pend} {q' pre : List Nat}
  (hL : LInv s) (herr : s.err = 0) (ha : s.actors[i]? = some a) (hp : a.pend = some p0) (hc : covPend p0 = true)
  (hw : QWait P)
include hL herr ha hp hc

theorem first_step {s2 : State} (hE : execPend s i a p0 0 = s2) (rest : Path) :
    execPath s ((i, 0) :: rest) = execPath s2 rest := by
  -- the first simcall of a covered call is always enabled, and has one outcome
  obtain ⟨hlab, hstep⟩ := step_enabled ha hp herr (hL.pid i a ha) (by cases p0 <;> first | rfl | cases hc)
    (by cases p0 <;> first | exact Nat.one_pos | cases hc)
  rw [execPath_cons hlab, hstep, hE]

/-- an `xbt_assert` of the kernel fails in the simcall of `i`: the transition of the LTS is the crash -/
theorem crash_sound (hE : execPend s i a p0 0 = crash s i a) :
    execPath s [(i, 0)] = some (crash s i a) ∧ LInv (crash s i a) := by
  refine ⟨first_step hL herr ha hp hc hE [], ?_⟩
  have hact : (crash s i a).actors = modifyAt s.actors i (fun _ => { a with pend := none }) := rfl
  have hopen := hole_open hL (not_mem_queue hL ha hp hc)
  have h1 := act_set hopen hact (queueOf_actors ⟨rfl, rfl, rfl⟩) ha (List.mem_singleton_self i) (hL.pid i a ha)
    (hL.ops i a ha)
  exact hole_close h1 (by
    intro p hp'
    rw [pendOf_upd_eq hact ha] at hp'
    cases hp')

variable (hq : ∀ p, queueOf s1 p = if p = P then q' else queueOf s p) (hact : s1.actors = s.actors)
  (herr1 : s1.err = s.err)
include hw hq hact herr1

/-- the call is granted in the same simcall, after the waiters `pre` that it releases -/
theorem pass_sound (hE : execPend s i a p0 0 = setPend s1 i a P) (hP : queueOf s P = pre ++ q')
    (hen : ∀ j ∈ pre ++ [i], j ∉ q' → pendEnabled s1 j P = true) {outs : Sync.Outs}
    (houts : outs.map (·.1) = pre ++ [i]) :
    execPath s ((i, 0) :: pathOf outs) = some (wakeAll (setPend s1 i a P) outs) ∧
      LInv (wakeAll (setPend s1 i a P) outs) ∧ SameObjs (wakeAll (setPend s1 i a P) outs) s1 := by
  have hiq := not_mem_queue hL ha hp hc
  have hpre : ∀ j ∈ pre, j ∈ queueOf s P := fun j hj => hP ▸ List.mem_append_left _ hj
  have hact1 : (setPend s1 i a P).actors = modifyAt s1.actors i (fun _ => { a with pend := some P }) :=
    rfl
  have hact2 : (setPend s1 i a P).actors = modifyAt s.actors i (fun _ => { a with pend := some P }) :=
    hact ▸ hact1
  have hnq := List.nodup_append.1 (hP ▸ (hL.qs P).1)
  have hnd : (pre ++ [i]).Nodup := nodup_concat hnq.1 fun h => hiq _ (hpre i h)
  have hI : LInvH (setPend s1 i a P) (pre ++ [i]) :=
    act_set (obj_drop (hole_open hL hiq) hact hP hq fun _ => List.mem_append) hact1 (queueOf_setPend s1 i a P) (hact ▸ ha)
      (List.mem_append_right _ (List.mem_singleton_self i)) (hL.pid i a ha) (hL.ops i a ha)
  have hpend : ∀ j ∈ pre ++ [i], pendOf (setPend s1 i a P) j = some P := by
    intro j hj
    rcases List.mem_append.mp hj with hj | hj
    · rw [pendOf_upd_ne hact2 fun e => hiq _ (e ▸ hpre j hj)]
      exact ((hL.qs P).2 j (hpre j hj)).2
    · cases List.mem_singleton.1 hj
      rw [pendOf_upd_eq hact2 ha]
  have hen' : ∀ j ∈ pre ++ [i], pendEnabled (setPend s1 i a P) j P = true := fun j hj =>
    (pendEnabled_sameObjs (sameObjs_setPend s1 i a P) hw j).trans <| hen j hj fun hjq =>
      (List.mem_append.mp hj).elim (fun h => hnq.2.2 j h j hjq rfl)
        fun h => hiq _ (hP ▸ List.mem_append_right _ (List.mem_singleton.1 h ▸ hjq))
  obtain ⟨e1, e2, e3⟩ := wakeAll_sound hw outs (setPend s1 i a P) (herr1.trans herr) (houts ▸ hen')
    (houts ▸ hnd) (houts ▸ hI) (houts ▸ hpend)
  exact ⟨(first_step hL herr ha hp hc hE _).trans e1, e2, e3.trans (sameObjs_setPend ..)⟩

/-- a blocking call (`Mutex::lock`, `Semaphore::acquire`, `Barrier::wait`) -/
theorem block_sound (hE : execPend s i a p0 0 = setPend s1 i a P) {outs : Sync.Outs}
    (hsh : BlockShape i (queueOf s P) q' outs)
    (hen : ∀ j ∈ outs.map (·.1), j ∉ q' → pendEnabled s1 j P = true) :
    execPath s ((i, 0) :: pathOf outs) = some (wakeAll (setPend s1 i a P) outs) ∧
      LInv (wakeAll (setPend s1 i a P) outs) ∧ SameObjs (wakeAll (setPend s1 i a P) outs) s1 := by
  rcases hsh with ⟨rfl, hq'⟩ | ⟨pre, hP, houts⟩
  · -- the call blocks: `i` takes `P` as its pending simcall, then joins the queue of `P`
    refine ⟨first_step hL herr ha hp hc hE [], show LInv (setPend s1 i a P) from ?_, sameObjs_setPend ..⟩
    have hact1 : (setPend s i a P).actors = modifyAt s.actors i (fun _ => { a with pend := some P }) := rfl
    have h1 : LInvH (setPend s i a P) [i] :=
      act_set (hole_open hL (not_mem_queue hL ha hp hc)) hact1 (queueOf_setPend s i a P) ha
        (List.mem_singleton_self i) (hL.pid i a ha) (hL.ops i a ha)
    exact obj_push (s' := setPend s1 i a P) (P := P) h1 (by rw [setPend_actors, setPend_actors, hact])
      (fun p => by rw [queueOf_setPend, queueOf_setPend, queueOf_setPend, hq, hq'])
      List.not_mem_nil (pendOf_upd_eq hact1 ha)
  · exact pass_sound hL herr ha hp hc hw hq hact herr1 hE hP (houts ▸ hen) houts

/-- a call that does not block (`try_lock`, `unlock`, `release`): `i` runs on (as `a1`: `a`, or `a` with an observation
more), then the waiters `pre` that it releases do -/
theorem run_sound {a1 : Actor} (hE : execPend s i a p0 0 = finishStep s1 i a1) (hP : queueOf s P = pre ++ q')
    (hen : ∀ j ∈ pre, j ∉ q' → pendEnabled s1 j P = true) (hpid : a1.pid ≠ 0)
    (hops : ∀ op ∈ a1.todo, covOp op = true) {outs : Sync.Outs} (houts : outs.map (·.1) = pre) :
    execPath s ((i, 0) :: pathOf outs) = some (wakeAll (finishStep s1 i a1) outs) ∧
      LInv (wakeAll (finishStep s1 i a1) outs) ∧ SameObjs (wakeAll (finishStep s1 i a1) outs) s1 := by
  have hiq := not_mem_queue hL ha hp hc
  have hpre : ∀ j ∈ pre, j ∈ queueOf s P := fun j hj => hP ▸ List.mem_append_left _ hj
  have hipre : i ∉ pre := fun h => hiq _ (hpre i h)
  have hact1 := finishStep_actors s1 i a1
  have hnq := List.nodup_append.1 (hP ▸ (hL.qs P).1)
  have hI : LInvH (finishStep s1 i a1) pre :=
    LInvH_finish (obj_drop (H' := i :: pre) (hole_open hL hiq) hact hP hq (by simp [or_comm])) (hact ▸ ha) hpid hops
  have hpend : ∀ j ∈ pre, pendOf (finishStep s1 i a1) j = some P := by
    intro j hj
    rw [pendOf_upd_ne hact1 fun e => hipre (e ▸ hj), pendOf_congr hact]
    exact ((hL.qs P).2 j (hpre j hj)).2
  have herr2 : (finishStep s1 i a1).err = 0 := by
    rw [finishStep_err _ _ _ hops, herr1]; exact herr
  have hen' : ∀ j ∈ pre, pendEnabled (finishStep s1 i a1) j P = true := fun j hj =>
    (pendEnabled_sameObjs (sameObjs_finishStep s1 i a1) hw j).trans <| hen j hj fun hjq => hnq.2.2 j hj j hjq rfl
  obtain ⟨e1, e2, e3⟩ := wakeAll_sound hw outs (finishStep s1 i a1) herr2 (houts ▸ hen')
    (houts ▸ hnq.1) (houts ▸ hI) (houts ▸ hpend)
  exact ⟨(first_step hL herr ha hp hc hE _).trans e1, e2, e3.trans (sameObjs_finishStep ..)⟩

/-- the call hands the object to the head `j` of the queue: `i` runs on, then `j` does -/
theorem handoff_sound {j : Nat} (hE : execPend s i a p0 0 = finishStep s1 i a) (hP : queueOf s P = [j] ++ q')
    (hen : j ∉ q' → pendEnabled s1 j P = true) :
    execPath s [(i, 0), (j, 0)] = some (wake (finishStep s1 i a) j) ∧
      LInv (wake (finishStep s1 i a) j) ∧ SameObjs (wake (finishStep s1 i a) j) s1 :=
  run_sound (outs := [(j, .unit)]) hL herr ha hp hc hw hq hact herr1 hE hP
    (fun _ hj hjq => List.mem_singleton.1 hj ▸ hen (List.mem_singleton.1 hj ▸ hjq)) (hL.pid i a ha) (hL.ops i a ha) rfl

end answers

theorem abs_upd {α β : Type} (abs : β → α) {l l' : List α} {f : Nat → β} (k : Nat) (v : β)
    (h : ∀ j x, l[j]? = some x → x = abs (f j)) (hl' : l' = modifyAt l k (fun _ => abs v)) (j : Nat) (x : α)
    (hx : l'[j]? = some x) : x = abs (Sync.upd f k v j) := by
  subst hl'
  by_cases e : j = k
  · subst e
    rw [modifyAt_get_eq] at hx
    rw [Sync.upd_same]
    cases hl : l[j]? with
    | none => rw [hl] at hx; cases hx
    | some y => rw [hl] at hx; exact (Option.some.inj hx).symm
  · rw [modifyAt_get_ne _ _ _ _ (Ne.symm e)] at hx
    rw [Sync.upd_ne _ _ e]
    exact h j x hx

theorem upd_forall {β : Type} (P : β → Prop) {f : Nat → β} {k : Nat} {v : β} (hv : P v) (hf : ∀ j, P (f j)) (j : Nat) :
    P (Sync.upd f k v j) := by
  by_cases e : j = k
  · rw [e, Sync.upd_same]; exact hv
  · rw [Sync.upd_ne _ _ e]; exact hf j

theorem R.getM {o : OState} (hR : R o) {m : Nat} (hm : m < o.s.mutexes.length) :
    o.s.mutexes[m]? = some (absM (o.w.mutexes m)) :=
  (hR.rm m _ (List.getElem?_eq_getElem hm)) ▸ List.getElem?_eq_getElem hm

theorem R.queue_mutexWait {o : OState} (hR : R o) {m : Nat} (hm : m < o.s.mutexes.length) :
    queueOf o.s (.mutexWait m) = (absM (o.w.mutexes m)).queue := by
  simp only [queueOf, queueM, hR.getM hm]

theorem R_setM {o : OState} {m : Nat} {M' : Sync.Mutex} {s' : State} (hR : R o)
    (h : SameObjs s' (setM o.s m (absM M'))) : R { w := { o.w with mutexes := Sync.upd o.w.mutexes m M' }, s := s' } :=
  ⟨fun m' mu hmu => abs_upd absM m M' hR.rm h.mutexes m' mu hmu, fun k se hse => hR.rs k se (h.sems ▸ hse),
    fun b ba hba => hR.rb b ba (h.bars ▸ hba)⟩

theorem SInv_setM {w : Sync.World} {m : Nat} {M' : Sync.Mutex} (hS : SInv w) (h1 : M'.recursive = false)
    (h2 : ∀ q ∈ M'.queue, q.waited = true) : SInv { w with mutexes := Sync.upd w.mutexes m M' } :=
  ⟨upd_forall (fun M : Sync.Mutex => M.recursive = false) h1 hS.nrec,
    upd_forall (fun M : Sync.Mutex => ∀ q ∈ M.queue, q.waited = true) h2 hS.mwaited,
    hS.swaited, hS.bwaited⟩

theorem setM_of_modify {s : State} {m : Nat} {x mu : McRef.Mutex} {f : McRef.Mutex → McRef.Mutex}
    (hx : s.mutexes[m]? = some x) (h : f x = mu) : { s with mutexes := modifyAt s.mutexes m f } = setM s m mu := by
  rw [setM, modifyAt_congr f (fun _ => mu) _ _ _ hx h]

theorem enabled_mutexWait {s : State} {m j : Nat} (hm : m < s.mutexes.length) {mu : McRef.Mutex}
    (ho : mu.owner = some j) (hj : j ∉ mu.queue) : pendEnabled (setM s m mu) j (.mutexWait m) = true := by
  simp [pendEnabled, setM, modifyAt_get_eq, List.getElem?_eq_getElem hm, ho, hj]

theorem execPend_mutexAsyncLock {s : State} {m : Nat} {x : McRef.Mutex} (hx : s.mutexes[m]? = some x) (i : Nat)
    (a : Actor) (tc : Nat) :
    execPend s i a (.mutexAsyncLock m) tc = setPend (setM s m (mutexLockAsync x i)) i a (.mutexWait m) := 
  congrArg (setPend · i a _) (setM_of_modify hx rfl)

theorem execPend_mutexTrylock {s : State} {m : Nat} {x : McRef.Mutex} (hx : s.mutexes[m]? = some x) (i : Nat)
    (a : Actor) (tc : Nat) :
    execPend s i a (.mutexTrylock m) tc =
      finishStep (setM s m (match x.owner with | none => { x with owner := some i } | some _ => x)) i
        { a with obs := a.obs ++ [match x.owner with | none => 1 | some _ => 0] } := by
  have ho : mutexOwner s m = x.owner := by simp only [mutexOwner, hx]
  show (match mutexOwner s m with | none => _ | some _ => _) = _
  rw [ho]
  cases x.owner with
  | none => exact congrArg (finishStep · i _) (setM_of_modify hx rfl)
  | some _ => simp only [setM, modifyAt_self _ _ _ hx]

theorem execPend_mutexUnlock {s : State} {m : Nat} {x : McRef.Mutex} (hx : s.mutexes[m]? = some x) (i : Nat)
    (a : Actor) (tc : Nat) :
    execPend s i a (.mutexUnlock m) tc =
      if x.owner = some i then finishStep (setM s m (mutexRelease x)) i a else crash s i a := by
  have ho : mutexOwner s m = x.owner := by simp only [mutexOwner, hx]
  show (if mutexOwner s m = some i then _ else _) = _
  rw [ho, setM_of_modify hx rfl]

/-! ### the mutex operations of the kernel, seen through `absM` (non-recursive mutex whose queued acquisitions are
all registered): each is the operation of the reference LTS, and answers a prefix of the queue -/

/-- `Mutex::lock`: MUTEX_ASYNC_LOCK, answered iff the mutex was free -/
theorem absM_lock {M : Sync.Mutex} (i : Nat) (hn : M.recursive = false) (hwt : ∀ q ∈ M.queue, q.waited = true) :
    ∃ M' out, M.lock i .unit = (M', out) ∧ absM M' = mutexLockAsync (absM M) i ∧ M'.recursive = false ∧
      (∀ q ∈ M'.queue, q.waited = true) ∧ BlockShape i (absM M).queue (absM M').queue (Sync.optOut i out) ∧
      ∀ j ∈ (Sync.optOut i out).map (·.1), M'.owner = some j := by
  cases hown : M.owner with
  | none =>
    exact ⟨_, _, Sync.lock_free i .unit hown, by simp only [mutexLockAsync, absM, hown], hn, hwt,
      .inr ⟨[], rfl, rfl⟩, fun j hj => List.mem_singleton.1 hj ▸ rfl⟩
  | some x =>
    exact ⟨_, _, Sync.lock_nonrec_busy i x .unit hn hown, by simp [mutexLockAsync, absM, hown], hn,
      List.forall_mem_append.2 ⟨hwt, List.forall_mem_singleton.2 rfl⟩, .inl ⟨rfl, by simp [absM]⟩,
      fun _ hj => nomatch hj⟩

/-- `Mutex::try_lock`: taken iff free; nobody is answered but the caller -/
theorem absM_tryLock {M : Sync.Mutex} (i : Nat) (hn : M.recursive = false) (hwt : ∀ q ∈ M.queue, q.waited = true) :
    ∃ M' b, M.tryLock i = (M', b) ∧
      absM M' = (match (absM M).owner with | none => { absM M with owner := some i } | some _ => absM M) ∧
      (if b = true then (1 : Int) else 0) = (match (absM M).owner with | none => 1 | some _ => 0) ∧
      M'.recursive = false ∧ (∀ q ∈ M'.queue, q.waited = true) ∧ (absM M).queue = [] ++ (absM M').queue := by
  cases hown : M.owner with
  | none =>
    exact ⟨_, _, Sync.tryLock_free i hown, by simp only [absM, hown], by simp only [absM, hown, if_true], hn, hwt, rfl⟩
  | some x =>
    exact ⟨_, _, Sync.tryLock_nonrec_busy i hn hown, by simp only [absM, hown], by simp [absM, hown], hn, hwt,
      rfl⟩

/-- `Mutex::unlock` by the owner: MUTEX_UNLOCK; the head of the queue, if any, becomes the owner and is answered -/
theorem absM_unlock {M : Sync.Mutex} {i : Nat} (hn : M.recursive = false) (hwt : ∀ q ∈ M.queue, q.waited = true)
    (ho : M.owner = some i) :
    ∃ M' fin, M.unlock i = .ok (M', fin) ∧ absM M' = mutexRelease (absM M) ∧ M'.recursive = false ∧
      (∀ q ∈ M'.queue, q.waited = true) ∧
      match fin with
      | none => (absM M).queue = [] ++ (absM M').queue
      | some o => (absM M).queue = [o.1] ++ (absM M').queue ∧ M'.owner = some o.1 := by
  have hd : ¬ (M.recursive = true ∧ 1 < M.depth) := by simp [hn]
  cases hq : M.queue with
  | nil =>
    exact ⟨_, _, Sync.unlock_free ho hd hq, by simp [mutexRelease, absM, hq], hn, fun q h => hwt q h, by simp [absM, hq]⟩
  | cons acq rest =>
    have hw' : ∀ q ∈ acq :: rest, q.waited = true := hq ▸ hwt
    refine ⟨_, _, Sync.unlock_handoff ho hd hq, by simp [mutexRelease, absM, hq], hn,
      fun q h => hw' q (List.mem_cons_of_mem _ h), ?_⟩
    rw [hw' acq List.mem_cons_self]
    exact ⟨by simp [absM, hq], rfl⟩

theorem sync_step_lock (w : Sync.World) (i m : Nat) :
    w.step (.lock i m) = .ok ({ w with mutexes := Sync.upd w.mutexes m ((w.mutexes m).lock i .unit).1 },
                              Sync.optOut i ((w.mutexes m).lock i .unit).2) := Sync.wstep_lock w i m

/-- `Mutex::lock` in one simcall, with no hypothesis on the owner: when the caller already owns the (non-recursive)
mutex, `lock_async` queues it behind itself and `wait_for` (which tests `granted_`) does not answer — in the LTS
MUTEX_ASYNC_LOCK is executed and the MUTEX_WAIT is not enabled (self-deadlock, as under the checker). -/
theorem lock_sound {o : OState} {i m : Nat} {a : Actor} (hR : R o) (hI : Inv o) (ha : o.s.actors[i]? = some a)
    (herr : o.s.err = 0) (hp : a.pend = some (.mutexAsyncLock m))
    {o' : OState} {path : Path} (h : oLock o i a m = some (o', path)) :
    execPath o.s path = some o'.s ∧ R o' ∧ Inv o' := by
  by_cases hm : m < o.s.mutexes.length
  · obtain ⟨M', out, hl, hab, hnr, hwt, hsh, hown⟩ := absM_lock (M := o.w.mutexes m) i (hI.sy.nrec m) (hI.sy.mwaited m)
    simp only [oLock, hm, ↓reduceIte, sync_step_lock, hl, Sync.upd_same, Option.some.injEq, Prod.mk.injEq] at h
    obtain ⟨rfl, rfl⟩ := h
    have hE := execPend_mutexAsyncLock (hR.getM hm) i a 0
    rw [← hab] at hE
    obtain ⟨e1, e2, e3⟩ := block_sound hI.lt herr ha hp rfl (.mutex m) (queueOf_setM _ _ _ hm) rfl rfl hE
      ((hR.queue_mutexWait hm).symm ▸ hsh) fun j hj => enabled_mutexWait hm (hown j hj)
    exact ⟨e1, R_setM hR e3, SInv_setM hI.sy hnr hwt, e2⟩
  · simp [oLock, hm] at h

theorem sync_step_trylock (w : Sync.World) (i m : Nat) :
    w.step (.tryLock i m) = .ok ({ w with mutexes := Sync.upd w.mutexes m ((w.mutexes m).tryLock i).1 },
                                 [(i, .flag ((w.mutexes m).tryLock i).2)]) := Sync.wstep_tryLock w i m

theorem trylock_sound {o : OState} {i m : Nat} {a : Actor} (hR : R o) (hI : Inv o) (ha : o.s.actors[i]? = some a)
    (herr : o.s.err = 0) (hp : a.pend = some (.mutexTrylock m))
    {o' : OState} {path : Path} (h : oTrylock o i a m = some (o', path)) :
    execPath o.s path = some o'.s ∧ R o' ∧ Inv o' := by
  by_cases hm : m < o.s.mutexes.length
  · obtain ⟨M', b, ht, hab, hobs, hnr, hwt, hqe⟩ :=
      absM_tryLock (M := o.w.mutexes m) i (hI.sy.nrec m) (hI.sy.mwaited m)
    simp only [oTrylock, hm, ↓reduceIte, sync_step_trylock, ht, Sync.upd_same, Option.some.injEq, Prod.mk.injEq] at h
    obtain ⟨rfl, rfl⟩ := h
    have hE := execPend_mutexTrylock (hR.getM hm) i a 0
    rw [← hab, ← hobs] at hE
    obtain ⟨e1, e2, e3⟩ := run_sound (pre := []) (outs := []) hI.lt herr ha hp rfl
      (.mutex m) (queueOf_setM _ _ _ hm) rfl rfl hE ((hR.queue_mutexWait hm).trans hqe)
      (fun j hj => nomatch hj) (hI.lt.pid i a ha) (hI.lt.ops i a ha) rfl
    exact ⟨e1, R_setM hR e3, SInv_setM hI.sy hnr hwt, e2⟩
  · simp [oTrylock, hm] at h

theorem sync_step_unlock (w : Sync.World) (i m : Nat) :
    w.step (.unlock i m) =
      match (w.mutexes m).unlock i with
      | .error e => .error e
      | .ok (mu, fin) => .ok ({ w with mutexes := Sync.upd w.mutexes m mu },
                              (match fin with | some o => [o] | none => []) ++ [(i, .unit)]) := Sync.wstep_unlock w i m

theorem unlock_sound {o : OState} {i m : Nat} {a : Actor} (hR : R o) (hI : Inv o) (ha : o.s.actors[i]? = some a)
    (herr : o.s.err = 0) (hp : a.pend = some (.mutexUnlock m))
    {o' : OState} {path : Path} (h : oUnlock o i a m = some (o', path)) :
    execPath o.s path = some o'.s ∧ R o' ∧ Inv o' := by
  by_cases hm : m < o.s.mutexes.length
  · simp only [oUnlock, hm, ↓reduceIte, sync_step_unlock] at h
    have hE := execPend_mutexUnlock (hR.getM hm) i a 0
    have hqM : queueOf o.s (.mutexWait m) = (absM (o.w.mutexes m)).queue := hR.queue_mutexWait hm
    by_cases hown : (o.w.mutexes m).owner = some i
    · obtain ⟨M', fin, hu, hab, hnr, hwt, hsh⟩ := absM_unlock (hI.sy.nrec m) (hI.sy.mwaited m) hown
      rw [if_pos (show (absM (o.w.mutexes m)).owner = some i from hown), ← hab] at hE
      rw [hu] at h
      cases fin with
      | none =>
        simp only [List.nil_append, Sync.upd_same, Option.some.injEq, Prod.mk.injEq] at h
        obtain ⟨rfl, rfl⟩ := h
        obtain ⟨e1, e2, e3⟩ := run_sound (outs := []) hI.lt herr ha hp rfl (.mutex m) (queueOf_setM _ _ _ hm) rfl
          rfl hE (hqM.trans hsh) (fun j hj => nomatch hj) (hI.lt.pid i a ha) (hI.lt.ops i a ha) rfl
        exact ⟨e1, R_setM hR e3, SInv_setM hI.sy hnr hwt, e2⟩
      | some x =>
        simp only [List.cons_append, List.nil_append, Sync.upd_same, Option.some.injEq, Prod.mk.injEq] at h
        obtain ⟨rfl, rfl⟩ := h
        obtain ⟨e1, e2, e3⟩ := handoff_sound hI.lt herr ha hp rfl (.mutex m) (queueOf_setM _ _ _ hm) rfl rfl hE
          (hqM.trans hsh.1) (enabled_mutexWait hm hsh.2)
        exact ⟨e1, R_setM hR e3, SInv_setM hI.sy hnr hwt, e2⟩
    · -- xbt_assert(issuer == owner_)
      rw [if_neg (show ¬ (absM (o.w.mutexes m)).owner = some i from hown)] at hE
      rw [Sync.unlock_notOwner hown] at h
      simp only [Option.some.injEq, Prod.mk.injEq] at h
      obtain ⟨rfl, rfl⟩ := h
      obtain ⟨e1, e2⟩ := crash_sound hI.lt herr ha hp rfl hE
      exact ⟨e1, ⟨hR.rm, hR.rs, hR.rb⟩, hI.sy, e2⟩
  · simp [oUnlock, hm] at h

end SgVerif.C14
