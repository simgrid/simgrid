/-
C14 — the one-simcall machine of the code BEFORE the repair of finding `mutex-relock-by-owner-returns`
(`MutexAcquisitionImpl::wait_for` testing `mutex_->get_owner() == issuer_` instead of `granted_`; repaired by
props/C14/fix_series/01-mutex-relock.patch): same machine as C14/Model.lean except that `Mutex::lock` uses
`Sync.Mutex.lockPre`.  NOT the current code, used by no driver: kept for the regression statements of Props.lean.
Core only.
-/
import SgVerif.C14.Main
namespace SgVerif.C14
open SgVerif.McRef

/-- `Sync.World.step (.lock i m)` with the pre-repair `wait_for` (owner test) -/
def stepLockPre (w : Sync.World) (i m : Nat) : Sync.World × Sync.Outs :=
  ({ w with mutexes := Sync.upd w.mutexes m ((w.mutexes m).lockPre i .unit).1 },
   Sync.optOut i ((w.mutexes m).lockPre i .unit).2)

def oLockPre (o : OState) (i : Nat) (a : Actor) (m : Nat) : Option (OState × Path) :=
  if m < o.s.mutexes.length then
    let r := stepLockPre o.w i m
    let s2 := setPend (setM o.s m (absM (r.1.mutexes m))) i a (.mutexWait m)
    some ({ w := r.1, s := wakeAll s2 r.2 }, (i, 0) :: pathOf r.2)
  else none

/-- one simcall of actor `i`: `Mutex::lock` with the pre-repair `wait_for`, everything else as `ostep` -/
def ostepPre (o : OState) (i : Nat) : Option (OState × Path) :=
  match o.s.actors[i]? with
  | none => none
  | some a =>
    if o.s.err ≠ 0 ∨ a.pid = 0 then none else
    match a.pend with
    | some (.mutexAsyncLock m) => oLockPre o i a m
    | _ => ostep o i

def orunPre (o : OState) : List Nat → Option (OState × Path)
  | [] => some (o, [])
  | i :: h =>
    match ostepPre o i with
    | none => none
    | some (o1, p1) =>
      match orunPre o1 h with
      | none => none
      | some (o2, p2) => some (o2, p1 ++ p2)

/-- the step is not a re-lock: the actor does not `lock()` a (non-recursive) mutex that it already owns -/
def stepOK (o : OState) (i : Nat) : Prop :=
  ∀ m, pendOf o.s i = some (.mutexAsyncLock m) → (o.w.mutexes m).owner ≠ some i

/-- the re-lock by the owner on the old code: answered at once, a stale (unregistered) acquisition stays queued -/
theorem lockPre_relock (M : Sync.Mutex) (i : Nat) (hn : M.recursive = false) (ho : M.owner = some i) :
    M.lockPre i .unit = ({ M with queue := M.queue ++ [{ issuer := i }] }, some .unit) := by
  simp [Sync.Mutex.lockPre, Sync.Mutex.lockAsync, Sync.Mutex.waitForPre, hn, ho]

theorem lockPre_eq_lock (M : Sync.Mutex) (i : Nat) (hne : M.owner ≠ some i) : M.lockPre i .unit = M.lock i .unit := by
  simp only [Sync.Mutex.lock, Sync.Mutex.lockPre, Sync.Mutex.waitFor, Sync.Mutex.waitForPre,
    Sync.lockAsync_granted_iff M i fun h => hne h.2]

theorem oLockPre_eq_oLock (o : OState) (i : Nat) (a : Actor) (m : Nat) (hne : (o.w.mutexes m).owner ≠ some i) :
    oLockPre o i a m = oLock o i a m := by
  simp only [oLockPre, oLock, stepLockPre, sync_step_lock, lockPre_eq_lock _ i hne]

end SgVerif.C14
