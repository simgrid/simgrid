/-
C14 — what the refinement  one-simcall machine (C14/Model.lean)  ⊑  reference LTS (McRef/Model.lean)  is stated with:
the covered operations (`covOp`, `covPend`), the queues of the LTS objects (`queueOf`), the state correspondence `R` and
the invariant `Inv` = `SInv` (Sync side) + `LInv` (LTS side, `LInvH` with no actor in transit); and the first lemmas about
`modifyAt`, `advance` and the state updates.  Core only (no Mathlib).
-/
import SgVerif.C14.Model
import SgVerif.McRef.Lemmas
namespace SgVerif.C14
open SgVerif.McRef

theorem modifyAt_length {α : Type} (f : α → α) : ∀ (l : List α) (i : Nat), (modifyAt l i f).length = l.length :=
  fun l i => modifyAt_eq_modify f l i ▸ List.length_modify f l i

theorem modifyAt_none {α : Type} (f : α → α) : ∀ (l : List α) (i : Nat), l[i]? = none → modifyAt l i f = l :=
  fun l i h => (modifyAt_eq_modify f l i).trans (List.modify_eq_self (List.getElem?_eq_none_iff.mp h))

def pendOf (s : State) (j : Nat) : Option Pend :=
  match s.actors[j]? with
  | some a => a.pend
  | none => none

theorem pendOf_of_get {s : State} {j : Nat} {a : Actor} (h : s.actors[j]? = some a) : pendOf s j = a.pend := by
  simp [pendOf, h]

theorem pendOf_some {s : State} {j : Nat} {p : Pend} (h : pendOf s j = some p) :
    ∃ aj, s.actors[j]? = some aj ∧ aj.pend = some p := by
  unfold pendOf at h
  cases hh : s.actors[j]? with
  | none => rw [hh] at h; cases h
  | some aj => rw [hh] at h; exact ⟨aj, rfl, h⟩

/-- the six operations the theorems cover (`opCovered` of C14/DriverLib.lean also admits the three condition-variable
operations, which the machine executes and only the correspondence check covers) -/
def covOp : Op → Bool
  | .lock _ | .trylock _ | .unlock _ | .acquire _ | .release _ | .barrier _ => true
  | _ => false

/-- the first simcall of a covered S4U call -/
def covPend : Pend → Bool
  | .mutexAsyncLock _ | .mutexTrylock _ | .mutexUnlock _ | .semAsyncLock _ | .semUnlock _ | .barAsyncLock _ => true
  | _ => false

/-- `advance` on a covered operation: it stops there, on the first simcall of that call, or skips it
(an `unlock` of a mutex the actor does not hold) -/
theorem advance_cov_cons (s : State) (i : Nat) (a : Actor) (op : Op) (rest : List Op) (h : covOp op = true) :
    (∃ p, covPend p = true ∧ advance s i a (op :: rest) = ({ a with pend := some p, todo := rest }, false)) ∨
    advance s i a (op :: rest) = advance s i a rest := by
  cases op with
  | lock | trylock | acquire | release | barrier => exact .inl ⟨_, rfl, rfl⟩
  | unlock m =>
    simp only [advance]
    split
    · exact .inl ⟨_, rfl, rfl⟩
    · exact .inr rfl
  | _ => cases h

theorem advance_cov (s : State) (i : Nat) (a : Actor) (l : List Op) (h : ∀ op ∈ l, covOp op = true) :
    (advance s i a l).2 = false ∧
    (∀ p, (advance s i a l).1.pend = some p → covPend p = true) ∧
    (∀ op ∈ (advance s i a l).1.todo, covOp op = true) ∧
    (advance s i a l).1.pid = a.pid := by
  induction l with
  | nil =>
    rw [advance]
    refine ⟨rfl, ?_, ?_, rfl⟩
    · intro p h; cases h
    · intro op h; cases h
  | cons op rest ih =>
    have hrest : ∀ op ∈ rest, covOp op = true := fun o ho => h o (List.mem_cons_of_mem _ ho)
    rcases advance_cov_cons s i a op rest (h op List.mem_cons_self) with ⟨p, hp, e⟩ | e
    · rw [e]
      refine ⟨rfl, ?_, hrest, rfl⟩
      intro q hq
      cases hq
      exact hp
    · rw [e]; exact ih hrest

@[simp] theorem setPend_mutexes (s : State) (i : Nat) (a : Actor) (p : Pend) : (setPend s i a p).mutexes = s.mutexes := rfl
@[simp] theorem setPend_sems (s : State) (i : Nat) (a : Actor) (p : Pend) : (setPend s i a p).sems = s.sems := rfl
@[simp] theorem setPend_bars (s : State) (i : Nat) (a : Actor) (p : Pend) : (setPend s i a p).bars = s.bars := rfl
@[simp] theorem setPend_cvs (s : State) (i : Nat) (a : Actor) (p : Pend) : (setPend s i a p).cvs = s.cvs := rfl
@[simp] theorem setPend_err (s : State) (i : Nat) (a : Actor) (p : Pend) : (setPend s i a p).err = s.err := rfl
@[simp] theorem setPend_actors (s : State) (i : Nat) (a : Actor) (p : Pend) :
    (setPend s i a p).actors = modifyAt s.actors i (fun _ => { a with pend := some p }) := rfl

@[simp] theorem finishStep_mutexes (s : State) (i : Nat) (a : Actor) : (finishStep s i a).mutexes = s.mutexes := by
  simp [finishStep]
@[simp] theorem finishStep_sems (s : State) (i : Nat) (a : Actor) : (finishStep s i a).sems = s.sems := by
  simp [finishStep]
@[simp] theorem finishStep_bars (s : State) (i : Nat) (a : Actor) : (finishStep s i a).bars = s.bars := by
  simp [finishStep]
@[simp] theorem finishStep_cvs (s : State) (i : Nat) (a : Actor) : (finishStep s i a).cvs = s.cvs := by
  simp [finishStep]
theorem finishStep_actors (s : State) (i : Nat) (a : Actor) :
    (finishStep s i a).actors = modifyAt s.actors i (fun _ => (advance s i a a.todo).1) := by
  simp [finishStep]
theorem finishStep_err (s : State) (i : Nat) (a : Actor) (h : ∀ op ∈ a.todo, covOp op = true) :
    (finishStep s i a).err = s.err := by
  simp [finishStep, (advance_cov s i a a.todo h).1]

@[simp] theorem setM_actors (s : State) (m : Nat) (mu : McRef.Mutex) : (setM s m mu).actors = s.actors := rfl
@[simp] theorem setS_actors (s : State) (m : Nat) (mu : McRef.Sem) : (setS s m mu).actors = s.actors := rfl
@[simp] theorem setB_actors (s : State) (m : Nat) (mu : McRef.Bar) : (setB s m mu).actors = s.actors := rfl
@[simp] theorem setM_err (s : State) (m : Nat) (mu : McRef.Mutex) : (setM s m mu).err = s.err := rfl
@[simp] theorem setS_err (s : State) (m : Nat) (mu : McRef.Sem) : (setS s m mu).err = s.err := rfl
@[simp] theorem setB_err (s : State) (m : Nat) (mu : McRef.Bar) : (setB s m mu).err = s.err := rfl

structure SameObjs (s' s : State) : Prop where
  mutexes : s'.mutexes = s.mutexes
  sems : s'.sems = s.sems
  bars : s'.bars = s.bars

theorem SameObjs.trans {s1 s2 s3 : State} (h : SameObjs s1 s2) (h' : SameObjs s2 s3) : SameObjs s1 s3 :=
  ⟨h.mutexes.trans h'.mutexes, h.sems.trans h'.sems, h.bars.trans h'.bars⟩

theorem sameObjs_setPend (s : State) (i : Nat) (a : Actor) (p : Pend) : SameObjs (setPend s i a p) s := ⟨rfl, rfl, rfl⟩

theorem sameObjs_finishStep (s : State) (i : Nat) (a : Actor) : SameObjs (finishStep s i a) s :=
  ⟨finishStep_mutexes s i a, finishStep_sems s i a, finishStep_bars s i a⟩

theorem sameObjs_wake (s : State) (j : Nat) : SameObjs (wake s j) s := by
  unfold wake
  split
  · exact sameObjs_finishStep ..
  · exact ⟨rfl, rfl, rfl⟩

/-! ### queues of the LTS objects, indexed by the `*_WAIT` simcall that waits in them (`[]` for any other simcall and
for an object index out of range) -/

def queueM (s : State) (m : Nat) : List Nat := match s.mutexes[m]? with | some mu => mu.queue | none => []
def queueS (s : State) (k : Nat) : List Nat := match s.sems[k]? with | some se => se.queue | none => []
def queueB (s : State) (b : Nat) : List Nat := match s.bars[b]? with | some ba => ba.queue | none => []

def queueOf (s : State) : Pend → List Nat
  | .mutexWait m => queueM s m
  | .semWait k => queueS s k
  | .barWait b => queueB s b
  | _ => []

/-- `R`: the object fields of the LTS state are the abstraction of the Sync world. -/
structure R (o : OState) : Prop where
  rm : ∀ m mu, o.s.mutexes[m]? = some mu → mu = absM (o.w.mutexes m)
  rs : ∀ k se, o.s.sems[k]? = some se → se = absS (o.w.sems k)
  rb : ∀ b ba, o.s.bars[b]? = some ba → ba = absB (o.w.bars b)

/-- Sync side of the invariant: non-recursive mutexes; on the one-simcall path every queued acquisition has its
issuer's simcall registered (`waited`). -/
structure SInv (w : Sync.World) : Prop where
  nrec : ∀ m, (w.mutexes m).recursive = false
  mwaited : ∀ m, ∀ q ∈ (w.mutexes m).queue, q.waited = true
  swaited : ∀ k, ∀ q ∈ (w.sems k).queue, q.waited = true
  bwaited : ∀ b, ∀ q ∈ (w.bars b).queue, q.waited = true

/-- LTS side of the invariant, with a set `H` of actors "in transit" (exempt from `pok`, and in no queue):
every actor is created and only has covered operations left; every queue is duplicate-free and its members are
exactly waiting on it; every pending simcall is the first simcall of a covered call or a `*_WAIT` sitting in its queue. -/
structure LInvH (s : State) (H : List Nat) : Prop where
  pid : ∀ (j : Nat) (a : Actor), s.actors[j]? = some a → a.pid ≠ 0
  ops : ∀ (j : Nat) (a : Actor), s.actors[j]? = some a → ∀ op ∈ a.todo, covOp op = true
  qs : ∀ p, (queueOf s p).Nodup ∧ ∀ j ∈ queueOf s p, j ∉ H ∧ pendOf s j = some p
  pok : ∀ j p, j ∉ H → pendOf s j = some p → covPend p = true ∨ j ∈ queueOf s p

abbrev LInv (s : State) : Prop := LInvH s []

structure Inv (o : OState) : Prop where
  sy : SInv o.w
  lt : LInv o.s

theorem step_enabled {s : State} {i : Nat} {a : Actor} {p : Pend} (ha : s.actors[i]? = some a) (hp : a.pend = some p)
    (herr : s.err = 0) (hpid : a.pid ≠ 0) (hen : pendEnabled s i p = true) (hmc : 0 < maxConsider p) :
    (labelAt s i 0).isSome = true ∧ step s i 0 = execPend s i a p 0 := by
  have hae : actorEnabled s i = true := by
    simp [actorEnabled, ha, hp, herr, hen, hpid]
  constructor
  · simp [labelAt, ha, hp, hae, hmc]
  · simp [step, ha, hp, hae, hmc]

theorem execPath_cons {s : State} {i : Nat} {rest : Path} (h : (labelAt s i 0).isSome = true) :
    execPath s ((i, 0) :: rest) = execPath (step s i 0) rest := by
  simp [execPath, h]

end SgVerif.C14
