/-
C41 — reported counter-examples are real and replayable (partial).

Proved:
  * `record_path_roundtrip`   ∀ non-empty paths of stored (aid : uint8_t ≠ Aid::INVALID, times_considered : unsigned short):
                              parse (to_string p) = p
  * `record_path_roundtrip_empty_counterexample`, `…_invalid_aid_counterexample`: the two excluded cases really fail
    (the empty path prints as "" which the parser rejects; to_string throws on Aid::INVALID = 31)
  * `replay_follows_path`     the reference LTS driven by a recorded path executes exactly that sequence of
                              (pid, times_considered), and the labels it yields form an execution of the LTS
  * `replay_deterministic`    in a given state a (pid, times_considered) designates at most one transition
NOT proved: that the paths printed by simgrid-mc are executions of the application ending in the reported violation
(`Exploration::get_record_trace`, `RecordTrace::replay` inside the real engine).  This is CHECKED per program by
props/C41/check.py: every reported path is replayed in the reference LTS and twice in the real binary.
-/
import SgVerif.C41.Lemmas
import SgVerif.McRef.Lts
namespace SgVerif.C41
open SgVerif.McRef

theorem toStr_length : ∀ p : List Chunk, p.length ≤ (toStr p).length
  | [] => by simp [toStr]
  | [c] => List.length_pos_iff.2 (showChunk_ne_nil c)
  | c :: c' :: rest => by
    have ih := toStr_length (c' :: rest)
    simp only [toStr, List.length_append, List.length_cons] at ih ⊢
    omega

theorem parseLoop_succ_ne (fuel : Nat) (s : List Char) (h : s ≠ []) :
    parseLoop (fuel + 1) s = (match scanChunk s with
      | none => none
      | some c => match afterSemi s with
        | none => some [c]
        | some r => (parseLoop fuel r).map (c :: ·)) := by
  cases s with
  | nil => exact absurd rfl h
  | cons ch t => rfl

/-- one turn of the loop on a printed chunk: the last one, or one followed by `;` and the rest -/
theorem parseLoop_showChunk (c : Chunk) (hc : c.1 < aidModulus ∧ c.2 < tcModulus) (fuel : Nat) :
    parseLoop (fuel + 1) (showChunk c) = some [c] ∧
    ∀ r, parseLoop (fuel + 1) (showChunk c ++ ';' :: r) = (parseLoop fuel r).map (c :: ·) := by
  have hne := showChunk_ne_nil c
  have hsemi (r : List Char) := afterSemi_append _ r (showChunk_no_semi c)
  constructor
  · have hscan := scanChunk_showChunk c hc.1 hc.2 [] (Or.inl rfl)
    have hsemi := hsemi []
    rw [List.append_nil] at hscan hsemi
    rw [parseLoop_succ_ne fuel _ hne, hscan, hsemi]
    rfl
  · intro r
    rw [parseLoop_succ_ne fuel _ fun h => hne (List.append_eq_nil_iff.1 h).1,
      scanChunk_showChunk c hc.1 hc.2 _ (Or.inr ⟨r, rfl⟩), hsemi]
    rfl

theorem parseLoop_toStr : ∀ (p : List Chunk) (fuel : Nat), p ≠ [] → (∀ c ∈ p, c.1 < aidModulus ∧ c.2 < tcModulus) → p.length ≤ fuel →
    parseLoop fuel (toStr p) = some p
  | [c], fuel + 1, _, hc, _ => (parseLoop_showChunk c (hc c List.mem_cons_self) fuel).1
  | c :: c' :: rest, fuel + 1, _, hc, hf => by
    show parseLoop (fuel + 1) (showChunk c ++ ';' :: toStr (c' :: rest)) = _
    rw [(parseLoop_showChunk c (hc c List.mem_cons_self) fuel).2,
      parseLoop_toStr (c' :: rest) fuel (List.cons_ne_nil _ _) (fun x hx => hc x (List.mem_cons_of_mem _ hx))
        (Nat.le_of_succ_le_succ hf)]
    rfl

/-- `RecordTrace(to_string(p)) = p` for every non-empty path of stored values (aid: uint8_t other than Aid::INVALID,
times_considered: unsigned short). -/
theorem record_path_roundtrip (p : List Chunk) (hne : p ≠ [])
    (hrange : ∀ c ∈ p, c.1 < aidModulus ∧ c.1 ≠ invalidAid ∧ c.2 < tcModulus) :
    (toStrChecked p).bind parse = some p := by
  have hvalid : p.any (fun c => c.1 == invalidAid) = false := by
    rw [List.any_eq_false]
    intro c hc
    simpa using (hrange c hc).2.1
  unfold toStrChecked
  simp only [hvalid, Bool.false_eq_true, if_false, Option.bind_some]
  unfold parse
  have h2 := toStr_length p
  cases hs : toStr p with
  | nil => rw [hs] at h2; exact absurd (List.eq_nil_of_length_eq_zero (Nat.le_zero.1 h2)) hne
  | cons ch t =>
    simp only [List.isEmpty_cons, Bool.false_eq_true, if_false]
    rw [← hs]
    exact parseLoop_toStr p _ hne (fun c hc => ⟨(hrange c hc).1, (hrange c hc).2.2⟩) (by omega)

/-- The full-strength statement (∀ paths) is false on the current code in two corner cases: the empty path prints as ""
which the parser rejects, and `Aid::INVALID` cannot be printed. -/
theorem record_path_roundtrip_empty_counterexample : (toStrChecked []).bind parse = none := by decide
theorem record_path_roundtrip_invalid_aid_counterexample : (toStrChecked [(31, 0)]).bind parse = none := by decide
/-- what the parser does with out-of-range input: truncation, not rejection -/
example : parse "300/-1;31".toList = some [(44, 65535), (31, 0)] := by decide

example : (toStrChecked [(1, 0), (2, 3), (12, 0)]).bind parse = some [(1, 0), (2, 3), (12, 0)] :=
  record_path_roundtrip _ (by simp) (by decide)
example : toStr [(1, 0), (2, 3), (12, 0)] = "1;2/3;12".toList := by decide

theorem labelOf_aid_tc (s : State) (i tc : Nat) (p : Pend) : (labelOf s i tc p).aid = pidOf s i ∧ (labelOf s i tc p).tc = tc := by
  cases p <;> simp only [labelOf] <;> (repeat' split) <;> simp

theorem labelAt_aid_tc {s : State} {i tc : Nat} {l : Label} (h : labelAt s i tc = some l) :
    l.aid = pidOf s i ∧ l.tc = tc := by
  unfold labelAt at h
  split at h
  · cases h
  · split at h
    · cases h
    · split at h
      · cases h; exact labelOf_aid_tc ..
      · cases h

theorem indexOfPid_pidOf {s : State} {pid i : Nat} (h : indexOfPid s pid = some i) : pidOf s i = pid := by
  unfold indexOfPid at h
  split at h
  · cases h
  · rw [List.findIdx?_eq_some_iff_getElem] at h
    obtain ⟨hlt, hp, _⟩ := h
    unfold pidOf
    simp [List.getElem?_eq_getElem hlt]
    simpa using hp

/-- The reference LTS driven by a recorded path executes exactly that sequence of (pid, times_considered); the labels
it yields are an execution of the LTS from `s` to the returned state. -/
theorem replay_follows_path : ∀ (path : List (Nat × Nat)) (s s' : State) (acc ls : List Label),
    replay s path acc = .ok (s', ls) →
    ∃ ls', ls = acc.reverse ++ ls' ∧ ls'.map (fun l => (l.aid, l.tc)) = path ∧ mcLTS.run s ls' = some s'
  | [], s, s', acc, ls, h => by
    simp only [replay] at h
    cases h
    exact ⟨[], by simp, rfl, rfl⟩
  | (pid, tc) :: rest, s, s', acc, ls, h => by
    simp only [replay] at h
    split at h
    · cases h
    · rename_i i hi
      split at h
      · cases h
      · rename_i l hl
        obtain ⟨ls', h1, h2, h3⟩ := replay_follows_path rest _ s' (l :: acc) ls h
        have hat := labelAt_aid_tc hl
        have hpid := indexOfPid_pidOf hi
        refine ⟨l :: ls', by simp [h1], ?_, ?_⟩
        · simp [h2, hat.1, hat.2, hpid]
        · have hidx : indexOfPid s l.aid = some i := by rw [hat.1, hpid]; exact hi
          simp only [LTS.run, mcLTS, hidx, hat.2, hl, beq_self_eq_true, if_true]
          simpa [mcLTS, hidx, hat.2] using h3

/-- Determinism: in a given state, an issuer and a times_considered designate at most one transition. -/
theorem replay_deterministic (s : State) (l1 l2 : Label) (h1 : mcLTS.enabled s l1 = true) (h2 : mcLTS.enabled s l2 = true)
    (haid : l1.aid = l2.aid) (htc : l1.tc = l2.tc) : l1 = l2 ∧ mcLTS.exec s l1 = mcLTS.exec s l2 := by
  simp only [mcLTS] at h1 h2 ⊢
  rw [← haid] at h2
  cases hi : indexOfPid s l1.aid with
  | none => simp [hi] at h1
  | some i =>
    simp only [hi, beq_iff_eq] at h1 h2
    rw [← htc, h1] at h2
    cases h2
    exact ⟨rfl, by simp [hi]⟩

/-- non-vacuity: a concrete deadlocking program, its recorded path `1;1;2;2;1;2` is accepted and ends in a deadlock. -/
def demo : Program :=
  { nmutex := 2, statics := [[.lock 0, .lock 1, .unlock 1, .unlock 0], [.lock 1, .lock 0, .unlock 0, .unlock 1]] }

example : (match replay (initState demo) [(1, 0), (1, 0), (2, 0), (2, 0), (1, 0), (2, 0)] [] with
    | .ok (s, ls) => isDeadlock s && ls.length == 6
    | .error _ => false) = true := by decide

end SgVerif.C41
