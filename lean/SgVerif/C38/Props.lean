/-
C38 — model-checker reductions are sound (partial).

What is proved (∀ transition systems, ∀ dependency relations satisfying the commutation hypothesis, ∀ executions):
  * `indep_swap_same_state`        two adjacent independent transitions can be swapped: same reached state (or both refused)
  * `equiv_traces_same_outcome`    Mazurkiewicz-equivalent executions reach the same state, hence the same terminal outcome
  * `deadlock_preserved_in_class`  if one execution of a class ends in a deadlock, every execution of the class does
  * `cover_reaches_reference_outcomes`  an exploration that contains at least one execution of every class of maximal
                                    executions reaches exactly the terminal outcomes (and deadlocks) of the full system
  * instantiated on the reference LTS of the mini-language (`mc_equiv_traces_same_outcome`), whose explorer never
    runs out of fuel (`fuel_sufficient`) and returns exactly the outcomes of the maximal runs (`explore_sound_complete`).
The commutation hypothesis (`LTS.Commutes`) is the theorem of C39 about SimGrid's `Transition::depends` strengthened with
"does not enable"; C39 discharges it for its cross-group relation only (`C39.world_commutes_cross`).

NOT proved (full statement of C38): that DPOR / SDPOR / ODPOR / UDPOR with sleep sets and wakeup trees visit at least one
execution of every class, i.e. that the hypothesis `hcover` below holds for the set of executions they explore.  This is
CHECKED per program by props/C38/check.py (outcome sets and verdicts of every reduction against the reference
explorer), not proved.
-/
import SgVerif.McRef.Lts
import SgVerif.C38.Explore
namespace SgVerif.C38
open SgVerif.McRef SgVerif.McRef.LTS

variable {σ τ : Type}

/-- Two adjacent independent transitions commute: same state after `x y u` and `y x u` (or both are refused). -/
theorem indep_swap_same_state (L : LTS σ τ) (dep : τ → τ → Bool) (hc : Commutes L dep)
    (s : σ) (x y : τ) (u : List τ) (h : dep x y = false) :
    L.run s (x :: y :: u) = L.run s (y :: x :: u) := by
  have h' : dep y x = false := (hc.sym y x).trans h
  simp only [LTS.run]
  cases hx : L.enabled s x <;> cases hy : L.enabled s y
  · simp
  · simp [hc.persist s y x h' hy, hx]
  · simp [hc.persist s x y h hx, hy]
  · simp [hc.persist s x y h hx, hy, hc.persist s y x h' hy, hx, hc.comm s x y h hx hy]

/-- Mazurkiewicz-equivalent executions reach the same state from every state (induction on the swaps). -/
theorem equiv_traces_same_outcome (L : LTS σ τ) (dep : τ → τ → Bool) (hc : Commutes L dep)
    {u v : List τ} (h : TraceEq dep u v) : ∀ s, L.run s u = L.run s v := by
  induction h with
  | nil => intro s; rfl
  | cons a _ ih =>
    intro s
    simp only [LTS.run]
    split
    · exact ih _
    · rfl
  | swap x y u hxy => intro s; exact indep_swap_same_state L dep hc s x y u hxy
  | trans _ _ ih1 ih2 => intro s; exact (ih1 s).trans (ih2 s)

/-- Maximal executions stay maximal, with the same final state, inside their class. -/
theorem complete_preserved_in_class (L : LTS σ τ) (dep : τ → τ → Bool) (hc : Commutes L dep)
    {u v : List τ} (h : TraceEq dep u v) (s s' : σ) (hu : L.Complete s u s') : L.Complete s v s' :=
  ⟨by rw [← equiv_traces_same_outcome L dep hc h s]; exact hu.1, hu.2⟩

/-- If one execution of a class ends in a deadlock (any predicate of the final state), all of them do. -/
theorem deadlock_preserved_in_class (L : LTS σ τ) (dep : τ → τ → Bool) (hc : Commutes L dep)
    (isDeadlock : σ → Prop) {u v : List τ} (h : TraceEq dep u v) (s : σ)
    (hu : ∃ s', L.Complete s u s' ∧ isDeadlock s') : ∃ s', L.Complete s v s' ∧ isDeadlock s' := by
  obtain ⟨s', hc', hd⟩ := hu
  exact ⟨s', complete_preserved_in_class L dep hc h s s' hc', hd⟩

/-- A reduction that explores a set `E` of maximal executions containing at least one representative of every class
reaches exactly the final states (outcomes `out`, deadlocks) of the whole system. -/
theorem cover_reaches_reference_outcomes (L : LTS σ τ) (dep : τ → τ → Bool) (hc : Commutes L dep)
    {ω : Type} (out : σ → ω) (s0 : σ) (E : List τ → Prop)
    (hsub : ∀ v, E v → ∃ s', L.Complete s0 v s')
    (hcover : ∀ u s', L.Complete s0 u s' → ∃ v, E v ∧ TraceEq dep u v) (o : ω) :
    (∃ u s', L.Complete s0 u s' ∧ out s' = o) ↔ (∃ v s', E v ∧ L.Complete s0 v s' ∧ out s' = o) := by
  constructor
  · rintro ⟨u, s', hu, ho⟩
    obtain ⟨v, hv, heq⟩ := hcover u s' hu
    exact ⟨v, s', hv, complete_preserved_in_class L dep hc heq s0 s' hu, ho⟩
  · rintro ⟨v, s', _, hv, ho⟩
    exact ⟨v, s', hv, ho⟩

/-- C38 on the reference LTS: for every dependency relation that satisfies the commutation hypothesis on it (C39),
equivalent executions of every program end in the same state: same outcome vector, same deadlock verdict. -/
theorem mc_equiv_traces_same_outcome (dep : Label → Label → Bool) (hc : Commutes mcLTS dep) (p : Program)
    {u v : List Label} (h : TraceEq dep u v) :
    (mcLTS.run (initState p) u).map (fun s => (outcome s, isDeadlock s, s.err)) =
    (mcLTS.run (initState p) v).map (fun s => (outcome s, isDeadlock s, s.err)) := by
  rw [equiv_traces_same_outcome mcLTS dep hc h]

/-- Every transition of the reference LTS consumes at least one unit of `weight` (the number of transitions the
loop-free program can still do). -/
theorem step_decreases_weight (s : State) (i tc : Nat) (h : (i, tc) ∈ moves s) : weight (step s i tc) < weight s :=
  Lemmas.step_weight_lt s i tc h

/-- The reference explorer never runs out of fuel when started with `weight s` (as `McRef.explore` does). -/
theorem fuel_sufficient (keep : Bool) (forbid : Option String) (cap : Nat) (s : State) (tr : List Label) (acc : Result) :
    (exploreAux keep forbid cap (weight s) s tr acc).exhausted = acc.exhausted :=
  Lemmas.exploreAux_exhausted keep forbid cap (weight s) s tr acc (Nat.le_refl _)

theorem explore_not_exhausted (p : Program) (keep : Bool) (cap : Nat) : (explore p keep cap).exhausted = false := by
  unfold explore
  rw [fuel_sufficient]

/-- **`McRef.explore` returns exactly the outcomes of the maximal runs** (soundness + completeness of the explorer),
for every program, whenever the cap on the number of executions was not hit (`capped = false`; the fuel never runs out:
`fuel_sufficient`).  `Lemmas.Term s s'` = `s'` is reachable from `s` by enabled transitions (`moves`, `step`) and has no
enabled transition.  Outcome vectors: those of the ends that are neither failed nor deadlocked; `deadlock` / `crash` /
`assertFail`: some end is a deadlock / has `err ∉ {0,1}` / has `err = 1` or is a normal end with the forbidden outcome. -/
theorem explore_sound_complete (p : Program) (keep : Bool) (cap : Nat) (hc : (explore p keep cap).capped = false) :
    (∀ o, o ∈ (explore p keep cap).outcomes ↔
        ∃ s', Lemmas.Term (initState p) s' ∧ Lemmas.isNormalLeaf s' = true ∧ outcome s' = o) ∧
    ((explore p keep cap).deadlock = true ↔ ∃ s', Lemmas.Term (initState p) s' ∧ Lemmas.isDeadLeaf s' = true) ∧
    ((explore p keep cap).crash = true ↔ ∃ s', Lemmas.Term (initState p) s' ∧ Lemmas.isCrashLeaf s' = true) ∧
    ((explore p keep cap).assertFail = true ↔ ∃ s', Lemmas.Term (initState p) s' ∧ Lemmas.isAssertLeaf p.forbid s' = true) := by
  obtain ⟨h1, h2, h3, h4⟩ := Lemmas.exploreAux_spec keep p.forbid cap (initState p) [] {} hc
  exact ⟨fun o => (h1 o).trans (or_iff_right List.not_mem_nil), h2.trans (or_iff_right Bool.false_ne_true),
    h3.trans (or_iff_right Bool.false_ne_true), h4.trans (or_iff_right Bool.false_ne_true)⟩

/-- the explorer as a fold: with enough fuel and without hitting the cap, `exploreAux` is the fold of `leaf` over the DFS
enumeration `Lemmas.leaves` of the ends of the maximal executions -/
theorem explore_eq_fold_leaves (keep : Bool) (forbid : Option String) (cap : Nat) (s : State) (tr : List Label) (acc : Result)
    (hc : (exploreAux keep forbid cap (weight s) s tr acc).capped = false) :
    exploreAux keep forbid cap (weight s) s tr acc = (Lemmas.leaves (weight s) s tr).foldl (Lemmas.leafF keep forbid) acc :=
  Lemmas.exploreAux_eq_fold keep forbid cap (weight s) s tr acc (Nat.le_refl _) hc

-- non-vacuity: a program with one actor drawing MC_random(0,1): the cap is not hit, two maximal executions
example : (explore { statics := [[.random 0 1]] }).capped = false ∧ (explore { statics := [[.random 0 1]] }).nexec = 2 := by decide
example : ∃ s', Lemmas.Term (initState { statics := [[.random 0 1]] }) s' ∧ Lemmas.isNormalLeaf s' = true :=
  ⟨_, ⟨.step 0 1 (by decide) (.refl _), by decide⟩, by decide⟩

/-- A toy system with real independence: two counters; letter `b` increments counter `b`, enabled below 2.
Different letters are independent and the commutation hypothesis holds. -/
def toy : LTS (Nat × Nat) Bool where
  enabled s b := if b then s.2 < 2 else s.1 < 2
  exec s b := if b then (s.1, s.2 + 1) else (s.1 + 1, s.2)

def toyDep (x y : Bool) : Bool := x == y

theorem toy_commutes : Commutes toy toyDep where
  sym := by intro x y; cases x <;> cases y <;> rfl
  persist := by intro s x y h _; cases x <;> cases y <;> first | rfl | cases h
  comm := by intro s x y h _ _; cases x <;> cases y <;> first | rfl | cases h

example : TraceEq toyDep [true, false, true] [true, true, false] := .cons true (.swap false true [] rfl)
example : toy.run (0, 0) [true, false, true] = toy.run (0, 0) [true, true, false] :=
  equiv_traces_same_outcome toy toyDep toy_commutes (.cons true (.swap false true [] rfl)) (0, 0)
example : toy.run (0, 0) [true, false, true] = some (1, 2) := by decide

/-- On the reference LTS the total relation satisfies the hypothesis (degenerate instance: every class is a singleton). -/
theorem mc_commutes_total : Commutes mcLTS (fun _ _ => true) where
  sym := by intros; rfl
  persist := by intro _ _ _ h; cases h
  comm := by intro _ _ _ h; cases h

end SgVerif.C38
