/-
C38 — the reference explorer returns exactly the leaves of the reference semantics: when the cap is not hit, `exploreAux`
is the fold of `leaf` over a DFS enumeration (`leaves`) of the maximal executions.  The namespace is that of C38/Lemmas.lean:
`Lemmas.Reach`, `Lemmas.Term`, `Lemmas.leaves`, `Lemmas.exploreAux_spec`, as C38/Props.lean cites them, are declared here.
-/
import SgVerif.C38.Lemmas
import SgVerif.Common.Fold
namespace SgVerif.C38.Lemmas
open SgVerif.McRef

/-- `s'` is reachable from `s` by enabled transitions -/
inductive Reach : State → State → Prop
  | refl (s : State) : Reach s s
  | step {s s' : State} (i tc : Nat) : (i, tc) ∈ moves s → Reach (McRef.step s i tc) s' → Reach s s'

/-- `s'` ends a maximal execution from `s` -/
def Term (s s' : State) : Prop := Reach s s' ∧ moves s' = []

/-- DFS enumeration of the ends of the maximal executions (with the trace accumulated like `exploreAux` does) -/
def leaves : Nat → State → List Label → List (State × List Label)
  | 0, s, tr => if (moves s).isEmpty then [(s, tr)] else []
  | fuel + 1, s, tr =>
    match moves s with
    | [] => [(s, tr)]
    | ms => ms.flatMap (fun mv =>
        match labelAt s mv.1 mv.2 with
        | some l => leaves fuel (McRef.step s mv.1 mv.2) (l :: tr)
        | none => [])

def leafF (keep : Bool) (forbid : Option String) (acc : Result) (p : State × List Label) : Result := leaf keep forbid p.1 p.2 acc

def isNormalLeaf (s : State) : Bool := s.err == 0 && !isDeadlock s
def isDeadLeaf (s : State) : Bool := s.err == 0 && isDeadlock s
def isCrashLeaf (s : State) : Bool := s.err != 1 && s.err != 0
def isAssertLeaf (forbid : Option String) (s : State) : Bool := s.err == 1 || (isNormalLeaf s && forbid == some (outcome s))

section leaf
variable (keep : Bool) (forbid : Option String) (s : State) (tr : List Label) (acc : Result)

/-- `leaf` in closed form: one more execution; each verdict flag is raised by its class of ends; a normal end adds its
outcome vector if it is new -/
theorem leaf_eq :
    leaf keep forbid s tr acc =
      { acc with nexec := acc.nexec + 1, execs := if keep then tr.reverse :: acc.execs else acc.execs,
                 assertFail := acc.assertFail || isAssertLeaf forbid s, crash := acc.crash || isCrashLeaf s,
                 deadlock := acc.deadlock || isDeadLeaf s,
                 outcomes := if isNormalLeaf s && !acc.outcomes.contains (outcome s) then acc.outcomes ++ [outcome s]
                             else acc.outcomes } := by
  unfold leaf isAssertLeaf isCrashLeaf isDeadLeaf isNormalLeaf
  by_cases h1 : s.err = 1
  · simp [h1]
  · by_cases h0 : s.err = 0
    · cases hd : isDeadlock s
      · by_cases hc : outcome s ∈ acc.outcomes <;> cases hf : (forbid == some (outcome s)) <;> simp [h0, hc, hf]
      · simp [h0]
    · simp [h1, h0]

theorem leaf_outcomes (o : String) :
    o ∈ (leaf keep forbid s tr acc).outcomes ↔ o ∈ acc.outcomes ∨ (isNormalLeaf s = true ∧ outcome s = o) := by
  rw [leaf_eq]
  cases hn : isNormalLeaf s
  · simp
  · by_cases hm : outcome s ∈ acc.outcomes
    · simp only [Bool.true_and, List.contains_iff_mem.2 hm, Bool.not_true, Bool.false_eq_true, if_false, true_and]
      exact ⟨Or.inl, fun h => h.elim id (fun e => e ▸ hm)⟩
    · simp [hm, eq_comm]

end leaf

theorem fold_leaf (keep : Bool) (forbid : Option String) (P : Result → Prop) (Q : State → Prop)
    (h : ∀ s tr acc, P (leaf keep forbid s tr acc) ↔ P acc ∨ Q s) :
    ∀ (L : List (State × List Label)) (acc : Result), P (L.foldl (leafF keep forbid) acc) ↔ P acc ∨ ∃ p ∈ L, Q p.1
  | [], acc => by simp
  | p :: L, acc => by
    simp only [List.foldl_cons, List.mem_cons, exists_eq_or_imp]
    rw [fold_leaf keep forbid P Q h L, leafF, h, or_assoc]

/-- the body of the loop over the moves in `exploreAux` -/
def body (keep : Bool) (forbid : Option String) (cap fuel : Nat) (s : State) (tr : List Label) (acc : Result) (mv : Nat × Nat) : Result :=
  match labelAt s mv.1 mv.2 with
  | some l => exploreAux keep forbid cap fuel (McRef.step s mv.1 mv.2) (l :: tr) acc
  | none => acc

section explore
variable (keep : Bool) (forbid : Option String) (cap : Nat)

theorem exploreAux_zero (s : State) (tr : List Label) (acc : Result) (h : weight s ≤ 0) :
    exploreAux keep forbid cap 0 s tr acc = leaf keep forbid s tr acc := by
  simp only [exploreAux, moves_eq_nil_of_weight h, List.isEmpty_nil, if_true]

theorem exploreAux_succ (fuel : Nat) (s : State) (tr : List Label) (acc : Result) :
    exploreAux keep forbid cap (fuel + 1) s tr acc =
      if acc.nexec > cap then { acc with capped := true }
      else if moves s = [] then leaf keep forbid s tr acc
      else (moves s).foldl (body keep forbid cap fuel s tr) acc := by
  rw [exploreAux]
  by_cases hc : acc.nexec > cap
  · simp only [hc, if_true]
  · simp only [hc, if_false]
    cases hm : moves s with
    | nil => simp
    | cons mv rest => simp only [reduceCtorEq, if_false]; rfl

theorem leaves_zero (s : State) (tr : List Label) (h : weight s ≤ 0) : leaves 0 s tr = [(s, tr)] := by
  simp only [leaves, moves_eq_nil_of_weight h, List.isEmpty_nil, if_true]

theorem leaves_succ (fuel : Nat) (s : State) (tr : List Label) :
    leaves (fuel + 1) s tr =
      if moves s = [] then [(s, tr)]
      else (moves s).flatMap (fun mv => match labelAt s mv.1 mv.2 with
        | some l => leaves fuel (McRef.step s mv.1 mv.2) (l :: tr)
        | none => []) := by
  rw [leaves]
  cases hm : moves s with
  | nil => simp
  | cons mv rest => simp only [reduceCtorEq, if_false]

theorem exploreAux_rel {R : Result → Result → Prop} (hR : Pre R)
    (hleaf : ∀ s tr acc, R acc (leaf keep forbid s tr acc)) (hcap : ∀ acc : Result, R acc { acc with capped := true }) :
    ∀ (fuel : Nat) (s : State) (tr : List Label) (acc : Result), weight s ≤ fuel →
      R acc (exploreAux keep forbid cap fuel s tr acc)
  | 0, s, tr, acc, hw => exploreAux_zero keep forbid cap s tr acc hw ▸ hleaf s tr acc
  | fuel + 1, s, tr, acc, hw => by
    rw [exploreAux_succ]
    split
    · exact hcap acc
    · split
      · exact hleaf s tr acc
      · refine hR.foldl_mem _ (fun acc mv hmv => ?_) _
        have := step_weight_lt s mv.1 mv.2 hmv
        unfold body
        split
        · exact exploreAux_rel hR hleaf hcap fuel _ _ _ (by omega)
        · exact hR.refl acc

theorem exploreAux_capped_mono (fuel : Nat) (s : State) (tr : List Label) (acc : Result) (hw : weight s ≤ fuel)
    (h : (exploreAux keep forbid cap fuel s tr acc).capped = false) : acc.capped = false :=
  exploreAux_rel keep forbid cap (Pre.imp' fun r : Result => r.capped = false) (fun s tr acc h => by rwa [leaf_eq] at h) (fun _ h => nomatch h)
    fuel s tr acc hw h

theorem exploreAux_exhausted (fuel : Nat) (s : State) (tr : List Label) (acc : Result) (hw : weight s ≤ fuel) :
    (exploreAux keep forbid cap fuel s tr acc).exhausted = acc.exhausted :=
  exploreAux_rel keep forbid cap (Pre.eqOn Result.exhausted) (fun s tr acc => by rw [leaf_eq]) (fun _ => rfl) fuel s tr acc hw

theorem foldl_congr_uncapped {α : Type} (f g : Result → α → Result) : ∀ (l : List α) (acc : Result),
    (∀ acc, ∀ x ∈ l, (f acc x).capped = false → acc.capped = false ∧ f acc x = g acc x) →
    (l.foldl f acc).capped = false → l.foldl f acc = l.foldl g acc
  | [], _, _, _ => rfl
  | x :: l, acc, h, hc => by
    have hl := fun acc y hy => h acc y (List.mem_cons_of_mem _ hy)
    have hb : (f acc x).capped = false :=
      (Pre.imp' fun r : Result => r.capped = false).foldl_mem l (fun acc y hy hc => (hl acc y hy hc).1) _ hc
    simp only [List.foldl_cons] at hc ⊢
    rw [← (h acc x List.mem_cons_self hb).2]
    exact foldl_congr_uncapped f g l _ hl hc

theorem exploreAux_eq_fold : ∀ (fuel : Nat) (s : State) (tr : List Label) (acc : Result), weight s ≤ fuel →
    (exploreAux keep forbid cap fuel s tr acc).capped = false →
    exploreAux keep forbid cap fuel s tr acc = (leaves fuel s tr).foldl (leafF keep forbid) acc
  | 0, s, tr, acc, hw, _ => by rw [exploreAux_zero _ _ _ _ _ _ hw, leaves_zero _ _ hw]; rfl
  | fuel + 1, s, tr, acc, hw, hc => by
    rw [exploreAux_succ] at hc ⊢
    rw [leaves_succ]
    by_cases hcap : acc.nexec > cap
    · rw [if_pos hcap] at hc
      cases hc
    · by_cases hm : moves s = []
      · simp only [if_neg hcap, if_pos hm]
        rfl
      · simp only [if_neg hcap, if_neg hm] at hc ⊢
        rw [List.foldl_flatMap]
        refine foldl_congr_uncapped _ _ _ _ (fun acc mv hmv hb => ?_) hc
        have := step_weight_lt s mv.1 mv.2 hmv
        unfold body at hb ⊢
        cases hl : labelAt s mv.1 mv.2 <;> simp only [hl] at hb ⊢
        · exact ⟨hb, rfl⟩
        · exact ⟨exploreAux_capped_mono keep forbid cap fuel _ _ _ (by omega) hb,
            exploreAux_eq_fold fuel _ _ _ (by omega) hb⟩

end explore

theorem term_of_nil {s s' : State} (hm : moves s = []) : Term s s' ↔ s' = s := by
  constructor
  · rintro ⟨hr, _⟩
    cases hr with
    | refl => rfl
    | step i tc hmem _ => rw [hm] at hmem; cases hmem
  · rintro rfl
    exact ⟨.refl _, hm⟩

/-- the enumeration is exact: the states of `leaves` are the ends of the maximal executions -/
theorem mem_leaves_iff (Q : State → Prop) : ∀ (fuel : Nat) (s : State) (tr : List Label), weight s ≤ fuel →
    ((∃ p ∈ leaves fuel s tr, Q p.1) ↔ ∃ s', Term s s' ∧ Q s')
  | 0, s, tr, hw => by
    simp [leaves_zero s tr hw, term_of_nil (moves_eq_nil_of_weight hw)]
  | fuel + 1, s, tr, hw => by
    rw [leaves_succ]
    by_cases hm : moves s = []
    · simp [if_pos hm, term_of_nil hm]
    · simp only [if_neg hm, List.mem_flatMap]
      constructor
      · rintro ⟨p, ⟨mv, hmv, hp⟩, hq⟩
        have := step_weight_lt s mv.1 mv.2 hmv
        split at hp
        · obtain ⟨s', ht, hq⟩ := (mem_leaves_iff Q fuel _ _ (by omega)).1 ⟨p, hp, hq⟩
          exact ⟨s', ⟨.step mv.1 mv.2 hmv ht.1, ht.2⟩, hq⟩
        · cases hp
      · rintro ⟨s', ⟨hr, hm'⟩, hq⟩
        cases hr with
        | refl => exact absurd hm' hm
        | step i tc hmem hr' =>
          have := step_weight_lt s i tc hmem
          obtain ⟨l, hl⟩ := labelAt_some_of_mem hmem
          obtain ⟨p, hp, hq⟩ := (mem_leaves_iff Q fuel (McRef.step s i tc) (l :: tr) (by omega)).2 ⟨s', ⟨hr', hm'⟩, hq⟩
          exact ⟨p, ⟨(i, tc), hmem, by simp only [hl]; exact hp⟩, hq⟩

/-- **Soundness and completeness of the explorer** from a state `s` with fuel `weight s` (what `explore` passes), when
the cap on the number of executions was not hit: the outcome vectors and the three verdict flags it adds to the
accumulator are exactly those of the ends of the maximal executions from `s`. -/
theorem exploreAux_spec (keep : Bool) (forbid : Option String) (cap : Nat) (s : State) (tr : List Label) (acc : Result)
    (hc : (exploreAux keep forbid cap (weight s) s tr acc).capped = false) :
    let r := exploreAux keep forbid cap (weight s) s tr acc
    (∀ o, o ∈ r.outcomes ↔ o ∈ acc.outcomes ∨ ∃ s', Term s s' ∧ isNormalLeaf s' = true ∧ outcome s' = o) ∧
    (r.deadlock = true ↔ acc.deadlock = true ∨ ∃ s', Term s s' ∧ isDeadLeaf s' = true) ∧
    (r.crash = true ↔ acc.crash = true ∨ ∃ s', Term s s' ∧ isCrashLeaf s' = true) ∧
    (r.assertFail = true ↔ acc.assertFail = true ∨ ∃ s', Term s s' ∧ isAssertLeaf forbid s' = true) := by
  intro r
  have key (P : Result → Prop) (Q : State → Prop) (h : ∀ s tr acc, P (leaf keep forbid s tr acc) ↔ P acc ∨ Q s) :
      P r ↔ P acc ∨ ∃ s', Term s s' ∧ Q s' := by
    rw [show r = _ from exploreAux_eq_fold keep forbid cap (weight s) s tr acc (Nat.le_refl _) hc,
      fold_leaf keep forbid P Q h, mem_leaves_iff Q _ s tr (Nat.le_refl _)]
  exact ⟨fun o => key (o ∈ ·.outcomes) _ (leaf_outcomes keep forbid · · · o),
    key (·.deadlock = true) (isDeadLeaf · = true) fun s tr acc => by rw [leaf_eq, Bool.or_eq_true],
    key (·.crash = true) (isCrashLeaf · = true) fun s tr acc => by rw [leaf_eq, Bool.or_eq_true],
    key (·.assertFail = true) (isAssertLeaf forbid · = true) fun s tr acc => by rw [leaf_eq, Bool.or_eq_true]⟩

end SgVerif.C38.Lemmas
