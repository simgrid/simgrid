/-
C38 — every transition of the reference LTS decreases `weight`, hence the explorer's fuel suffices.
-/
import SgVerif.McRef.Lemmas
namespace SgVerif.C38.Lemmas
open SgVerif.McRef

theorem pendWeight_pos (p : Pend) : 0 < pendWeight (some p) := by
  cases p with
  | commAsyncSend x v sl => cases sl <;> exact Nat.succ_pos _
  | commAsyncRecv x sl => cases sl <;> exact Nat.succ_pos _
  | _ => exact Nat.succ_pos _

/-- `advance` either skips an operation or stops at a simcall that weighs what its operation does. -/
theorem advance_weight (s : State) (i : Nat) (a : Actor) : ∀ l, actorWeight (advance s i a l).1 ≤ opsWeight l
  | [] => Nat.le_refl 0
  | op :: rest => by
    have skip : actorWeight (advance s i a rest).1 ≤ opWeight op + opsWeight rest :=
      Nat.le_trans (advance_weight s i a rest) (Nat.le_add_left ..)
    have issue (p : Option Pend) (h : pendWeight p ≤ opWeight op) :
        actorWeight { a with pend := p, todo := rest } ≤ opWeight op + opsWeight rest := Nat.add_le_add_right h _
    show _ ≤ opWeight op + opsWeight rest
    cases op <;> dsimp only [advance] <;> (repeat' split) <;>
      first | exact skip | exact issue _ (Nat.le_refl _)

/-! The transitions only touch the record of their actor (`s.actors[i]? = some a`) and fields that do not count:
`s1` below is `s` with some of those changed. -/

variable {s s1 : State} {i : Nat} {a a1 : Actor} {p : Pend}

theorem weight_modifyAt (a1 : Actor) (hs : s1.actors = s.actors) (h : s.actors[i]? = some a) (s2 : State)
    (h2 : s2.actors = modifyAt s1.actors i (fun _ => a1)) : weight s2 + actorWeight a = weight s + actorWeight a1 := by
  simp only [weight, h2, hs]
  exact sum_modifyAt actorWeight (fun _ => a1) s.actors i a h

theorem finishStep_weight (hs : s1.actors = s.actors) (h : s.actors[i]? = some a) (ht : a1.todo = a.todo) :
    weight (finishStep s1 i a1) + pendWeight a.pend ≤ weight s := by
  have := weight_modifyAt (advance s1 i a1 a1.todo).1 hs h (finishStep s1 i a1) rfl
  have := advance_weight s1 i a1 a1.todo
  simp only [actorWeight, ht] at *
  omega

theorem finishStep_weight_lt (hs : s1.actors = s.actors) (h : s.actors[i]? = some a) (hp : a.pend = some p)
    (ht : a1.todo = a.todo) : weight (finishStep s1 i a1) < weight s :=
  Nat.lt_of_lt_of_le (Nat.lt_add_of_pos_right (hp ▸ pendWeight_pos p)) (finishStep_weight hs h ht)

theorem weight_lt_of_pend_lt (a1 : Actor) (hs : s1.actors = s.actors) (h : s.actors[i]? = some a) (s2 : State)
    (h2 : s2.actors = modifyAt s1.actors i (fun _ => a1)) (ht : a1.todo = a.todo)
    (hq : pendWeight a1.pend < pendWeight a.pend) : weight s2 < weight s := by
  have := weight_modifyAt a1 hs h s2 h2
  simp only [actorWeight, ht] at this
  omega

theorem setPend_weight_lt (hs : s1.actors = s.actors) (h : s.actors[i]? = some a) (hp : a.pend = some p) (q : Pend)
    (hq : pendWeight (some q) < pendWeight (some p)) : weight (setPend s1 i a q) < weight s :=
  weight_lt_of_pend_lt { a with pend := some q } hs h _ rfl rfl (hp ▸ hq)

theorem crash_weight_lt (h : s.actors[i]? = some a) (hp : a.pend = some p) : weight (crash s i a) < weight s :=
  weight_lt_of_pend_lt { a with pend := none } rfl h _ rfl rfl (hp ▸ pendWeight_pos p)

/-- Executing the pending simcall `p` of actor `i` strictly decreases the weight: the first simcall of a split call
leaves a `*_WAIT` that weighs one less, every other one lets the actor run on (`finishStep`) or kills it. -/
theorem execPend_weight_lt (s : State) (i : Nat) (a : Actor) (p : Pend) (tc : Nat)
    (h : s.actors[i]? = some a) (hp : a.pend = some p) : weight (execPend s i a p tc) < weight s := by
  cases p with
  | mutexAsyncLock | semAsyncLock | barAsyncLock | cvWait =>
    exact setPend_weight_lt rfl h hp _ (Nat.lt_succ_self _)
  | mutexWait | semWait | semUnlock | barWait | cvSignal | cvBroadcast | actorJoin | random =>
    exact finishStep_weight_lt rfl h hp rfl
  | mutexTrylock m =>
    dsimp only [execPend]
    split <;> exact finishStep_weight_lt rfl h hp rfl
  | mutexUnlock m =>
    dsimp only [execPend]
    split
    · exact finishStep_weight_lt rfl h hp rfl
    · exact crash_weight_lt h hp
  | cvAsyncLock c m =>
    dsimp only [execPend]
    split
    · exact setPend_weight_lt rfl h hp _ (Nat.lt_succ_self _)
    · exact crash_weight_lt h hp
  | commAsyncSend x v slot | commAsyncRecv x slot =>
    dsimp only [execPend]
    split
    · exact crash_weight_lt h hp
    · cases slot with
      | none => exact setPend_weight_lt rfl h hp _ (Nat.lt_succ_self _)
      | some sl => exact finishStep_weight_lt rfl h hp rfl
  | commWait x n r slot =>
    refine finishStep_weight_lt rfl h hp ?_
    cases slot <;> cases r <;> rfl
  | commTest x n r slot =>
    dsimp only [execPend]
    split
    · refine finishStep_weight_lt rfl h hp ?_
      cases r <;> rfl
    · exact finishStep_weight_lt rfl h hp rfl
  | actorCreate k =>
    dsimp only [execPend]
    split
    · exact crash_weight_lt h hp
    · rename_i c hc
      split
      · rename_i hcond
        -- the child had no pending simcall: its first run does not add weight; then the creator runs on
        have hi : (finishStep { s with nextPid := s.nextPid + 1 } (s.nstatic + k) { c with pid := s.nextPid }).actors[i]?
            = some a := (modifyAt_get_ne _ _ _ _ hcond.2.2).trans h
        exact Nat.lt_of_lt_of_le (finishStep_weight_lt rfl hi hp rfl)
          (Nat.le_of_add_right_le (finishStep_weight rfl hc rfl))
      · exact crash_weight_lt h hp

theorem mem_moves {s : State} {i tc : Nat} (h : (i, tc) ∈ moves s) :
    ∃ a p, s.actors[i]? = some a ∧ a.pend = some p ∧ actorEnabled s i = true ∧ tc < maxConsider p := by
  obtain ⟨j, _, hj⟩ := List.mem_flatMap.1 h
  unfold movesOf at hj
  split at hj
  · cases hj
  · rename_i a ha
    split at hj
    · cases hj
    · rename_i p hp
      split at hj
      · rename_i hen
        obtain ⟨t, ht, e⟩ := List.mem_map.1 hj
        cases e
        exact ⟨a, p, ha, hp, hen, List.mem_range.1 ht⟩
      · cases hj

theorem step_weight_lt (s : State) (i tc : Nat) (h : (i, tc) ∈ moves s) : weight (step s i tc) < weight s := by
  obtain ⟨a, p, ha, hp, hen, htc⟩ := mem_moves h
  simp only [step, ha, hp, hen, htc, decide_true, Bool.and_self, if_true]
  exact execPend_weight_lt s i a p tc ha hp

theorem labelAt_some_of_mem {s : State} {i tc : Nat} (h : (i, tc) ∈ moves s) : ∃ l, labelAt s i tc = some l := by
  obtain ⟨a, p, ha, hp, hen, htc⟩ := mem_moves h
  exact ⟨labelOf s i tc p, by simp only [labelAt, ha, hp, hen, htc, decide_true, Bool.and_self, if_true]⟩

theorem moves_eq_nil_of_weight {s : State} (h : weight s ≤ 0) : moves s = [] :=
  List.eq_nil_iff_forall_not_mem.2 fun mv hmv => by
    have := step_weight_lt s mv.1 mv.2 hmv
    omega

end SgVerif.C38.Lemmas
