import SgVerif.C37.EngineLemmas
import SgVerif.C37.Grammar
/-
C37 — Trace replay reproduces the online simulated time.  Property theorems (thin model: the TI trace grammar, then the calls the replay
engine issues from the printed lines).

The full statement — for every action record `a` the writer can produce on a communicator of `n ≥ 2` ranks,
parse n dflt a.name (a.print) = some a: the replayer re-issues the same call with the same sizes, roots and datatype
ids — is FALSE for the writer as it is: `CollTIData::print` omits `recv_size_` when it is 0, and MPI_Gather /
MPI_Scatter / MPI_Allgather / MPI_Alltoall are traced with the caller's recvcount, which is legitimately 0 on the ranks
where MPI ignores it (`ti_gather_recv0_counterexample`, replayed on the library: the replay aborts).
Proved with the excluding hypothesis `recvPositive` (recvcount > 0 for those four calls) for the writer as it is, and
without it for the writer of proposed_fix.diff.

What the theorems do NOT say: that equal call sequences give equal simulated dates.  "Same sequence of communication
calls with the same sizes ⇒ same dates" is validated by the correspondence only (online run vs replay, per-rank
completion dates within 1e-9 relative).
-/
namespace SgVerif.C37

/-- fields whose printing is conditional must be in the range where the writer prints them -/
def Action.printable : Action → Prop
  | .bcast _ root _ => 0 ≤ root
  | .reduce _ comp root _ => 0 ≤ root ∧ 0 ≤ comp
  | .allreduce _ comp _ => 0 ≤ comp
  | .gather _ _ root _ _ | .scatter _ _ root _ _ => 0 ≤ root
  | .gatherv s _ root _ _ => 0 ≤ root ∧ 0 ≤ s
  | .allgatherv s _ _ _ => 0 ≤ s
  | .scatterv _ r root _ _ => 0 ≤ root ∧ 0 ≤ r
  | .alltoallv ssz _ rsz _ _ _ => 0 ≤ ssz ∧ 0 ≤ rsz
  | .reducescatter _ comp _ => 0 ≤ comp
  | .sendrecv sc _ rc _ _ _ => 0 ≤ sc ∧ 0 ≤ rc
  | .scan _ comp _ | .exscan _ comp _ => 0 ≤ comp
  | _ => True

/-- the excluding hypothesis of the partial theorem -/
def Action.recvPositive : Action → Prop
  | .alltoall _ r _ _ | .gather _ r _ _ _ | .allgather _ r _ _ | .scatter _ r _ _ _ => 0 < r
  | _ => True

def Action.isVec : Action → Bool
  | .gatherv .. | .allgatherv .. | .scatterv .. | .alltoallv .. | .reducescatter .. => true
  | _ => false

/-- round trip for the calls without count vectors: the line is a fixed list of tokens, the parser reads it back
by evaluation -/
theorem roundtrip_scalar (fixed : Bool) (n dflt : Nat) (a : Action) (hp : a.printable)
    (hr : fixed = true ∨ a.recvPositive)
    (hs : a.isVec = false) :
    parse n dflt a.name (a.print fixed) = some a := by
  cases a <;> cases hs
  all_goals simp only [Action.printable, Action.recvPositive] at hp hr
  all_goals simp only [Action.name, Action.print, printColl_one, printColl_two, hr, printVar_eq, hp,
    reduceIte, Int.reduceNeg, Int.reduceLE, Option.getD_some, List.nil_append, List.cons_append]
  all_goals exact rfl     -- (the `rfl` tactic is half again as slow here)

/-- round trip for the calls with count vectors (`comm_size` counts each): the same line from either writer -/
theorem roundtrip_vec (fixed : Bool) (n dflt : Nat) (hn : 2 ≤ n) (a : Action) (hwf : a.wf n) (hp : a.printable)
    (hv : a.isVec = true) :
    parse n dflt a.name (a.print fixed) = some a := by
  cases a <;> cases hv
  all_goals simp only [Action.wf] at hwf
  all_goals simp only [Action.printable] at hp
  all_goals simp only [Action.name, Action.print, printVar_eq, hp, Int.toNat_of_nonneg, reduceIte, Int.reduceNeg,
    Int.reduceLE, Option.getD, List.nil_append, List.append_nil, List.cons_append, List.append_assoc]
  case gatherv s rcs root st rt => subst hwf; exact parse_gatherv dflt s rcs [root, st, rt]
  case allgatherv s rcs st rt => subst hwf; exact parse_allgatherv dflt s rcs st rt hn
  case scatterv scs r root st rt => subst hwf; exact parse_scatterv dflt scs [root, st, rt] r
  case alltoallv ssz scs rsz rcs st rt =>
    obtain ⟨rfl, h⟩ := hwf
    exact parse_alltoallv dflt ssz rsz scs rcs [st, rt] h
  case reducescatter rcs comp ty => subst hwf; exact parse_reducescatter dflt rcs [ty] comp

/-- **Round trip** for either writer, every supported call, every argument value, every communicator size ≥ 2;
for the writer as it is (`fixed = false`) under the excluding hypothesis `recvPositive`. -/
theorem ti_print_parse_roundtrip (fixed : Bool) (n dflt : Nat) (hn : 2 ≤ n) (a : Action) (hwf : a.wf n)
    (hp : a.printable) (hr : fixed = true ∨ a.recvPositive) :
    parse n dflt a.name (a.print fixed) = some a := by
  cases hs : a.isVec
  · exact roundtrip_scalar fixed n dflt a hp hr hs
  · exact roundtrip_vec fixed n dflt hn a hwf hp hs

/-- **Round trip, writer as it is**, under the excluding hypothesis `recvPositive`. -/
theorem ti_print_parse_roundtrip_partial (n dflt : Nat) (hn : 2 ≤ n) (a : Action) (hwf : a.wf n)
    (hp : a.printable) (hr : a.recvPositive) :
    parse n dflt a.name (a.print false) = some a :=
  ti_print_parse_roundtrip false n dflt hn a hwf hp (Or.inr hr)

/-- **Round trip with the repaired writer**: no excluding hypothesis on receive counts. -/
theorem ti_print_parse_roundtrip_fixed_scalar (n dflt : Nat) (a : Action) (hp : a.printable)
    (hs : a.isVec = false) :
    parse n dflt a.name (a.print true) = some a :=
  roundtrip_scalar true n dflt a hp (Or.inl rfl) hs

/-- **Round trip with the repaired writer, every supported call.** -/
theorem ti_print_parse_roundtrip_fixed (n dflt : Nat) (hn : 2 ≤ n) (a : Action) (hwf : a.wf n) (hp : a.printable) :
    parse n dflt a.name (a.print true) = some a :=
  ti_print_parse_roundtrip true n dflt hn a hwf hp (Or.inl rfl)

/-- the writer as it is loses the root of an MPI_Gather traced on a rank that passes recvcount 0:
`1 gather 5 0 1 1` is read back as send 5, recv 0, **root 1**, send type 1, default recv type. -/
theorem ti_gather_recv0_counterexample :
    (Action.gather 5 0 0 1 1).print false = [5, 0, 1, 1] ∧
    parse 3 6 "gather" ((Action.gather 5 0 0 1 1).print false) = some (Action.gather 5 0 1 1 6) ∧
    parse 3 6 "gather" ((Action.gather 5 0 0 1 1).print false) ≠ some (Action.gather 5 0 0 1 1) := by
  decide

theorem trace_ok (me : Int) (n : Nat) : ∀ (prog : List Call) (o : OState),
    (∀ a, Call.blocking a ∈ prog → a.wf n ∧ a.printable) → ∀ x ∈ (onlineRun me o prog).2, x.1.wf n ∧ x.1.printable := by
  intro prog
  induction prog with
  | nil => intro o _ x hx; cases hx
  | cons c rest ih =>
    intro o hp x hx
    simp only [onlineRun, List.mem_append] at hx
    rcases hx with hx | hx
    · cases c with
      | blocking a => obtain rfl := List.mem_singleton.mp hx; exact hp a List.mem_cons_self
      | isend | irecv | waitall => obtain rfl := List.mem_singleton.mp hx; exact ⟨trivial, trivial⟩
      | wait | test =>
        simp only [onlineStep] at hx
        split at hx
        · obtain rfl := List.mem_singleton.mp hx; exact ⟨trivial, trivial⟩
        · cases hx
    · exact ih _ (fun a ha => hp a (List.mem_cons_of_mem _ ha)) x hx

theorem parseLines_print (n dflt : Nat) (hn : 2 ≤ n) : ∀ (tr : List (Action × Bool)),
    (∀ x ∈ tr, x.1.wf n ∧ x.1.printable) → parseLines n dflt (tr.map printLine) = some tr := by
  intro tr
  induction tr with
  | nil => intro _; rfl
  | cons x rest ih =>
    intro h
    obtain ⟨h1, h2⟩ := h x (by simp)
    have e1 := ti_print_parse_roundtrip_fixed n dflt hn x.1 h1 h2
    have e2 := ih (fun y hy => h y (List.mem_cons_of_mem _ hy))
    simp only [List.map_cons, parseLines, printLine] at e2 ⊢
    rw [e1, e2]

/-- the text layer: on the lines an online rank printed, the replayer runs on the records themselves -/
theorem replayRunText_print (me : Int) (n dflt : Nat) (hn : 2 ≤ n) (prog : List Call) (o : OState) (r : RState)
    (hp : ∀ a, Call.blocking a ∈ prog → a.wf n ∧ a.printable) :
    replayRunText me n dflt r ((onlineRun me o prog).2.map printLine) = replayRun me r (onlineRun me o prog).2 := by
  simp only [replayRunText, parseLines_print n dflt hn _ (trace_ok me n prog _ hp)]

/-- **replay_issues_same_calls**: for every program of one rank (any length; blocking point-to-point, Sendrecv,
    collectives, Scan, Isend / Irecv, Wait, Test with any outcomes, Waitall) that the TI format can represent (`WfProg`:
    no two simultaneously stored requests with the same (sender, receiver, tag), Waitall names every active request),
    the replayer — reading the lines the online run printed — does not abort and issues the same sequence of calls to the
    simulation: same kind, same peer / root, same sizes, same datatypes, same requests waited / tested (a waitall: the
    same set of requests).  ∀ rank, ∀ communicator size ≥ 2, ∀ default datatype. -/
theorem replay_issues_same_calls (me : Int) (n dflt : Nat) (hn : 2 ≤ n) (prog : List Call)
    (hwf : WfProg me ⟨0, [], []⟩ prog) (hp : ∀ a, Call.blocking a ∈ prog → a.wf n ∧ a.printable) :
    ∃ iss r', replayRunText me n dflt ⟨0, []⟩ ((onlineRun me ⟨0, [], []⟩ prog).2.map printLine) = some (iss, r') ∧
      sameL (onlineRun me ⟨0, [], []⟩ prog).1 iss := by
  rw [replayRunText_print me n dflt hn prog _ _ hp]
  exact run_sim_gen me prog _ _ (sim_empty rfl) (wfProg_gen me prog _ List.Pairwise.nil hwf)

def issuesOf (x : Option (List Issue × RState)) : Option (List Issue) := x.map (·.1)

/-- **replay_issues_same_calls_fifo**: the class `WfProg` excludes but the property contains — a rank may hold any number
    of requests with the SAME (sender, receiver, tag) at once (Isend / Irecv with repeating keys, any sizes); every
    MPI_Wait completes the oldest active request of its key (posting order per key; waits of different keys interleave
    freely), Waitall names every active request, blocking calls and collectives anywhere, no MPI_Test (`FifoProg`).
    For every such program, of any length, the replayer reading the printed lines does not abort and issues the same
    sequence of calls, each wait on the SAME request as online: `RequestStorage::pop` takes the oldest entry of the
    key.  (With `back()/pop_back()` instead, the first two waits of `fifoDemo` below would already be issued the other way round.)
    That posting order is necessary is `replay_same_key_counterexample`. -/
theorem replay_issues_same_calls_fifo (me : Int) (n dflt : Nat) (hn : 2 ≤ n) (prog : List Call)
    (hwf : FifoProg me ⟨0, [], []⟩ prog) (hp : ∀ a, Call.blocking a ∈ prog → a.wf n ∧ a.printable) :
    ∃ iss r', replayRunText me n dflt ⟨0, []⟩ ((onlineRun me ⟨0, [], []⟩ prog).2.map printLine) = some (iss, r') ∧
      sameL (onlineRun me ⟨0, [], []⟩ prog).1 iss := by
  rw [replayRunText_print me n dflt hn prog _ _ hp]
  exact run_sim_gen me prog _ _ (sim_empty rfl) (fifoProg_gen me prog _ rfl hwf)

/-- non-vacuity: rank 1 of 3 — two Irecvs from rank 0 with one tag (2 MB, then 500 kB), Wait(first), a message to rank 2,
    Wait(second); then three Isends with one key interleaved with another key, waited for in posting order per key, and a
    Waitall.  Not `WfProg`. -/
def fifoDemo : List Call :=
  [.irecv 0 0 2000000 2, .irecv 0 0 500000 2, .wait 0, .blocking (.send 2 1 1 1), .wait 1,
   .isend 2 4 70000 1, .isend 0 4 10 1, .isend 2 4 1000 1, .isend 2 4 500000 1, .wait 2, .wait 3, .wait 4,
   .blocking (.barrier), .waitall [5]]
example : FifoProg 1 ⟨0, [], []⟩ fifoDemo := by
  simp only [fifoDemo, FifoProg, fifoStep, onlineStep, oldestOfKey]
  decide
example : ¬ WfProg 1 ⟨0, [], []⟩ fifoDemo := by
  simp [fifoDemo, WfProg, wfStep, onlineStep, Action.isBlocking]
example : (onlineRun 1 ⟨0, [], []⟩ fifoDemo).1 =
    [.start (.irecv 0 0 2000000 2) 0, .start (.irecv 0 0 500000 2) 1, .wait 0, .call (.send 2 1 1 1), .wait 1,
     .start (.isend 2 4 70000 1) 2, .start (.isend 0 4 10 1) 3, .start (.isend 2 4 1000 1) 4,
     .start (.isend 2 4 500000 1) 5, .wait 2, .wait 3, .wait 4, .call .barrier, .waitall [5]] ∧
    issuesOf (replayRunText 1 3 6 ⟨0, []⟩ ((onlineRun 1 ⟨0, [], []⟩ fifoDemo).2.map printLine)) =
      some (onlineRun 1 ⟨0, [], []⟩ fifoDemo).1 := by decide +kernel

/-- `WfProg` cannot drop "distinct keys": two Isends to the same peer with the same tag, waited in the other order —
    the replayer waits for the OTHER request (the TI record of a wait only carries (src, dst, tag)) -/
theorem replay_same_key_counterexample :
    (onlineRun 0 ⟨0, [], []⟩ [.isend 1 0 10 0, .isend 1 0 99999 0, .wait 1, .wait 0]).1 =
      [.start (.isend 1 0 10 0) 0, .start (.isend 1 0 99999 0) 1, .wait 1, .wait 0] ∧
    issuesOf (replayRun 0 ⟨0, []⟩ (onlineRun 0 ⟨0, [], []⟩ [.isend 1 0 10 0, .isend 1 0 99999 0, .wait 1, .wait 0]).2) =
      some [.start (.isend 1 0 10 0) 0, .start (.isend 1 0 99999 0) 1, .wait 0, .wait 1] := by decide

/-- `WfProg` cannot drop "no reuse of the key of a request completed by MPI_Test": the polling loop
    `Isend; Test…Test (succeeds); Isend (same peer, same tag); Test; Test` — the storage still holds the null entry of the
    first request, the first Test of the second request pops it and is dropped ("ignore the extra calls"): the replay
    issues one MPI_Test less than the application -/
theorem replay_stale_null_counterexample :
    (onlineRun 0 ⟨0, [], []⟩ [.isend 1 0 10 0, .test 0 false, .test 0 true, .isend 1 0 10 0, .test 1 false, .test 1 true]).1 =
      [.start (.isend 1 0 10 0) 0, .test 0, .test 0, .start (.isend 1 0 10 0) 1, .test 1, .test 1] ∧
    issuesOf (replayRun 0 ⟨0, []⟩
      (onlineRun 0 ⟨0, [], []⟩ [.isend 1 0 10 0, .test 0 false, .test 0 true, .isend 1 0 10 0, .test 1 false, .test 1 true]).2) =
      some [.start (.isend 1 0 10 0) 0, .test 0, .test 0, .start (.isend 1 0 10 0) 1, .test 1] := by decide

example : (Action.gatherv 3 [3, 3, 3] 1 1 1).wf 3 ∧ (Action.gatherv 3 [3, 3, 3] 1 1 1).printable ∧
    (Action.gatherv 3 [3, 3, 3] 1 1 1).recvPositive := by
  simp [Action.wf, Action.printable, Action.recvPositive]
example : parse 3 6 "alltoallv" ((Action.alltoallv 6 [2, 2, 2] 6 [2, 2, 2] 1 1).print false) =
    some (Action.alltoallv 6 [2, 2, 2] 6 [2, 2, 2] 1 1) := rfl
example : parse 3 6 "gather" ((Action.gather 5 0 0 1 1).print true) = some (Action.gather 5 0 0 1 1) := rfl
example : parse 3 6 "reduce" ((Action.reduce 12 0 2 0).print false) = some (Action.reduce 12 0 2 0) := rfl

/-- non-vacuity of `replay_issues_same_calls`: rank 1 of 3 — Irecv, Isend, a failed and a successful Test, Sendrecv, Wait,
    Bcast, Scan, a second round of requests with other tags, Waitall -/
def demoProg : List Call :=
  [.irecv 0 5 100 1, .isend 2 5 100 1, .test 0 false, .test 0 true, .blocking (.sendrecv 10 2 10 0 1 1), .wait 1,
   .blocking (.bcast 1000 0 0), .blocking (.scan 8 0 1), .irecv 0 6 7 0, .isend 2 6 7 0, .waitall [2, 3]]
example : WfProg 1 ⟨0, [], []⟩ demoProg := by
  simp [demoProg, WfProg, wfStep, onlineStep, Action.isBlocking]
example : ∀ a, Call.blocking a ∈ demoProg → a.wf 3 ∧ a.printable := by
  intro a h
  simp only [demoProg, List.mem_cons, Call.blocking.injEq, List.mem_nil_iff, or_false, reduceCtorEq, false_or] at h
  rcases h with rfl | rfl | rfl <;> simp [Action.wf, Action.printable]
example : (onlineRun 1 ⟨0, [], []⟩ demoProg).1 =
    [.start (.irecv 0 5 100 1) 0, .start (.isend 2 5 100 1) 1, .test 0, .test 0, .call (.sendrecv 10 2 10 0 1 1), .wait 1,
     .call (.bcast 1000 0 0), .call (.scan 8 0 1), .start (.irecv 0 6 7 0) 2, .start (.isend 2 6 7 0) 3, .waitall [2, 3]] ∧
    issuesOf (replayRunText 1 3 6 ⟨0, []⟩ ((onlineRun 1 ⟨0, [], []⟩ demoProg).2.map printLine)) =
      some (onlineRun 1 ⟨0, [], []⟩ demoProg).1 := by decide +kernel
example : parse 3 6 "sendRecv" ((Action.sendrecv 10 2 10 0 1 1).print true) = some (Action.sendrecv 10 2 10 0 1 1) := rfl
example : parse 3 6 "exscan" ((Action.exscan 8 0 1).print true) = some (Action.exscan 8 0 1) := rfl

end SgVerif.C37
