import SgVerif.C37.Model
/-
C37 — the TI trace grammar: what the two writers put on a line, and what the parser reads behind a block of
`comm_size` counts.
-/
namespace SgVerif.C37

theorem shown_iff (x : Int) : (x > 0 ∨ x = 0) ↔ 0 ≤ x := by omega

/-- one size, one type: bcast, reduce, allreduce, scan, exscan -/
theorem printColl_one (fixed : Bool) (root amount size : Int) (ty : Nat) :
    printColl fixed root amount size 0 (some ty) none =
      size :: ((if 0 ≤ amount then [amount] else []) ++ (if 0 ≤ root then [root] else []) ++ [(ty : Int)]) := by
  simp [printColl, shown_iff]

/-- two sizes, two types: alltoall, gather, allgather, scatter.  The receive size is on the line when it is positive,
or always with the repaired writer. -/
theorem printColl_two (fixed : Bool) (root s r : Int) (st rt : Nat) (h : fixed = true ∨ 0 < r) :
    printColl fixed root (-1) s r (some st) (some rt) =
      s :: r :: ((if 0 ≤ root then [root] else []) ++ [(st : Int), (rt : Int)]) := by
  have : r > 0 ∨ fixed = true := h.symm
  simp [printColl, shown_iff, this]

theorem printVar_eq (root ssz rsz : Int) (scs rcs : Option (List Int)) (st rt : Nat) :
    printVar root ssz scs rsz rcs st (some rt) =
      (if 0 ≤ ssz then [ssz] else []) ++ scs.getD [] ++ (if 0 ≤ rsz then [rsz] else []) ++ rcs.getD [] ++
        (if 0 ≤ root then [root] else []) ++ [(st : Int), (rt : Int)] := by
  have e (x : Int) : x > -1 ↔ 0 ≤ x := by omega
  simp [printVar, shown_iff, e]

/- The reader on the five calls with count vectors.  `show` selects the parser's branch for the name (by evaluation);
the trailer `t` behind the counts is arbitrary, so absent trailing fields (defaults) are covered too. -/

theorem getElem?_behind {α : Type} (l t : List α) (k : Nat) : (l ++ t)[l.length + k]? = t[k]? := by
  rw [List.getElem?_append_right (Nat.le_add_right ..), Nat.add_sub_cancel_left]

theorem getElem?_at_length {α : Type} (l t : List α) : (l ++ t)[l.length]? = t[0]? :=
  getElem?_behind l t 0

theorem parse_gatherv (dflt : Nat) (s : Int) (rcs t : List Int) :
    parse rcs.length dflt "gatherv" (s :: (rcs ++ t)) =
      some (.gatherv s rcs (parseRoot t 0) (parseTy dflt t 1) (parseTy dflt t 2)) := by
  show (if _ then none else _) = _
  rw [if_neg (by simp)]
  simp only [parseRoot, parseTy, Nat.add_comm _ rcs.length, List.getElem?_cons_succ, getElem?_behind, getElem?_at_length,
    List.take_left]

theorem parse_allgatherv (dflt : Nat) (s : Int) (rcs : List Int) (st rt : Int) (hn : 2 ≤ rcs.length) :
    parse rcs.length dflt "allgatherv" (s :: (rcs ++ [st, rt])) = some (.allgatherv s rcs st.toNat rt.toNat) := by
  show (if _ then none else if _ then _ else if _ then _ else _) = _
  rw [if_neg (by simp), if_neg (by simp; omega), if_neg (by simp; omega)]
  simp only [parseTy, Nat.add_comm _ rcs.length, List.getElem?_cons_succ, getElem?_behind, getElem?_at_length, List.take_left]
  rfl

theorem parse_scatterv (dflt : Nat) (scs t : List Int) (r : Int) :
    parse scs.length dflt "scatterv" (scs ++ r :: t) =
      some (.scatterv scs r (parseRoot t 0) (parseTy dflt t 1) (parseTy dflt t 2)) := by
  show (if _ then none else _) = _
  rw [if_neg (by simp)]
  simp only [parseRoot, parseTy, Nat.add_comm _ scs.length, getElem?_behind, getElem?_at_length,
    List.take_left, List.getElem?_cons_succ, List.getElem?_cons_zero]

theorem parse_reducescatter (dflt : Nat) (rcs t : List Int) (comp : Int) :
    parse rcs.length dflt "reducescatter" (rcs ++ comp :: t) =
      some (.reducescatter rcs comp (parseTy dflt t 0)) := by
  show (if _ then none else _) = _
  rw [if_neg (by simp)]
  simp only [parseTy, Nat.add_comm _ rcs.length, getElem?_behind, getElem?_at_length,
    List.take_left, List.getElem?_cons_succ, List.getElem?_cons_zero]

theorem parse_alltoallv (dflt : Nat) (ssz rsz : Int) (scs rcs t : List Int) (h : rcs.length = scs.length) :
    parse scs.length dflt "alltoallv" (ssz :: (scs ++ rsz :: (rcs ++ t))) =
      some (.alltoallv ssz scs rsz rcs (parseTy dflt t 0) (parseTy dflt t 1)) := by
  show (if _ then none else _) = _
  rw [if_neg (by simp; omega), show 2 + 2 * scs.length = scs.length + (rcs.length + 1) + 1 by omega,
    show 3 + 2 * scs.length = scs.length + (rcs.length + 2) + 1 by omega]
  simp only [parseTy, Nat.add_comm _ scs.length, List.getElem?_cons_succ, List.getElem?_cons_zero, getElem?_behind,
    getElem?_at_length, List.drop_succ_cons, List.drop_zero, List.drop_length_add_append, List.take_left, List.take_left' h]

end SgVerif.C37
