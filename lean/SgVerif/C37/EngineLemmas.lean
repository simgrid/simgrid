import SgVerif.C37.Engine
import SgVerif.Common.Snoc
import SgVerif.Common.List
/-
C37 — the replay `RequestStorage` seen key by key (a queue per key), one simulation relation `Sim` between the online rank
and the replayer, and one class of programs `GenProg` on which the replayer, fed with the TI records, issues the same calls;
`WfProg` and `FifoProg` are inside it.
-/
namespace SgVerif.C37

theorem nodup_map_snoc {α β : Type} (f : α → β) {l : List α} {a : α} (h : (l.map f).Nodup) (ha : f a ∉ l.map f) :
    ((l ++ [a]).map f).Nodup := by
  rw [List.map_append]; exact nodup_concat h ha

/-- the entries stored under key `k`, oldest first -/
def Store.under (s : Store) (k : Key) : List (Option Req) := (s.filter (·.1 == k)).map (·.2)

theorem under_cons (e : Key × Option Req) (s : Store) (k : Key) :
    Store.under (e :: s) k = if e.1 = k then e.2 :: Store.under s k else Store.under s k := by
  simp only [Store.under, List.filter_cons, beq_iff_eq, apply_ite (List.map _), List.map_cons]

theorem under_snoc (s : Store) (k' : Key) (x : Option Req) (k : Key) :
    Store.under (s ++ [(k', x)]) k = Store.under s k ++ if k' = k then [x] else [] := by
  have : Store.under [(k', x)] k = if k' = k then [x] else [] := by rw [under_cons]; rfl
  rw [← this]
  unfold Store.under
  rw [List.filter_append, List.map_append]

theorem mem_under {s : Store} {k : Key} {x : Option Req} : x ∈ Store.under s k ↔ (k, x) ∈ s := by
  simp only [Store.under, List.mem_map, List.mem_filter, beq_iff_eq, Prod.exists, exists_eq_right]

theorem lookup_eq_head (s : Store) (k : Key) : s.lookup k = (Store.under s k).head? := by
  induction s with
  | nil => rfl
  | cons e rest ih =>
    rw [Store.lookup, under_cons]
    split
    · rfl
    · exact ih

theorem under_erase1 (s : Store) (k k' : Key) :
    Store.under (s.erase1 k) k' = if k = k' then (Store.under s k').tail else Store.under s k' := by
  induction s with
  | nil => split <;> rfl
  | cons e rest ih =>
    rw [Store.erase1, under_cons]
    by_cases hk : e.1 = k
    · rw [if_pos hk]
      by_cases h : k = k'
      · rw [if_pos h, if_pos (hk.trans h)]; rfl
      · rw [if_neg h, if_neg (fun e' => h (hk.symm.trans e'))]
    · have hk' (h : k = k') : ¬ e.1 = k' := fun e' => hk (e'.trans h.symm)
      rw [if_neg hk, under_cons, ih]
      by_cases h : k = k'
      · rw [if_pos h, if_pos h, if_neg (hk' h), if_neg (hk' h)]
      · rw [if_neg h, if_neg h]

theorem lookup_mem : ∀ (s : Store) (k : Key) (x : Option Req), s.lookup k = some x → (k, x) ∈ s := by
  intro s k x h
  exact mem_under.mp (List.mem_of_mem_head? (lookup_eq_head s k ▸ h))

theorem lookup_none : ∀ (s : Store) (k : Key), s.lookup k = none → ∀ x, (k, x) ∉ s := by
  intro s k h x hx
  have := List.head?_eq_none_iff.mp ((lookup_eq_head s k).symm.trans h)
  exact absurd (mem_under.mpr hx) (this ▸ List.not_mem_nil)

theorem mem_live (s : Store) (q : Req) : q ∈ s.live ↔ ∃ k, (k, some q) ∈ s := by
  simp only [Store.live, List.mem_filterMap, Prod.exists, exists_eq_right]

theorem same_refl (a : Issue) : a.same a := by
  cases a <;> simp [Issue.same]

theorem sameL_refl : ∀ l : List Issue, sameL l l := by
  intro l; induction l with
  | nil => trivial
  | cons a t ih => exact ⟨same_refl a, ih⟩

theorem sameL_append (a b c d : List Issue) (h1 : sameL a b) (h2 : sameL c d) : sameL (a ++ c) (b ++ d) := by
  fun_induction sameL a b with
  | case1 => exact h2
  | case2 a as b bs ih => exact ⟨h1.1, ih h1.2⟩
  | case3 => exact h1.elim

theorem sameL_waitall (l1 l2 : List Nat) (h : ∀ x, x ∈ l1 ↔ x ∈ l2) : sameL (waitallIssue l1) (waitallIssue l2) := by
  unfold waitallIssue
  cases l1 with
  | nil =>
    cases l2 with
    | nil => trivial
    | cons y u => exact absurd ((h y).mpr (by simp)) (by simp)
  | cons x t =>
    cases l2 with
    | nil => exact absurd ((h x).mp (by simp)) (by simp)
    | cons y u => exact ⟨h, trivial⟩

theorem key_eta (k : Key) : (k.1, k.2.1, k.2.2) = k := rfl

theorem replayStep_blocking (me : Int) (r : RState) (a : Action) (f : Bool) (h : a.isBlocking = true) :
    replayStep me r a f = some ([.call a], r) := by
  cases a <;> simp [Action.isBlocking] at h <;> rfl

theorem replayRun_single (me : Int) (r : RState) (a : Action) (f : Bool) (i : List Issue) (r' : RState)
    (h : replayStep me r a f = some (i, r')) : replayRun me r [(a, f)] = some (i, r') := by
  simp [replayRun, h]

theorem replay_wait (me : Int) (r : RState) (q : Req) (hl : r.store.lookup q.key = some (some q)) :
    replayRun me r [(.wait q.key.1 q.key.2.1 q.key.2.2, false)] =
      some ([.wait q.id], ⟨r.next, r.store.erase1 q.key⟩) := by
  have hne : r.store.isEmpty = false := by
    cases hs : r.store with
    | nil => rw [hs] at hl; cases hl
    | cons _ _ => rfl
  exact replayRun_single me r _ false _ _ (by simp only [replayStep, key_eta, hne, hl, Bool.false_eq_true, if_false])

/-- a waitall that names every active request waits for all of them and leaves nothing active -/
theorem onlineStep_waitall (me : Int) (o : OState) (ids : List Nat) (hw : ∀ q ∈ o.pending, q.id ∈ ids) :
    onlineStep me o (.waitall ids) =
      (waitallIssue (o.pending.map (·.id)), [(.waitall ids.length, false)], ⟨o.next, [], []⟩) := by
  have hall : o.pending.filter (fun r => ids.contains r.id) = o.pending :=
    List.filter_eq_self.mpr fun q hq => by simpa using hw q hq
  have hnone : o.pending.filter (fun r => !ids.contains r.id) = [] :=
    List.filter_eq_nil_iff.mpr fun q hq => by simpa using hw q hq
  simp only [onlineStep, hall, hnone]

/-- the replayer waits for everything it stores and forgets it; an empty storage issues nothing, like a waitall of no
active request -/
theorem replay_waitall (me : Int) (r : RState) (k : Nat) :
    replayRun me r [(.waitall k, false)] = some (waitallIssue (r.store.live.map (·.id)), ⟨r.next, []⟩) := by
  apply replayRun_single
  obtain ⟨n, st⟩ := r
  cases st <;> simp [replayStep, Store.live, waitallIssue]

theorem replayRun_append (me : Int) : ∀ (t1 t2 : List (Action × Bool)) (r : RState) (i1 : List Issue) (r1 : RState),
    replayRun me r t1 = some (i1, r1) →
      replayRun me r (t1 ++ t2) = (replayRun me r1 t2).map (fun x => (i1 ++ x.1, x.2)) := by
  intro t1
  induction t1 with
  | nil =>
    intro t2 r i1 r1 h
    cases h
    rw [List.nil_append]
    cases replayRun me r t2 <;> rfl
  | cons x rest ih =>
    intro t2 r i1 r1 h
    simp only [replayRun, List.cons_append] at h ⊢
    split at h
    · cases h
    · split at h
      · cases h
      · next hr =>
        cases h
        simp only [ih t2 _ _ _ hr]
        cases replayRun me _ t2 <;> simp [List.append_assoc]

/-! ## the FIFO class

Programs that may hold SEVERAL requests under one (sender, receiver, tag) at once, and complete them with MPI_Wait in the
order they were posted (per key).  Outside `WfProg` (which forbids two stored requests with one key), inside the property.
The TI record of a wait names only the key; `RequestStorage::pop` takes the OLDEST entry of the key (`front()` /
`pop_front()`), which is the request the online run waited for exactly when the program waits in posting order.
No MPI_Test in this class (a successful test re-inserts a null entry at the END of the key's list). -/

/-- the oldest active request with the key of `q` is `q` itself -/
def oldestOfKey (pending : List Req) (q : Req) : Prop := pending.find? (fun x => x.key == q.key) = some q

-- `me` is unused here: `wfStep`, `fifoStep` and `genStep` share one signature
set_option linter.unusedVariables false in
/-- FIFO discipline: any Isend / Irecv (keys may repeat), blocking calls, a Wait completes the oldest active request of
    its key (a Wait on an inactive handle is allowed: it is a no-op), Waitall names every active request; no Test. -/
def fifoStep (me : Int) (st : OState) : Call → Prop
  | .blocking a => a.isBlocking = true
  | .isend .. => True
  | .irecv .. => True
  | .wait id => ∀ q ∈ st.pending, q.id = id → oldestOfKey st.pending q
  | .test _ _ => False
  | .waitall ids => ∀ r ∈ st.pending, r.id ∈ ids

def FifoProg (me : Int) : OState → List Call → Prop
  | _, [] => True
  | st, c :: rest => fifoStep me st c ∧ FifoProg me (onlineStep me st c).2.2 rest

theorem filter_ne_self_of_not_mem (l : List Req) (q : Req) (h : q ∉ l) : l.filter (· != q) = l :=
  List.filter_eq_self.mpr fun _ ha => bne_iff_ne.mpr fun e => h (e ▸ ha)

/-- the online side of `under_erase1`: completing the oldest request `q` of its key takes the head off the list of the
active requests with that key -/
theorem filter_remove_oldest (l : List Req) (q : Req) (hn : (l.map (·.id)).Nodup)
    (hf : oldestOfKey l q) (k : Key) :
    (l.filter (· != q)).filter (·.key == k) =
      if q.key = k then (l.filter (·.key == k)).tail else l.filter (·.key == k) := by
  unfold oldestOfKey at hf
  induction l with
  | nil => cases hf
  | cons h t ih =>
    rw [List.map_cons, List.nodup_cons] at hn
    rw [List.find?_cons] at hf
    rw [List.filter_cons, List.filter_cons (p := fun x : Req => x.key == k)]
    by_cases hk : h.key = q.key
    · rw [beq_iff_eq.mpr hk] at hf
      obtain rfl : h = q := Option.some.inj hf
      rw [if_neg (fun h' => bne_iff_ne.mp h' rfl), filter_ne_self_of_not_mem t h fun hm => hn.1 (List.mem_map_of_mem hm)]
      by_cases e : h.key = k
      · rw [if_pos e, if_pos (beq_iff_eq.mpr e)]; rfl
      · rw [if_neg e, if_neg (fun h' => e (beq_iff_eq.mp h'))]
    · rw [beq_eq_false_iff_ne.mpr hk] at hf
      rw [if_pos (bne_iff_ne.mpr fun e : h = q => hk (congrArg Req.key e)), List.filter_cons, ih hn.2 hf]
      by_cases e : h.key = k
      · have e' : q.key ≠ k := fun e' => hk (e.trans e'.symm)
        rw [if_pos (beq_iff_eq.mpr e), if_neg e', if_neg e', if_pos (beq_iff_eq.mpr e)]
      · rw [if_neg (fun h' => e (beq_iff_eq.mp h')), if_neg (fun h' => e (beq_iff_eq.mp h'))]

theorem alone_of_nodup : ∀ {l : List Req}, (l.map (·.key)).Nodup → ∀ {q : Req}, q ∈ l → l.filter (·.key == q.key) = [q] := by
  intro l
  induction l with
  | nil => intro _ q hq; cases hq
  | cons a t ih =>
    intro hK q hq
    rw [List.map_cons, List.nodup_cons] at hK
    rw [List.filter_cons]
    rcases List.mem_cons.mp hq with rfl | hq
    · rw [if_pos (beq_self_eq_true _), List.filter_eq_nil_iff.mpr fun x hx hk =>
        hK.1 (List.mem_map.mpr ⟨x, hx, beq_iff_eq.mp hk⟩)]
    · rw [if_neg (fun hk => hK.1 (List.mem_map.mpr ⟨q, hq, (beq_iff_eq.mp hk).symm⟩)), ih hK.2 hq]

theorem oldest_of_alone {l : List Req} {q : Req} (h : l.filter (·.key == q.key) = [q]) : oldestOfKey l q := by
  rw [oldestOfKey, ← List.head?_filter, h]; rfl

/-- the simulation relation: under each key the storage holds the active requests with that key in posting order, or
the one null entry a successful MPI_Test left there (no request is active under such a key); request ids are fresh -/
structure Sim (o : OState) (r : RState) : Prop where
  next : r.next = o.next
  key : ∀ k, Store.under r.store k = if k ∈ o.done then [none] else (o.pending.filter (·.key == k)).map some
  done : ∀ q ∈ o.pending, q.key ∉ o.done
  lt : ∀ q ∈ o.pending, q.id < o.next
  nodup : (o.pending.map (·.id)).Nodup

theorem sim_empty {n m : Nat} (h : m = n) : Sim ⟨n, [], []⟩ ⟨m, []⟩ :=
  ⟨h, fun _ => rfl, fun _ hx => (nomatch hx), fun _ hx => (nomatch hx), List.Pairwise.nil⟩

section
variable {o : OState} {r : RState} {q : Req}

theorem Sim.lookup (h : Sim o r) (hq : q ∈ o.pending) (hold : oldestOfKey o.pending q) :
    r.store.lookup q.key = some (some q) := by
  rw [lookup_eq_head, h.key, if_neg (h.done q hq), List.head?_map, List.head?_filter, hold]; rfl

theorem Sim.remove (h : Sim o r) (hq : q ∈ o.pending) (hold : oldestOfKey o.pending q) :
    Sim ⟨o.next, o.pending.filter (· != q), o.done⟩ ⟨r.next, r.store.erase1 q.key⟩ := by
  refine ⟨h.next, fun k => ?_, fun x hx => h.done x (List.mem_filter.mp hx).1,
    fun x hx => h.lt x (List.mem_filter.mp hx).1, (List.filter_sublist.map _).nodup h.nodup⟩
  show Store.under (r.store.erase1 q.key) k = if k ∈ o.done then _ else ((o.pending.filter (· != q)).filter _).map some
  rw [under_erase1, filter_remove_oldest _ q h.nodup hold, h.key]
  by_cases e : q.key = k
  · rw [if_pos e, if_pos e, if_neg (e ▸ h.done q hq), if_neg (e ▸ h.done q hq), List.map_tail]
  · rw [if_neg e, if_neg e]

theorem Sim.add (h : Sim o r) (k : Key) (hk : k ∉ o.done) :
    Sim ⟨o.next + 1, o.pending ++ [⟨o.next, k⟩], o.done⟩ ⟨r.next + 1, r.store ++ [(k, some ⟨r.next, k⟩)]⟩ := by
  refine ⟨congrArg (· + 1) h.next, fun k' => ?_, forall_mem_snoc h.done hk,
    forall_mem_snoc (fun x hx => Nat.lt_succ_of_lt (h.lt x hx)) (Nat.lt_succ_self _),
    nodup_map_snoc _ h.nodup fun hm => ?_⟩
  · show Store.under (r.store ++ _) k' = if k' ∈ o.done then _ else ((o.pending ++ _).filter _).map some
    rw [under_snoc, h.key, List.filter_append, List.map_append, h.next, List.filter_cons]
    by_cases e : k = k'
    · rw [if_pos e, if_neg (e ▸ hk), if_neg (e ▸ hk), if_pos (beq_iff_eq.mpr e)]; rfl
    · rw [if_neg e, if_neg (fun h' => e (beq_iff_eq.mp h')), List.append_nil]
      split
      · rfl
      · exact (List.append_nil _).symm
  · obtain ⟨x, hx, e⟩ := List.mem_map.mp hm
    exact Nat.ne_of_lt (h.lt x hx) e

/-- MPI_Test on a request that is alone under its key: the storage takes it out and puts `x` (the request again, or a
null entry) back at the end of the key's list -/
theorem Sim.retest (h : Sim o r) (hq : q ∈ o.pending) (hal : o.pending.filter (·.key == q.key) = [q])
    (x : Option Req) (k : Key) :
    Store.under (r.store.erase1 q.key ++ [(q.key, x)]) k = if q.key = k then [x] else Store.under r.store k := by
  rw [under_snoc, under_erase1]
  by_cases e : q.key = k
  · subst e
    rw [if_pos rfl, if_pos rfl, if_pos rfl, h.key, if_neg (h.done q hq), hal]; rfl
  · rw [if_neg e, if_neg e, if_neg e, List.append_nil]

theorem Sim.mem_live (h : Sim o r) (q : Req) : q ∈ r.store.live ↔ q ∈ o.pending := by
  rw [C37.mem_live]
  constructor
  · rintro ⟨k, hk⟩
    have := mem_under.mpr hk
    rw [h.key] at this
    split at this
    · cases List.mem_singleton.mp this
    · obtain ⟨q', hq', e⟩ := List.mem_map.mp this
      cases e
      exact (List.mem_filter.mp hq').1
  · intro hq
    refine ⟨q.key, mem_under.mp ?_⟩
    rw [h.key, if_neg (h.done q hq)]
    exact List.mem_map_of_mem (List.mem_filter.mpr ⟨hq, beq_self_eq_true _⟩)

theorem Sim.tested (h : Sim o r) (hq : q ∈ o.pending) (hal : o.pending.filter (·.key == q.key) = [q]) :
    Sim ⟨o.next, o.pending.filter (· != q), q.key :: o.done⟩ ⟨r.next, r.store.erase1 q.key ++ [(q.key, none)]⟩ := by
  have hr := h.remove hq (oldest_of_alone hal)
  refine ⟨h.next, fun k => ?_, fun x hx hm => ?_, hr.lt, hr.nodup⟩
  · show Store.under (_ ++ [(q.key, none)]) k =
      if k ∈ q.key :: o.done then _ else ((o.pending.filter (· != q)).filter _).map some
    rw [h.retest hq hal]
    by_cases e : q.key = k
    · rw [if_pos e, if_pos (e ▸ List.mem_cons_self)]
    · rw [if_neg e, h.key, filter_remove_oldest _ q h.nodup (oldest_of_alone hal), if_neg e]
      by_cases hd : k ∈ o.done
      · rw [if_pos hd, if_pos (List.mem_cons_of_mem _ hd)]
      · rw [if_neg hd, if_neg (fun hm => (List.mem_cons.mp hm).elim (fun e' => e e'.symm) hd)]
  · obtain ⟨hx1, hx2⟩ := List.mem_filter.mp hx
    rcases List.mem_cons.mp hm with e | hm
    · have : x ∈ [q] := hal ▸ List.mem_filter.mpr ⟨hx1, beq_iff_eq.mpr e⟩
      exact bne_iff_ne.mp hx2 (List.mem_singleton.mp this)
    · exact h.done x hx1 hm

/-- a failed MPI_Test: the request is put back at the end of its key's list, where it was alone -/
theorem Sim.tested_again (h : Sim o r) (hq : q ∈ o.pending) (hal : o.pending.filter (·.key == q.key) = [q]) :
    Sim o ⟨r.next, r.store.erase1 q.key ++ [(q.key, some q)]⟩ := by
  refine ⟨h.next, fun k => ?_, h.done, h.lt, h.nodup⟩
  show Store.under (_ ++ [(q.key, some q)]) k = _
  rw [h.retest hq hal, h.key]
  by_cases e : q.key = k
  · subst e
    rw [if_pos rfl, if_neg (h.done q hq), hal]; rfl
  · rw [if_neg e]

end

/-- what a program may do for the TI format to represent it: a new request does not reuse a key under which a null entry
is stored; MPI_Wait completes the oldest active request of its key; MPI_Test is called on a request that is alone under
its key (a test puts the entry back at the END of the key's list); MPI_Waitall names every active request.
`wfStep` with distinct keys and `fifoStep` without tests are both special cases. -/
def genStep (me : Int) (st : OState) : Call → Prop
  | .blocking a => a.isBlocking = true
  | .isend p t _ _ => (me, p, t) ∉ st.done
  | .irecv p t _ _ => (p, me, t) ∉ st.done
  | .wait id => ∀ q ∈ st.pending, q.id = id → oldestOfKey st.pending q
  | .test id _ => ∀ q ∈ st.pending, q.id = id → st.pending.filter (·.key == q.key) = [q]
  | .waitall ids => ∀ r ∈ st.pending, r.id ∈ ids

def GenProg (me : Int) : OState → List Call → Prop
  | _, [] => True
  | st, c :: rest => genStep me st c ∧ GenProg me (onlineStep me st c).2.2 rest

/-- **one step**: the replayer, fed with the TI records the online step wrote, issues the same calls and stays in step -/
theorem step_sim_gen (me : Int) (o : OState) (r : RState) (c : Call) (h : Sim o r) (hw : genStep me o c) :
    ∃ i' r', replayRun me r (onlineStep me o c).2.1 = some (i', r') ∧ sameL (onlineStep me o c).1 i' ∧
      Sim (onlineStep me o c).2.2 r' := by
  cases c with
  | blocking a =>
    exact ⟨[.call a], r, replayRun_single me r a false _ _ (replayStep_blocking me r a false hw), sameL_refl _, h⟩
  | isend p t s ty | irecv p t s ty =>
    refine ⟨[.start _ r.next], _, replayRun_single me r _ false _ _ rfl, ?_, h.add _ hw⟩
    simp only [onlineStep, h.next]; exact sameL_refl _
  | wait id =>
    simp only [onlineStep]
    cases hf : o.pending.find? (fun r => r.id == id) with
    | none => exact ⟨[], r, rfl, trivial, h⟩
    | some q =>
      have hq := List.mem_of_find?_eq_some hf
      have hold := hw q hq (beq_iff_eq.mp (List.find?_some (p := fun r : Req => r.id == id) hf))
      exact ⟨_, _, replay_wait me r q (h.lookup hq hold), sameL_refl _, h.remove hq hold⟩
  | test id flag =>
    simp only [onlineStep]
    cases hf : o.pending.find? (fun r => r.id == id) with
    | none => exact ⟨[], r, rfl, trivial, h⟩
    | some q =>
      have hq := List.mem_of_find?_eq_some hf
      have hal := hw q hq (beq_iff_eq.mp (List.find?_some (p := fun r : Req => r.id == id) hf))
      refine ⟨[.test q.id], ⟨r.next, r.store.erase1 q.key ++ [(q.key, if flag then none else some q)]⟩, ?_, sameL_refl _, ?_⟩
      · apply replayRun_single
        simp only [replayStep, key_eta, h.lookup hq (oldest_of_alone hal)]
      · cases flag with
        | true => exact h.tested hq hal
        | false => exact h.tested_again hq hal
  | waitall ids =>
    rw [onlineStep_waitall me o ids hw]
    exact ⟨_, _, replay_waitall me r _, sameL_waitall _ _ fun x => by simp only [List.mem_map, h.mem_live],
      sim_empty h.next⟩

/-- **whole runs**: replaying the records an online rank wrote issues the same calls, for every program of the general
class; `replay_issues_same_calls` and `replay_issues_same_calls_fifo` are its instances through `wfProg_gen`, `fifoProg_gen` -/
theorem run_sim_gen (me : Int) : ∀ (prog : List Call) (o : OState) (r : RState), Sim o r → GenProg me o prog →
    ∃ i' r', replayRun me r (onlineRun me o prog).2 = some (i', r') ∧ sameL (onlineRun me o prog).1 i' := by
  intro prog
  induction prog with
  | nil => intro o r _ _; exact ⟨[], r, rfl, trivial⟩
  | cons c rest ih =>
    intro o r h hw
    obtain ⟨i1, r1, e1, s1, inv1⟩ := step_sim_gen me o r c h hw.1
    obtain ⟨i2, r2, e2, s2⟩ := ih _ r1 inv1 hw.2
    refine ⟨i1 ++ i2, r2, ?_, sameL_append _ _ _ _ s1 s2⟩
    simp only [onlineRun]
    rw [replayRun_append me _ _ r i1 r1 e1, e2]; rfl

theorem wf_gen (me : Int) (o : OState) (c : Call) (hK : (o.pending.map (·.key)).Nodup) (hw : wfStep me o c) :
    genStep me o c ∧ ((onlineStep me o c).2.2.pending.map (·.key)).Nodup := by
  have rm (q : Req) : ((o.pending.filter (· != q)).map (·.key)).Nodup := (List.filter_sublist.map _).nodup hK
  cases c with
  | blocking a => exact ⟨hw, hK⟩
  | isend p t s ty | irecv p t s ty => exact ⟨hw.2, nodup_map_snoc _ hK hw.1⟩
  | wait id =>
    refine ⟨fun q hq _ => oldest_of_alone (alone_of_nodup hK hq), ?_⟩
    simp only [onlineStep]
    split
    · exact rm _
    · exact hK
  | test id flag =>
    refine ⟨fun q hq _ => alone_of_nodup hK hq, ?_⟩
    simp only [onlineStep]
    split
    · cases flag
      · exact hK
      · exact rm _
    · exact hK
  | waitall ids => exact ⟨hw, (List.filter_sublist.map _).nodup hK⟩

theorem wfProg_gen (me : Int) : ∀ (prog : List Call) (o : OState), (o.pending.map (·.key)).Nodup → WfProg me o prog →
    GenProg me o prog := by
  intro prog
  induction prog with
  | nil => exact fun _ _ _ => trivial
  | cons c rest ih =>
    intro o hK hw
    obtain ⟨hg, hK'⟩ := wf_gen me o c hK hw.1
    exact ⟨hg, ih _ hK' hw.2⟩

/-- the FIFO class never tests, so no null entry is ever stored: it is inside the general class -/
theorem fifo_gen (me : Int) (o : OState) (c : Call) (hd : o.done = []) (hw : fifoStep me o c) :
    genStep me o c ∧ (onlineStep me o c).2.2.done = [] := by
  cases c with
  | blocking a => exact ⟨hw, hd⟩
  | isend p t s ty | irecv p t s ty => exact ⟨fun hm => (nomatch (hd ▸ hm : _ ∈ ([] : List Key))), hd⟩
  | wait id =>
    refine ⟨hw, ?_⟩
    simp only [onlineStep]
    split <;> exact hd
  | test id flag => exact hw.elim
  | waitall ids => exact ⟨hw, rfl⟩

theorem fifoProg_gen (me : Int) : ∀ (prog : List Call) (o : OState), o.done = [] → FifoProg me o prog →
    GenProg me o prog := by
  intro prog
  induction prog with
  | nil => exact fun _ _ _ => trivial
  | cons c rest ih =>
    intro o hd hw
    obtain ⟨hg, hd'⟩ := fifo_gen me o c hd hw.1
    exact ⟨hg, ih _ hd' hw.2⟩

end SgVerif.C37
