/-
Invariant of MaxMin::maxmin_solve at eps = 0 (used by C15/Props.lean and C16/Props.lean).

Ghost quantities of a summing (non-FATPIPE) constraint c, functions of (fixed, value) only:
  fixedLoad st c = Σ_{e ∈ elems c, var e fixed} w_e · value(var e)
  freeSum   st c = Σ_{e ∈ elems c, var e not fixed} w_e / penalty(var e)
While the elements `L` of a variable v (value x) are still to be processed by the loop over `var.cnsts_`:
  remaining c − x · wOf c L = bound c − fixedLoad c      usage c − wOf c L / penalty v = freeSum c
and for the current `min_usage` m:   m · freeSum c ≤ bound c − fixedLoad c.
-/
import SgVerif.Lmm.Basic
import SgVerif.Common.Fold

namespace SgVerif.Lmm

/-- What `System` guarantees when `solve()` is entered (and `dyn_constraint_cb_` is absent):
positive capacities, enabled elements belong to enabled variables, non-negative weights, and the two views of the
elements (per constraint / per variable) carry the same total weight for every (constraint, variable) pair. -/
structure WF (S : Sys) : Prop where
  act_nd : S.active.Nodup
  cb_pos : ∀ c ∈ S.active, 0 < (S.cnst c).bound
  el_pen : ∀ c ∈ S.active, ∀ e ∈ (S.cnst c).elems, 0 < (S.var e.1).penalty
  el_w : ∀ c ∈ S.active, ∀ e ∈ (S.cnst c).elems, 0 ≤ e.2
  vc_w : ∀ v, ∀ e ∈ (S.var v).cnsts, 0 ≤ e.2
  consist : ∀ c ∈ S.active, ∀ v, 0 < (S.var v).penalty → wOf v (S.cnst c).elems = wOf c (S.var v).cnsts

/-- Further facts `System` guarantees when `solve()` is entered, needed where the solver walks `variable_set` or a
variable's own element list (`FairBottleneck`, the water-filling reference): the variable of every enabled element is in
`variable_set`, and every enabled element is also in its variable's `cnsts_` (same constraint, same weight). -/
structure WFV (S : Sys) : Prop where
  vo_all : ∀ c ∈ S.active, ∀ e ∈ (S.cnst c).elems, e.1 ∈ S.vorder
  el_in_var : ∀ c ∈ S.active, ∀ e ∈ (S.cnst c).elems, (c, e.2) ∈ (S.var e.1).cnsts

/-- `WF` of a system given as a table whose variables from `nv` on are disabled and consume nothing: the clauses that
speak of every variable need checking below `nv` only, and `h` is then decidable. -/
theorem WF.of_table (S : Sys) (nv : Nat)
    (hout : ∀ k, (S.var (k + nv)).penalty ≤ 0 ∧ (S.var (k + nv)).cnsts = [])
    (h : S.active.Nodup ∧
      (∀ c ∈ S.active, 0 < (S.cnst c).bound ∧ ∀ e ∈ (S.cnst c).elems, 0 < (S.var e.1).penalty ∧ 0 ≤ e.2) ∧
      (∀ v < nv, (∀ e ∈ (S.var v).cnsts, 0 ≤ e.2) ∧
        (0 < (S.var v).penalty → ∀ c ∈ S.active, wOf v (S.cnst c).elems = wOf c (S.var v).cnsts))) : WF S := by
  obtain ⟨hnd, hc, hv⟩ := h
  have hout' : ∀ v, ¬ v < nv → (S.var v).penalty ≤ 0 ∧ (S.var v).cnsts = [] := fun v hv => by
    rw [← Nat.sub_add_cancel (not_lt.mp hv)]; exact hout _
  refine ⟨hnd, fun c hc' => (hc c hc').1, fun c hc' e he => ((hc c hc').2 e he).1,
    fun c hc' e he => ((hc c hc').2 e he).2, fun v e he => ?_, fun c hc' v hp => ?_⟩
  · by_cases hlt : v < nv
    · exact (hv v hlt).1 e he
    · rw [(hout' v hlt).2] at he; simp at he
  · by_cases hlt : v < nv
    · exact (hv v hlt).2 hp c hc'
    · exact absurd hp (not_lt.mpr (hout' v hlt).1)

theorem WF.w_zero {S : Sys} (hwf : WF S) {c : Nat} (hc : c ∈ S.active) {e : Nat × Rat} (he : e ∈ (S.cnst c).elems)
    (h : ¬ 0 < e.2) : e.2 = 0 := le_antisymm (not_lt.mp h) (hwf.el_w c hc e he)

def fixedLoad (S : Sys) (fixed : Nat → Bool) (value : Nat → Rat) (c : Nat) : Rat :=
  sumBy (fun e => if fixed e.1 then e.2 * value e.1 else 0) (S.cnst c).elems

def freeSum (S : Sys) (fixed : Nat → Bool) (c : Nat) : Rat :=
  sumBy (fun e => if fixed e.1 then 0 else e.2 / (S.var e.1).penalty) (S.cnst c).elems

theorem freeSum_term_nonneg (S : Sys) (hwf : WF S) (fixed : Nat → Bool) (c : Nat) (hc : c ∈ S.active) :
    ∀ e ∈ (S.cnst c).elems, 0 ≤ (if fixed e.1 then 0 else e.2 / (S.var e.1).penalty) := by
  intro e he; split
  · exact le_refl 0
  · exact div_nonneg (hwf.el_w c hc e he) (le_of_lt (hwf.el_pen c hc e he))

theorem freeSum_nonneg (S : Sys) (hwf : WF S) (fixed : Nat → Bool) (c : Nat) (hc : c ∈ S.active) : 0 ≤ freeSum S fixed c :=
  sumBy_nonneg _ _ (freeSum_term_nonneg S hwf fixed c hc)

theorem freeSum_pos_iff (S : Sys) (hwf : WF S) (fixed : Nat → Bool) (c : Nat) (hc : c ∈ S.active) :
    0 < freeSum S fixed c ↔ ∃ e ∈ (S.cnst c).elems, 0 < e.2 ∧ fixed e.1 = false := by
  constructor
  · intro h
    obtain ⟨e, he, hpos⟩ := sumBy_pos_exists _ _ h
    cases hf : fixed e.1 with
    | true => rw [hf, if_pos rfl] at hpos; exact absurd hpos (lt_irrefl 0)
    | false =>
      rw [hf] at hpos
      exact ⟨e, he, not_le.mp fun hn => absurd hpos (not_lt.mpr
        (div_nonpos_of_nonpos_of_nonneg hn (le_of_lt (hwf.el_pen c hc e he)))), hf⟩
  · rintro ⟨e, he, hw, hfx⟩
    have h := sumBy_le_of_mem _ _ (freeSum_term_nonneg S hwf fixed c hc) e he
    rw [hfx] at h
    exact lt_of_lt_of_le (div_pos hw (hwf.el_pen c hc e he)) h

theorem freeSum_closed (S : Sys) (hwf : WF S) (fixed : Nat → Bool) (c : Nat) (hc : c ∈ S.active)
    (hcl : ∀ e ∈ (S.cnst c).elems, 0 < e.2 → fixed e.1 = true) : freeSum S fixed c = 0 := by
  refine le_antisymm (not_lt.mp fun h => ?_) (freeSum_nonneg S hwf fixed c hc)
  obtain ⟨e, he, hw, hf⟩ := (freeSum_pos_iff S hwf fixed c hc).mp h
  rw [hcl e he hw] at hf; cases hf

/-- fixing further variables at values with `value · penalty = t` moves `t` times the loss of `freeSum` into `fixedLoad` -/
theorem fixedLoad_step (S : Sys) (hwf : WF S) (f f' : Nat → Bool) (v v' : Nat → Rat) (t : Rat) (c : Nat) (hc : c ∈ S.active)
    (hkeep : ∀ w, f w = true → f' w = true ∧ v' w = v w)
    (hnew : ∀ e ∈ (S.cnst c).elems, 0 < e.2 → f e.1 = false → f' e.1 = true → v' e.1 * (S.var e.1).penalty = t) :
    fixedLoad S f' v' c = fixedLoad S f v c + t * (freeSum S f c - freeSum S f' c) := by
  unfold fixedLoad freeSum
  rw [← sumBy_sub]
  apply sumBy_lin
  intro e he
  cases hf : f e.1 with
  | true => rw [(hkeep e.1 hf).1, (hkeep e.1 hf).2]; simp
  | false =>
    cases hf' : f' e.1 with
    | false => simp
    | true =>
      by_cases hw : 0 < e.2
      · rw [← hnew e he hw hf hf']
        simp only [if_true, Bool.false_eq_true, if_false, zero_add, sub_zero]
        rw [mul_assoc, mul_comm _ (e.2 / _), div_mul_cancel₀ _ (ne_of_gt (hwf.el_pen c hc e he)), mul_comm]
      · simp [hwf.w_zero hc he hw]

theorem fixedLoad_none (S : Sys) (value : Nat → Rat) (c : Nat) : fixedLoad S (fun _ => false) value c = 0 :=
  sumBy_zero _ _ fun _ _ => rfl

theorem fixedLoad_mark (S : Sys) (fixed : Nat → Bool) (value : Nat → Rat) (c v : Nat) (x : Rat) (hv : fixed v = false) :
    fixedLoad S (upd fixed v true) (upd value v x) c = fixedLoad S fixed value c + x * wOf v (S.cnst c).elems := by
  unfold fixedLoad wOf
  apply sumBy_lin
  intro e _
  by_cases h : e.1 = v
  · simp [h, hv]; ring
  · simp [upd, h]

theorem freeSum_mark (S : Sys) (fixed : Nat → Bool) (c v : Nat) (hv : fixed v = false) :
    freeSum S (upd fixed v true) c = freeSum S fixed c + (-(1 / (S.var v).penalty)) * wOf v (S.cnst c).elems := by
  unfold freeSum wOf
  apply sumBy_lin
  intro e _
  by_cases h : e.1 = v
  · simp [h, hv]; ring
  · simp [upd, h]

theorem load_eq_sumBy (S : Sys) (val : Nat → Rat) (c : Nat) (hf : (S.cnst c).fatpipe = false) :
    load S val c = sumBy (fun e => if 0 < e.2 then e.2 * val e.1 else 0) (S.cnst c).elems := by
  unfold load
  simp only [hf, Bool.not_false, if_true]
  rw [foldl_cond_add, zero_add]

theorem load_eq_fixedLoad (S : Sys) (hwf : WF S) (fixed : Nat → Bool) (val : Nat → Rat) (c : Nat) (hc : c ∈ S.active)
    (hf : (S.cnst c).fatpipe = false) (h0 : ∀ e ∈ (S.cnst c).elems, 0 < e.2 → fixed e.1 = false → val e.1 = 0) :
    load S val c = fixedLoad S fixed val c := by
  rw [load_eq_sumBy S val c hf]
  apply sumBy_congr
  intro e he
  by_cases hw : 0 < e.2
  · cases hfx : fixed e.1 with
    | false => rw [h0 e he hw hfx]; simp
    | true => simp [hw]
  · simp [hwf.w_zero hc he hw]

/-- `Σ w·value` over the enabled elements of `c`: the load of a summing constraint of a well-formed system -/
def wsum (S : Sys) (value : Nat → Rat) (c : Nat) : Rat := sumBy (fun e => e.2 * value e.1) (S.cnst c).elems

theorem wsum_sub (S : Sys) (v v' : Nat → Rat) (c : Nat) :
    wsum S v' c - wsum S v c = sumBy (fun e => e.2 * (v' e.1 - v e.1)) (S.cnst c).elems := by
  unfold wsum
  rw [← sumBy_sub]
  exact sumBy_congr _ _ _ fun e _ => by ring

theorem load_eq_wsum (S : Sys) (hwf : WF S) (value : Nat → Rat) (c : Nat) (hc : c ∈ S.active)
    (hf : (S.cnst c).fatpipe = false) : load S value c = wsum S value c :=
  load_eq_fixedLoad S hwf (fun _ => true) value c hc hf fun _ _ _ h => nomatch h

theorem load_fat_spec (S : Sys) (val : Nat → Rat) (c : Nat) (hf : (S.cnst c).fatpipe = true) :
    0 ≤ load S val c ∧ (∀ e ∈ (S.cnst c).elems, 0 < e.2 → e.2 * val e.1 ≤ load S val c) ∧
    (load S val c = 0 ∨ ∃ e ∈ (S.cnst c).elems, 0 < e.2 ∧ e.2 * val e.1 = load S val c) := by
  unfold load
  simp only [hf, Bool.not_true, Bool.false_eq_true, if_false]
  exact foldMax_spec (fun s (e : Nat × Rat) => if 0 < e.2 then (if s < e.2 * val e.1 then e.2 * val e.1 else s) else s)
    (fun e => 0 < e.2) (fun e => e.2 * val e.1) (fun _ _ h => if_pos h) (fun _ _ h => if_neg h) (S.cnst c).elems 0

theorem load_fat_ge (S : Sys) (val : Nat → Rat) (c : Nat) (hf : (S.cnst c).fatpipe = true) (e : Nat × Rat)
    (he : e ∈ (S.cnst c).elems) (hw : 0 < e.2) : e.2 * val e.1 ≤ load S val c :=
  (load_fat_spec S val c hf).2.1 e he hw

theorem load_fat_le (S : Sys) (val : Nat → Rat) (c : Nat) (hf : (S.cnst c).fatpipe = true) (B : Rat) (hB : 0 ≤ B)
    (h : ∀ e ∈ (S.cnst c).elems, 0 < e.2 → e.2 * val e.1 ≤ B) : load S val c ≤ B := by
  rcases (load_fat_spec S val c hf).2.2 with h0 | ⟨e, he, hw, h1⟩
  · rw [h0]; exact hB
  · rw [← h1]; exact h e he hw

/-- the part of the invariant that only depends on (fixed, value) and the current min_usage `m` -/
structure InvG (S : Sys) (m : Rat) (fixed : Nat → Bool) (value : Nat → Rat) : Prop where
  val0 : ∀ c ∈ S.active, ∀ e ∈ (S.cnst c).elems, fixed e.1 = false → value e.1 = 0
  valpos : ∀ v, fixed v = true → 0 < value v
  valb : ∀ v, fixed v = true → 0 < (S.var v).bound → value v ≤ (S.var v).bound
  sh_H0 : ∀ c ∈ S.active, (S.cnst c).fatpipe = false → 0 ≤ (S.cnst c).bound - fixedLoad S fixed value c
  sh_B : ∀ c ∈ S.active, (S.cnst c).fatpipe = false → m * freeSum S fixed c ≤ (S.cnst c).bound - fixedLoad S fixed value c
  ft_feas : ∀ c ∈ S.active, (S.cnst c).fatpipe = true → ∀ e ∈ (S.cnst c).elems, fixed e.1 = true →
    e.2 * value e.1 ≤ (S.cnst c).bound

theorem InvG.cap {S : Sys} {m : Rat} {fixed : Nat → Bool} {value : Nat → Rat} (hwf : WF S) (hG : InvG S m fixed value)
    {c : Nat} (hc : c ∈ S.active) : load S value c ≤ (S.cnst c).bound := by
  cases hf : (S.cnst c).fatpipe with
  | false =>
    rw [load_eq_fixedLoad S hwf fixed value c hc hf fun e he _ => hG.val0 c hc e he]
    exact sub_nonneg.mp (hG.sh_H0 c hc hf)
  | true =>
    refine load_fat_le S value c hf _ (le_of_lt (hwf.cb_pos c hc)) fun e he _ => ?_
    cases hfx : fixed e.1 with
    | false => rw [hG.val0 c hc e he hfx, mul_zero]; exact le_of_lt (hwf.cb_pos c hc)
    | true => exact hG.ft_feas c hc hf e he hfx

/-- bookkeeping part: `remaining_`, `usage_`; `L` = elements of the variable being fixed (value `x`,
`pinv = 1/penalty`) that the loop over `var.cnsts_` has not processed yet -/
structure InvK (S : Sys) (m : Rat) (st : St) (pinv x : Rat) (L : List (Nat × Rat)) : Prop where
  sh_rem : ∀ c ∈ S.active, (S.cnst c).fatpipe = false →
    st.remaining c - x * wOf c L = (S.cnst c).bound - fixedLoad S st.fixed st.value c
  sh_use : ∀ c ∈ S.active, (S.cnst c).fatpipe = false → st.usage c - pinv * wOf c L = freeSum S st.fixed c
  ft_rem : ∀ c ∈ S.active, (S.cnst c).fatpipe = true → st.remaining c = (S.cnst c).bound
  ft_use : ∀ c ∈ S.active, (S.cnst c).fatpipe = true → ∀ e ∈ (S.cnst c).elems, st.fixed e.1 = false → 0 < e.2 →
    e.2 / (S.var e.1).penalty ≤ st.usage c
  ft_nn : ∀ c ∈ S.active, (S.cnst c).fatpipe = true → 0 ≤ st.usage c
  ft_B : ∀ c ∈ S.active, (S.cnst c).fatpipe = true → m * st.usage c ≤ (S.cnst c).bound

/-- the light table: a constraint that left it has no unfixed consumer; a constraint in it has remaining_, usage_ > 0 -/
structure InvL (S : Sys) (st : St) : Prop where
  lt_sh : ∀ c ∈ S.active, c ∉ st.light → (S.cnst c).fatpipe = false → freeSum S st.fixed c = 0
  lt_ft : ∀ c ∈ S.active, c ∉ st.light → (S.cnst c).fatpipe = true → st.usage c = 0
  li_act : ∀ c ∈ st.light, c ∈ S.active
  li_pos : ∀ c ∈ st.light, 0 < st.remaining c ∧ 0 < st.usage c
  li_nd : st.light.Nodup

/-- the invariant at a state where no variable is being fixed, for any `m` (`inv_rebase` changes it); `RInv` has the same three
fields at `m = st.minUsage` (`RInv.inv`) -/
structure Inv (S : Sys) (m : Rat) (st : St) : Prop where
  g : InvG S m st.fixed st.value
  k : InvK S m st 0 0 []
  l : InvL S st

theorem InvK.rem_eq {S : Sys} {m : Rat} {st : St} {p x : Rat} (h : InvK S m st p x []) {c : Nat} (hc : c ∈ S.active)
    (hf : (S.cnst c).fatpipe = false) : st.remaining c = (S.cnst c).bound - fixedLoad S st.fixed st.value c := by
  simpa using h.sh_rem c hc hf

theorem InvK.use_eq {S : Sys} {m : Rat} {st : St} {p x : Rat} (h : InvK S m st p x []) {c : Nat} (hc : c ∈ S.active)
    (hf : (S.cnst c).fatpipe = false) : st.usage c = freeSum S st.fixed c := by
  simpa using h.sh_use c hc hf

theorem InvK.nil {S : Sys} {m : Rat} {st : St} {p x : Rat} (h : InvK S m st p x []) (p' x' : Rat) : InvK S m st p' x' [] :=
  ⟨fun c hc hf => by simpa using h.rem_eq hc hf, fun c hc hf => by simpa using h.use_eq hc hf,
    h.ft_rem, h.ft_use, h.ft_nn, h.ft_B⟩

/-- `InvK` and `InvL` read constraint by constraint: what they say of the tables of `c` (`r`, `u` its `remaining_` and
`usage_`, `inL` whether it is in the light table).  The loop over `var.cnsts_` touches one constraint at a time. -/
structure KC (S : Sys) (m : Rat) (fixed : Nat → Bool) (value : Nat → Rat) (p x : Rat) (L : List (Nat × Rat)) (c : Nat)
    (r u : Rat) (inL : Prop) : Prop where
  pos : inL → 0 < r ∧ 0 < u
  sh : (S.cnst c).fatpipe = false → r - x * wOf c L = (S.cnst c).bound - fixedLoad S fixed value c ∧
    u - p * wOf c L = freeSum S fixed c ∧ (¬ inL → freeSum S fixed c = 0)
  ft : (S.cnst c).fatpipe = true → r = (S.cnst c).bound ∧
    (∀ e ∈ (S.cnst c).elems, fixed e.1 = false → 0 < e.2 → e.2 / (S.var e.1).penalty ≤ u) ∧ 0 ≤ u ∧
    m * u ≤ (S.cnst c).bound ∧ (¬ inL → u = 0)

theorem inv_of_kc {S : Sys} {m : Rat} {st : St} {p x : Rat} {L : List (Nat × Rat)}
    (h : ∀ c ∈ S.active, KC S m st.fixed st.value p x L c (st.remaining c) (st.usage c) (c ∈ st.light))
    (hact : ∀ c ∈ st.light, c ∈ S.active) (hnd : st.light.Nodup) : InvK S m st p x L ∧ InvL S st :=
  ⟨⟨fun c hc hf => ((h c hc).sh hf).1, fun c hc hf => ((h c hc).sh hf).2.1, fun c hc hf => ((h c hc).ft hf).1,
    fun c hc hf => ((h c hc).ft hf).2.1, fun c hc hf => ((h c hc).ft hf).2.2.1, fun c hc hf => ((h c hc).ft hf).2.2.2.1⟩,
   ⟨fun c hc hn hf => ((h c hc).sh hf).2.2 hn, fun c hc hn hf => ((h c hc).ft hf).2.2.2.2 hn, hact,
    fun c hc => (h c (hact c hc)).pos hc, hnd⟩⟩

theorem fatUsage_spec (S : Sys) (value : Nat → Rat) (c : Nat) :
    0 ≤ fatUsage S value c ∧
    (∀ e ∈ (S.cnst c).elems, ¬ 0 < value e.1 → 0 < e.2 → e.2 / (S.var e.1).penalty ≤ fatUsage S value c) ∧
    (fatUsage S value c = 0 ∨
      ∃ e ∈ (S.cnst c).elems, ¬ 0 < value e.1 ∧ 0 < e.2 ∧ e.2 / (S.var e.1).penalty = fatUsage S value c) := by
  obtain ⟨h1, h2, h3⟩ := foldMax_spec
    (fun u (e : Nat × Rat) => if 0 < value e.1 then u
      else if 0 < e.2 then (let x := e.2 / (S.var e.1).penalty; if u < x then x else u) else u)
    (fun e => ¬ 0 < value e.1 ∧ 0 < e.2) (fun e => e.2 / (S.var e.1).penalty)
    (fun u e h => by simp only [if_neg h.1, if_pos h.2])
    (fun u e h => by
      by_cases hv : 0 < value e.1
      · simp only [if_pos hv]
      · simp only [if_neg hv, if_neg fun hw => h ⟨hv, hw⟩])
    (S.cnst c).elems 0
  exact ⟨h1, fun e he hv hw => h2 e he ⟨hv, hw⟩, h3.imp id fun ⟨e, he, hp, hg⟩ => ⟨e, he, hp.1, hp.2, hg⟩⟩

theorem fatUsage_le (S : Sys) (value : Nat → Rat) (c : Nat) (U : Rat) (h0 : 0 ≤ U)
    (h : ∀ e ∈ (S.cnst c).elems, ¬ 0 < value e.1 → 0 < e.2 → e.2 / (S.var e.1).penalty ≤ U) :
    fatUsage S value c ≤ U := by
  rcases (fatUsage_spec S value c).2.2 with h1 | ⟨e, he, hv, hw, h1⟩
  · rw [h1]; exact h0
  · rw [← h1]; exact h e he hv hw

/-- `remaining_` and `usage_` of the constraint `e.1` after the body of the loop over `var.cnsts_` -/
def updRem (S : Sys) (eps : Rat) (v : Nat) (st : St) (e : Nat × Rat) : Rat :=
  if (S.cnst e.1).fatpipe then st.remaining e.1
  else dblUpdate (st.remaining e.1) (e.2 * st.value v) ((S.cnst e.1).bound * eps)

def updUse (S : Sys) (eps : Rat) (v : Nat) (st : St) (e : Nat × Rat) : Rat :=
  if (S.cnst e.1).fatpipe then fatUsage S st.value e.1
  else dblUpdate (st.usage e.1) (e.2 / (S.var v).penalty) eps

theorem updCnst_eq (S : Sys) (eps : Rat) (v : Nat) (st : St) (e : Nat × Rat) :
    updCnst S eps v st e =
      { st with remaining := upd st.remaining e.1 (updRem S eps v st e), usage := upd st.usage e.1 (updUse S eps v st e),
                light := if dblPos (updUse S eps v st e) eps && dblPos (updRem S eps v st e) ((S.cnst e.1).bound * eps)
                  then st.light else swapRemove st.light e.1 } := by
  unfold updCnst updRem updUse
  cases hf : (S.cnst e.1).fatpipe
  · simp only [hf, Bool.not_false, if_true, upd_same, Bool.false_eq_true, if_false]
    generalize dblPos _ eps = a
    generalize dblPos _ _ = b
    cases a <;> cases b <;> rfl
  · simp only [hf, Bool.not_true, if_true, upd_same, Bool.false_eq_true, if_false, upd_self]
    generalize dblPos _ eps = a
    generalize dblPos _ _ = b
    cases a <;> cases b <;> rfl

theorem updCnst_fixed (S : Sys) (eps : Rat) (v : Nat) (st : St) (e : Nat × Rat) :
    (updCnst S eps v st e).fixed = st.fixed ∧ (updCnst S eps v st e).value = st.value := by
  rw [updCnst_eq]; exact ⟨rfl, rfl⟩

theorem updCnst_remaining (S : Sys) (eps : Rat) (v : Nat) (st : St) (e : Nat × Rat) (c : Nat) :
    (updCnst S eps v st e).remaining c = if c = e.1 then updRem S eps v st e else st.remaining c := by
  rw [updCnst_eq]; rfl

theorem updCnst_usage (S : Sys) (eps : Rat) (v : Nat) (st : St) (e : Nat × Rat) (c : Nat) :
    (updCnst S eps v st e).usage c = if c = e.1 then updUse S eps v st e else st.usage c := by
  rw [updCnst_eq]; rfl

theorem updCnst_light_nodup (S : Sys) (eps : Rat) (v : Nat) (st : St) (e : Nat × Rat) (hnd : st.light.Nodup) :
    (updCnst S eps v st e).light.Nodup := by
  rw [updCnst_eq]; dsimp only; split
  · exact hnd
  · exact (swapRemove_spec st.light e.1 hnd).1

theorem mem_updCnst_light (S : Sys) (eps : Rat) (v : Nat) (st : St) (e : Nat × Rat) (hnd : st.light.Nodup) (c : Nat) :
    c ∈ (updCnst S eps v st e).light ↔
      if c = e.1 then c ∈ st.light ∧ eps < updUse S eps v st e ∧ (S.cnst e.1).bound * eps < updRem S eps v st e
      else c ∈ st.light := by
  rw [updCnst_eq]; dsimp only
  by_cases hp : eps < updUse S eps v st e ∧ (S.cnst e.1).bound * eps < updRem S eps v st e
  · rw [if_pos (by simp [dblPos, hp.1, hp.2])]
    split
    · exact (and_iff_left hp).symm
    · rfl
  · rw [if_neg (by simpa [dblPos] using hp), (swapRemove_spec st.light e.1 hnd).2 c]
    split
    · exact ⟨fun h => absurd ‹c = e.1› h.2, fun h => absurd h.2 hp⟩
    · exact and_iff_left ‹_›

/-- One element `(c0, w)` of the pending list is processed: only the tables of `c0` change. -/
theorem updCnst_kc (S : Sys) (hwf : WF S) (m : Rat) (hm : 0 < m) (st : St) (v : Nat) (x pinv : Rat) (c0 : Nat) (w : Rat)
    (L : List (Nat × Rat)) (hG : InvG S m st.fixed st.value)
    (hK : ∀ c ∈ S.active, KC S m st.fixed st.value pinv x ((c0, w) :: L) c (st.remaining c) (st.usage c) (c ∈ st.light))
    (hnd : st.light.Nodup) (hx : st.value v = x) (hp : pinv = 1 / (S.var v).penalty) (hx0 : 0 ≤ x) (hpi : 0 ≤ pinv)
    (hLw : ∀ e ∈ L, 0 ≤ e.2) :
    ∀ c ∈ S.active, KC S m st.fixed st.value pinv x L c ((updCnst S 0 v st (c0, w)).remaining c)
      ((updCnst S 0 v st (c0, w)).usage c) (c ∈ (updCnst S 0 v st (c0, w)).light) := by
  intro c hc
  have h := hK c hc
  rw [updCnst_remaining, updCnst_usage, mem_updCnst_light S 0 v st (c0, w) hnd c, mul_zero]
  by_cases hcc : c = c0
  · subst hcc
    rw [if_pos rfl, if_pos rfl, if_pos rfl]
    have hxW : 0 ≤ x * wOf c L := mul_nonneg hx0 (wOf_nonneg c L hLw)
    have hpW : 0 ≤ pinv * wOf c L := mul_nonneg hpi (wOf_nonneg c L hLw)
    cases hf : (S.cnst c).fatpipe with
    | false =>
      obtain ⟨h1, h2, h3⟩ := h.sh hf
      rw [wOf_cons_eq, mul_add] at h1 h2
      -- remaining_ -= w * value, usage_ -= w / penalty, and `double_update` does not clamp
      have hr : updRem S 0 v st (c, w) = st.remaining c - x * w := by
        unfold updRem
        rw [if_neg (by simp [hf]), mul_zero, hx, mul_comm w x]
        exact dblUpdate_zero_of_le _ _ (by linarith only [h1, hG.sh_H0 c hc hf, hxW])
      have hu : updUse S 0 v st (c, w) = st.usage c - pinv * w := by
        unfold updUse
        rw [if_neg (by simp [hf]), show w / (S.var v).penalty = 1 / (S.var v).penalty * w by ring, ← hp]
        exact dblUpdate_zero_of_le _ _ (by linarith only [h2, freeSum_nonneg S hwf st.fixed c hc, hpW])
      rw [hr, hu]
      refine ⟨fun hl => ⟨hl.2.2, hl.2.1⟩, fun _ => ⟨by linarith only [h1], by linarith only [h2], fun hnl => ?_⟩,
        fun hft => by rw [hf] at hft; cases hft⟩
      -- out of the table: the tables still dominate the unfixed consumers, so there is none
      by_contra hne
      have hpos := lt_of_le_of_ne (freeSum_nonneg S hwf st.fixed c hc) (Ne.symm hne)
      refine hnl ⟨by_contra fun hl => hne (h3 hl), by linarith only [h2, hpW, hpos],
        by linarith only [h1, hG.sh_B c hc hf, hxW, mul_pos hm hpos]⟩
    | true =>
      obtain ⟨h1, h2, h3, h4, h5⟩ := h.ft hf
      -- usage_ recomputed over the elements whose variable has value_ <= 0, i.e. the unfixed ones
      obtain ⟨f1, f2, _⟩ := fatUsage_spec S st.value c
      have hr : updRem S 0 v st (c, w) = st.remaining c := if_pos hf
      have hu : updUse S 0 v st (c, w) = fatUsage S st.value c := if_pos hf
      have hle : fatUsage S st.value c ≤ st.usage c := by
        refine fatUsage_le S st.value c _ h3 fun e he hv hw0 => h2 e he ?_ hw0
        cases hfe : st.fixed e.1 with
        | false => rfl
        | true => exact absurd (hG.valpos e.1 hfe) hv
      rw [hr, hu]
      refine ⟨fun hl => ⟨hl.2.2, hl.2.1⟩, fun hsh => (by rw [hf] at hsh; cases hsh), fun _ => ⟨h1,
        fun e he hfe hw0 => f2 e he (by rw [hG.val0 c hc e he hfe]; exact lt_irrefl 0) hw0, f1,
        le_trans (mul_le_mul_of_nonneg_left hle (le_of_lt hm)) h4, fun hnl => le_antisymm ?_ f1⟩⟩
      by_cases hl : c ∈ st.light
      · exact not_lt.mp fun hpos => hnl ⟨hl, hpos, by rw [h1]; exact hwf.cb_pos c hc⟩
      · exact le_of_le_of_eq hle (h5 hl)
  · rw [if_neg hcc, if_neg hcc, if_neg hcc]
    exact ⟨h.pos, fun hf => by rw [← wOf_cons_ne c c0 w L hcc]; exact h.sh hf, h.ft⟩

theorem fixVar_fixed (S : Sys) (eps : Rat) (st : St) (v : Nat) (x : Rat) :
    (fixVar S eps st v x).fixed = upd st.fixed v true ∧ (fixVar S eps st v x).value = upd st.value v x :=
  foldl_inv (P := fun s : St => s.fixed = upd st.fixed v true ∧ s.value = upd st.value v x)
    (fun s e h => by rw [(updCnst_fixed S eps v s e).1, (updCnst_fixed S eps v s e).2]; exact h) _ _ ⟨rfl, rfl⟩

theorem foldCnst_kc (S : Sys) (hwf : WF S) (m : Rat) (hm : 0 < m) (v : Nat) (x pinv : Rat)
    (hp : pinv = 1 / (S.var v).penalty) (hx0 : 0 ≤ x) (hpi : 0 ≤ pinv) (L : List (Nat × Rat)) :
    ∀ st : St, InvG S m st.fixed st.value →
      (∀ c ∈ S.active, KC S m st.fixed st.value pinv x L c (st.remaining c) (st.usage c) (c ∈ st.light)) →
      (∀ c ∈ st.light, c ∈ S.active) → st.light.Nodup → st.value v = x → (∀ e ∈ L, 0 ≤ e.2) →
      InvK S m (L.foldl (updCnst S 0 v) st) pinv x [] ∧ InvL S (L.foldl (updCnst S 0 v) st) := by
  induction L with
  | nil => intro st _ hK hact hnd _ _; exact inv_of_kc hK hact hnd
  | cons e t ih =>
    intro st hG hK hact hnd hx hw
    obtain ⟨c0, w⟩ := e
    rw [List.forall_mem_cons] at hw
    obtain ⟨h3, h4⟩ := updCnst_fixed S 0 v st (c0, w)
    have h1 := updCnst_kc S hwf m hm st v x pinv c0 w t hG hK hnd hx hp hx0 hpi hw.2
    rw [← h3, ← h4] at h1
    have hsub : ∀ c ∈ (updCnst S 0 v st (c0, w)).light, c ∈ st.light := fun c hc => by
      have := (mem_updCnst_light S 0 v st (c0, w) hnd c).mp hc
      split at this
      · exact this.1
      · exact this
    exact ih (updCnst S 0 v st (c0, w)) (by rw [h3, h4]; exact hG) h1
      (fun c hc => hact c (hsub c hc)) (updCnst_light_nodup S 0 v st (c0, w) hnd)
      (by rw [h4]; exact hx) hw.2

theorem fixVar_inv (S : Sys) (hwf : WF S) (m : Rat) (hm : 0 < m) (st : St) (v : Nat) (x : Rat)
    (hI : Inv S m st) (hv : st.fixed v = false) (hpv : 0 < (S.var v).penalty) (hx : 0 < x)
    (hxm : x * (S.var v).penalty ≤ m) (hxb : 0 < (S.var v).bound → x ≤ (S.var v).bound) :
    Inv S m (fixVar S 0 st v x) := by
  obtain ⟨hG, hK, hL⟩ := hI
  -- `q` stands for `1 / penalty` so that the arithmetic below is about variables
  obtain ⟨q, hq⟩ : ∃ q, q = 1 / (S.var v).penalty := ⟨_, rfl⟩
  have hxp : x ≤ m * q := by
    rw [hq, mul_one_div, le_div_iff₀ hpv]; exact hxm
  have hpinv : 0 ≤ q := by rw [hq]; exact one_div_nonneg.mpr (le_of_lt hpv)
  have hne : ∀ u, upd st.fixed v true u = false → u ≠ v := fun u hu h => by rw [h, upd_same] at hu; cases hu
  -- the state once `var.value_ = x` is done and `v` is counted as fixed
  have hG1 : InvG S m (upd st.fixed v true) (upd st.value v x) := by
    have hBnew : ∀ c ∈ S.active, (S.cnst c).fatpipe = false →
        m * freeSum S (upd st.fixed v true) c ≤ (S.cnst c).bound - fixedLoad S (upd st.fixed v true) (upd st.value v x) c := by
      intro c hc hf
      rw [fixedLoad_mark S st.fixed st.value c v x hv, freeSum_mark S st.fixed c v hv, ← hq]
      linarith only [hG.sh_B c hc hf, mul_nonneg (sub_nonneg.mpr hxp) (wOf_nonneg v (S.cnst c).elems (hwf.el_w c hc))]
    constructor
    · intro c hc e he hfx
      have h := hne _ hfx
      rw [upd_other _ _ _ _ h] at hfx ⊢
      exact hG.val0 c hc e he hfx
    · intro u hu
      by_cases h : u = v
      · rw [h, upd_same]; exact hx
      · rw [upd_other _ _ _ _ h] at hu ⊢; exact hG.valpos u hu
    · intro u hu hb
      by_cases h : u = v
      · rw [h, upd_same]; rw [h] at hb; exact hxb hb
      · rw [upd_other _ _ _ _ h] at hu ⊢; exact hG.valb u hu hb
    · intro c hc hf
      exact le_trans (mul_nonneg (le_of_lt hm) (freeSum_nonneg S hwf _ c hc)) (hBnew c hc hf)
    · exact hBnew
    · intro c hc hf e he hfx
      by_cases h : e.1 = v
      · rw [h, upd_same]
        have hw := hwf.el_w c hc e he
        rcases lt_or_eq_of_le hw with hw0 | hw0
        · have h1 := hK.ft_use c hc hf e he (by rw [h]; exact hv) hw0
          rw [h] at h1
          have h3 : e.2 * x ≤ e.2 * (m * q) := mul_le_mul_of_nonneg_left hxp hw
          have h4 : m * (e.2 / (S.var v).penalty) ≤ m * st.usage c := mul_le_mul_of_nonneg_left h1 (le_of_lt hm)
          calc e.2 * x ≤ m * (e.2 / (S.var v).penalty) := le_of_le_of_eq h3 (by rw [hq]; ring)
            _ ≤ (S.cnst c).bound := le_trans h4 (hK.ft_B c hc hf)
        · rw [← hw0, zero_mul]; exact le_of_lt (hwf.cb_pos c hc)
      · rw [upd_other _ _ _ _ h] at hfx ⊢; exact hG.ft_feas c hc hf e he hfx
  -- the tables, constraint by constraint, with every element of `v` pending
  have hK1 : ∀ c ∈ S.active, KC S m (upd st.fixed v true) (upd st.value v x) q x (S.var v).cnsts c (st.remaining c)
      (st.usage c) (c ∈ st.light) := by
    intro c hc
    refine ⟨hL.li_pos c, fun hf => ?_, fun hf => ⟨hK.ft_rem c hc hf, fun e he hfx hw0 =>
      hK.ft_use c hc hf e he (by rw [← upd_other st.fixed v _ true (hne _ hfx)]; exact hfx) hw0,
      hK.ft_nn c hc hf, hK.ft_B c hc hf, fun hnl => hL.lt_ft c hc hnl hf⟩⟩
    have h1 := freeSum_nonneg S hwf (upd st.fixed v true) c hc
    rw [freeSum_mark S st.fixed c v hv, ← hq, hwf.consist c hc v hpv] at h1 ⊢
    rw [fixedLoad_mark S st.fixed st.value c v x hv, hwf.consist c hc v hpv, hK.rem_eq hc hf, hK.use_eq hc hf]
    refine ⟨by ring, by ring, fun hnl => ?_⟩
    rw [hL.lt_sh c hc hnl hf] at h1 ⊢
    linarith only [h1, mul_nonneg hpinv (wOf_nonneg c (S.var v).cnsts (hwf.vc_w v))]
  obtain ⟨h1, h2⟩ := foldCnst_kc S hwf m hm v x q hq (le_of_lt hx) hpinv (S.var v).cnsts
    { st with value := upd st.value v x, fixed := upd st.fixed v true } hG1 hK1 hL.li_act hL.li_nd
    (upd_same _ _ _) (hwf.vc_w v)
  obtain ⟨h3, h4⟩ := fixVar_fixed S 0 st v x
  exact ⟨by rw [h3, h4]; exact hG1, h1.nil 0 0, h2⟩

/-- a candidate of the first `for`: a variable with a bound whose `bound·penalty` is below `min_usage` -/
abbrev boundCand (S : Sys) (m : Rat) (v : Nat) : Prop := 0 < (S.var v).bound ∧ (S.var v).bound * (S.var v).penalty < m

theorem minBound_spec (S : Sys) (m : Rat) (sv : List Nat) (hp : ∀ v ∈ sv, 0 < (S.var v).penalty) :
    (minBound S m sv < 0 → ∀ v ∈ sv, ¬ boundCand S m v) ∧
    (¬ minBound S m sv < 0 → ∃ u ∈ sv, boundCand S m u ∧ minBound S m sv = (S.var u).bound * (S.var u).penalty) := by
  -- `min_bound` is a minimum with the sentinel −1 for "none yet"; every candidate is positive
  have A := foldMin_spec (fun mb : Rat => if mb < 0 then none else some mb)
    (fun mb v => if boundCand S m v then
        (if mb < 0 then (S.var v).bound * (S.var v).penalty
         else (if (S.var v).bound * (S.var v).penalty < mb then (S.var v).bound * (S.var v).penalty else mb))
      else mb)
    (boundCand S m) (fun v => (S.var v).bound * (S.var v).penalty) sv
    (fun a v hv hc => by
      have hpos : ¬ (S.var v).bound * (S.var v).penalty < 0 := not_lt.mpr (le_of_lt (mul_pos hc.1 (hp v hv)))
      rw [if_pos hc]
      by_cases ha : a < 0
      · rw [if_pos ha, if_pos ha, if_neg hpos]
      · rw [if_neg ha, if_neg ha]
        by_cases hlt : (S.var v).bound * (S.var v).penalty < a
        · simp only [if_pos hlt, if_neg hpos]
        · simp only [if_neg hlt, if_neg ha])
    (fun a v _ hc => by rw [if_neg hc]) (-1) (C := fun _ => False) (by rw [if_pos (by norm_num)]; exact minOf_none)
  refine ⟨fun h v hv hc => A.1 (if_pos h) _ (Or.inr ⟨v, hv, hc, rfl⟩), fun h => ?_⟩
  obtain ⟨u, hu, hc, hg⟩ := (A.2 _ (if_neg h)).1.resolve_left id
  exact ⟨u, hu, hc, hg.symm⟩

/-- the variables the `while` loop fixes, and the value they get -/
def pick (S : Sys) (eps mb : Rat) (v : Nat) : Bool :=
  decide (mb < 0) || (decide (0 < (S.var v).bound) && dblEq mb ((S.var v).bound * (S.var v).penalty) eps)

def target (S : Sys) (mb mu : Rat) (v : Nat) : Rat := if mb < 0 then mu / (S.var v).penalty else (S.var v).bound

theorem fixLoop_nil (S : Sys) (eps mb mu : Rat) (st : St) : fixLoop S eps mb mu st [] = st := by rw [fixLoop]

theorem fixLoop_cons (S : Sys) (eps mb mu : Rat) (st : St) (v : Nat) (rest : List Nat) :
    fixLoop S eps mb mu st (v :: rest) =
      fixLoop S eps mb mu (if pick S eps mb v then fixVar S eps st v (target S mb mu v) else st) rest := by
  rw [fixLoop]; unfold pick target
  by_cases h : mb < 0
  · simp only [h, if_true, decide_true, Bool.true_or]
  · simp only [h, if_false, decide_false, Bool.false_or]
    split <;> rfl

theorem pick_zero (S : Sys) (mb : Rat) (v : Nat) :
    pick S 0 mb v = true ↔ mb < 0 ∨ (0 < (S.var v).bound ∧ mb = (S.var v).bound * (S.var v).penalty) := by
  simp only [pick, Bool.or_eq_true, Bool.and_eq_true, decide_eq_true_eq, dblEq_zero]

/-- `var.bound_ > 0 &&` in front of the `double_equals`: only a variable that has a bound is set to its bound -/
theorem pick_bound (S : Sys) (eps mb : Rat) (v : Nat) (hp : pick S eps mb v = true) (hmb : ¬ mb < 0) :
    0 < (S.var v).bound := by
  simp only [pick, hmb, decide_false, Bool.false_or, Bool.and_eq_true, decide_eq_true_eq] at hp
  exact hp.1

theorem fixLoop_at (S : Sys) (eps mb mu : Rat) (sv : List Nat) (u : Nat) : ∀ st : St,
    ((fixLoop S eps mb mu st sv).fixed u = true ↔ st.fixed u = true ∨ (u ∈ sv ∧ pick S eps mb u = true)) ∧
    (fixLoop S eps mb mu st sv).value u =
      if u ∈ sv ∧ pick S eps mb u = true then target S mb mu u else st.value u := by
  induction sv with
  | nil => intro st; simp [fixLoop_nil]
  | cons v rest ih =>
    intro st
    rw [fixLoop_cons, (ih _).1, (ih _).2]
    by_cases huv : u = v
    · subst huv
      cases hp : pick S eps mb u
      · simp
      · simp [fixVar_fixed S eps st u _]
    · have : (if pick S eps mb v = true then fixVar S eps st v (target S mb mu v) else st).fixed u = st.fixed u ∧
          (if pick S eps mb v = true then fixVar S eps st v (target S mb mu v) else st).value u = st.value u := by
        split
        · rw [(fixVar_fixed S eps st v _).1, (fixVar_fixed S eps st v _).2, upd_other _ _ _ _ huv, upd_other _ _ _ _ huv]
          exact ⟨rfl, rfl⟩
        · exact ⟨rfl, rfl⟩
      simp [this, huv]

theorem target_ok (S : Sys) (m mb : Rat) (hm : 0 < m) (v : Nat) (hpv : 0 < (S.var v).penalty)
    (hmb1 : mb < 0 → 0 < (S.var v).bound → m ≤ (S.var v).bound * (S.var v).penalty)
    (hmb2 : ¬ mb < 0 → mb < m) (hp : pick S 0 mb v = true) :
    0 < target S mb m v ∧ target S mb m v * (S.var v).penalty ≤ m ∧
    (0 < (S.var v).bound → target S mb m v ≤ (S.var v).bound) := by
  unfold target
  by_cases hmb : mb < 0
  · rw [if_pos hmb]
    exact ⟨div_pos hm hpv, le_of_eq (div_mul_cancel₀ _ (ne_of_gt hpv)), fun hb => (div_le_iff₀ hpv).mpr (hmb1 hmb hb)⟩
  · rw [if_neg hmb]
    obtain ⟨hb, heq⟩ := ((pick_zero S mb v).mp hp).resolve_left hmb
    exact ⟨hb, by rw [← heq]; exact le_of_lt (hmb2 hmb), fun _ => le_refl _⟩

/-- The `while` loop keeps the invariant, together with any further property `Q` of the state that fixing a variable at
a positive value keeps. -/
theorem fixLoop_inv (S : Sys) (hwf : WF S) (m mb : Rat) (hm : 0 < m) (Q : St → Prop)
    (hQ : ∀ st v x, Inv S m st → st.fixed v = false → 0 < (S.var v).penalty → 0 < x → Q st →
      Q (fixVar S 0 st v x)) (sv : List Nat) :
    ∀ st : St, Inv S m st → Q st →
      (∀ v ∈ sv, st.fixed v = false ∧ 0 < (S.var v).penalty) → sv.Nodup →
      (mb < 0 → ∀ v ∈ sv, 0 < (S.var v).bound → m ≤ (S.var v).bound * (S.var v).penalty) →
      (¬ mb < 0 → mb < m) →
      Inv S m (fixLoop S 0 mb m st sv) ∧ Q (fixLoop S 0 mb m st sv) := by
  induction sv with
  | nil => intro st hI hq _ _ _ _; rw [fixLoop_nil]; exact ⟨hI, hq⟩
  | cons v rest ih =>
    intro st hI hq hsv hnd hmb1 hmb2
    rw [List.forall_mem_cons] at hsv
    rw [List.nodup_cons] at hnd
    have hmb1' := fun h u hu => hmb1 h u (List.mem_cons_of_mem _ hu)
    rw [fixLoop_cons]
    cases hp : pick S 0 mb v
    · exact ih st hI hq hsv.2 hnd.2 hmb1' hmb2
    · obtain ⟨t1, t2, t3⟩ := target_ok S m mb hm v hsv.1.2 (fun h => hmb1 h v List.mem_cons_self) hmb2 hp
      rw [if_pos rfl]
      refine ih _ (fixVar_inv S hwf m hm st v _ hI hsv.1.1 hsv.1.2 t1 t2 t3) (hQ st v _ hI hsv.1.1 hsv.1.2 t1 hq)
        (fun u hu => ?_) hnd.2 hmb1' hmb2
      rw [(fixVar_fixed S 0 st v _).1, upd_other _ _ _ _ fun (h : u = v) => hnd.1 (h ▸ hu)]
      exact hsv.2 u hu

/-- state of `min_usage` / `saturated_constraints` after the constraints `done` went through
`saturated_constraints_update` with `remaining_over_usage = rem c / use c` -/
def SelQ (rem use : Nat → Rat) (done : List Nat) (mu : Rat) (sat : List Nat) : Prop :=
  (done = [] ∧ mu = -1 ∧ sat = []) ∨
  (done ≠ [] ∧ 0 < mu ∧ (∀ c ∈ done, mu * use c ≤ rem c) ∧ (∀ c ∈ sat, c ∈ done ∧ mu * use c = rem c) ∧ sat ≠ [])

theorem SelQ.le {rem use : Nat → Rat} {l : List Nat} {mu : Rat} {sat : List Nat} (h : SelQ rem use l mu sat) :
    ∀ c ∈ l, mu * use c ≤ rem c := by
  rcases h with ⟨hd, _, _⟩ | ⟨_, _, hle, _, _⟩
  · intro c hc; rw [hd] at hc; cases hc
  · exact hle

theorem SelQ.sat_mem {rem use : Nat → Rat} {l : List Nat} {mu : Rat} {sat : List Nat} (h : SelQ rem use l mu sat) :
    ∀ c ∈ sat, c ∈ l := by
  rcases h with ⟨_, _, hs⟩ | ⟨_, _, _, hs, _⟩
  · intro c hc; rw [hs] at hc; cases hc
  · exact fun c hc => (hs c hc).1

theorem SelQ.congr {rem use rem' use' : Nat → Rat} {l : List Nat} {mu : Rat} {sat : List Nat}
    (h : SelQ rem use l mu sat) (heq : ∀ c ∈ l, rem c = rem' c ∧ use c = use' c) : SelQ rem' use' l mu sat := by
  rcases h with h | ⟨h1, h2, h3, h4, h5⟩
  · exact Or.inl h
  · refine Or.inr ⟨h1, h2, fun c hc => ?_, fun c hc => ?_, h5⟩
    · rw [← (heq c hc).1, ← (heq c hc).2]; exact h3 c hc
    · rw [← (heq c (h4 c hc).1).1, ← (heq c (h4 c hc).1).2]; exact h4 c hc

/-- one call of `saturated_constraints_update`: only `min_usage` and `saturated_constraints` change, and `SelQ` extends to
the constraint just seen -/
theorem satCnstUpdate_Q (rem use : Nat → Rat) (done : List Nat) (st : St) (c : Nat) :
    ∃ mu sat, satCnstUpdate (rem c / use c) c st = { st with minUsage := mu, sat := sat } ∧
      (SelQ rem use done st.minUsage st.sat → 0 < rem c ∧ 0 < use c → (∀ c ∈ done, 0 < use c) →
        SelQ rem use (done ++ [c]) mu sat) := by
  have hrc : 0 < use c → rem c / use c * use c = rem c := fun h => div_mul_cancel₀ _ (ne_of_gt h)
  have hne : done ++ [c] ≠ [] := List.append_ne_nil_of_right_ne_nil _ (List.cons_ne_nil _ _)
  have hcm : c ∈ done ++ [c] := List.mem_append_right _ (List.mem_singleton_self c)
  unfold satCnstUpdate
  split
  · -- `c` alone is the new minimum
    rename_i h1
    refine ⟨_, _, rfl, fun hQ hc hdone => Or.inr ⟨hne, div_pos hc.1 hc.2, fun c' hc' => ?_, fun c' hc' => ?_, List.cons_ne_nil _ _⟩⟩
    · rcases List.mem_append.mp hc' with h | h
      · rcases hQ with ⟨hd, _, _⟩ | ⟨_, hmu, hle, _, _⟩
        · rw [hd] at h; cases h
        · have hlt : rem c / use c < st.minUsage := h1.resolve_left (not_lt.mpr (le_of_lt hmu))
          exact le_trans (mul_le_mul_of_nonneg_right (le_of_lt hlt) (le_of_lt (hdone c' h))) (hle c' h)
      · rw [List.mem_singleton.mp h, hrc hc.2]
    · rw [List.mem_singleton.mp hc']; exact ⟨hcm, hrc hc.2⟩
  · rename_i h1
    have hge : st.minUsage ≤ rem c / use c := not_lt.mp fun h => h1 (Or.inr h)
    -- `c` is no new minimum: the selection made so far is one for `done ++ [c]` as well
    have hold : SelQ rem use done st.minUsage st.sat → 0 < use c → SelQ rem use (done ++ [c]) st.minUsage st.sat :=
        fun hQ hu => by
      obtain ⟨_, hmu, hle, hsat, hsne⟩ := hQ.resolve_left fun h => h1 (Or.inl (by rw [h.2.1]; norm_num))
      refine Or.inr ⟨hne, hmu, fun c' hc' => (List.mem_append.mp hc').elim (hle c') fun h => ?_,
        fun c' hc' => ⟨List.mem_append_left _ (hsat c' hc').1, (hsat c' hc').2⟩, hsne⟩
      rw [List.mem_singleton.mp h, ← hrc hu]; exact mul_le_mul_of_nonneg_right hge (le_of_lt hu)
    split
    · rename_i h2
      refine ⟨_, _, rfl, fun hQ hc _ => ?_⟩
      obtain ⟨_, hmu, hle', hsat, _⟩ := (hold hQ hc.2).resolve_left fun h => hne h.1
      refine Or.inr ⟨hne, hmu, hle', fun c' hc' => ?_, List.append_ne_nil_of_right_ne_nil _ (List.cons_ne_nil _ _)⟩
      rcases List.mem_append.mp hc' with h | h
      · exact hsat c' h
      · rw [List.mem_singleton.mp h, h2]; exact ⟨hcm, hrc hc.2⟩
    · exact ⟨_, _, rfl, fun hQ hc _ => hold hQ hc.2⟩

theorem selFold_spec (l : List Nat) : ∀ (st : St) (done : List Nat), ∃ mu sat,
    l.foldl (fun st c => satCnstUpdate (st.remaining c / st.usage c) c st) st = { st with minUsage := mu, sat := sat } ∧
    ((∀ c ∈ l, 0 < st.remaining c ∧ 0 < st.usage c) → (∀ c ∈ done, 0 < st.usage c) →
      SelQ st.remaining st.usage done st.minUsage st.sat → SelQ st.remaining st.usage (done ++ l) mu sat) := by
  induction l with
  | nil => intro st done; exact ⟨_, _, rfl, fun _ _ hQ => by rw [List.append_nil]; exact hQ⟩
  | cons c t ih =>
    intro st done
    obtain ⟨mu, sat, h, hQ'⟩ := satCnstUpdate_Q st.remaining st.usage done st c
    obtain ⟨mu', sat', h', hsel⟩ := ih { st with minUsage := mu, sat := sat } (done ++ [c])
    refine ⟨mu', sat', by rw [List.foldl_cons, h, h'], fun hpos hdone hQ => ?_⟩
    rw [List.forall_mem_cons] at hpos
    rw [List.append_cons]
    refine hsel hpos.2 (fun c' hc' => ?_) (hQ' hQ hpos.1 hdone)
    exact (List.mem_append.mp hc').elim (hdone c') fun h' => by rw [List.mem_singleton.mp h']; exact hpos.1.2

theorem reselect_spec (st : St) : ∃ mu sat, reselect st = { st with minUsage := mu, sat := sat } ∧
    ((∀ c ∈ st.light, 0 < st.remaining c ∧ 0 < st.usage c) → SelQ st.remaining st.usage st.light mu sat) := by
  obtain ⟨mu, sat, h, hsel⟩ := selFold_spec st.light { st with minUsage := -1, sat := [] } []
  exact ⟨mu, sat, h, fun hpos => List.nil_append st.light ▸ hsel hpos (fun _ h => nomatch h) (Or.inl ⟨rfl, rfl, rfl⟩)⟩

theorem inv_rebase (S : Sys) (hwf : WF S) (m m' : Rat) (st : St) (hI : Inv S m st)
    (hle : ∀ c ∈ st.light, m' * st.usage c ≤ st.remaining c) : Inv S m' st := by
  obtain ⟨hG, hK, hL⟩ := hI
  refine ⟨⟨hG.val0, hG.valpos, hG.valb, hG.sh_H0, fun c hc hf => ?_, hG.ft_feas⟩,
    ⟨hK.sh_rem, hK.sh_use, hK.ft_rem, hK.ft_use, hK.ft_nn, fun c hc hf => ?_⟩, hL⟩
  · by_cases hl : c ∈ st.light
    · rw [← hK.rem_eq hc hf, ← hK.use_eq hc hf]; exact hle c hl
    · rw [hL.lt_sh c hc hl hf, mul_zero]; exact hG.sh_H0 c hc hf
  · by_cases hl : c ∈ st.light
    · rw [← hK.ft_rem c hc hf]; exact hle c hl
    · rw [hL.lt_ft c hc hl hf, mul_zero]; exact le_of_lt (hwf.cb_pos c hc)

theorem reselect_inv (S : Sys) (hwf : WF S) (m : Rat) (st : St) (hI : Inv S m st) :
    Inv S (reselect st).minUsage (reselect st) ∧
    SelQ (reselect st).remaining (reselect st).usage (reselect st).light (reselect st).minUsage (reselect st).sat := by
  obtain ⟨mu, sat, h, hQ⟩ := reselect_spec st
  replace hQ := hQ hI.l.li_pos
  rw [h]
  obtain ⟨hG, hK, hL⟩ := inv_rebase S hwf m mu st hI hQ.le
  -- the invariant does not read `minUsage`/`sat`: every field of it is, by unfolding, the same field of the updated state
  exact ⟨⟨hG, ⟨hK.sh_rem, hK.sh_use, hK.ft_rem, hK.ft_use, hK.ft_nn, hK.ft_B⟩,
    ⟨hL.lt_sh, hL.lt_ft, hL.li_act, hL.li_pos, hL.li_nd⟩⟩, hQ⟩

theorem mem_activeElems (S : Sys) (st : St) (c : Nat) (e : Nat × Rat) :
    e ∈ activeElems S st c ↔ (e ∈ (S.cnst c).elems ∧ 0 < e.2 ∧ st.fixed e.1 = false) := by
  unfold activeElems; simp

/-- inner loop of `saturated_variable_set_update` -/
theorem satVarInner_spec (es : List (Nat × Rat)) : ∀ sv : List Nat, sv.Nodup →
    (es.foldl (fun sv e => if 0 < e.2 ∧ ¬ e.1 ∈ sv then sv ++ [e.1] else sv) sv).Nodup ∧
    ∀ v, v ∈ es.foldl (fun sv e => if 0 < e.2 ∧ ¬ e.1 ∈ sv then sv ++ [e.1] else sv) sv ↔
      v ∈ sv ∨ ∃ e ∈ es, 0 < e.2 ∧ e.1 = v := by
  induction es with
  | nil => intro sv h; simp [h]
  | cons a t ih =>
    intro sv hnd
    have h1 : (if 0 < a.2 ∧ ¬ a.1 ∈ sv then sv ++ [a.1] else sv).Nodup ∧
        ∀ v, v ∈ (if 0 < a.2 ∧ ¬ a.1 ∈ sv then sv ++ [a.1] else sv) ↔ v ∈ sv ∨ (0 < a.2 ∧ a.1 = v) := by
      split
      · rename_i hc
        refine ⟨List.nodup_append.mpr ⟨hnd, List.nodup_singleton _, fun x hx y hy => ?_⟩, fun v => ?_⟩
        · rw [List.mem_singleton.mp hy]; exact fun h => hc.2 (h ▸ hx)
        · rw [List.mem_append, List.mem_singleton]
          exact or_congr_right ⟨fun h => ⟨hc.1, h.symm⟩, fun h => h.2.symm⟩
      · rename_i hc
        exact ⟨hnd, fun v => ⟨Or.inl, fun h => h.elim id fun h' => by
          by_contra hv; exact hc ⟨h'.1, h'.2 ▸ hv⟩⟩⟩
    obtain ⟨i1, i2⟩ := ih _ h1.1
    refine ⟨i1, fun v => ?_⟩
    rw [List.foldl_cons, i2 v, h1.2 v, List.exists_mem_cons_iff, or_assoc]

theorem satVarUpdate_spec (S : Sys) (st : St) :
    (satVarUpdate S st []).Nodup ∧
    ∀ v, v ∈ satVarUpdate S st [] ↔
      ∃ c ∈ st.sat, ∃ e ∈ (S.cnst c).elems, 0 < e.2 ∧ st.fixed e.1 = false ∧ e.1 = v := by
  -- the two nested loops are one loop over the concatenated active element sets
  have h : satVarUpdate S st [] = (st.sat.flatMap (activeElems S st)).foldl
      (fun sv e => if 0 < e.2 ∧ ¬ e.1 ∈ sv then sv ++ [e.1] else sv) [] := List.foldl_flatMap.symm
  obtain ⟨h1, h2⟩ := satVarInner_spec (st.sat.flatMap (activeElems S st)) [] List.nodup_nil
  rw [h]
  refine ⟨h1, fun v => (h2 v).trans ((or_iff_right List.not_mem_nil).trans ⟨?_, ?_⟩)⟩
  · rintro ⟨e, he, hw, hv⟩
    obtain ⟨c, hc, he'⟩ := List.mem_flatMap.mp he
    exact ⟨c, hc, e, ((mem_activeElems S st c e).mp he').1, hw, ((mem_activeElems S st c e).mp he').2.2, hv⟩
  · rintro ⟨c, hc, e, he, hw, hf, hv⟩
    exact ⟨e, List.mem_flatMap.mpr ⟨c, hc, (mem_activeElems S st c e).mpr ⟨he, hw, hf⟩⟩, hw, hv⟩

/-- what holds each time the body of the do-while is entered -/
structure RInv (S : Sys) (st : St) (sv : List Nat) : Prop where
  g : InvG S st.minUsage st.fixed st.value
  k : InvK S st.minUsage st 0 0 []
  l : InvL S st
  sel : SelQ st.remaining st.usage st.light st.minUsage st.sat
  sv_ok : ∀ v ∈ sv, st.fixed v = false ∧ 0 < (S.var v).penalty
  sv_nd : sv.Nodup
  sv_nil : st.sat = [] → sv = []

theorem RInv.sat {S : Sys} {st : St} {sv : List Nat} (h : RInv S st sv) (hne : sv ≠ []) :
    0 < st.minUsage ∧ (∀ c ∈ st.sat, c ∈ st.light ∧ st.minUsage * st.usage c = st.remaining c) ∧ st.sat ≠ [] := by
  rcases h.sel with ⟨_, _, hs⟩ | ⟨_, hm, _, h4, h5⟩
  · exact absurd (h.sv_nil hs) hne
  · exact ⟨hm, h4, h5⟩

theorem RInv.mb {S : Sys} {st : St} {sv : List Nat} (h : RInv S st sv) :
    (minBound S st.minUsage sv < 0 → ∀ v ∈ sv, 0 < (S.var v).bound → st.minUsage ≤ (S.var v).bound * (S.var v).penalty) ∧
    (¬ minBound S st.minUsage sv < 0 → minBound S st.minUsage sv < st.minUsage) := by
  obtain ⟨h1, h2⟩ := minBound_spec S st.minUsage sv fun v hv => (h.sv_ok v hv).2
  refine ⟨fun hneg u hu hb => not_lt.mp fun hlt => h1 hneg u hu ⟨hb, hlt⟩, fun hn => ?_⟩
  obtain ⟨u, _, hc, he⟩ := h2 hn
  rw [he]; exact hc.2

theorem RInv.inv {S : Sys} {st : St} {sv : List Nat} (h : RInv S st sv) : Inv S st.minUsage st := ⟨h.g, h.k, h.l⟩

theorem RInv.closed {S : Sys} {st : St} {sv : List Nat} (hwf : WF S) (hR : RInv S st sv) {c : Nat} (hc : c ∈ S.active)
    (hnl : c ∉ st.light) : ∀ e ∈ (S.cnst c).elems, 0 < e.2 → st.fixed e.1 = true := by
  intro e he hw
  cases hfx : st.fixed e.1 with
  | true => rfl
  | false =>
    exfalso
    cases hf : (S.cnst c).fatpipe with
    | false => exact absurd (hR.l.lt_sh c hc hnl hf) (ne_of_gt ((freeSum_pos_iff S hwf st.fixed c hc).mpr ⟨e, he, hw, hfx⟩))
    | true =>
      have h1 := hR.k.ft_use c hc hf e he hfx hw
      rw [hR.l.lt_ft c hc hnl hf] at h1
      exact absurd (div_pos hw (hwf.el_pen c hc e he)) (not_lt.mpr h1)

theorem RInv.fix {S : Sys} (hwf : WF S) {st : St} {sv : List Nat} (h : RInv S st sv) (Q : St → Prop)
    (hQ : ∀ st' v x, Inv S st.minUsage st' → st'.fixed v = false → 0 < (S.var v).penalty → 0 < x →
      Q st' → Q (fixVar S 0 st' v x)) (hq : Q st) :
    Inv S st.minUsage (fixLoop S 0 (minBound S st.minUsage sv) st.minUsage st sv) ∧
    Q (fixLoop S 0 (minBound S st.minUsage sv) st.minUsage st sv) := by
  by_cases hne : sv = []
  · rw [hne, fixLoop_nil]; exact ⟨h.inv, hq⟩
  · exact fixLoop_inv S hwf _ _ (h.sat hne).1 Q hQ sv st h.inv hq h.sv_ok h.sv_nd h.mb.1 h.mb.2

theorem round_eq (S : Sys) (eps : Rat) (st : St) (sv : List Nat) : ∃ mu sat, round S eps st sv =
    { fixLoop S eps (minBound S st.minUsage sv) st.minUsage st sv with minUsage := mu, sat := sat } :=
  let ⟨mu, sat, h, _⟩ := reselect_spec (fixLoop S eps (minBound S st.minUsage sv) st.minUsage st sv)
  ⟨mu, sat, h⟩

theorem round_fixed (S : Sys) (eps : Rat) (st : St) (sv : List Nat) (u : Nat) :
    (round S eps st sv).fixed u = true ↔
      st.fixed u = true ∨ (u ∈ sv ∧ pick S eps (minBound S st.minUsage sv) u = true) := by
  obtain ⟨mu, sat, h⟩ := round_eq S eps st sv
  rw [h]; exact (fixLoop_at S eps _ _ sv u st).1

theorem round_value (S : Sys) (eps : Rat) (st : St) (sv : List Nat) (u : Nat) :
    (round S eps st sv).value u =
      if u ∈ sv ∧ pick S eps (minBound S st.minUsage sv) u = true then target S (minBound S st.minUsage sv) st.minUsage u
      else st.value u := by
  obtain ⟨mu, sat, h⟩ := round_eq S eps st sv
  rw [h]; exact (fixLoop_at S eps _ _ sv u st).2

theorem satVarUpdate_nil (S : Sys) (st : St) (h : st.sat = []) : satVarUpdate S st [] = [] := by
  unfold satVarUpdate; rw [h]; rfl

theorem sv_in_elems (S : Sys) (st : St) (hact : ∀ c ∈ st.light, c ∈ S.active)
    (hsel : SelQ st.remaining st.usage st.light st.minUsage st.sat) :
    ∀ v ∈ satVarUpdate S st [], ∃ c ∈ S.active, ∃ e ∈ (S.cnst c).elems, st.fixed e.1 = false ∧ e.1 = v := by
  intro v hv
  obtain ⟨c, hc, e, he, _, hf, rfl⟩ := ((satVarUpdate_spec S st).2 v).mp hv
  exact ⟨c, hact c (hsel.sat_mem c hc), e, he, hf, rfl⟩

theorem rinv_satVar (S : Sys) (hwf : WF S) (st : St) (hI : Inv S st.minUsage st)
    (hsel : SelQ st.remaining st.usage st.light st.minUsage st.sat) : RInv S st (satVarUpdate S st []) := by
  refine ⟨hI.g, hI.k, hI.l, hsel, fun v hv => ?_, (satVarUpdate_spec S st).1, satVarUpdate_nil S st⟩
  obtain ⟨c, hc, e, he, hf, rfl⟩ := sv_in_elems S st hI.l.li_act hsel v hv
  exact ⟨hf, hwf.el_pen c hc e he⟩

theorem round_inv (S : Sys) (hwf : WF S) (st : St) (sv : List Nat) (h : RInv S st sv) :
    RInv S (round S 0 st sv) (satVarUpdate S (round S 0 st sv) []) := by
  obtain ⟨hI, _⟩ := h.fix hwf (fun _ => True) (fun _ _ _ _ _ _ _ _ => trivial) trivial
  obtain ⟨a, b⟩ := reselect_inv S hwf _ _ hI
  exact rinv_satVar S hwf _ a b

theorem loop_induct (S : Sys) (eps : Rat) (P : St → List Nat → Prop)
    (hstep : ∀ st sv, P st sv → P (round S eps st sv) (satVarUpdate S (round S eps st sv) [])) :
    ∀ (fuel : Nat) (st : St) (sv : List Nat) (st' : St), P st sv → loop S eps fuel st sv = some st' →
      ∃ sv', P st' sv' ∧ st'.light = [] := by
  intro fuel
  induction fuel with
  | zero => intro st sv st' _ h; cases h
  | succ n ih =>
    intro st sv st' hP h
    rw [loop] at h
    split at h
    · rename_i he
      cases h
      exact ⟨_, hstep st sv hP, List.isEmpty_iff.mp he⟩
    · exact ih _ _ st' (hstep st sv hP) h

theorem loop_inv (S : Sys) (hwf : WF S) : ∀ (fuel : Nat) (st : St) (sv : List Nat) (st' : St), RInv S st sv →
    loop S 0 fuel st sv = some st' →
    ∃ sv', RInv S st' sv' ∧ st'.light = [] :=
  loop_induct S 0 (RInv S) (round_inv S hwf)

theorem foldl_updzero (l : List (Nat × Rat)) (v : Nat) : ∀ val : Nat → Rat,
    (l.foldl (fun (val : Nat → Rat) (e : Nat × Rat) => upd val e.1 0) val) v = if ∃ e ∈ l, e.1 = v then 0 else val v := by
  induction l with
  | nil => intro val; simp
  | cons a t ih =>
    intro val
    rw [List.foldl_cons, ih]
    by_cases ha : a.1 = v
    · rw [← ha, upd_same]; simp
    · rw [upd_other _ _ _ _ (Ne.symm ha)]; simp only [List.exists_mem_cons_iff, ha, false_or]

theorem initUsage_shared (S : Sys) (hwf : WF S) (c : Nat) (hc : c ∈ S.active) (hf : (S.cnst c).fatpipe = false) :
    initUsage S c = freeSum S (fun _ => false) c := by
  unfold initUsage freeSum
  simp only [hf, Bool.not_false, if_true]
  rw [foldl_cond_add, zero_add]
  apply sumBy_congr
  intro e he
  by_cases hw : 0 < e.2
  · simp [hw]
  · simp [hwf.w_zero hc he hw]

theorem initUsage_fat (S : Sys) (c : Nat) (hf : (S.cnst c).fatpipe = true) :
    initUsage S c = fatUsage S (fun _ => 0) c := by
  unfold initUsage fatUsage
  simp [hf]

/-- state of the INIT pass after the constraints `done` -/
structure InitI (S : Sys) (val0 : Nat → Rat) (done : List Nat) (st : St) : Prop where
  fx : st.fixed = fun _ => false
  ru : ∀ c ∈ done, st.remaining c = (S.cnst c).bound ∧ st.usage c = initUsage S c
  li : st.light = done.filter (fun c => decide (0 < initUsage S c))
  v0 : ∀ c ∈ done, ∀ e ∈ (S.cnst c).elems, st.value e.1 = 0
  vo : ∀ v, (∀ c ∈ done, ∀ e ∈ (S.cnst c).elems, e.1 ≠ v) → st.value v = val0 v
  sel : SelQ (fun c => (S.cnst c).bound) (fun c => initUsage S c) st.light st.minUsage st.sat

theorem initCnst_step (S : Sys) (hwf : WF S) (val0 : Nat → Rat) (done : List Nat) (st : St) (c : Nat)
    (hc : c ∈ S.active) (hI : InitI S val0 done st) :
    InitI S val0 (done ++ [c]) (initCnst S 0 st c) := by
  have hb := hwf.cb_pos c hc
  have hfz := fun v => foldl_updzero (S.cnst c).elems v st.value
  -- the tables after the writes that do not depend on `usage_ > 0`
  have hru : ∀ c' ∈ done ++ [c], upd st.remaining c (S.cnst c).bound c' = (S.cnst c').bound ∧
      upd st.usage c (initUsage S c) c' = initUsage S c' := by
    intro c' hc'
    by_cases h : c' = c
    · rw [h, upd_same, upd_same]; exact ⟨rfl, rfl⟩
    · rw [upd_other _ _ _ _ h, upd_other _ _ _ _ h]
      exact hI.ru c' ((List.mem_append.mp hc').resolve_right fun h' => h (List.mem_singleton.mp h'))
  have hv0 : ∀ c' ∈ done ++ [c], ∀ e ∈ (S.cnst c').elems,
      (S.cnst c).elems.foldl (fun (val : Nat → Rat) (e : Nat × Rat) => upd val e.1 0) st.value e.1 = 0 := by
    intro c' hc' e he
    rw [hfz]
    split
    · rfl
    · rename_i hn
      rcases List.mem_append.mp hc' with h | h
      · exact hI.v0 c' h e he
      · rw [List.mem_singleton.mp h] at he; exact (hn ⟨e, he, rfl⟩).elim
  have hvo : ∀ v, (∀ c' ∈ done ++ [c], ∀ e ∈ (S.cnst c').elems, e.1 ≠ v) →
      (S.cnst c).elems.foldl (fun (val : Nat → Rat) (e : Nat × Rat) => upd val e.1 0) st.value v = val0 v := by
    intro v hv
    rw [hfz, if_neg fun ⟨e, he, h'⟩ => hv c (List.mem_append_right _ (List.mem_singleton_self c)) e he h']
    exact hI.vo v fun c' hc' => hv c' (List.mem_append_left _ hc')
  have hlpos : ∀ c' ∈ st.light, 0 < initUsage S c' := by
    intro c' hc'; rw [hI.li] at hc'; exact of_decide_eq_true (List.mem_filter.mp hc').2
  unfold initCnst
  simp only [mul_zero, dblPos, hb, decide_true, Bool.not_true, Bool.false_eq_true, if_false]
  split
  · rename_i hu
    obtain ⟨mu, sat, h, hQ⟩ := satCnstUpdate_Q (fun c => (S.cnst c).bound) (fun c => initUsage S c) st.light
      { st with remaining := upd st.remaining c (S.cnst c).bound,
                value := (S.cnst c).elems.foldl (fun (val : Nat → Rat) (e : Nat × Rat) => upd val e.1 0) st.value,
                usage := upd st.usage c (initUsage S c), light := st.light ++ [c] } c
    rw [h]
    refine ⟨hI.fx, hru, ?_, hv0, hvo, hQ hI.sel ⟨hb, hu⟩ hlpos⟩
    simp only [List.filter_append, hI.li]; simp [hu]
  · rename_i hu
    refine ⟨hI.fx, hru, ?_, hv0, hvo, hI.sel⟩
    simp only [List.filter_append, hI.li]; simp [hu]

theorem initAll_I (S : Sys) (hwf : WF S) (val0 : Nat → Rat) : InitI S val0 S.active (initAll S 0 val0) := by
  have gen : ∀ (todo done : List Nat) (st : St), (∀ c ∈ todo, c ∈ S.active) →
      InitI S val0 done st → InitI S val0 (done ++ todo) (todo.foldl (initCnst S 0) st) := by
    intro todo
    induction todo with
    | nil => intro done st _ h; rw [List.append_nil]; exact h
    | cons c t ih =>
      intro done st hact hI
      rw [List.forall_mem_cons] at hact
      rw [List.foldl_cons, List.append_cons]
      exact ih (done ++ [c]) _ hact.2 (initCnst_step S hwf val0 done st c hact.1 hI)
  exact gen S.active [] (st0 val0) (fun c h => h)
    ⟨rfl, (fun _ h => nomatch h), rfl, (fun _ h => nomatch h), fun v _ => rfl, Or.inl ⟨rfl, rfl, rfl⟩⟩

theorem init_rinv (S : Sys) (hwf : WF S) (val0 : Nat → Rat) :
    RInv S (initAll S 0 val0) (satVarUpdate S (initAll S 0 val0) []) ∧
    (∀ v, (∀ c ∈ S.active, ∀ e ∈ (S.cnst c).elems, e.1 ≠ v) → (initAll S 0 val0).value v = val0 v) ∧
    (initAll S 0 val0).fixed = fun _ => false := by
  have I := initAll_I S hwf val0
  generalize initAll S 0 val0 = st at I
  have hfx := I.fx
  have hmemL : ∀ c, c ∈ st.light ↔ (c ∈ S.active ∧ 0 < initUsage S c) := by
    intro c; rw [I.li]; simp
  have hfat := fun c => fatUsage_spec S (fun _ => 0) c
  -- the tables after INIT, constraint by constraint: `remaining_ = bound_`, `usage_` as computed, in the table iff `usage_ > 0`
  obtain ⟨hK0, hL⟩ : InvK S 0 st 0 0 [] ∧ InvL S st := by
    refine inv_of_kc (fun c hc => ?_) (fun c hc => ((hmemL c).mp hc).1) (by rw [I.li]; exact List.Nodup.filter _ hwf.act_nd)
    rw [(I.ru c hc).1, (I.ru c hc).2, hfx, (hmemL c).trans (and_iff_right hc)]
    refine ⟨fun h => ⟨hwf.cb_pos c hc, h⟩, fun hf => ?_, fun hf => ?_⟩
    · rw [fixedLoad_none, initUsage_shared S hwf c hc hf]
      exact ⟨by simp, by simp, fun h => le_antisymm (not_lt.mp h) (freeSum_nonneg S hwf _ c hc)⟩
    · rw [initUsage_fat S c hf]
      exact ⟨rfl, fun e he _ hw => (hfat c).2.1 e he (lt_irrefl 0) hw, (hfat c).1,
        by rw [zero_mul]; exact le_of_lt (hwf.cb_pos c hc), fun h => le_antisymm (not_lt.mp h) (hfat c).1⟩
  have hG0 : InvG S 0 st.fixed st.value := by
    rw [hfx]
    refine ⟨fun c hc e he _ => I.v0 c hc e he, (fun v hv => nomatch hv), (fun v hv => nomatch hv), fun c hc _ => ?_,
      fun c hc _ => ?_, (fun c _ _ e _ hv => nomatch hv)⟩
    · rw [fixedLoad_none, sub_zero]; exact le_of_lt (hwf.cb_pos c hc)
    · rw [fixedLoad_none, sub_zero, zero_mul]; exact le_of_lt (hwf.cb_pos c hc)
  have hsel : SelQ st.remaining st.usage st.light st.minUsage st.sat := by
    apply I.sel.congr
    intro c hc
    have := (hmemL c).mp hc
    exact ⟨(I.ru c this.1).1.symm, (I.ru c this.1).2.symm⟩
  exact ⟨rinv_satVar S hwf st (inv_rebase S hwf 0 st.minUsage st ⟨hG0, hK0, hL⟩ hsel.le) hsel, I.vo, hfx⟩

end SgVerif.Lmm
