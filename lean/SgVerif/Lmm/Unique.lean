/-
C16: weighted max-min fairness on systems of summing (SHARED) constraints — definition (`FairAlloc`) and uniqueness
(`fairAlloc_unique`): two allocations that both respect the capacities and the variable bounds and both satisfy the
bottleneck condition give the same rate to every consumer.
-/
import SgVerif.Lmm.Lemmas
namespace SgVerif.Lmm

/-- `x` is a weighted max-min fair allocation of `S` (all active constraints summing): capacities and variable bounds
are respected, and every consumer (variable of an enabled element with weight > 0) is at its bound or uses a saturated
constraint on which its penalty-weighted rate `x·penalty` is the largest.  `load` is `Constraint::get_load()`. -/
structure FairAlloc (S : Sys) (x : Nat → Rat) : Prop where
  cap : ∀ c ∈ S.active, load S x c ≤ (S.cnst c).bound
  ub : ∀ c ∈ S.active, ∀ e ∈ (S.cnst c).elems, 0 < e.2 → 0 < (S.var e.1).bound → x e.1 ≤ (S.var e.1).bound
  bn : ∀ c ∈ S.active, ∀ e ∈ (S.cnst c).elems, 0 < e.2 →
    (0 < (S.var e.1).bound ∧ x e.1 = (S.var e.1).bound) ∨
    ∃ c' ∈ S.active, (∃ e' ∈ (S.cnst c').elems, e'.1 = e.1 ∧ 0 < e'.2) ∧
      load S x c' = (S.cnst c').bound ∧
      ∀ e'' ∈ (S.cnst c').elems, 0 < e''.2 → x e''.1 * (S.var e''.1).penalty ≤ x e.1 * (S.var e.1).penalty

theorem exists_min_on (f : Nat → Rat) (P : Nat → Prop) (l : List Nat) (h : ∃ v ∈ l, P v) :
    ∃ v ∈ l, P v ∧ ∀ u ∈ l, P u → f v ≤ f u := by
  induction l with
  | nil => obtain ⟨v, hv, _⟩ := h; cases hv
  | cons a t ih =>
    by_cases ht : ∃ v ∈ t, P v
    · obtain ⟨v, hv, hpv, hmin⟩ := ih ht
      by_cases ha : P a ∧ f a < f v
      · exact ⟨a, List.mem_cons_self, ha.1, List.forall_mem_cons.mpr
          ⟨fun _ => le_refl _, fun u hu hpu => le_trans (le_of_lt ha.2) (hmin u hu hpu)⟩⟩
      · exact ⟨v, List.mem_cons_of_mem _ hv, hpv, List.forall_mem_cons.mpr
          ⟨fun hpa => not_lt.mp fun hlt => ha ⟨hpa, hlt⟩, hmin⟩⟩
    · obtain ⟨v, hv, hpv⟩ := h
      rcases List.mem_cons.mp hv with rfl | hv
      · exact ⟨v, List.mem_cons_self, hpv, List.forall_mem_cons.mpr
          ⟨fun _ => le_refl _, fun u hu hpu => absurd ⟨u, hu, hpu⟩ ht⟩⟩
      · exact absurd ⟨v, hv, hpv⟩ ht

/-- the consumers: variables of the enabled elements with weight > 0 of the active constraints -/
def consumersOf (S : Sys) : List Nat :=
  S.active.flatMap (fun c => ((S.cnst c).elems.filter (fun e => decide (0 < e.2))).map (·.1))

theorem mem_consumersOf (S : Sys) (v : Nat) :
    v ∈ consumersOf S ↔ ∃ c ∈ S.active, ∃ e ∈ (S.cnst c).elems, 0 < e.2 ∧ e.1 = v := by
  unfold consumersOf
  simp only [List.mem_flatMap, List.mem_map, List.mem_filter, decide_eq_true_eq, and_assoc]

/-- the asymmetric step of the uniqueness proof: `v` minimises `min (x·p) (y·p)` among the consumers on which `x` and
`y` differ, and `x v < y v`: the bottleneck constraint of `v` under `x` would be overloaded by `y` unless some consumer
`u` of it has `y u < x u ≤ x v·p_v/p_u`, which contradicts the minimality of `v`. -/
theorem fair_lt_absurd (S : Sys) (hwf : WF S) (hsh : ∀ c ∈ S.active, (S.cnst c).fatpipe = false) (x y : Nat → Rat)
    (hx : FairAlloc S x) (hy : FairAlloc S y) (v : Nat) (hv : v ∈ consumersOf S) (hlt : x v < y v)
    (hmin : ∀ u ∈ consumersOf S, x u ≠ y u →
      min (x v * (S.var v).penalty) (y v * (S.var v).penalty) ≤ min (x u * (S.var u).penalty) (y u * (S.var u).penalty)) :
    False := by
  obtain ⟨c, hc, e, he, hw, rfl⟩ := (mem_consumersOf S _).mp hv
  have hpv := hwf.el_pen c hc e he
  rcases hx.bn c hc e he hw with ⟨hb, hxb⟩ | ⟨c', hc', ⟨e', he', hev, hw'⟩, hload, hmax⟩
  · have := hy.ub c hc e he hw hb
    linarith
  · have hcap := hy.cap c' hc'
    rw [load_eq_wsum S hwf x c' hc' (hsh c' hc')] at hload
    rw [load_eq_wsum S hwf y c' hc' (hsh c' hc')] at hcap
    have hdiff : sumBy (fun a => a.2 * (y a.1 - x a.1)) (S.cnst c').elems ≤ 0 := by
      rw [← wsum_sub]; linarith only [hload, hcap]
    obtain ⟨a, ha, hneg⟩ := sumBy_neg_exists _ _ hdiff e' he' (by rw [hev]; exact mul_pos hw' (sub_pos.mpr hlt))
    have hw0 := hwf.el_w c' hc' a ha
    have hya : y a.1 < x a.1 := by
      by_contra hge
      exact absurd hneg (not_lt.mpr (mul_nonneg hw0 (sub_nonneg.mpr (not_lt.mp hge))))
    have hwa : 0 < a.2 := lt_of_le_of_ne hw0 fun h => by rw [← h, zero_mul] at hneg; exact lt_irrefl 0 hneg
    have hpa := hwf.el_pen c' hc' a ha
    have hau : a.1 ∈ consumersOf S := (mem_consumersOf S _).mpr ⟨c', hc', a, ha, hwa, rfl⟩
    have h1 := hmin a.1 hau (ne_of_gt hya)
    have h2 := hmax a ha hwa
    have h3 : min (x e.1 * (S.var e.1).penalty) (y e.1 * (S.var e.1).penalty) = x e.1 * (S.var e.1).penalty :=
      min_eq_left (le_of_lt (mul_lt_mul_of_pos_right hlt hpv))
    have h4 : min (x a.1 * (S.var a.1).penalty) (y a.1 * (S.var a.1).penalty) ≤ y a.1 * (S.var a.1).penalty :=
      min_le_right _ _
    have h5 : y a.1 * (S.var a.1).penalty < x a.1 * (S.var a.1).penalty := mul_lt_mul_of_pos_right hya hpa
    rw [h3] at h1
    linarith

/-- **Uniqueness of the weighted max-min fair allocation** (summing constraints, variable bounds allowed): two
allocations that respect capacities and bounds and satisfy the bottleneck condition agree on every consumer. -/
theorem fairAlloc_unique (S : Sys) (hwf : WF S) (hsh : ∀ c ∈ S.active, (S.cnst c).fatpipe = false) (x y : Nat → Rat)
    (hx : FairAlloc S x) (hy : FairAlloc S y) :
    ∀ c ∈ S.active, ∀ e ∈ (S.cnst c).elems, 0 < e.2 → x e.1 = y e.1 := by
  intro c hc e he hw
  by_contra hne
  have hex : ∃ v ∈ consumersOf S, x v ≠ y v := ⟨e.1, (mem_consumersOf S _).mpr ⟨c, hc, e, he, hw, rfl⟩, hne⟩
  obtain ⟨v, hv, hpv, hmin⟩ := exists_min_on
    (fun u => min (x u * (S.var u).penalty) (y u * (S.var u).penalty)) (fun u => x u ≠ y u) (consumersOf S) hex
  rcases lt_or_gt_of_ne hpv with hlt | hgt
  · exact fair_lt_absurd S hwf hsh x y hx hy v hv hlt hmin
  · apply fair_lt_absurd S hwf hsh y x hy hx v hv hgt
    intro u hu hneu
    have := hmin u hu (Ne.symm hneu)
    rw [min_comm (y v * _), min_comm (y u * _)]
    exact this

end SgVerif.Lmm
