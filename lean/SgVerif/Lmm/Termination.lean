/-
Termination of the do-while of `MaxMin::maxmin_solve` at eps = 0, for every well-formed system (SHARED and FATPIPE
constraints, variable bounds): every pass of the body that starts with a non-empty light table fixes at least one more
variable, so `nv + 1` passes are enough when the variable indices are below `nv`.  For a saturated FATPIPE constraint the variable to fix comes from
`InvA` (Fat.lean): its positive usage_ is attained by an unfixed consumer.
-/
import SgVerif.Lmm.Fat
namespace SgVerif.Lmm

theorem round_progress (S : Sys) (hwf : WF S) (st : St)
    (hR : RInv S st (satVarUpdate S st [])) (hA : InvA S st) (hl : st.light ≠ []) :
    ∃ u, (∃ c ∈ S.active, ∃ e ∈ (S.cnst c).elems, st.fixed e.1 = false ∧ e.1 = u) ∧
      (round S 0 st (satVarUpdate S st [])).fixed u = true := by
  obtain ⟨_, hspec⟩ := satVarUpdate_spec S st
  have hin := sv_in_elems S st hR.l.li_act hR.sel
  obtain ⟨_, _, _, hsat, hsatne⟩ := hR.sel.resolve_left fun h => hl h.1
  obtain ⟨c, hcs⟩ := List.exists_mem_of_ne_nil _ hsatne
  have hcl := (hsat c hcs).1
  have hca := hR.l.li_act c hcl
  have hup := (hR.l.li_pos c hcl).2
  obtain ⟨e, he, hw, hfe⟩ : ∃ e ∈ (S.cnst c).elems, 0 < e.2 ∧ st.fixed e.1 = false := by
    cases hfp : (S.cnst c).fatpipe with
    | true =>
      obtain ⟨e, he, hw, _, h1⟩ := hA c hca hfp hup
      exact ⟨e, he, hw, h1⟩
    | false =>
      rw [hR.k.use_eq hca hfp] at hup
      exact (freeSum_pos_iff S hwf st.fixed c hca).mp hup
  have hesv : e.1 ∈ satVarUpdate S st [] := (hspec e.1).mpr ⟨c, hcs, e, he, hw, hfe, rfl⟩
  have hfix := fun u h1 h2 => (round_fixed S 0 st (satVarUpdate S st []) u).mpr (Or.inr ⟨h1, (pick_zero S _ u).mpr h2⟩)
  by_cases hneg : minBound S st.minUsage (satVarUpdate S st []) < 0
  · exact ⟨e.1, hin e.1 hesv, hfix e.1 hesv (Or.inl hneg)⟩
  · obtain ⟨u, hu, hc, hatt⟩ := (minBound_spec S st.minUsage _ fun v hv => (hR.sv_ok v hv).2).2 hneg
    exact ⟨u, hin u hu, hfix u hu (Or.inr ⟨hc.1, hatt⟩)⟩

theorem loop_terminates (S : Sys) (hwf : WF S) (nv : Nat)
    (hnv : ∀ c ∈ S.active, ∀ e ∈ (S.cnst c).elems, e.1 < nv) :
    ∀ (fuel : Nat) (st : St), RInv S st (satVarUpdate S st []) → InvA S st →
      unfixedCount (List.range nv) st.fixed + 1 ≤ fuel →
      (loop S 0 fuel st (satVarUpdate S st [])).isSome = true := by
  intro fuel
  induction fuel with
  | zero => intro st _ _ h; omega
  | succ n ih =>
    intro st hR hA hfuel
    rw [loop]
    split
    · rfl
    · rename_i hne
      apply ih _ (round_inv S hwf st _ hR) (round_invA S hwf st _ hR hA)
      have hl : st.light ≠ [] := by
        intro hl0
        -- an empty light table stays empty: no saturated constraint, no saturated variable, nothing happens
        apply hne
        obtain ⟨mu, sat, h⟩ := round_eq S 0 st (satVarUpdate S st [])
        rw [h, hR.sv_nil (List.eq_nil_iff_forall_not_mem.mpr fun c hc => by
          have := hR.sel.sat_mem c hc; rw [hl0] at this; cases this), fixLoop_nil, hl0]
        rfl
      obtain ⟨u, ⟨c, hc, e, he, hu0, rfl⟩, hu1⟩ := round_progress S hwf st hR hA hl
      have hlt := unfixedCount_lt (List.range nv) st.fixed (round S 0 st (satVarUpdate S st [])).fixed
        (fun w hw => (round_fixed S 0 st _ w).mpr (Or.inl hw))
        ⟨e.1, List.mem_range.mpr (hnv c hc e he), hu0, hu1⟩
      omega

/-- **C15 `maxmin_terminates`.**  Every well-formed system (SHARED and FATPIPE constraints, variable bounds).  With `nv`
an upper bound of the variable indices, fuel `nv + 1` is enough: the model never runs out of fuel. -/
theorem maxmin_terminates_wf (S : Sys) (hwf : WF S) (nv : Nat)
    (hnv : ∀ c ∈ S.active, ∀ e ∈ (S.cnst c).elems, e.1 < nv) (val0 : Nat → Rat) (fuel : Nat) (hfuel : nv + 1 ≤ fuel) :
    (maxminSolve S 0 fuel val0).isSome = true := by
  unfold maxminSolve
  have hi := init_rinv S hwf val0
  apply loop_terminates S hwf nv hnv fuel _ hi.1 (init_invA S hwf val0)
  have := unfixedCount_le (List.range nv) (initAll S 0 val0).fixed
  rw [List.length_range] at this
  omega

theorem maxmin_terminates_shared (S : Sys) (hwf : WF S) (_hsh : ∀ c ∈ S.active, (S.cnst c).fatpipe = false) (nv : Nat)
    (hnv : ∀ c ∈ S.active, ∀ e ∈ (S.cnst c).elems, e.1 < nv) (val0 : Nat → Rat) (fuel : Nat) (hfuel : nv + 1 ≤ fuel) :
    (maxminSolve S 0 fuel val0).isSome = true :=
  maxmin_terminates_wf S hwf nv hnv val0 fuel hfuel

end SgVerif.Lmm
