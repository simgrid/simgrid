/-
C16: the water-filling reference `Spec.alloc` (Lmm/Spec.lean) is a weighted max-min fair allocation (`FairAlloc`) of
every well-formed system of summing constraints.  Invariant `J` of `Spec.fill`: the levels are non-decreasing, every
frozen variable has `x·penalty` = the level at which it was frozen, is within its bound, and is at its bound or has a
closed saturated constraint on which it is maximal; `T·use c ≤ rem c` for the current level `T`.
`Spec.rem` and `Spec.use` are `bound − fixedLoad` and `freeSum` (the ghost quantities of the solver's invariant,
Lmm/Lemmas.lean) of the table read as a (fixed, value) pair: `rem_eq`, `use_eq`.
-/
import SgVerif.Lmm.Unique
import SgVerif.Lmm.Fair
import SgVerif.Lmm.Spec
namespace SgVerif.Lmm.Spec
open SgVerif.Lmm

theorem rem_eq (S : Sys) (fixed : Nat → Option Rat) (c : Nat) :
    rem S fixed c = (S.cnst c).bound - fixedLoad S (fun v => (fixed v).isSome) (fun v => (fixed v).getD 0) c := by
  unfold rem fixedLoad
  rw [sub_eq_add_neg, ← neg_one_mul, ← sumBy_mul]
  refine foldl_add _ _ (fun a e => ?_) _ _
  cases hf : fixed e.1 with
  | none => simp [hf]
  | some x => simp [hf, sub_eq_add_neg]

theorem use_eq (S : Sys) (fixed : Nat → Option Rat) (c : Nat) :
    use S fixed c = freeSum S (fun v => (fixed v).isSome) c := by
  unfold use freeSum
  refine (foldl_add _ _ (fun a e => ?_) _ 0).trans (zero_add _)
  cases hf : fixed e.1 <;> simp [hf]

theorem use_nonneg (S : Sys) (hwf : WF S) (fixed : Nat → Option Rat) (c : Nat) (hc : c ∈ S.active) :
    0 ≤ use S fixed c := by
  rw [use_eq]; exact freeSum_nonneg S hwf _ c hc

theorem use_pos_iff (S : Sys) (hwf : WF S) (fixed : Nat → Option Rat) (c : Nat) (hc : c ∈ S.active) :
    0 < use S fixed c ↔ ∃ e ∈ (S.cnst c).elems, 0 < e.2 ∧ fixed e.1 = none := by
  rw [use_eq, freeSum_pos_iff S hwf _ c hc]
  simp only [Option.isSome_eq_false_iff, Option.isNone_iff_eq_none]

/-- the level is the least of the candidates: `rem / use` of the constraints in use, `bound · penalty` of the unfrozen bounded
variables -/
theorem level_spec (S : Sys) (vars : List Nat) (fixed : Nat → Option Rat) :
    MinOf (fun t => (∃ c ∈ S.active, 0 < use S fixed c ∧ rem S fixed c / use S fixed c = t) ∨
        ∃ v ∈ vars, fixed v = none ∧ 0 < (S.var v).bound ∧ (S.var v).bound * (S.var v).penalty = t)
      (level S vars fixed) := by
  unfold level
  dsimp only
  refine MinOf.congr (foldMin_spec (fun l => l) _ _ _ vars
    (fun a x _ h => by rw [if_pos h]; cases a <;> rfl) (fun a x _ h => if_neg h) _
    (foldMin_spec (fun l => l) _ _ _ S.active
      (fun a x _ h => by rw [if_pos h]; cases a <;> rfl) (fun a x _ h => if_neg h) none
      minOf_none)) fun t => ?_
  simp only [false_or, Option.isNone_iff_eq_none, and_assoc]

theorem look_append (a b : List (Nat × Rat)) (v : Nat) : look (a ++ b) v = (look a v).or (look b v) := by
  unfold look
  rw [List.find?_append]
  cases a.find? (fun p => p.1 == v) <;> rfl

theorem look_filterMap (G : Nat → Option Rat) (l : List Nat) (v : Nat) :
    look (l.filterMap fun u => (G u).map (u, ·)) v = if v ∈ l then G v else none := by
  induction l with
  | nil => simp [look]
  | cons a t ih =>
    cases hga : G a with
    | none =>
      rw [List.filterMap_cons_none (by rw [hga]; rfl), ih]
      by_cases hva : v = a
      · subst hva; simp [hga]
      · simp [hva]
    | some x =>
      rw [List.filterMap_cons_some (by rw [hga]; rfl)]
      by_cases hva : v = a
      · subst hva
        simp [look, hga]
      · have : look ((a, x) :: t.filterMap fun u => (G u).map (u, ·)) v =
            look (t.filterMap fun u => (G u).map (u, ·)) v := by
          simp [look, Ne.symm hva]
        rw [this, ih]; simp [hva]

/-- the value at which `frozen` freezes `v` at level `t`, if it does -/
def frz (S : Sys) (fixed : Nat → Option Rat) (t : Rat) (v : Nat) : Option Rat :=
    match fixed v with
    | some _ => none
    | none =>
      if 0 < (S.var v).bound ∧ (S.var v).bound * (S.var v).penalty = t then some (S.var v).bound
      else if S.active.any (fun c => (S.cnst c).elems.any (fun e => e.1 = v ∧ 0 < e.2) ∧ 0 < use S fixed c ∧
                                     rem S fixed c = t * use S fixed c) then some (t / (S.var v).penalty)
      else none

theorem frozen_eq (S : Sys) (vars : List Nat) (fixed : Nat → Option Rat) (t : Rat) :
    frozen S vars fixed t = vars.filterMap fun v => (frz S fixed t v).map (v, ·) := by
  unfold frozen frz
  congr 1; funext v
  cases fixed v with
  | some _ => rfl
  | none => simp only [apply_ite (Option.map _), Option.map_some, Option.map_none]

/-- the witness of the second branch of `frozen`, as a proposition -/
def Tight (S : Sys) (fixed : Nat → Option Rat) (t : Rat) (v : Nat) : Prop :=
  ∃ c ∈ S.active, (∃ e ∈ (S.cnst c).elems, e.1 = v ∧ 0 < e.2) ∧ 0 < use S fixed c ∧ rem S fixed c = t * use S fixed c

theorem any_tight (S : Sys) (fixed : Nat → Option Rat) (t : Rat) (v : Nat) :
    (S.active.any (fun c => (S.cnst c).elems.any (fun e => e.1 = v ∧ 0 < e.2) ∧ 0 < use S fixed c ∧
        rem S fixed c = t * use S fixed c) = true) ↔ Tight S fixed t v := by
  unfold Tight
  simp only [List.any_eq_true, decide_eq_true_eq, Bool.and_eq_true, Bool.decide_and]

theorem frz_some (S : Sys) (fixed : Nat → Option Rat) (t : Rat) (u : Nat) (x : Rat) (hp : 0 < (S.var u).penalty)
    (h : frz S fixed t u = some x) :
    x * (S.var u).penalty = t ∧ ((0 < (S.var u).bound ∧ x = (S.var u).bound) ∨ Tight S fixed t u) := by
  unfold frz at h
  cases hf : fixed u with
  | some x => rw [hf] at h; simp at h
  | none =>
    rw [hf] at h
    simp only [] at h
    split at h
    · rename_i hb
      cases h; exact ⟨hb.2, Or.inl ⟨hb.1, rfl⟩⟩
    · split at h
      · rename_i ht
        cases h; exact ⟨div_mul_cancel₀ _ (ne_of_gt hp), Or.inr ((any_tight S fixed t u).mp ht)⟩
      · simp at h

theorem frz_isSome (S : Sys) (fixed : Nat → Option Rat) (t : Rat) (u : Nat) (hf : fixed u = none)
    (h : (0 < (S.var u).bound ∧ (S.var u).bound * (S.var u).penalty = t) ∨ Tight S fixed t u) :
    (frz S fixed t u).isSome = true := by
  unfold frz
  rw [hf]
  simp only []
  by_cases hb : 0 < (S.var u).bound ∧ (S.var u).bound * (S.var u).penalty = t
  · rw [if_pos hb]; rfl
  · rw [if_neg hb]
    rcases h with h | h
    · exact absurd h hb
    · rw [if_pos ((any_tight S fixed t u).mpr h)]; rfl

/-- how the table of frozen variables is extended at level `t` -/
structure Ext (S : Sys) (vars : List Nat) (fixed fixed' : Nat → Option Rat) (t : Rat) : Prop where
  keep : ∀ v x, fixed v = some x → fixed' v = some x
  new : ∀ v x, fixed v = none → fixed' v = some x → v ∈ vars ∧ x * (S.var v).penalty = t ∧
    ((0 < (S.var v).bound ∧ x = (S.var v).bound) ∨ Tight S fixed t v)
  comp : ∀ v ∈ vars, fixed v = none →
    ((0 < (S.var v).bound ∧ (S.var v).bound * (S.var v).penalty = t) ∨ Tight S fixed t v) → (fixed' v).isSome = true

theorem ext_of_frozen (S : Sys) (vars : List Nat) (hvp : ∀ v ∈ vars, 0 < (S.var v).penalty) (tab : List (Nat × Rat)) (t : Rat) :
    Ext S vars (look tab) (look (tab ++ frozen S vars (look tab) t)) t := by
  have hnew : ∀ v, look tab v = none → look (tab ++ frozen S vars (look tab) t) v =
      if v ∈ vars then frz S (look tab) t v else none := by
    intro v hv
    rw [look_append, hv, Option.none_or, frozen_eq, look_filterMap]
  constructor
  · intro v x h; rw [look_append, h]; rfl
  · intro v x hf h
    rw [hnew v hf] at h
    by_cases hv : v ∈ vars
    · rw [if_pos hv] at h
      exact ⟨hv, frz_some S (look tab) t v x (hvp v hv) h⟩
    · rw [if_neg hv] at h; simp at h
  · intro v hv hf h
    rw [hnew v hf, if_pos hv]
    exact frz_isSome S (look tab) t v hf h

theorem Ext.old_or_new {S : Sys} {vars : List Nat} {fixed fixed' : Nat → Option Rat} {t : Rat}
    (hE : Ext S vars fixed fixed' t) {v : Nat} {x : Rat} (h : fixed' v = some x) : fixed v = some x ∨ fixed v = none := by
  cases hf : fixed v with
  | none => exact Or.inr rfl
  | some y => rw [hE.keep v y hf] at h; exact Or.inl h

theorem Ext.mono {S : Sys} {vars : List Nat} {fixed fixed' : Nat → Option Rat} {t : Rat}
    (hE : Ext S vars fixed fixed' t) (w : Nat) (hw : (fixed w).isSome = true) :
    (fixed' w).isSome = true ∧ (fixed' w).getD 0 = (fixed w).getD 0 := by
  obtain ⟨x, hx⟩ := Option.isSome_iff_exists.mp hw
  rw [hE.keep w x hx, hx]; exact ⟨rfl, rfl⟩

theorem rem_step (S : Sys) (hwf : WF S) (vars : List Nat) (fixed fixed' : Nat → Option Rat) (t : Rat)
    (hE : Ext S vars fixed fixed' t) (c : Nat) (hc : c ∈ S.active) :
    rem S fixed' c = rem S fixed c - t * (use S fixed c - use S fixed' c) := by
  rw [rem_eq, rem_eq, use_eq, use_eq, fixedLoad_step S hwf (fun v => (fixed v).isSome) (fun v => (fixed' v).isSome)
    (fun v => (fixed v).getD 0) (fun v => (fixed' v).getD 0) t c hc
    hE.mono
    (fun e _ _ hf hf' => by
      obtain ⟨y, hy⟩ := Option.isSome_iff_exists.mp hf'
      rw [hy]; exact (hE.new e.1 y (Option.isSome_eq_false_iff.mp hf |> Option.isNone_iff_eq_none.mp) hy).2.1)]
  ring

theorem use_closed (S : Sys) (hwf : WF S) (fixed : Nat → Option Rat) (c : Nat) (hc : c ∈ S.active)
    (hcl : ∀ e ∈ (S.cnst c).elems, 0 < e.2 → (fixed e.1).isSome = true) : use S fixed c = 0 := by
  rw [use_eq]; exact freeSum_closed S hwf _ c hc hcl

/-- `bn`: the bottleneck record `BN` (Lmm/Fair.lean) of the table read as a (fixed, value) pair -/
structure J (S : Sys) (vars : List Nat) (fixed : Nat → Option Rat) (T : Rat) : Prop where
  bn : BN S T (fun v => (fixed v).isSome) (fun v => (fixed v).getD 0)
  ub : ∀ v x, fixed v = some x → 0 < (S.var v).bound → x ≤ (S.var v).bound
  cap : ∀ c ∈ S.active, T * use S fixed c ≤ rem S fixed c
  bnd : ∀ v ∈ vars, fixed v = none → 0 < (S.var v).bound → T ≤ (S.var v).bound * (S.var v).penalty

theorem J_step (S : Sys) (hwf : WF S) (hsh : ∀ c ∈ S.active, (S.cnst c).fatpipe = false)
    (vars : List Nat) (hvp : ∀ v ∈ vars, 0 < (S.var v).penalty)
    (hcv : ∀ c ∈ S.active, ∀ e ∈ (S.cnst c).elems, 0 < e.2 → e.1 ∈ vars)
    (fixed fixed' : Nat → Option Rat) (T t : Rat) (hJ : J S vars fixed T) (hE : Ext S vars fixed fixed' t)
    (hL1 : ∀ c ∈ S.active, t * use S fixed c ≤ rem S fixed c)
    (hL2 : ∀ v ∈ vars, fixed v = none → 0 < (S.var v).bound → t ≤ (S.var v).bound * (S.var v).penalty)
    (hTt : T ≤ t) : J S vars fixed' t := by
  have hlvl : ∀ v x, fixed' v = some x → x * (S.var v).penalty ≤ t := by
    intro v x h
    rcases hE.old_or_new h with hf | hf
    · have := hJ.bn.le v (by rw [hf]; rfl)
      simp only [hf, Option.getD_some] at this
      exact le_trans this hTt
    · exact le_of_eq (hE.new v x hf h).2.1
  refine ⟨⟨fun u hu => ?_, fun u hu => ?_⟩, ?_, ?_, ?_⟩
  · obtain ⟨x, hx⟩ := Option.isSome_iff_exists.mp hu
    simp only [hx, Option.getD_some]; exact hlvl u x hx
  · obtain ⟨x, hx⟩ := Option.isSome_iff_exists.mp hu
    rcases hE.old_or_new hx with hf | hf
    · exact Rec_mono S hwf _ _ _ _ u hE.mono (by rw [hf]; rfl) (hJ.bn.recd u (by rw [hf]; rfl))
    · obtain ⟨hv, hxt, hr⟩ := hE.new u x hf hx
      rcases hr with hb | ⟨c, hc, hmem, hu, htight⟩
      · left; simp only [hx, Option.getD_some]; exact hb
      · have hcl' : ∀ e ∈ (S.cnst c).elems, 0 < e.2 → (fixed' e.1).isSome = true := by
          intro e he hw
          cases hfe : fixed e.1 with
          | some z => rw [hE.keep e.1 z hfe]; rfl
          | none =>
            exact hE.comp e.1 (hcv c hc e he hw) hfe (Or.inr ⟨c, hc, ⟨e, he, rfl, hw⟩, hu, htight⟩)
        refine Or.inr ⟨c, hc, hmem, hcl', Or.inl ⟨hsh c hc, ?_⟩, fun e he hw => ?_⟩
        · rw [← rem_eq, rem_step S hwf vars fixed fixed' t hE c hc, use_closed S hwf fixed' c hc hcl', htight]; ring
        · obtain ⟨z, hz⟩ := Option.isSome_iff_exists.mp (hcl' e he hw)
          simp only [hz, hx, Option.getD_some, hxt]; exact hlvl e.1 z hz
  · intro v x h hb
    rcases hE.old_or_new h with hf | hf
    · exact hJ.ub v x hf hb
    · obtain ⟨hv, hx, _⟩ := hE.new v x hf h
      have := hL2 v hv hf hb
      rw [← hx] at this
      exact le_of_mul_le_mul_right this (hvp v hv)
  · intro c hc
    rw [rem_step S hwf vars fixed fixed' t hE c hc]
    have := hL1 c hc
    linarith
  · intro v hv h hb
    cases hf : fixed v with
    | none => exact hL2 v hv hf hb
    | some x => rw [hE.keep v x hf] at h; cases h

def AllFixed (S : Sys) (fixed : Nat → Option Rat) : Prop :=
  ∀ c ∈ S.active, ∀ e ∈ (S.cnst c).elems, 0 < e.2 → (fixed e.1).isSome = true

theorem allFixed_of_use (S : Sys) (hwf : WF S) (fixed : Nat → Option Rat)
    (h : ∀ c ∈ S.active, ¬ 0 < use S fixed c) : AllFixed S fixed := by
  intro c hc e he hw
  cases hf : fixed e.1 with
  | some x => rfl
  | none => exact absurd ((use_pos_iff S hwf fixed c hc).mpr ⟨e, he, hw, hf⟩) (h c hc)

theorem fill_spec (S : Sys) (hwf : WF S) (hsh : ∀ c ∈ S.active, (S.cnst c).fatpipe = false) (vars : List Nat) (hvp : ∀ v ∈ vars, 0 < (S.var v).penalty)
    (hcv : ∀ c ∈ S.active, ∀ e ∈ (S.cnst c).elems, 0 < e.2 → e.1 ∈ vars) :
    ∀ (n : Nat) (tab : List (Nat × Rat)) (T : Rat), J S vars (look tab) T → unfixedCount vars (fun v => (look tab v).isSome) ≤ n →
      ∃ T', J S vars (look (fill S vars n tab)) T' ∧ AllFixed S (look (fill S vars n tab)) := by
  intro n
  induction n with
  | zero =>
    intro tab T hJ hc
    refine ⟨T, hJ, ?_⟩
    intro c hcc e he hw
    exact unfixedCount_zero vars (fun v => (look tab v).isSome) (by omega) e.1 (hcv c hcc e he hw)
  | succ n ih =>
    intro tab T hJ hc
    rw [fill]
    have hls := level_spec S vars (look tab)
    cases hl : level S vars (look tab) with
    | none =>
      exact ⟨T, hJ, allFixed_of_use S hwf (look tab) fun c hc hu => hls.1 hl _ (Or.inl ⟨c, hc, hu, rfl⟩)⟩
    | some t =>
      simp only []
      obtain ⟨hatt, hmin⟩ := hls.2 t hl
      have hB : ∀ v ∈ vars, look tab v = none → 0 < (S.var v).bound → t ≤ (S.var v).bound * (S.var v).penalty :=
        fun v hv hf hb => hmin _ (Or.inr ⟨v, hv, hf, hb, rfl⟩)
      have hE := ext_of_frozen S vars hvp tab t
      have hL1 : ∀ c ∈ S.active, t * use S (look tab) c ≤ rem S (look tab) c := by
        intro c hcc
        by_cases hu : 0 < use S (look tab) c
        · have := hmin _ (Or.inl ⟨c, hcc, hu, rfl⟩)
          rwa [le_div_iff₀ hu] at this
        · have h0 : use S (look tab) c = 0 := le_antisymm (not_lt.mp hu) (use_nonneg S hwf (look tab) c hcc)
          have := hJ.cap c hcc
          rw [h0] at this ⊢
          simpa using this
      have hTt : T ≤ t := by
        rcases hatt with ⟨c, hcc, hu, hg⟩ | ⟨v, hv, hf, hb, hg⟩
        · rw [← hg, le_div_iff₀ hu]; exact hJ.cap c hcc
        · rw [← hg]; exact hJ.bnd v hv hf hb
      have hJ' := J_step S hwf hsh vars hvp hcv (look tab) _ T t hJ hE hL1 hB hTt
      -- progress: one more variable of `vars` is frozen
      obtain ⟨u, hu, hu0, hu1⟩ : ∃ u ∈ vars, look tab u = none ∧
          (look (tab ++ frozen S vars (look tab) t) u).isSome = true := by
        rcases hatt with ⟨c, hcc, hu, hg⟩ | ⟨v, hv, hf, hb, hg⟩
        · obtain ⟨e, he, hw, hfe⟩ := (use_pos_iff S hwf (look tab) c hcc).mp hu
          have htight : rem S (look tab) c = t * use S (look tab) c := by
            rw [← hg]; exact (div_mul_cancel₀ _ (ne_of_gt hu)).symm
          exact ⟨e.1, hcv c hcc e he hw, hfe,
            hE.comp e.1 (hcv c hcc e he hw) hfe (Or.inr ⟨c, hcc, ⟨e, he, rfl, hw⟩, hu, htight⟩)⟩
        · exact ⟨v, hv, hf, hE.comp v hv hf (Or.inl ⟨hb, hg⟩)⟩
      have hlt := unfixedCount_lt vars (fun v => (look tab v).isSome)
        (fun v => (look (tab ++ frozen S vars (look tab) t) v).isSome) (fun w hw => (hE.mono w hw).1)
        ⟨u, hu, by rw [hu0]; rfl, hu1⟩
      exact ih _ t hJ' (by omega)

theorem mem_consuming (S : Sys) (v : Nat) :
    v ∈ consuming S ↔ v ∈ S.vorder ∧ 0 < (S.var v).penalty ∧ consumes S v = true := by
  unfold consuming; simp

theorem load_of_fixed (S : Sys) (hwf : WF S) (fixed : Nat → Option Rat) (c : Nat) (hc : c ∈ S.active)
    (hf : (S.cnst c).fatpipe = false) : load S (fun v => (fixed v).getD 0) c = (S.cnst c).bound - rem S fixed c := by
  rw [rem_eq, sub_sub_cancel]
  refine load_eq_fixedLoad S hwf _ _ c hc hf fun e _ _ h => ?_
  cases hfe : fixed e.1 with
  | none => rfl
  | some y => simp [hfe] at h

/-- **the water-filling reference is a weighted max-min fair allocation** of every well-formed system of summing
constraints -/
theorem alloc_fair (S : Sys) (hwf : WF S) (hwv : WFV S) (hsh : ∀ c ∈ S.active, (S.cnst c).fatpipe = false) :
    FairAlloc S (alloc S) := by
  have hvp : ∀ v ∈ consuming S, 0 < (S.var v).penalty := fun v hv => ((mem_consuming S v).mp hv).2.1
  have hcv : ∀ c ∈ S.active, ∀ e ∈ (S.cnst c).elems, 0 < e.2 → e.1 ∈ consuming S := by
    intro c hc e he hw
    refine (mem_consuming S e.1).mpr ⟨hwv.vo_all c hc e he, hwf.el_pen c hc e he, ?_⟩
    unfold consumes
    rw [List.any_eq_true]
    exact ⟨(c, e.2), hwv.el_in_var c hc e he, by simpa using hw⟩
  have hJ0 : J S (consuming S) (look []) 0 := by
    have hl : ∀ v, look [] v = none := fun v => rfl
    refine ⟨⟨fun u h => Bool.noConfusion h, fun u h => Bool.noConfusion h⟩, ?_, ?_, ?_⟩
    · intro v x h; rw [hl] at h; simp at h
    · intro c hc
      rw [rem_eq, zero_mul, show fixedLoad S (fun v => (look [] v).isSome) _ c = 0 from fixedLoad_none S _ c, sub_zero]
      exact le_of_lt (hwf.cb_pos c hc)
    · intro v hv _ hb
      have := hvp v hv
      positivity
  obtain ⟨T', hJ, hall⟩ := fill_spec S hwf hsh (consuming S) hvp hcv ((consuming S).length + 1) [] 0 hJ0 (by
    have := unfixedCount_le (consuming S) fun v => (look [] v).isSome
    omega)
  have ha : alloc S = fun v => (look (fill S (consuming S) ((consuming S).length + 1) []) v).getD 0 := rfl
  generalize look (fill S (consuming S) ((consuming S).length + 1) []) = fixed at hJ hall ha
  have hcap : ∀ c ∈ S.active, load S (alloc S) c ≤ (S.cnst c).bound := fun c hc => by
    have := hJ.cap c hc
    rw [use_closed S hwf fixed c hc (hall c hc), mul_zero] at this
    rw [ha, load_of_fixed S hwf fixed c hc (hsh c hc)]
    linarith
  refine ⟨hcap, fun c hc e he hw hb => ?_, fun c hc e he hw => ha ▸ hJ.bn.fair hwf (ha ▸ hcap) (hall c hc e he hw)⟩
  obtain ⟨y, hfe⟩ := Option.isSome_iff_exists.mp (hall c hc e he hw)
  rw [ha]; simp only [hfe, Option.getD_some]; exact hJ.ub e.1 y hfe hb

end SgVerif.Lmm.Spec
