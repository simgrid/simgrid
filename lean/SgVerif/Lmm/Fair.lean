/-
C16: the bottleneck (fairness) property of the result of `maxminSolve` at eps = 0, for every well-formed system (SHARED
and FATPIPE constraints).  Ghost invariant: `BN S M fixed value` — every fixed variable has value·penalty ≤ M (M = the
largest min_usage so far) and is either at its bound or has a *closed* (all consumers fixed), *saturated* (summing:
capacity − Σ w·value = 0; FATPIPE: some consumer has w·value = capacity) constraint on which its value·penalty is the
largest.  The FATPIPE case rests on `InvA` (Fat.lean).  `solve_inv`, at the end, collects what holds of the state
`maxmin_solve` returns; C15's feasibility results are read off it as well.
-/
import SgVerif.Lmm.Fat
namespace SgVerif.Lmm

def Rec (S : Sys) (fixed : Nat → Bool) (value : Nat → Rat) (u : Nat) : Prop :=
  (0 < (S.var u).bound ∧ value u = (S.var u).bound) ∨
  ∃ c ∈ S.active, (∃ e ∈ (S.cnst c).elems, e.1 = u ∧ 0 < e.2) ∧
    (∀ e ∈ (S.cnst c).elems, 0 < e.2 → fixed e.1 = true) ∧
    (((S.cnst c).fatpipe = false ∧ (S.cnst c).bound - fixedLoad S fixed value c = 0) ∨
     ((S.cnst c).fatpipe = true ∧ ∃ e ∈ (S.cnst c).elems, 0 < e.2 ∧ fixed e.1 = true ∧ e.2 * value e.1 = (S.cnst c).bound)) ∧
    ∀ e ∈ (S.cnst c).elems, 0 < e.2 → value e.1 * (S.var e.1).penalty ≤ value u * (S.var u).penalty

structure BN (S : Sys) (M : Rat) (fixed : Nat → Bool) (value : Nat → Rat) : Prop where
  le : ∀ u, fixed u = true → value u * (S.var u).penalty ≤ M
  recd : ∀ u, fixed u = true → Rec S fixed value u

theorem Rec_mono (S : Sys) (hwf : WF S) (f f' : Nat → Bool) (v v' : Nat → Rat) (u : Nat)
    (hmono : ∀ w, f w = true → f' w = true ∧ v' w = v w) (hu : f u = true) (h : Rec S f v u) : Rec S f' v' u := by
  rcases h with h | ⟨c, hc, hmem, hcl, hsat, hmax⟩
  · left; rw [(hmono u hu).2]; exact h
  · right
    refine ⟨c, hc, hmem, fun e he hw => (hmono e.1 (hcl e he hw)).1, ?_, ?_⟩
    · rcases hsat with ⟨hfp, hsat⟩ | ⟨hfp, e0, he0, hw0, hf0, hv0⟩
      · left
        rw [fixedLoad_step S hwf f f' v v' 0 c hc hmono (fun e he hw hf => by rw [hcl e he hw] at hf; cases hf), zero_mul, add_zero]
        exact ⟨hfp, hsat⟩
      · right; exact ⟨hfp, e0, he0, hw0, (hmono e0.1 hf0).1, by rw [(hmono e0.1 hf0).2]; exact hv0⟩
    · intro e he hw
      rw [(hmono e.1 (hcl e he hw)).2, (hmono u hu).2]; exact hmax e he hw

/-- what the record of a fixed variable says in terms of `get_load()`: the clause `FairAlloc.bn` -/
theorem BN.fair {S : Sys} {M : Rat} {fixed : Nat → Bool} {value : Nat → Rat} (hwf : WF S) (hBN : BN S M fixed value)
    (hcap : ∀ c ∈ S.active, load S value c ≤ (S.cnst c).bound) {u : Nat} (hu : fixed u = true) :
    (0 < (S.var u).bound ∧ value u = (S.var u).bound) ∨
    ∃ c' ∈ S.active, (∃ e' ∈ (S.cnst c').elems, e'.1 = u ∧ 0 < e'.2) ∧ load S value c' = (S.cnst c').bound ∧
      ∀ e'' ∈ (S.cnst c').elems, 0 < e''.2 → value e''.1 * (S.var e''.1).penalty ≤ value u * (S.var u).penalty := by
  rcases hBN.recd u hu with hb | ⟨c', hc', hmem, hcl, hsat, hmax⟩
  · exact Or.inl hb
  · refine Or.inr ⟨c', hc', hmem, ?_, hmax⟩
    rcases hsat with ⟨hfp, hsat⟩ | ⟨hfp, e0, he0, hw0, _, hv0⟩
    · rw [load_eq_fixedLoad S hwf fixed value c' hc' hfp fun e he hw hf => by rw [hcl e he hw] at hf; cases hf]
      exact (sub_eq_zero.mp hsat).symm
    · exact le_antisymm (hcap c' hc') (hv0 ▸ load_fat_ge S value c' hfp e0 he0 hw0)

/-- One pass of the do-while keeps `BN`, with `M` raised to the `min_usage` of the pass: a variable fixed in a pass
without `min_bound` is a consumer of a saturated constraint all of whose consumers are fixed by the pass; a variable
fixed in a pass with `min_bound` is at its bound. -/
theorem round_bn (S : Sys) (hwf : WF S) (st : St) (M : Rat)
    (hR : RInv S st (satVarUpdate S st [])) (hA : InvA S st) (hBN : BN S M st.fixed st.value)
    (hM : ∀ c ∈ st.light, M * st.usage c ≤ st.remaining c) :
    ∃ M', BN S M' (round S 0 st (satVarUpdate S st [])).fixed (round S 0 st (satVarUpdate S st [])).value ∧
      ∀ c ∈ (round S 0 st (satVarUpdate S st [])).light,
        M' * (round S 0 st (satVarUpdate S st [])).usage c ≤ (round S 0 st (satVarUpdate S st [])).remaining c := by
  obtain ⟨_, hspec⟩ := satVarUpdate_spec S st
  generalize satVarUpdate S st [] = sv at hR hspec
  obtain ⟨mu, sat, hres⟩ := round_eq S 0 st sv
  rw [hres]
  dsimp only
  by_cases hne : sv = []
  · rw [hne, fixLoop_nil]; exact ⟨M, hBN, hM⟩
  obtain ⟨hm, hsat, hsatne⟩ := hR.sat hne
  have hmb := hR.mb
  obtain ⟨⟨hG1, hK1, hL1⟩, _⟩ := hR.fix hwf (fun _ => True) (fun _ _ _ _ _ _ _ _ => trivial) trivial
  have hfixed := fun u => (fixLoop_at S 0 (minBound S st.minUsage sv) st.minUsage sv u st).1
  have hvalue := fun u => (fixLoop_at S 0 (minBound S st.minUsage sv) st.minUsage sv u st).2
  generalize fixLoop S 0 (minBound S st.minUsage sv) st.minUsage st sv = st1 at hG1 hK1 hL1 hfixed hvalue ⊢
  generalize minBound S st.minUsage sv = mb at hmb hfixed hvalue
  have hMm : M ≤ st.minUsage := by
    obtain ⟨c, hc⟩ := List.exists_mem_of_ne_nil _ hsatne
    obtain ⟨h1, h2⟩ := hsat c hc
    by_contra hlt
    have := mul_lt_mul_of_pos_right (not_le.mp hlt) (hR.l.li_pos c h1).2
    linarith [hM c h1]
  have hkeep : ∀ w, st.fixed w = true → st1.fixed w = true ∧ st1.value w = st.value w := fun w hw =>
    ⟨(hfixed w).mpr (Or.inl hw), by rw [hvalue w, if_neg fun h => by rw [(hR.sv_ok w h.1).1] at hw; cases hw]⟩
  have hpick : ∀ u, u ∈ sv → pick S 0 mb u = true →
      st1.fixed u = true ∧ st1.value u = target S mb st.minUsage u := fun u h1 h2 =>
    ⟨(hfixed u).mpr (Or.inr ⟨h1, h2⟩), by rw [hvalue u, if_pos ⟨h1, h2⟩]⟩
  have hle1 : ∀ u, st1.fixed u = true → st1.value u * (S.var u).penalty ≤ st.minUsage := by
    intro u hu
    rcases (hfixed u).mp hu with h0 | ⟨h1, h2⟩
    · rw [(hkeep u h0).2]; exact le_trans (hBN.le u h0) hMm
    · rw [(hpick u h1 h2).2]
      exact (target_ok S _ mb hm u (hR.sv_ok u h1).2 (fun h => hmb.1 h u h1) hmb.2 h2).2.1
  refine ⟨st.minUsage, ⟨hle1, fun u hu => ?_⟩, fun c hc => ?_⟩
  · rcases (hfixed u).mp hu with h0 | ⟨husv, hp⟩
    · exact Rec_mono S hwf st.fixed st1.fixed st.value st1.value u hkeep h0 (hBN.recd u h0)
    · have hv := (hpick u husv hp).2
      by_cases hneg : mb < 0
      · -- no min_bound: every saturated variable gets min_usage / penalty
        have hall : ∀ w ∈ sv, st1.fixed w = true ∧ st1.value w = st.minUsage / (S.var w).penalty := fun w hw => by
          have := hpick w hw ((pick_zero S mb w).mpr (Or.inl hneg))
          rwa [target, if_pos hneg] at this
        obtain ⟨c, hcs, e, he, hw, hfe, heu⟩ := (hspec u).mp husv
        obtain ⟨hcl, hsatc⟩ := hsat c hcs
        have hca := hR.l.li_act c hcl
        have hnew : ∀ e' ∈ (S.cnst c).elems, 0 < e'.2 → st.fixed e'.1 = false →
            st1.fixed e'.1 = true ∧ st1.value e'.1 = st.minUsage / (S.var e'.1).penalty := fun e' he' hw' hf0 =>
          hall e'.1 ((hspec e'.1).mpr ⟨c, hcs, e', he', hw', hf0, rfl⟩)
        have hclosed : ∀ e' ∈ (S.cnst c).elems, 0 < e'.2 → st1.fixed e'.1 = true := fun e' he' hw' => by
          cases hf0 : st.fixed e'.1 with
          | true => exact (hkeep e'.1 hf0).1
          | false => exact (hnew e' he' hw' hf0).1
        refine Or.inr ⟨c, hca, ⟨e, he, heu, hw⟩, hclosed, ?_, fun e' he' hw' => ?_⟩
        · cases hfp : (S.cnst c).fatpipe with
          | false =>
            refine Or.inl ⟨rfl, ?_⟩
            rw [hR.k.rem_eq hca hfp, hR.k.use_eq hca hfp] at hsatc
            rw [fixedLoad_step S hwf st.fixed st1.fixed st.value st1.value st.minUsage c hca hkeep
              fun e' he' hw' hf0 _ => by rw [(hnew e' he' hw' hf0).2, div_mul_cancel₀ _ (ne_of_gt (hwf.el_pen c hca e' he'))],
              freeSum_closed S hwf st1.fixed c hca hclosed]
            linarith only [hsatc]
          | true =>
            -- the consumer that attains usage_ gets min_usage/penalty: its w·value is the whole capacity
            refine Or.inr ⟨rfl, ?_⟩
            obtain ⟨e0, he0, hw0, hu0, hfe0⟩ := hA c hca hfp (hR.l.li_pos c hcl).2
            obtain ⟨h1, h2⟩ := hnew e0 he0 hw0 hfe0
            refine ⟨e0, he0, hw0, h1, ?_⟩
            rw [hR.k.ft_rem c hca hfp, ← hu0] at hsatc
            rw [h2, ← hsatc]; ring
        · rw [hv, target, if_pos hneg, div_mul_cancel₀ _ (ne_of_gt (hR.sv_ok u husv).2)]
          exact hle1 e'.1 (hclosed e' he' hw')
      · -- min_bound ≥ 0: the variables fixed in this pass are fixed at their bound
        obtain ⟨hb, _⟩ := ((pick_zero S mb u).mp hp).resolve_left hneg
        exact Or.inl ⟨hb, by rw [hv, target, if_neg hneg]⟩
  · have hca := hL1.li_act c hc
    cases hfp : (S.cnst c).fatpipe with
    | false => rw [hK1.rem_eq hca hfp, hK1.use_eq hca hfp]; exact hG1.sh_B c hca hfp
    | true => rw [hK1.ft_rem c hca hfp]; exact hK1.ft_B c hca hfp

/-- What holds of the state `maxmin_solve` returns at eps = 0, in one place: the invariant, an empty light table, the
bottleneck records of the fixed variables, and a variable that is in no enabled element set keeps its value.  The results of
C15 and C16 about `maxmin_solve` are read off this. -/
theorem solve_inv (S : Sys) (hwf : WF S) (val0 : Nat → Rat) (fuel : Nat) (st : St)
    (h : maxminSolve S 0 fuel val0 = some st) :
    ∃ sv M, RInv S st sv ∧ st.light = [] ∧ BN S M st.fixed st.value ∧
      ∀ v, (∀ c ∈ S.active, ∀ e ∈ (S.cnst c).elems, e.1 ≠ v) → st.value v = val0 v := by
  obtain ⟨hR0, hv0, hf0⟩ := init_rinv S hwf val0
  obtain ⟨sv', ⟨_, hR, _, ⟨M, hBN, _⟩, hfr⟩, hl⟩ := loop_induct S 0
    (fun s l => l = satVarUpdate S s [] ∧ RInv S s l ∧ InvA S s ∧
      (∃ M, BN S M s.fixed s.value ∧ ∀ c ∈ s.light, M * s.usage c ≤ s.remaining c) ∧
      ∀ v, (∀ c ∈ S.active, ∀ e ∈ (S.cnst c).elems, e.1 ≠ v) → s.value v = val0 v)
    (fun s l ⟨hl, hR, hA, ⟨M, hBN, hM⟩, hfr⟩ => by
      subst hl
      refine ⟨rfl, round_inv S hwf s _ hR, round_invA S hwf s _ hR hA, round_bn S hwf s M hR hA hBN hM, fun v hv => ?_⟩
      rw [round_value, if_neg fun hm => ?_]
      · exact hfr v hv
      · obtain ⟨c, hc, e, he, _, h⟩ := sv_in_elems S s hR.l.li_act hR.sel v hm.1
        exact hv c hc e he h)
    fuel _ _ st
    ⟨rfl, hR0, init_invA S hwf val0, ⟨0, ⟨fun u hu => (by rw [hf0] at hu; cases hu), fun u hu => (by rw [hf0] at hu; cases hu)⟩,
      fun c hc => by rw [zero_mul]; exact le_of_lt (hR0.l.li_pos c hc).1⟩, hv0⟩ h
  exact ⟨sv', M, hR, hl, hBN, hfr⟩

end SgVerif.Lmm
