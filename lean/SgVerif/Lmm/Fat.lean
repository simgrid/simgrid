/-
The FATPIPE fact the main invariant does not carry: **a positive `usage_` of a FATPIPE constraint is attained by an
unfixed consumer** (`InvA`).  `usage_` of a FATPIPE constraint is only ever written by the INIT pass (max over all
enabled elements) and by the recomputation in the loop over `var.cnsts_` (max over the elements whose variable still has
`value_ <= 0`), and a variable that gets fixed has every FATPIPE constraint it consumes recomputed before the loop over
its `cnsts_` ends (`WF.consist`).  With it, a saturated FATPIPE constraint always contributes a variable to fix
(termination) and `max w·value = capacity` on it (bottleneck property).
-/
import SgVerif.Lmm.Lemmas
namespace SgVerif.Lmm

theorem fatUsage_attained (S : Sys) (value : Nat → Rat) (c : Nat) (h : 0 < fatUsage S value c) :
    ∃ e ∈ (S.cnst c).elems, ¬ 0 < value e.1 ∧ 0 < e.2 ∧ e.2 / (S.var e.1).penalty = fatUsage S value c :=
  (fatUsage_spec S value c).2.2.resolve_left (ne_of_gt h)

/-- `usage_` of an active FATPIPE constraint, when positive, is `w/penalty` of an enabled element (w > 0) whose variable
is not fixed yet -/
def InvA (S : Sys) (st : St) : Prop :=
  ∀ c ∈ S.active, (S.cnst c).fatpipe = true → 0 < st.usage c →
    ∃ e ∈ (S.cnst c).elems, 0 < e.2 ∧ e.2 / (S.var e.1).penalty = st.usage c ∧ st.fixed e.1 = false

/-- `InvA` inside the loop over `var.cnsts_` of the variable `v` being fixed (`L` = the elements still to be processed):
the element may also be one of `v`, as long as an element of `v` on that constraint is still to come -/
def InvAP (S : Sys) (st : St) (v : Nat) (L : List (Nat × Rat)) : Prop :=
  ∀ c ∈ S.active, (S.cnst c).fatpipe = true → 0 < st.usage c →
    ∃ e ∈ (S.cnst c).elems, 0 < e.2 ∧ e.2 / (S.var e.1).penalty = st.usage c ∧
      (st.fixed e.1 = false ∨ (e.1 = v ∧ 0 < wOf c L))

theorem InvAP.nil {S : Sys} {st : St} {v : Nat} (h : InvAP S st v []) : InvA S st := fun c hc hf hp =>
  let ⟨e, he, hw, hu, h1⟩ := h c hc hf hp
  ⟨e, he, hw, hu, h1.resolve_right fun h2 => absurd h2.2 (lt_irrefl 0)⟩

theorem updCnst_invA (S : Sys) (eps : Rat) (st : St) (v c0 : Nat) (w : Rat) (L : List (Nat × Rat))
    (hvp : ∀ u, st.fixed u = true → 0 < st.value u) (hA : InvAP S st v ((c0, w) :: L)) :
    InvAP S (updCnst S eps v st (c0, w)) v L := by
  intro c hc hf hp
  rw [(updCnst_fixed S eps v st (c0, w)).1]
  rw [updCnst_usage] at hp ⊢
  by_cases hcc : c = c0
  · subst hcc
    have hu : updUse S eps v st (c, w) = fatUsage S st.value c := if_pos hf
    rw [if_pos rfl, hu] at hp ⊢
    obtain ⟨e, he, hv, hw, hu⟩ := fatUsage_attained S st.value c hp
    refine ⟨e, he, hw, hu, Or.inl ?_⟩
    cases hfe : st.fixed e.1 with
    | false => rfl
    | true => exact absurd (hvp e.1 hfe) hv
  · rw [if_neg hcc] at hp ⊢
    obtain ⟨e, he, hw, hu, h1⟩ := hA c hc hf hp
    rw [wOf_cons_ne c c0 w L hcc] at h1
    exact ⟨e, he, hw, hu, h1⟩

theorem foldCnst_invA (S : Sys) (eps : Rat) (v : Nat) (L : List (Nat × Rat)) :
    ∀ st : St, (∀ u, st.fixed u = true → 0 < st.value u) → InvAP S st v L →
      InvAP S (L.foldl (updCnst S eps v) st) v [] := by
  induction L with
  | nil => intro st _ h; exact h
  | cons e t ih =>
    intro st hvp hA
    obtain ⟨c0, w⟩ := e
    obtain ⟨h1, h2⟩ := updCnst_fixed S eps v st (c0, w)
    exact ih _ (by rw [h1, h2]; exact hvp) (updCnst_invA S eps st v c0 w t hvp hA)

theorem fixVar_invA (S : Sys) (hwf : WF S) (eps : Rat) (st : St) (v : Nat) (x : Rat)
    (hvp : ∀ u, st.fixed u = true → 0 < st.value u) (hpv : 0 < (S.var v).penalty) (hx : 0 < x)
    (hA : InvA S st) : InvA S (fixVar S eps st v x) := by
  refine (foldCnst_invA S eps v _ _ (fun u hu => ?_) fun c hc hf hp => ?_).nil
  · dsimp only at hu ⊢
    by_cases h : u = v
    · rw [h, upd_same]; exact hx
    · rw [upd_other _ _ _ _ h] at hu ⊢; exact hvp u hu
  · obtain ⟨e, he, hw, hu, hfe⟩ := hA c hc hf hp
    refine ⟨e, he, hw, hu, ?_⟩
    by_cases hev : e.1 = v
    · refine Or.inr ⟨hev, ?_⟩
      rw [← hwf.consist c hc v hpv, ← hev]
      exact lt_of_lt_of_le hw (wOf_ge_of_mem _ (hwf.el_w c hc) e he)
    · exact Or.inl ((upd_other _ _ _ _ hev).trans hfe)

theorem round_invA (S : Sys) (hwf : WF S) (st : St) (sv : List Nat) (h : RInv S st sv) (hA : InvA S st) :
    InvA S (round S 0 st sv) := by
  obtain ⟨_, hA'⟩ := h.fix hwf (InvA S)
    (fun st' v x hI _ hpv hx => fixVar_invA S hwf 0 st' v x hI.g.valpos hpv hx) hA
  obtain ⟨mu, sat, h⟩ := round_eq S 0 st sv
  rw [h]; exact hA'

theorem init_invA (S : Sys) (hwf : WF S) (val0 : Nat → Rat) : InvA S (initAll S 0 val0) := by
  have I := initAll_I S hwf val0
  intro c hc hf hp
  rw [(I.ru c hc).2, initUsage_fat S c hf] at hp ⊢
  obtain ⟨e, he, _, hw, hu⟩ := fatUsage_attained S (fun _ => 0) c hp
  exact ⟨e, he, hw, hu, by rw [I.fx]⟩

end SgVerif.Lmm
