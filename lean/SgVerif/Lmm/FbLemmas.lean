/-
C15, FairBottleneck::do_solve on systems without FATPIPE constraints, at every precision eps ≥ 0: the allocation respects
the capacities and the variable bounds (`double_update` only lowers `remaining_`, and the invariant only needs an upper
bound of it).  Invariant `FbInv` at the head of the do-while:
  R c = bound c − Σ w·value ≥ 0 for every active constraint; 0 ≤ remaining_ c ≤ R c for the constraints still in
  `saturated_constraint_set`; the consumers of an active constraint that left it are no longer in `saturated_variable_set`;
  mu_ ≥ 0, usage_ ≥ 0.
Key step: the still-growing consumers of c get, together, at most nb · usage_ c = remaining_ c ≤ R c.
-/
import SgVerif.Lmm.Lemmas
namespace SgVerif.Lmm

/-- the `double_update` chain of the third loop: non-negative and at most `max 0 (r − Σ a)` (equal to it at eps = 0) -/
theorem clampFold (eps : Rat) (h0 : 0 ≤ eps) (f : Nat × Rat → Rat) (l : List (Nat × Rat)) (hf : ∀ e ∈ l, 0 ≤ f e) :
    ∀ r : Rat, 0 ≤ r → 0 ≤ l.foldl (fun (r : Rat) (e : Nat × Rat) => dblUpdate r (f e) eps) r ∧
      l.foldl (fun (r : Rat) (e : Nat × Rat) => dblUpdate r (f e) eps) r ≤ max 0 (r - sumBy f l) := by
  induction l with
  | nil => intro r hr; simp [hr]
  | cons a t ih =>
    intro r hr
    rw [List.forall_mem_cons] at hf
    simp only [List.foldl_cons, sumBy_cons]
    have hs := sumBy_nonneg f t hf.2
    unfold dblUpdate
    split
    · obtain ⟨i1, i2⟩ := ih hf.2 0 (le_refl 0)
      exact ⟨i1, le_trans i2 (max_le (le_max_left _ _) (le_trans (by linarith only [hs]) (le_max_left _ _)))⟩
    · obtain ⟨i1, i2⟩ := ih hf.2 (r - f a) (le_trans h0 (not_lt.mp ‹_›))
      exact ⟨i1, by rwa [sub_sub] at i2⟩

/-- `nb`: number of enabled elements with weight > 0 whose variable is still in `saturated_variable_set` -/
def nbOf (S : Sys) (vl : List Nat) (c : Nat) : Nat :=
  ((S.cnst c).elems.filter (fun e => decide (0 < e.2) && decide (e.1 ∈ vl))).length

/-- the anonymous body of the fold of `fbPhase1` (Model.lean) under a name: `fbPhase1 S st` unfolds to
`st.cl.foldl (p1step S) st` -/
def p1step (S : Sys) (st : FbSt) (c : Nat) : FbSt :=
    let C := S.cnst c
    let nb := (C.elems.filter (fun e => decide (0 < e.2) && decide (e.1 ∈ st.vl))).length
    let nb := if 0 < nb ∧ C.fatpipe then 1 else nb
    if nb = 0 then
      { st with remaining := upd st.remaining c 0, usage := upd st.usage c 0, cl := st.cl.erase c }
    else { st with usage := upd st.usage c (st.remaining c / (nb : Rat)) }

theorem p1step_shared (S : Sys) (st : FbSt) (c : Nat) (hf : (S.cnst c).fatpipe = false) :
    p1step S st c =
      if nbOf S st.vl c = 0 then
        { st with remaining := upd st.remaining c 0, usage := upd st.usage c 0, cl := st.cl.erase c }
      else { st with usage := upd st.usage c (st.remaining c / (nbOf S st.vl c : Rat)) } := by
  unfold p1step nbOf
  have h : ¬ (0 < ((S.cnst c).elems.filter (fun e => decide (0 < e.2) && decide (e.1 ∈ st.vl))).length ∧
      (S.cnst c).fatpipe = true) := by
    rw [hf]; exact fun h => Bool.false_ne_true h.2
  simp only [h, if_false]

theorem fbMinInc_congr (S : Sys) (s s' : FbSt) (v : Nat) (h1 : s.usage = s'.usage) (h2 : s.value v = s'.value v) :
    fbMinInc S s v = fbMinInc S s' v := by
  unfold fbMinInc; rw [h1, h2]

/-- `min_inc` is the least of `usage_ / weight` over the elements of the variable and, if it has one, the room below its
bound -/
theorem fbMinInc_minOf (S : Sys) (st : FbSt) (v : Nat) :
    MinOf (fun t => (∃ e ∈ (S.var v).cnsts, 0 < e.2 ∧ st.usage e.1 / e.2 = t) ∨
        (0 < (S.var v).bound ∧ (S.var v).bound - st.value v = t)) (fbMinInc S st v) := by
  unfold fbMinInc
  simp only []
  have A := foldMin_spec (fun m => m)
    (fun (m : Option Rat) (e : Nat × Rat) =>
      if 0 < e.2 then
        let x := st.usage e.1 / e.2
        match m with
        | none => some x
        | some y => some (if x < y then x else y)
      else m)
    (fun e => 0 < e.2) (fun e => st.usage e.1 / e.2) (S.var v).cnsts
    (fun a x _ hx => by simp only [if_pos hx]; cases a <;> rfl) (fun a x _ hx => by simp only [if_neg hx]) none minOf_none
  replace A := A.congr fun t => iff_of_eq (false_or _)
  generalize (S.var v).cnsts.foldl _ none = m at A
  split
  · rename_i hb
    have B := (A.insert ((S.var v).bound - st.value v)).congr fun t => or_congr_right ⟨fun e => And.intro hb e, And.right⟩
    cases m <;> exact B
  · rename_i hb
    exact A.congr fun t => ⟨Or.inl, fun h => h.elim id fun h' => absurd h'.1 hb⟩

theorem fbMinInc_spec (S : Sys) (st : FbSt) (v : Nat) (inc : Rat) (h : fbMinInc S st v = some inc)
    (hu : ∀ c, 0 ≤ st.usage c) (hb : 0 < (S.var v).bound → st.value v ≤ (S.var v).bound) :
    0 ≤ inc ∧ (∀ e ∈ (S.var v).cnsts, 0 < e.2 → inc ≤ st.usage e.1 / e.2) ∧
    (0 < (S.var v).bound → inc ≤ (S.var v).bound - st.value v) := by
  obtain ⟨hatt, hmin⟩ := (fbMinInc_minOf S st v).2 inc h
  refine ⟨?_, fun e he hw => hmin _ (Or.inl ⟨e, he, hw, rfl⟩), fun hbd => hmin _ (Or.inr ⟨hbd, rfl⟩)⟩
  rcases hatt with ⟨e, _, hw, hg⟩ | ⟨hbd, hg⟩
  · rw [← hg]; exact div_nonneg (hu e.1) (le_of_lt hw)
  · rw [← hg]; exact sub_nonneg.mpr (hb hbd)

/-- the body of the fold of `fbPhase2`, named (`fbPhase2_eq`) -/
def p2step (S : Sys) (o : Option FbSt) (v : Nat) : Option FbSt :=
    match o with
    | none => none
    | some st =>
      match fbMinInc S st v with
      | none => none
      | some inc =>
        let nv := st.value v + inc
        let st := { st with mu := upd st.mu v inc, value := upd st.value v nv }
        some (if nv = (S.var v).bound then { st with vl := st.vl.erase v } else st)

theorem fbPhase2_eq (S : Sys) (st : FbSt) : fbPhase2 S st = st.vl.foldl (p2step S) (some st) := rfl

theorem p2step_some (S : Sys) (s : FbSt) (a : Nat) (inc : Rat) (hinc : fbMinInc S s a = some inc) :
    p2step S (some s) a = some { s with mu := upd s.mu a inc, value := upd s.value a (s.value a + inc),
                                        vl := if s.value a + inc = (S.var a).bound then s.vl.erase a else s.vl } := by
  simp only [p2step, hinc]
  split <;> rfl

theorem p2fold_none (S : Sys) (l : List Nat) : l.foldl (p2step S) none = none := by
  induction l with
  | nil => rfl
  | cons a t ih => simp only [List.foldl_cons]; exact ih

theorem p2fold_spec (S : Sys) (l : List Nat) (hnd : l.Nodup) :
    ∀ s r : FbSt, l.foldl (p2step S) (some s) = some r →
      r.remaining = s.remaining ∧ r.usage = s.usage ∧ r.cl = s.cl ∧
      (∀ v, v ∉ l → r.value v = s.value v ∧ r.mu v = s.mu v) ∧
      (∀ v ∈ l, ∃ inc, fbMinInc S s v = some inc ∧ r.value v = s.value v + inc ∧ r.mu v = inc) ∧
      r.vl.Sublist s.vl := by
  induction l with
  | nil =>
    intro s r h
    simp only [List.foldl_nil, Option.some.injEq] at h
    subst h
    exact ⟨rfl, rfl, rfl, fun v _ => ⟨rfl, rfl⟩, by simp, List.Sublist.refl _⟩
  | cons a t ih =>
    intro s r h
    simp only [List.foldl_cons] at h
    have hat : a ∉ t := (List.nodup_cons.mp hnd).1
    have hndt : t.Nodup := (List.nodup_cons.mp hnd).2
    cases hinc : fbMinInc S s a with
    | none =>
      have : p2step S (some s) a = none := by simp only [p2step, hinc]
      rw [this, p2fold_none] at h
      exact absurd h (by simp)
    | some inc =>
      rw [p2step_some S s a inc hinc] at h
      obtain ⟨i1, i2, i3, i4, i5, i6⟩ := ih hndt _ r h
      refine ⟨i1, i2, i3, ?_, ?_, i6.trans (ite_pred (List.Sublist · s.vl) List.erase_sublist (List.Sublist.refl _))⟩
      · intro v hv
        simp only [List.mem_cons, not_or] at hv
        have := i4 v hv.2
        rw [this.1, this.2]; simp [upd, hv.1]
      · intro v hv
        simp only [List.mem_cons] at hv
        rcases hv with rfl | hv
        · refine ⟨inc, hinc, ?_, ?_⟩
          · rw [(i4 v hat).1]; simp
          · rw [(i4 v hat).2]; simp
        · have hva : v ≠ a := fun h => hat (h ▸ hv)
          obtain ⟨inc', h1, h2, h3⟩ := i5 v hv
          refine ⟨inc', ?_, ?_, h3⟩
          · rw [← h1]; exact fbMinInc_congr S s _ v rfl (by simp [upd, hva])
          · rw [h2]; simp [upd, hva]

theorem eraseFold_spec (es : List (Nat × Rat)) : ∀ vl : List Nat, vl.Nodup →
    (es.foldl (fun (vl : List Nat) (e : Nat × Rat) => if 0 < e.2 ∧ e.1 ∈ vl then vl.erase e.1 else vl) vl).Sublist vl ∧
    (∀ e ∈ es, 0 < e.2 →
      e.1 ∉ es.foldl (fun (vl : List Nat) (e : Nat × Rat) => if 0 < e.2 ∧ e.1 ∈ vl then vl.erase e.1 else vl) vl) := by
  induction es with
  | nil => intro vl _; simp
  | cons a t ih =>
    intro vl hnd
    simp only [List.foldl_cons]
    have h1 : (if 0 < a.2 ∧ a.1 ∈ vl then vl.erase a.1 else vl).Sublist vl ∧
        (0 < a.2 → a.1 ∉ (if 0 < a.2 ∧ a.1 ∈ vl then vl.erase a.1 else vl)) := by
      by_cases hc : 0 < a.2 ∧ a.1 ∈ vl
      · rw [if_pos hc]
        exact ⟨List.erase_sublist, fun _ h => ((List.Nodup.mem_erase_iff hnd).mp h).1 rfl⟩
      · rw [if_neg hc]
        exact ⟨List.Sublist.refl _, fun hw h => hc ⟨hw, h⟩⟩
    obtain ⟨j1, j3⟩ := ih _ (hnd.sublist h1.1)
    refine ⟨j1.trans h1.1, ?_⟩
    intro e he hw
    simp only [List.mem_cons] at he
    rcases he with rfl | he
    · intro h; exact h1.2 hw (j1.subset h)
    · exact j3 e he hw

/-- the body of the fold of `fbPhase3`, named: `fbPhase3 S eps st` unfolds to `st.cl.foldl (p3step S eps) st` -/
def p3step (S : Sys) (eps : Rat) (st : FbSt) (c : Nat) : FbSt :=
    let C := S.cnst c
    let st : FbSt :=
      if !C.fatpipe then
        let r := C.elems.foldl (fun (r : Rat) (e : Nat × Rat) => dblUpdate r (e.2 * st.mu e.1) eps) (st.remaining c)
        { st with remaining := upd st.remaining c r }
      else
        let u := C.elems.foldl (fun (u : Rat) (e : Nat × Rat) => if e.2 * st.mu e.1 < u then e.2 * st.mu e.1 else u) (st.usage c)
        { st with usage := upd st.usage c u, remaining := upd st.remaining c (dblUpdate (st.remaining c) u eps) }
    if st.remaining c ≤ 0 then
      { st with cl := st.cl.erase c,
                vl := C.elems.foldl (fun (vl : List Nat) (e : Nat × Rat) => if 0 < e.2 ∧ e.1 ∈ vl then vl.erase e.1 else vl) st.vl }
    else st

/-- new `remaining_` of a summing constraint after the third loop: the inner fold of `p3step` -/
def rem3 (S : Sys) (eps : Rat) (st : FbSt) (c : Nat) : Rat :=
  (S.cnst c).elems.foldl (fun (r : Rat) (e : Nat × Rat) => dblUpdate r (e.2 * st.mu e.1) eps) (st.remaining c)

theorem p3step_shared (S : Sys) (eps : Rat) (st : FbSt) (c : Nat) (hf : (S.cnst c).fatpipe = false) :
    p3step S eps st c =
      if rem3 S eps st c ≤ 0 then
        { st with remaining := upd st.remaining c (rem3 S eps st c), cl := st.cl.erase c,
                  vl := (S.cnst c).elems.foldl (fun (vl : List Nat) (e : Nat × Rat) => if 0 < e.2 ∧ e.1 ∈ vl then vl.erase e.1 else vl) st.vl }
      else { st with remaining := upd st.remaining c (rem3 S eps st c) } := by
  unfold p3step rem3
  simp only [hf, Bool.not_false, if_true, upd_same]

theorem rem3_congr (S : Sys) (eps : Rat) (s s' : FbSt) (c : Nat) (h1 : s'.mu = s.mu) (h2 : s'.remaining c = s.remaining c) :
    rem3 S eps s' c = rem3 S eps s c := by
  unfold rem3; rw [h1, h2]

structure FbInv (S : Sys) (st : FbSt) : Prop where
  iR : ∀ c ∈ S.active, wsum S st.value c ≤ (S.cnst c).bound
  icl : ∀ c ∈ st.cl, c ∈ S.active ∧ 0 ≤ st.remaining c ∧ st.remaining c ≤ (S.cnst c).bound - wsum S st.value c
  iout : ∀ c ∈ S.active, c ∉ st.cl → ∀ e ∈ (S.cnst c).elems, 0 < e.2 → e.1 ∉ st.vl
  imu : ∀ v, 0 ≤ st.mu v
  iuse : ∀ c, 0 ≤ st.usage c
  irng : ∀ v, (v ∈ st.vl ∨ ∃ c ∈ S.active, ∃ e ∈ (S.cnst c).elems, 0 < e.2 ∧ e.1 = v) →
    0 ≤ st.value v ∧ (0 < (S.var v).bound → st.value v ≤ (S.var v).bound)
  ivl : st.vl.Nodup
  icn : st.cl.Nodup

theorem nbOf_zero (S : Sys) (vl : List Nat) (c : Nat) (h : nbOf S vl c = 0) :
    ∀ e ∈ (S.cnst c).elems, 0 < e.2 → e.1 ∉ vl := by
  intro e he hw hv
  unfold nbOf at h
  have := List.length_eq_zero_iff.mp h
  rw [List.filter_eq_nil_iff] at this
  have := this e he
  simp [hw, hv] at this

theorem FbInv.drop {S : Sys} {s : FbSt} (hI : FbInv S s) (a : Nat) (vl : List Nat) (hsub : vl.Sublist s.vl)
    (hout : ∀ e ∈ (S.cnst a).elems, 0 < e.2 → e.1 ∉ vl) : FbInv S { s with cl := s.cl.erase a, vl := vl } :=
  { hI with
    icl := fun c hc => hI.icl c (List.mem_of_mem_erase hc)
    iout := fun c hca hn e he hw hv => by
      by_cases hc : c = a
      · rw [hc] at he; exact hout e he hw hv
      · exact hI.iout c hca (fun h => hn ((List.Nodup.mem_erase_iff hI.icn).mpr ⟨hc, h⟩)) e he hw (hsub.subset hv)
    irng := fun v hv => hI.irng v (hv.imp_left fun h => hsub.subset h)
    ivl := hI.ivl.sublist hsub
    icn := hI.icn.erase a }

/-- one step of the first loop keeps the invariant; `a` stays in the list only with its `remaining_` shared out equally
among its growing consumers -/
theorem p1step_inv (S : Sys) (s : FbSt) (a : Nat) (hf : (S.cnst a).fatpipe = false) (hI : FbInv S s) (ha : a ∈ s.cl) :
    FbInv S (p1step S s a) ∧ (p1step S s a).vl = s.vl ∧
    (∀ c, c ≠ a → (c ∈ (p1step S s a).cl ↔ c ∈ s.cl) ∧ (p1step S s a).usage c = s.usage c ∧
      (p1step S s a).remaining c = s.remaining c) ∧
    (a ∈ (p1step S s a).cl → (nbOf S s.vl a : Rat) * (p1step S s a).usage a = (p1step S s a).remaining a) := by
  rw [p1step_shared S s a hf]
  by_cases hnb : nbOf S s.vl a = 0
  · rw [if_pos hnb]
    have hmem : ∀ c, c ∈ s.cl.erase a ↔ c ≠ a ∧ c ∈ s.cl := fun c => List.Nodup.mem_erase_iff hI.icn
    refine ⟨{ hI.drop a s.vl (List.Sublist.refl _) (nbOf_zero S s.vl a hnb) with icl := fun c hc => ?_, iuse := fun c => ?_ },
      rfl, fun c hca => ⟨⟨fun h => ((hmem c).mp h).2, fun h => (hmem c).mpr ⟨hca, h⟩⟩, upd_other _ _ _ _ hca, upd_other _ _ _ _ hca⟩,
      fun h => absurd rfl ((hmem a).mp h).1⟩
    · obtain ⟨hca, hc⟩ := (hmem c).mp hc
      dsimp only
      rw [upd_other _ _ _ _ hca]; exact hI.icl c hc
    · dsimp only
      by_cases hc : c = a
      · rw [hc, upd_same]
      · rw [upd_other _ _ _ _ hc]; exact hI.iuse c
  · rw [if_neg hnb]
    refine ⟨{ hI with iuse := fun c => ?_ }, rfl, fun c hca => ⟨Iff.rfl, upd_other _ _ _ _ hca, rfl⟩, fun _ => ?_⟩
    · dsimp only
      by_cases hc : c = a
      · rw [hc, upd_same]; exact div_nonneg (hI.icl a ha).2.1 (Nat.cast_nonneg _)
      · rw [upd_other _ _ _ _ hc]; exact hI.iuse c
    · dsimp only
      rw [upd_same]; exact mul_div_cancel₀ _ (Nat.cast_ne_zero.mpr hnb)

theorem p1fold_inv (S : Sys) (hsh : ∀ c ∈ S.active, (S.cnst c).fatpipe = false) (l : List Nat) :
    ∀ s : FbSt, FbInv S s → (∀ c ∈ l, c ∈ s.cl) → l.Nodup →
      (∀ c ∈ s.cl, c ∉ l → (nbOf S s.vl c : Rat) * s.usage c = s.remaining c) →
      FbInv S (l.foldl (p1step S) s) ∧
      ∀ c ∈ (l.foldl (p1step S) s).cl, (nbOf S (l.foldl (p1step S) s).vl c : Rat) * (l.foldl (p1step S) s).usage c =
        (l.foldl (p1step S) s).remaining c := by
  induction l with
  | nil => intro s hI _ _ hq; exact ⟨hI, fun c hc => hq c hc List.not_mem_nil⟩
  | cons a t ih =>
    intro s hI hl hnd hq
    obtain ⟨hat, hndt⟩ := List.nodup_cons.mp hnd
    have ha := hl a List.mem_cons_self
    obtain ⟨h1, h2, h3, h4⟩ := p1step_inv S s a (hsh a (hI.icl a ha).1) hI ha
    rw [List.foldl_cons]
    generalize p1step S s a = s1 at h1 h2 h3 h4
    refine ih s1 h1 (fun c hc => (h3 c fun h => hat (h ▸ hc)).1.mpr (hl c (List.mem_cons_of_mem _ hc))) hndt fun c hc hct => ?_
    rw [h2]
    by_cases hca : c = a
    · rw [hca] at hc ⊢; exact h4 hc
    · obtain ⟨k1, k2, k3⟩ := h3 c hca
      rw [k2, k3]; exact hq c (k1.mp hc) fun h => (List.mem_cons.mp h).elim hca hct

theorem fbPhase1_inv (S : Sys) (hsh : ∀ c ∈ S.active, (S.cnst c).fatpipe = false) (st : FbSt) (hI : FbInv S st) :
    FbInv S (fbPhase1 S st) ∧
    ∀ c ∈ (fbPhase1 S st).cl, (nbOf S (fbPhase1 S st).vl c : Rat) * (fbPhase1 S st).usage c = (fbPhase1 S st).remaining c :=
  p1fold_inv S hsh st.cl st hI (fun _ h => h) hI.icn fun _ h hn => absurd h hn

/-- second loop: the consumers of `c` grow, together, by at most `remaining_ c` and by at most `Σ w·mu`, so the
invariant holds again once `remaining_` has been brought down to `rem3` -/
theorem fbPhase2_inv (S : Sys) (hwf : WF S) (hwv : WFV S) (eps : Rat) (h0 : 0 ≤ eps) (st1 st2 : FbSt) (hI : FbInv S st1)
    (hu : ∀ c ∈ st1.cl, (nbOf S st1.vl c : Rat) * st1.usage c = st1.remaining c) (h2 : fbPhase2 S st1 = some st2) :
    FbInv S { st2 with remaining := rem3 S eps st2 } ∧ ∀ c ∈ st2.cl, 0 ≤ st2.remaining c := by
  rw [fbPhase2_eq] at h2
  obtain ⟨b1, b2, b3, b4, b5, b6⟩ := p2fold_spec S st1.vl hI.ivl st1 st2 h2
  have hinc : ∀ v ∈ st1.vl, ∃ inc, st2.value v = st1.value v + inc ∧ st2.mu v = inc ∧ 0 ≤ inc ∧
      (∀ e ∈ (S.var v).cnsts, 0 < e.2 → inc ≤ st1.usage e.1 / e.2) ∧
      (0 < (S.var v).bound → inc ≤ (S.var v).bound - st1.value v) := fun v hv => by
    obtain ⟨inc, h1, h2', h3⟩ := b5 v hv
    obtain ⟨s1, s2, s3⟩ := fbMinInc_spec S st1 v inc h1 hI.iuse (hI.irng v (Or.inl hv)).2
    exact ⟨inc, h2', h3, s1, s2, s3⟩
  have hmu2 : ∀ v, 0 ≤ st2.mu v := fun v => by
    by_cases hv : v ∈ st1.vl
    · obtain ⟨inc, _, h3, h4, _⟩ := hinc v hv
      rw [h3]; exact h4
    · rw [(b4 v hv).2]; exact hI.imu v
  -- the load of a constraint in the list grows by at most nb · usage_ = remaining_; that of the others does not grow
  have hR2 : ∀ c ∈ S.active, wsum S st2.value c ≤ (S.cnst c).bound := by
    intro c hc
    by_cases hc1 : c ∈ st1.cl
    · have hle : wsum S st2.value c - wsum S st1.value c ≤ st1.remaining c := by
        rw [wsum_sub, ← hu c hc1, nbOf, ← sumBy_indicator]
        apply sumBy_le_sumBy
        intro e he
        by_cases hcond : 0 < e.2 ∧ e.1 ∈ st1.vl
        · simp only [hcond.1, hcond.2, decide_true, Bool.and_self, if_true]
          obtain ⟨inc, hv, _, _, hle, _⟩ := hinc e.1 hcond.2
          have := hle (c, e.2) (hwv.el_in_var c hc e he) hcond.1
          rw [le_div_iff₀ hcond.1] at this
          rw [hv]
          linarith only [this]
        · have h0 : e.2 * (st2.value e.1 - st1.value e.1) = 0 := by
            by_cases hw : 0 < e.2
            · rw [(b4 e.1 fun h => hcond ⟨hw, h⟩).1]; ring
            · rw [hwf.w_zero hc he hw]; ring
          rw [h0]
          split
          · exact hI.iuse c
          · exact le_refl 0
      linarith only [hle, (hI.icl c hc1).2.2]
    · have h0 : wsum S st2.value c - wsum S st1.value c = 0 := by
        rw [wsum_sub, sumBy_zero]
        intro e he
        by_cases hw : 0 < e.2
        · rw [(b4 e.1 (hI.iout c hc hc1 e he hw)).1]; ring
        · rw [hwf.w_zero hc he hw]; ring
      linarith only [h0, hI.iR c hc]
  refine ⟨⟨hR2, fun c hc => ?_, fun c hc hn e he hw hv => ?_, hmu2, ?_, fun v hv => ?_, hI.ivl.sublist b6, ?_⟩, fun c hc => ?_⟩
  · rw [b3] at hc
    obtain ⟨hca, _, hle⟩ := hI.icl c hc
    obtain ⟨r1, r2⟩ := clampFold eps h0 (fun e => e.2 * st2.mu e.1) (S.cnst c).elems
      (fun e he => mul_nonneg (hwf.el_w c hca e he) (hmu2 e.1)) (st2.remaining c) (by rw [b1]; exact (hI.icl c hc).2.1)
    refine ⟨hca, r1, le_trans r2 (max_le (by linarith only [hR2 c hca]) ?_)⟩
    have hge : wsum S st2.value c - wsum S st1.value c ≤ sumBy (fun e => e.2 * st2.mu e.1) (S.cnst c).elems := by
      rw [wsum_sub]
      apply sumBy_le_sumBy
      intro e he
      apply mul_le_mul_of_nonneg_left _ (hwf.el_w c hca e he)
      by_cases hv : e.1 ∈ st1.vl
      · obtain ⟨inc, h1, h3, _⟩ := hinc e.1 hv
        rw [h1, h3, add_sub_cancel_left]
      · rw [(b4 e.1 hv).1, sub_self]; exact hmu2 e.1
    rw [b1]
    linarith only [hge, hle]
  · rw [b3] at hn
    exact hI.iout c hc hn e he hw (b6.subset hv)
  · rw [b2]; exact hI.iuse
  · by_cases hv0 : v ∈ st1.vl
    · obtain ⟨inc, h1, _, h4, _, h6⟩ := hinc v hv0
      have := hI.irng v (Or.inl hv0)
      show 0 ≤ st2.value v ∧ _
      rw [h1]
      exact ⟨by linarith only [this.1, h4], fun hb => by linarith only [h6 hb]⟩
    · show 0 ≤ st2.value v ∧ _
      rw [(b4 v hv0).1]
      exact hI.irng v (hv.imp_left fun h => b6.subset h)
  · rw [b3]; exact hI.icn
  · rw [b3] at hc
    rw [b1]; exact (hI.icl c hc).2.1

/-- the invariant in the third loop, `l` the constraints still to come: it holds of the state in which their `remaining_`
is `rem3` already -/
theorem p3fold_inv (S : Sys) (eps : Rat) (hsh : ∀ c ∈ S.active, (S.cnst c).fatpipe = false) (l : List Nat) :
    ∀ s : FbSt, FbInv S { s with remaining := fun c => if c ∈ l then rem3 S eps s c else s.remaining c } →
      (∀ c ∈ l, c ∈ s.cl ∧ 0 ≤ s.remaining c) → l.Nodup → FbInv S (l.foldl (p3step S eps) s) := by
  induction l with
  | nil => intro s hI _ _; exact hI
  | cons a t ih =>
    intro s hI hl hnd
    obtain ⟨hat, hndt⟩ := List.nodup_cons.mp hnd
    obtain ⟨hacl, har⟩ := hl a List.mem_cons_self
    have haa := (hI.icl a hacl).1
    rw [List.foldl_cons, p3step_shared S eps s a (hsh a haa)]
    -- the two descriptions of `remaining_` agree
    have hrem : ∀ s1 : FbSt, s1.mu = s.mu → s1.remaining = upd s.remaining a (rem3 S eps s a) →
        (fun c => if c ∈ t then rem3 S eps s1 c else s1.remaining c) =
          fun c => if c ∈ a :: t then rem3 S eps s c else s.remaining c := fun s1 h1 h2 => by
      funext c
      by_cases hca : c = a
      · rw [hca, if_neg hat, if_pos List.mem_cons_self, h2, upd_same]
      · have h3 : s1.remaining c = s.remaining c := by rw [h2, upd_other _ _ _ _ hca]
        rw [rem3_congr S eps s s1 c h1 h3, h3]
        by_cases hct : c ∈ t
        · rw [if_pos hct, if_pos (List.mem_cons_of_mem _ hct)]
        · rw [if_neg hct, if_neg fun h => (List.mem_cons.mp h).elim hca hct]
    have hl1 : ∀ c ∈ t, c ≠ a ∧ c ∈ s.cl ∧ 0 ≤ upd s.remaining a (rem3 S eps s a) c := fun c hc => by
      have hca : c ≠ a := fun h => hat (h ▸ hc)
      rw [upd_other _ _ _ _ hca]
      exact ⟨hca, hl c (List.mem_cons_of_mem _ hc)⟩
    by_cases hz : rem3 S eps s a ≤ 0
    · rw [if_pos hz]
      obtain ⟨e1, e3⟩ := eraseFold_spec (S.cnst a).elems s.vl hI.ivl
      refine ih _ ?_ (fun c hc => ⟨(List.Nodup.mem_erase_iff hI.icn).mpr ⟨(hl1 c hc).1, (hl1 c hc).2.1⟩, (hl1 c hc).2.2⟩) hndt
      rw [hrem]
      · exact hI.drop a _ e1 e3
      · rfl
      · rfl
    · rw [if_neg hz]
      refine ih _ ?_ (fun c hc => (hl1 c hc).2) hndt
      rw [hrem]
      · exact hI
      · rfl
      · rfl

theorem fbPhase3_inv (S : Sys) (eps : Rat) (hsh : ∀ c ∈ S.active, (S.cnst c).fatpipe = false) (st2 : FbSt)
    (hM : FbInv S { st2 with remaining := rem3 S eps st2 }) (hr : ∀ c ∈ st2.cl, 0 ≤ st2.remaining c) :
    FbInv S (fbPhase3 S eps st2) :=
  p3fold_inv S eps hsh st2.cl st2
    { hM with icl := fun c hc => by dsimp only; rw [if_pos hc]; exact hM.icl c hc }
    (fun c hc => ⟨hc, hr c hc⟩) hM.icn

theorem fbLoop_inv (S : Sys) (hwf : WF S) (hwv : WFV S) (hsh : ∀ c ∈ S.active, (S.cnst c).fatpipe = false) (eps : Rat) (h0 : 0 ≤ eps) :
    ∀ (fuel : Nat) (st st' : FbSt), FbInv S st → fbLoop S eps fuel st = some st' → FbInv S st' := by
  intro fuel
  induction fuel with
  | zero => intro st st' _ h; simp [fbLoop] at h
  | succ n ih =>
    intro st st' hI h
    rw [fbLoop] at h
    cases h2 : fbPhase2 S (fbPhase1 S st) with
    | none => rw [h2] at h; simp at h
    | some st2 =>
      rw [h2] at h
      simp only [] at h
      obtain ⟨h1, hu⟩ := fbPhase1_inv S hsh st hI
      obtain ⟨hM, hr⟩ := fbPhase2_inv S hwf hwv eps h0 _ st2 h1 hu h2
      have h3 := fbPhase3_inv S eps hsh st2 hM hr
      split at h
      · simp only [Option.some.injEq] at h; rw [← h]; exact h3
      · exact ih _ st' h3 h

/-- `fbInitVar` puts the enabled variables with a non-zero weight at 0 and into `saturated_variable_set` -/
abbrev fbCond (S : Sys) (v : Nat) : Prop := 0 < (S.var v).penalty ∧ (S.var v).cnsts.any (fun e => e.2 ≠ 0) = true

theorem fbInitVar_eq (S : Sys) (s : FbSt) (a : Nat) :
    fbInitVar S s a = { s with value := upd s.value a (if fbCond S a then 0 else if 0 < (S.var a).penalty then 1 else 0),
                               vl := if fbCond S a then s.vl ++ [a] else s.vl } := by
  unfold fbInitVar
  by_cases hc : fbCond S a
  · rw [if_pos hc, if_pos hc, if_pos hc]
  · rw [if_neg hc, if_neg hc, if_neg hc]
    by_cases hp : 0 < (S.var a).penalty
    · rw [if_pos hp, if_pos hp]
    · rw [if_neg hp, if_neg hp]

theorem fbInitVar_fold (S : Sys) (l : List Nat) : ∀ s : FbSt,
    ∃ val, l.foldl (fbInitVar S) s = { s with value := val, vl := s.vl ++ l.filter (fun v => decide (fbCond S v)) } ∧
      ∀ v, fbCond S v → (v ∈ l ∨ s.value v = 0) → val v = 0 := by
  induction l with
  | nil => intro s; exact ⟨s.value, by rw [List.filter_nil, List.append_nil]; rfl, fun v _ h => h.resolve_left List.not_mem_nil⟩
  | cons a t ih =>
    intro s
    obtain ⟨val, h1, h2⟩ := ih (fbInitVar S s a)
    refine ⟨val, ?_, fun v hv h => h2 v hv ?_⟩
    · rw [List.foldl_cons, h1, fbInitVar_eq, List.filter_cons]
      dsimp only
      by_cases hc : fbCond S a
      · rw [if_pos hc, if_pos (decide_eq_true hc), List.append_assoc]; rfl
      · rw [if_neg hc, if_neg fun h => hc (of_decide_eq_true h)]
    · rw [fbInitVar_eq]
      dsimp only
      by_cases hva : v = a
      · right; rw [hva, upd_same, if_pos (hva ▸ hv)]
      · rw [upd_other _ _ _ _ hva]
        exact h.imp (fun h' => (List.mem_cons.mp h').resolve_left hva) id

/-- the body of the fold over `S.active` in `fbInit`, named (`fbInit_inv` rewrites `fbInit` with it by `rfl`) -/
def fbCnstInit (S : Sys) (st : FbSt) (c : Nat) : FbSt :=
  { st with remaining := upd st.remaining c (S.cnst c).bound, usage := upd st.usage c 0 }

theorem fbCnstInit_fold (S : Sys) (l : List Nat) : ∀ s : FbSt,
    l.foldl (fbCnstInit S) s =
      { s with remaining := fun c => if c ∈ l then (S.cnst c).bound else s.remaining c,
               usage := fun c => if c ∈ l then 0 else s.usage c } := by
  induction l with
  | nil => intro s; rfl
  | cons a t ih =>
    intro s
    rw [List.foldl_cons, ih]
    unfold fbCnstInit
    congr 1 <;> funext c <;> by_cases hct : c ∈ t <;> by_cases hca : c = a <;> simp [hct, hca, upd]

theorem fbInit_inv (S : Sys) (hwf : WF S) (hwv : WFV S) (hvo : S.vorder.Nodup) (val0 : Nat → Rat) :
    FbInv S (fbInit S val0) := by
  obtain ⟨val, h1, h2⟩ := fbInitVar_fold S S.vorder
    { value := val0, mu := fun _ => 0, remaining := fun _ => 0, usage := fun _ => 0, vl := [], cl := [] }
  have heq : fbInit S val0 = S.active.foldl (fbCnstInit S)
      { (S.vorder.foldl (fbInitVar S)
          { value := val0, mu := fun _ => 0, remaining := fun _ => 0, usage := fun _ => 0, vl := [], cl := [] }) with
        cl := S.active } := rfl
  rw [heq, h1, fbCnstInit_fold]
  dsimp only
  have hvl : ∀ v ∈ [] ++ S.vorder.filter (fun v => decide (fbCond S v)), val v = 0 := fun v hv => by
    rw [List.nil_append, List.mem_filter] at hv
    exact h2 v (of_decide_eq_true hv.2) (Or.inl hv.1)
  have hcons0 : ∀ c ∈ S.active, ∀ e ∈ (S.cnst c).elems, 0 < e.2 → val e.1 = 0 := fun c hc e he hw =>
    h2 e.1 ⟨hwf.el_pen c hc e he, List.any_eq_true.mpr ⟨(c, e.2), hwv.el_in_var c hc e he, by simpa using ne_of_gt hw⟩⟩
      (Or.inl (hwv.vo_all c hc e he))
  have hws : ∀ c ∈ S.active, wsum S val c = 0 := fun c hc => sumBy_zero _ _ fun e he => by
    by_cases hw : 0 < e.2
    · rw [hcons0 c hc e he hw, mul_zero]
    · rw [hwf.w_zero hc he hw, zero_mul]
  refine ⟨fun c hc => ?_, fun c hc => ?_, fun c hc hn => absurd hc hn, fun _ => le_refl 0, fun c => ?_, fun v hv => ?_, ?_,
    hwf.act_nd⟩ <;> dsimp only
  · rw [hws c hc]; exact le_of_lt (hwf.cb_pos c hc)
  · rw [if_pos hc, hws c hc, sub_zero]; exact ⟨hc, le_of_lt (hwf.cb_pos c hc), le_refl _⟩
  · split <;> exact le_refl 0
  · rw [show val v = 0 from hv.elim (hvl v) fun ⟨c, hc, e, he, hw, h⟩ => h ▸ hcons0 c hc e he hw]
    exact ⟨le_refl 0, fun hb => le_of_lt hb⟩
  · rw [List.nil_append]; exact hvo.filter _

/-- FairBottleneck on systems without FATPIPE constraints, any precision `eps ≥ 0`, any variable bounds: whenever
`do_solve` returns, the weighted sum of the rates on every active constraint is at most its capacity and every consumer has
a rate in [0, bound]. -/
theorem fb_feasible_shared (S : Sys) (hwf : WF S) (hwv : WFV S) (hvo : S.vorder.Nodup)
    (hsh : ∀ c ∈ S.active, (S.cnst c).fatpipe = false) (eps : Rat) (h0 : 0 ≤ eps)
    (val0 : Nat → Rat) (fuel : Nat) (st : FbSt) (h : fbSolve S eps fuel val0 = some st) :
    (∀ c ∈ S.active, load S st.value c ≤ (S.cnst c).bound) ∧
    (∀ c ∈ S.active, ∀ e ∈ (S.cnst c).elems, 0 < e.2 →
       0 ≤ st.value e.1 ∧ (0 < (S.var e.1).bound → st.value e.1 ≤ (S.var e.1).bound)) := by
  have hI := fbLoop_inv S hwf hwv hsh eps h0 fuel _ st (fbInit_inv S hwf hwv hvo val0) h
  exact ⟨fun c hc => le_of_eq_of_le (load_eq_wsum S hwf st.value c hc (hsh c hc)) (hI.iR c hc),
    fun c hc e he hw => hI.irng e.1 (Or.inr ⟨c, hc, e, he, hw, rfl⟩)⟩

end SgVerif.Lmm
