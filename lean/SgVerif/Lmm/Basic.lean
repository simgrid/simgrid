/-
Elementary facts used by every proof about the LMM solvers.  The folds that compute a maximum or a minimum are specified
in Common/FoldMin.
-/
import Mathlib.Tactic.Linarith
import Mathlib.Tactic.Ring
import Mathlib.Tactic.Positivity
import SgVerif.Lmm.Model
import SgVerif.Common.FoldMin

namespace SgVerif.Lmm

@[simp] theorem upd_same {α : Type} (f : Nat → α) (i : Nat) (x : α) : upd f i x i = x := by simp [upd]
theorem upd_other {α : Type} (f : Nat → α) (i j : Nat) (x : α) (h : j ≠ i) : upd f i x j = f j := by simp [upd, h]
theorem upd_self {α : Type} (f : Nat → α) (i : Nat) : upd f i (f i) = f := by
  funext j; unfold upd; split
  · rw [‹j = i›]
  · rfl

theorem dblPos_zero (x : Rat) : dblPos x 0 = true ↔ 0 < x := by simp [dblPos]
theorem dblUpdate_zero_of_le (x v : Rat) (h : v ≤ x) : dblUpdate x v 0 = x - v :=
  if_neg (not_lt.mpr (sub_nonneg.mpr h))
theorem dblUpdate_zero_nonneg (x v : Rat) : 0 ≤ dblUpdate x v 0 := by
  unfold dblUpdate; split
  · exact le_refl 0
  · exact not_lt.mp ‹_›
theorem dblEq_zero (a b : Rat) : dblEq a b 0 = true ↔ a = b := by
  unfold dblEq
  constructor
  · intro h
    simp only [Bool.or_eq_true, decide_eq_true_eq] at h
    rcases h with h | h
    · linarith [h.1, h.2]
    · exact h
  · intro h; simp [h]

def sumBy (f : Nat × Rat → Rat) : List (Nat × Rat) → Rat
  | [] => 0
  | e :: t => f e + sumBy f t

@[simp] theorem sumBy_nil (f : Nat × Rat → Rat) : sumBy f [] = 0 := rfl
@[simp] theorem sumBy_cons (f : Nat × Rat → Rat) (e) (t) : sumBy f (e :: t) = f e + sumBy f t := rfl

theorem sumBy_le_sumBy (f g : Nat × Rat → Rat) (l : List (Nat × Rat)) (h : ∀ e ∈ l, f e ≤ g e) : sumBy f l ≤ sumBy g l := by
  induction l with
  | nil => exact le_refl 0
  | cons a t ih =>
    rw [List.forall_mem_cons] at h
    exact add_le_add h.1 (ih h.2)

theorem sumBy_congr (f g : Nat × Rat → Rat) (l : List (Nat × Rat)) (h : ∀ e ∈ l, f e = g e) : sumBy f l = sumBy g l :=
  le_antisymm (sumBy_le_sumBy f g l fun e he => le_of_eq (h e he)) (sumBy_le_sumBy g f l fun e he => le_of_eq (h e he).symm)

theorem sumBy_zero (f : Nat × Rat → Rat) (l : List (Nat × Rat)) (h : ∀ e ∈ l, f e = 0) : sumBy f l = 0 := by
  induction l with
  | nil => rfl
  | cons a t ih =>
    rw [List.forall_mem_cons] at h
    rw [sumBy_cons, h.1, ih h.2, add_zero]

theorem sumBy_nonneg (f : Nat × Rat → Rat) (l : List (Nat × Rat)) (h : ∀ e ∈ l, 0 ≤ f e) : 0 ≤ sumBy f l :=
  le_of_eq_of_le (sumBy_zero (fun _ => 0) l fun _ _ => rfl).symm (sumBy_le_sumBy _ f l h)

theorem sumBy_add (f g : Nat × Rat → Rat) (l : List (Nat × Rat)) :
    sumBy (fun e => f e + g e) l = sumBy f l + sumBy g l := by
  induction l with
  | nil => simp
  | cons a t ih => simp only [sumBy_cons, ih]; ring

theorem sumBy_mul (k : Rat) (g : Nat × Rat → Rat) (l : List (Nat × Rat)) : sumBy (fun e => k * g e) l = k * sumBy g l := by
  induction l with
  | nil => simp
  | cons a t ih => simp only [sumBy_cons, ih]; ring

theorem sumBy_lin (f f' g : Nat × Rat → Rat) (k : Rat) (l : List (Nat × Rat))
    (h : ∀ e ∈ l, f' e = f e + k * g e) : sumBy f' l = sumBy f l + k * sumBy g l := by
  rw [sumBy_congr f' _ l h, sumBy_add, sumBy_mul]

theorem sumBy_sub (f g : Nat × Rat → Rat) (l : List (Nat × Rat)) :
    sumBy (fun e => f e - g e) l = sumBy f l - sumBy g l := by
  rw [sumBy_lin f _ g (-1) l fun e _ => by ring]; ring

theorem sumBy_le_of_mem (f : Nat × Rat → Rat) (l : List (Nat × Rat)) (h : ∀ e ∈ l, 0 ≤ f e) (e) (he : e ∈ l) :
    f e ≤ sumBy f l := by
  induction l with
  | nil => simp at he
  | cons a t ih =>
    rw [List.forall_mem_cons] at h
    have ht := sumBy_nonneg f t h.2
    rw [sumBy_cons]
    rcases List.mem_cons.mp he with rfl | he
    · linarith
    · linarith [ih h.2 he]

theorem sumBy_pos_exists (f : Nat × Rat → Rat) (l : List (Nat × Rat)) (h : 0 < sumBy f l) : ∃ e ∈ l, 0 < f e := by
  by_contra hno
  have := sumBy_le_sumBy f (fun _ => 0) l fun e he => not_lt.mp fun hp => hno ⟨e, he, hp⟩
  rw [sumBy_zero (fun _ => 0) l fun _ _ => rfl] at this
  exact absurd h (not_lt.mpr this)

theorem sumBy_neg_exists (f : Nat × Rat → Rat) (l : List (Nat × Rat)) (hs : sumBy f l ≤ 0) (e : Nat × Rat) (he : e ∈ l)
    (hp : 0 < f e) : ∃ e' ∈ l, f e' < 0 := by
  by_contra hno
  have := sumBy_le_of_mem f l (fun a ha => not_lt.mp fun hlt => hno ⟨a, ha, hlt⟩) e he
  linarith

theorem sumBy_indicator (p : Nat × Rat → Bool) (u : Rat) (l : List (Nat × Rat)) :
    sumBy (fun e => if p e then u else 0) l = ((l.filter p).length : Rat) * u := by
  induction l with
  | nil => simp
  | cons a t ih =>
    simp only [sumBy_cons, ih, List.filter_cons]
    cases hp : p a with
    | true => simp; ring
    | false => simp

/-- a fold whose step adds a term that depends on the element only is a `sumBy` -/
theorem foldl_add (g : Rat → Nat × Rat → Rat) (f : Nat × Rat → Rat) (h : ∀ a e, g a e = a + f e) (l : List (Nat × Rat))
    (a : Rat) : l.foldl g a = a + sumBy f l := by
  induction l generalizing a with
  | nil => simp
  | cons e t ih => rw [List.foldl_cons, ih, sumBy_cons, h, add_assoc]

theorem foldl_cond_add (p : Nat × Rat → Prop) [DecidablePred p] (f : Nat × Rat → Rat) (l : List (Nat × Rat)) (a : Rat) :
    l.foldl (fun s e => if p e then s + f e else s) a = a + sumBy (fun e => if p e then f e else 0) l :=
  foldl_add _ _ (fun a e => by split <;> simp) l a

/-- weight of variable `v` in constraint list / of constraint `c` in a variable's list -/
def wOf (i : Nat) (l : List (Nat × Rat)) : Rat := sumBy (fun e => if e.1 = i then e.2 else 0) l

@[simp] theorem wOf_nil (i : Nat) : wOf i [] = 0 := rfl
theorem wOf_cons_ne (c c0 : Nat) (w : Rat) (L : List (Nat × Rat)) (h : c ≠ c0) : wOf c ((c0, w) :: L) = wOf c L := by
  simp [wOf, Ne.symm h]
theorem wOf_cons_eq (c0 : Nat) (w : Rat) (L : List (Nat × Rat)) : wOf c0 ((c0, w) :: L) = w + wOf c0 L := by
  simp [wOf]

theorem wOf_nonneg (i : Nat) (l : List (Nat × Rat)) (h : ∀ e ∈ l, 0 ≤ e.2) : 0 ≤ wOf i l := by
  apply sumBy_nonneg; intro e he; split
  · exact h e he
  · exact le_refl 0

theorem wOf_ge_of_mem (l : List (Nat × Rat)) (h : ∀ e ∈ l, 0 ≤ e.2) (e : Nat × Rat) (he : e ∈ l) : e.2 ≤ wOf e.1 l := by
  have := sumBy_le_of_mem (fun a => if a.1 = e.1 then a.2 else 0) l
    (by intro a ha; split
        · exact h a ha
        · exact le_refl 0) e he
  simpa [wOf] using this

theorem swapRemove_spec (l : List Nat) (c : Nat) (hnd : l.Nodup) :
    (swapRemove l c).Nodup ∧ ∀ x, x ∈ swapRemove l c ↔ (x ∈ l ∧ x ≠ c) := by
  unfold swapRemove
  split
  · rename_i hc
    cases hl : l.getLast? with
    | none => rw [List.getLast?_eq_none_iff.mp hl] at hc; cases hc
    | some last =>
      obtain ⟨d, rfl⟩ := List.getLast?_eq_some_iff.mp hl
      obtain ⟨hd, -, hdisj⟩ := List.nodup_append.mp hnd
      have hlast : ∀ y ∈ d, y ≠ last := fun y hy => hdisj y hy last (List.mem_singleton_self _)
      -- `c` is the last entry or an earlier one, which is then overwritten by the last
      have hcd : last ≠ c → c ∈ d := fun h => (List.mem_append.mp hc).resolve_right fun h' => h (List.mem_singleton.mp h').symm
      rw [List.dropLast_concat]
      dsimp only
      refine ⟨List.Nodup.map_on (fun x hx y hy hxy => ?_) hd, fun x => ?_⟩
      · by_cases h1 : x = c <;> by_cases h2 : y = c <;> simp only [h1, h2, if_true, if_false] at hxy
        · rw [h1, h2]
        · exact absurd hxy.symm (hlast y hy)
        · exact absurd hxy (hlast x hx)
        · exact hxy
      · rw [List.mem_map, List.mem_append, List.mem_singleton]
        constructor
        · rintro ⟨y, hy, rfl⟩
          by_cases h1 : y = c
          · rw [if_pos h1]; exact ⟨Or.inr rfl, fun h => hlast y hy (h1.trans h.symm)⟩
          · rw [if_neg h1]; exact ⟨Or.inl hy, h1⟩
        · rintro ⟨hx | hx, hne⟩
          · exact ⟨x, hx, if_neg hne⟩
          · exact ⟨c, hcd (hx ▸ hne), by rw [if_pos rfl, hx]⟩
  · rename_i hc
    exact ⟨hnd, fun x => ⟨fun h => ⟨h, fun e => hc (e ▸ h)⟩, fun h => h.1⟩⟩

/-- number of entries of `l` that `f` has not marked yet: the measure by which both fixing loops (the solver's do-while,
the reference's `fill`) terminate -/
def unfixedCount (l : List Nat) (f : Nat → Bool) : Nat := (l.filter (fun v => !f v)).length

theorem unfixedCount_le (l : List Nat) (f : Nat → Bool) : unfixedCount l f ≤ l.length := List.length_filter_le _ _

theorem unfixedCount_zero (l : List Nat) (f : Nat → Bool) (h : unfixedCount l f = 0) : ∀ v ∈ l, f v = true := by
  intro v hv
  have := List.filter_eq_nil_iff.mp (List.length_eq_zero_iff.mp h) v hv
  cases hf : f v
  · rw [hf] at this; exact absurd rfl this
  · rfl

theorem unfixedCount_lt (l : List Nat) (f f' : Nat → Bool) (hmono : ∀ w, f w = true → f' w = true)
    (hu : ∃ u ∈ l, f u = false ∧ f' u = true) : unfixedCount l f' < unfixedCount l f := by
  have hsub : List.Sublist (l.filter (fun v => !f' v)) (l.filter (fun v => !f v)) := List.monotone_filter_right l fun v hv => by
    cases hf : f v
    · rfl
    · rw [hmono v hf] at hv; exact hv
  obtain ⟨u, hul, hf, hf'⟩ := hu
  refine lt_of_le_of_ne hsub.length_le fun h => ?_
  have hm : u ∈ l.filter (fun v => !f v) := List.mem_filter.mpr ⟨hul, by rw [hf]; rfl⟩
  rw [← hsub.length_eq.mp h, List.mem_filter, hf'] at hm
  exact Bool.false_ne_true hm.2

end SgVerif.Lmm
