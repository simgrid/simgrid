/-
What survives at a positive precision (`eps = sg_precision_workamount > 0`): every rate computed by
`MaxMin::maxmin_solve` is in [0, bound].  The bound round tests
`var.bound_ > 0 && double_equals(min_bound, bound_·penalty, eps)`: only a variable that HAS a bound can be set to its bound
(the guard is the fix of `maxmin-precision-bound-test-unbounded-variable`; without it a variable with `bound_ = -1` and
`min_bound + penalty < eps` was set to −1).
The capacity clause does NOT survive (C15.maxmin_feasible_eps_counterexample).
Invariant `PInv`: the constraints of the light table are active with remaining_ > 0 and usage_ > 0 (so min_usage > 0),
every rate is in range.
-/
import SgVerif.Lmm.Lemmas
namespace SgVerif.Lmm

structure PInv (S : Sys) (st : St) : Prop where
  li : ∀ c ∈ st.light, c ∈ S.active ∧ 0 < st.remaining c ∧ 0 < st.usage c
  nd : st.light.Nodup
  vr : ∀ c ∈ S.active, ∀ e ∈ (S.cnst c).elems,
    0 ≤ st.value e.1 ∧ (0 < (S.var e.1).bound → st.value e.1 ≤ (S.var e.1).bound)

theorem updCnst_P (S : Sys) (hwf : WF S) (eps : Rat) (h0 : 0 ≤ eps) (v : Nat) (st : St) (e : Nat × Rat) (hP : PInv S st) :
    PInv S (updCnst S eps v st e) := by
  refine ⟨fun c hc => ?_, updCnst_light_nodup S eps v st e hP.nd, ?_⟩
  · rw [mem_updCnst_light S eps v st e hP.nd c] at hc
    rw [updCnst_remaining, updCnst_usage]
    by_cases hcc : c = e.1
    · subst hcc
      rw [if_pos rfl] at hc
      rw [if_pos rfl, if_pos rfl]
      have hact := (hP.li _ hc.1).1
      exact ⟨hact, lt_of_le_of_lt (mul_nonneg (le_of_lt (hwf.cb_pos _ hact)) h0) hc.2.2, lt_of_le_of_lt h0 hc.2.1⟩
    · rw [if_neg hcc] at hc
      rw [if_neg hcc, if_neg hcc]; exact hP.li c hc
  · rw [(updCnst_fixed S eps v st e).2]; exact hP.vr

theorem fixVar_P (S : Sys) (hwf : WF S) (eps : Rat) (h0 : 0 ≤ eps) (st : St) (v : Nat) (x : Rat) (hP : PInv S st)
    (hx : 0 ≤ x) (hxb : 0 < (S.var v).bound → x ≤ (S.var v).bound) : PInv S (fixVar S eps st v x) := by
  refine foldl_inv (fun s e => updCnst_P S hwf eps h0 v s e) _ _ ⟨hP.li, hP.nd, fun c hc e he => ?_⟩
  dsimp only
  by_cases h : e.1 = v
  · rw [h, upd_same]; exact ⟨hx, hxb⟩
  · rw [upd_other _ _ _ _ h]; exact hP.vr c hc e he

theorem fixLoop_P (S : Sys) (hwf : WF S) (eps : Rat) (h0 : 0 ≤ eps)
    (mb mu : Rat) (hmu : 0 ≤ mu) (sv : List Nat) (hsv : ∀ v ∈ sv, 0 < (S.var v).penalty)
    (hmb1 : mb < 0 → ∀ v ∈ sv, 0 < (S.var v).bound → mu ≤ (S.var v).bound * (S.var v).penalty) :
    ∀ st : St, PInv S st → PInv S (fixLoop S eps mb mu st sv) := by
  induction sv with
  | nil => intro st h; rw [fixLoop_nil]; exact h
  | cons v rest ih =>
    intro st hP
    rw [List.forall_mem_cons] at hsv
    rw [fixLoop_cons]
    refine ih hsv.2 (fun h u hu => hmb1 h u (List.mem_cons_of_mem _ hu)) _ ?_
    split
    · rename_i hp
      unfold target
      split
      · rename_i hmb
        exact fixVar_P S hwf eps h0 st v _ hP (div_nonneg hmu (le_of_lt hsv.1))
          fun hb => (div_le_iff₀ hsv.1).mpr (hmb1 hmb v List.mem_cons_self hb)
      · rename_i hmb
        exact fixVar_P S hwf eps h0 st v _ hP (le_of_lt (pick_bound S eps mb v hp hmb)) fun _ => le_refl _
    · exact hP

theorem reselect_P (S : Sys) (st : St) (hP : PInv S st) :
    PInv S (reselect st) ∧ SelQ (reselect st).remaining (reselect st).usage (reselect st).light (reselect st).minUsage (reselect st).sat := by
  obtain ⟨mu, sat, h, hQ⟩ := reselect_spec st
  replace hQ := hQ fun c hc => (hP.li c hc).2
  rw [h]
  -- `PInv` does not read `minUsage`/`sat`
  exact ⟨⟨hP.li, hP.nd, hP.vr⟩, hQ⟩

/-- what holds each time the body of the do-while is entered, at any precision -/
structure RP (S : Sys) (st : St) (sv : List Nat) : Prop where
  p : PInv S st
  sel : SelQ st.remaining st.usage st.light st.minUsage st.sat
  sv_pen : ∀ v ∈ sv, 0 < (S.var v).penalty
  sv_nil : st.sat = [] → sv = []

theorem rp_satVar (S : Sys) (hwf : WF S) (st : St) (hP : PInv S st)
    (hsel : SelQ st.remaining st.usage st.light st.minUsage st.sat) : RP S st (satVarUpdate S st []) := by
  refine ⟨hP, hsel, fun v hv => ?_, satVarUpdate_nil S st⟩
  obtain ⟨c, hc, e, he, _, rfl⟩ := sv_in_elems S st (fun c hc => (hP.li c hc).1) hsel v hv
  exact hwf.el_pen c hc e he

theorem round_P (S : Sys) (hwf : WF S) (eps : Rat) (h0 : 0 ≤ eps)
    (st : St) (sv : List Nat) (h : RP S st sv) :
    RP S (round S eps st sv) (satVarUpdate S (round S eps st sv) []) := by
  unfold round
  have hfix : PInv S (fixLoop S eps (minBound S st.minUsage sv) st.minUsage st sv) := by
    by_cases hne : sv = []
    · rw [hne, fixLoop_nil]; exact h.p
    · have hm : 0 < st.minUsage := by
        rcases h.sel with ⟨_, _, hs⟩ | ⟨_, hm, _⟩
        · exact absurd (h.sv_nil hs) hne
        · exact hm
      refine fixLoop_P S hwf eps h0 _ _ (le_of_lt hm) sv h.sv_pen (fun hneg u hu hb => ?_) st h.p
      exact not_lt.mp fun hlt => (minBound_spec S st.minUsage sv h.sv_pen).1 hneg u hu ⟨hb, hlt⟩
  obtain ⟨h1, h2⟩ := reselect_P S _ hfix
  exact rp_satVar S hwf _ h1 h2

/-- with `eps < 1` no active constraint is skipped by the INIT pass: it does what it does at `eps = 0` -/
theorem initAll_eps (S : Sys) (hwf : WF S) (eps : Rat) (h1 : eps < 1) (val0 : Nat → Rat) :
    initAll S eps val0 = initAll S 0 val0 := by
  unfold initAll
  refine List.foldl_ext _ _ _ fun s c hc => ?_
  have hb := hwf.cb_pos c hc
  unfold initCnst
  have e1 : dblPos (S.cnst c).bound ((S.cnst c).bound * eps) = true := by
    simp only [dblPos, decide_eq_true_eq]; exact mul_lt_of_lt_one_right hb h1
  have e2 : dblPos (S.cnst c).bound ((S.cnst c).bound * 0) = true := by
    simp only [dblPos, decide_eq_true_eq, mul_zero]; exact hb
  simp only [e1, e2]

end SgVerif.Lmm
