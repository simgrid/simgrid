/- The `≤` forms of core's `Rat.div_lt_iff` and `Rat.lt_div_iff`.  Core only. -/
namespace SgVerif

theorem rat_div_le_iff {a b c : Rat} (hb : 0 < b) : a / b ≤ c ↔ a ≤ c * b := by
  rw [← Rat.not_lt, ← Rat.not_lt, Rat.lt_div_iff hb]

theorem rat_le_div_iff {a b c : Rat} (hc : 0 < c) : a ≤ b / c ↔ a * c ≤ b := by
  rw [← Rat.not_lt, ← Rat.not_lt, Rat.div_lt_iff hc]

end SgVerif
