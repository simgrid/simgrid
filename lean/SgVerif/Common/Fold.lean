/-
`Pre R`: `R` relates a state to a later one, reflexively and transitively.  If `R` holds across each of the updates a
function is composed of, it holds across the function; a fold is the case used most.  Core only.
-/
namespace SgVerif

theorem ite_pred {α : Sort _} (P : α → Prop) {c : Prop} [Decidable c] {a b : α} (ha : P a) (hb : P b) :
    P (if c then a else b) := by
  split <;> assumption

theorem ite_error_eq_ok {ε α : Type _} {c : Prop} [Decidable c] {e : ε} {x : Except ε α} {v : α} :
    (if c then .error e else x) = .ok v ↔ ¬c ∧ x = .ok v := by
  split <;> simp [*]

theorem foldl_inv {σ ι : Type _} {P : σ → Prop} {f : σ → ι → σ} (h : ∀ s i, P s → P (f s i)) (l : List ι) (s : σ)
    (hs : P s) : P (l.foldl f s) :=
  List.foldlRecOn l f hs fun s hs i _ => h s i hs

structure Pre {σ : Type _} (R : σ → σ → Prop) : Prop where
  refl : ∀ s, R s s
  trans : ∀ {a b c}, R a b → R b c → R a c

namespace Pre
variable {σ : Type _} {R S : σ → σ → Prop}

theorem foldl_mem (hR : Pre R) {ι : Type _} {f : σ → ι → σ} (l : List ι) (hf : ∀ s, ∀ i ∈ l, R s (f s i)) (s : σ) :
    R s (l.foldl f s) :=
  List.foldlRecOn l f (hR.refl s) fun t ht i hi => hR.trans ht (hf t i hi)

theorem foldl (hR : Pre R) {ι : Type _} {f : σ → ι → σ} (l : List ι) (hf : ∀ s i, R s (f s i)) (s : σ) :
    R s (l.foldl f s) :=
  hR.foldl_mem l (fun s i _ => hf s i) s

theorem ite (hR : Pre R) {c : Prop} [Decidable c] {s t : σ} (h : R s t) : R s (if c then t else s) :=
  ite_pred (R s) h (hR.refl s)

theorem eqOn {β : Sort _} (f : σ → β) : Pre (fun s s' => f s' = f s) := ⟨fun _ => rfl, fun h1 h2 => h2.trans h1⟩
theorem imp (I : σ → Prop) : Pre (fun s s' => I s → I s') := ⟨fun _ => id, fun h1 h2 h => h2 (h1 h)⟩
theorem imp' (I : σ → Prop) : Pre (fun s s' => I s' → I s) := ⟨fun _ => id, fun h1 h2 h => h1 (h2 h)⟩

theorem and (hR : Pre R) (hS : Pre S) : Pre (fun s s' => R s s' ∧ S s s') :=
  ⟨fun s => ⟨hR.refl s, hS.refl s⟩, fun h1 h2 => ⟨hR.trans h1.1 h2.1, hS.trans h1.2 h2.2⟩⟩

end Pre
end SgVerif
