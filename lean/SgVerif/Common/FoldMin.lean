/-
What a fold computes that keeps the maximum, or the minimum, of a rational quantity over the selected elements of a list.
Core only.
-/
namespace SgVerif

/-- the shape of the FATPIPE `usage_` and `get_load()` loops -/
theorem foldMax_spec {α : Type} (step : Rat → α → Rat) (p : α → Prop) (g : α → Rat)
    (hp : ∀ u e, p e → step u e = if u < g e then g e else u) (hn : ∀ u e, ¬ p e → step u e = u) (l : List α) :
    ∀ u0 : Rat, u0 ≤ l.foldl step u0 ∧ (∀ e ∈ l, p e → g e ≤ l.foldl step u0) ∧
      (l.foldl step u0 = u0 ∨ ∃ e ∈ l, p e ∧ g e = l.foldl step u0) := by
  induction l with
  | nil => intro u0; exact ⟨Rat.le_refl, fun _ h => absurd h List.not_mem_nil, Or.inl rfl⟩
  | cons a t ih =>
    intro u0
    obtain ⟨i1, i2, i3⟩ := ih (step u0 a)
    rw [List.foldl_cons]
    have h1 : u0 ≤ step u0 a ∧ (p a → g a ≤ step u0 a) ∧ (step u0 a = u0 ∨ (p a ∧ g a = step u0 a)) := by
      by_cases ha : p a
      · rw [hp u0 a ha]
        split
        · exact ⟨Rat.le_of_lt ‹_›, fun _ => Rat.le_refl, Or.inr ⟨ha, rfl⟩⟩
        · exact ⟨Rat.le_refl, fun _ => Rat.not_lt.mp ‹_›, Or.inl rfl⟩
      · rw [hn u0 a ha]; exact ⟨Rat.le_refl, fun h => absurd h ha, Or.inl rfl⟩
    refine ⟨Rat.le_trans h1.1 i1, ?_, ?_⟩
    · intro e he hpe
      rcases List.mem_cons.mp he with rfl | he
      · exact Rat.le_trans (h1.2.1 hpe) i1
      · exact i2 e he hpe
    · rcases i3 with h | ⟨e, he, h⟩
      · rcases h1.2.2 with h2 | h2
        · exact Or.inl (h.trans h2)
        · exact Or.inr ⟨a, List.mem_cons_self, h2.1, h2.2.trans h.symm⟩
      · exact Or.inr ⟨e, List.mem_cons_of_mem _ he, h⟩

/-- `o` is the least element of the candidates `C`, or `none` when there is none -/
def MinOf (C : Rat → Prop) (o : Option Rat) : Prop :=
  (o = none → ∀ t, ¬ C t) ∧ ∀ t, o = some t → C t ∧ ∀ t', C t' → t ≤ t'

theorem minOf_none : MinOf (fun _ => False) none := ⟨fun _ _ h => h, fun _ h => nomatch h⟩

theorem MinOf.congr {C C' : Rat → Prop} {o : Option Rat} (h : MinOf C o) (hc : ∀ t, C t ↔ C' t) : MinOf C' o :=
  ⟨fun hn t ht => h.1 hn t ((hc t).mpr ht), fun t ht => ⟨(hc t).mp (h.2 t ht).1, fun t' ht' => (h.2 t ht).2 t' ((hc t').mpr ht')⟩⟩

/-- one more candidate -/
theorem MinOf.insert {C : Rat → Prop} (x : Rat) {m : Option Rat} : MinOf C m →
    MinOf (fun t => C t ∨ x = t) (some (match m with | none => x | some y => if x < y then x else y)) := by
  intro h
  refine ⟨fun hn => (nomatch hn), fun t ht => ?_⟩
  cases ht
  cases m with
  | none => exact ⟨Or.inr rfl, fun t' ht' => ht'.elim (fun hc => absurd hc (h.1 rfl t')) (fun e => e ▸ Rat.le_refl)⟩
  | some y =>
    obtain ⟨hy, hmin⟩ := h.2 y rfl
    dsimp only
    split
    · exact ⟨Or.inr rfl, fun t' ht' =>
        ht'.elim (fun hc => Rat.le_trans (Rat.le_of_lt ‹_›) (hmin t' hc)) (fun e => e ▸ Rat.le_refl)⟩
    · exact ⟨Or.inl hy, fun t' ht' => ht'.elim (hmin t') (fun e => e ▸ Rat.not_lt.mp ‹_›)⟩

/-- A minimum fold adds the selected `g x` to the candidates.  The accumulator is read through `val` (`none` = no element
selected yet) because it is an `Option` in some loops (`Spec.minOpt`, `fbMinInc`) and a number with a negative sentinel in
others (`min_bound`). -/
theorem foldMin_spec {α β : Type} (val : β → Option Rat) (step : β → α → β) (cond : α → Prop) (g : α → Rat) (l : List α)
    (hs1 : ∀ a, ∀ x ∈ l, cond x → val (step a x) = some (match val a with | none => g x | some y => if g x < y then g x else y))
    (hs2 : ∀ a, ∀ x ∈ l, ¬ cond x → val (step a x) = val a) :
    ∀ (a0 : β) {C : Rat → Prop}, MinOf C (val a0) →
      MinOf (fun t => C t ∨ ∃ x ∈ l, cond x ∧ g x = t) (val (l.foldl step a0)) := by
  induction l with
  | nil => intro a0 C h; exact h.congr fun t => ⟨Or.inl, fun h' => h'.elim id fun ⟨_, hx, _⟩ => nomatch hx⟩
  | cons x t ih =>
    intro a0 C h
    have ih' := @ih (fun a y hy => hs1 a y (List.mem_cons_of_mem _ hy)) (fun a y hy => hs2 a y (List.mem_cons_of_mem _ hy))
      (step a0 x)
    rw [List.foldl_cons]
    by_cases hc : cond x
    · refine (ih' (hs1 a0 x List.mem_cons_self hc ▸ h.insert (g x))).congr fun t' => ?_
      simp only [List.mem_cons, or_and_right, exists_or, exists_eq_left, hc, true_and, or_assoc]
    · refine (ih' (hs2 a0 x List.mem_cons_self hc ▸ h)).congr fun t' => ?_
      simp only [List.mem_cons, or_and_right, exists_or, exists_eq_left, hc, false_and, false_or]

end SgVerif
