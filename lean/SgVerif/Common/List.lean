/-
List facts that several directories use and core does not have.  Core only.
-/
namespace SgVerif

theorem filterMap_congr_ptw {α β : Type _} {f g : α → Option β} {l : List α} (h : ∀ x ∈ l, f x = g x) :
    l.filterMap f = l.filterMap g := by
  induction l with
  | nil => rfl
  | cons a t ih =>
    rw [List.filterMap_cons, List.filterMap_cons, h a List.mem_cons_self, ih (fun x hx => h x (List.mem_cons_of_mem _ hx))]

theorem length_flatMap_const {α β : Type _} (l : List α) (f : α → List β) (n : Nat) (h : ∀ a ∈ l, (f a).length = n) :
    (l.flatMap f).length = l.length * n := by
  rw [List.length_flatMap, List.map_congr_left (g := fun _ => n) h, List.map_const', List.sum_replicate_nat]

theorem getD_map_range {β : Type _} (n e : Nat) (f : Nat → β) {d : β} (he : e < n) : ((List.range n).map f).getD e d = f e := by
  simp [List.getD_eq_getElem?_getD, he]

theorem nodup_concat {α : Type _} {l : List α} {x : α} (h : l.Nodup) (hx : x ∉ l) : (l ++ [x]).Nodup :=
  List.nodup_append.mpr ⟨h, List.nodup_cons.mpr ⟨List.not_mem_nil, List.nodup_nil⟩,
    fun y hy z hz e => hx (by rw [← List.mem_singleton.mp hz, ← e]; exact hy)⟩

theorem foldl_max_le (l : List Nat) (a x : Nat) : l.foldl max a ≤ x ↔ a ≤ x ∧ ∀ y ∈ l, y ≤ x := by
  induction l generalizing a with
  | nil => simp
  | cons b t ih =>
    simp only [List.foldl_cons, ih, List.mem_cons, forall_eq_or_imp, Nat.max_le, and_assoc]

/-- `g` takes the first element that passes the test `p` out of a list and returns it with the list without it: any function
with these two equations (the matching functions of the mailbox, message-queue and SMPI models are such functions) -/
structure IsTakeFirst {β : Type _} (p : β → Bool) (g : List β → Option (β × List β)) : Prop where
  nil : g [] = none
  cons : ∀ x xs, g (x :: xs) = if p x then some (x, xs) else (g xs).map fun (y, r) => (y, x :: r)

namespace IsTakeFirst
variable {β : Type _} {p : β → Bool} {g : List β → Option (β × List β)}

/-- such a function is `find?` paired with `eraseP` -/
theorem eq (hg : IsTakeFirst p g) (l : List β) : g l = (l.find? p).map fun x => (x, l.eraseP p) := by
  induction l with
  | nil => exact hg.nil
  | cons y ys ih =>
    rw [hg.cons, ih, List.find?_cons, List.eraseP_cons]
    cases p y
    · cases ys.find? p <;> rfl
    · rfl

theorem some (hg : IsTakeFirst p g) {l : List β} {x : β} {rest : List β} (h : g l = some (x, rest)) :
    ∃ pre post, l = pre ++ x :: post ∧ rest = pre ++ post ∧ p x = true ∧ ∀ y ∈ pre, p y = false := by
  rw [hg.eq] at h
  obtain ⟨x', hf, he⟩ := Option.map_eq_some_iff.mp h
  cases he
  obtain ⟨hx, pre, post, rfl, hpre⟩ := List.find?_eq_some_iff_append.mp hf
  have hpre' : ∀ y ∈ pre, p y = false := fun y hy => by simpa using hpre y hy
  refine ⟨pre, post, rfl, ?_, hx, hpre'⟩
  rw [List.eraseP_append_right _ fun y hy => by rw [hpre' y hy]; nofun, List.eraseP_cons_of_pos hx]

theorem sublist (hg : IsTakeFirst p g) {l : List β} {x : β} {rest : List β} (h : g l = Option.some (x, rest)) :
    rest.Sublist l := by
  rw [hg.eq] at h
  obtain ⟨_, _, he⟩ := Option.map_eq_some_iff.mp h
  cases he
  exact List.eraseP_sublist

theorem none (hg : IsTakeFirst p g) {l : List β} : g l = none ↔ ∀ x ∈ l, p x = false := by
  rw [hg.eq, Option.map_eq_none_iff, List.find?_eq_none]
  simp only [Bool.not_eq_true]

end IsTakeFirst

end SgVerif
