/-
Lists that grow at the end: the deques of C08 / C09 and their histories of calls, the execution of C42, the request storage
of C37, the emitted order of C44, the dict chains of C50, the timer, heap and activity lists of TimeCore.
-/
namespace SgVerif

theorem forall_mem_snoc {α : Type} {p : α → Prop} {l : List α} {a : α} (hl : ∀ x ∈ l, p x) (ha : p a) :
    ∀ x ∈ l ++ [a], p x :=
  List.forall_mem_append.mpr ⟨hl, List.forall_mem_singleton.mpr ha⟩

theorem pairwise_snoc {α : Type} {R : α → α → Prop} {l : List α} {a : α} (hl : l.Pairwise R) (h : ∀ x ∈ l, R x a) :
    (l ++ [a]).Pairwise R :=
  List.pairwise_append.mpr ⟨hl, List.pairwise_singleton _ _, fun x hx _ hy => List.mem_singleton.mp hy ▸ h x hx⟩

theorem getElem?_snoc_of_some {α : Type} {l : List α} {i : Nat} {x e : α} (h : l[i]? = some x) :
    (l ++ [e])[i]? = some x := by
  rw [List.getElem?_append_left (List.getElem?_eq_some_iff.mp h).1]; exact h

theorem foldl_snoc {σ ε : Type} {step : σ → ε → σ} {P : List ε → σ → Prop}
    (hstep : ∀ {h s} e, P h s → P (h ++ [e]) (step s e)) (h : List ε) :
    ∀ {h0 s}, P h0 s → P (h0 ++ h) (h.foldl step s) := by
  induction h with
  | nil => intro h0 s hp; rwa [List.append_nil]
  | cons e es ih => intro h0 s hp; rw [List.append_cons]; exact ih (hstep e hp)

end SgVerif
