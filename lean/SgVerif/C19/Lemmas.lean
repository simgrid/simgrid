import SgVerif.C19.Model
/-
C19 — helper lemmas: the relation kept between the Lazy view (`LAction`) and the Full view (`C21.Action`) of one action
through user operations, solver rounds and time advances (exact arithmetic, `prec = 0`).
-/
namespace SgVerif.C19
open SgVerif.C21

def p0 : Prec := { work := 0, timing := 0 }

/-- what `get_remains()` would return now: the stored `remains` minus what the last rate consumed since `last_update` -/
def virt (a : LAction) (now : Rat) : Rat := a.remains - a.lastValue * (now - a.lastUpdate)

theorem doubleUpdate_prec_zero {v d : Rat} (h : d ≤ v) : doubleUpdate 0 v d = v - d := by
  unfold doubleUpdate; simp only; split <;> grind

/-- the Lazy and the Full view of the same started CPU action (no deadline, positive priority) at date `now` -/
structure Rel (now : Rat) (a : LAction) (f : Action) : Prop where
  /-- Full's `remains` is what Lazy's `get_remains()` would return -/
  rem : f.remains = virt a now
  vp : a.varPenalty = f.varPenalty
  pn : a.penalty = f.penalty
  vv : a.varValue = f.varValue
  fac : f.factor = 1
  nsl : f.susp ≠ .sleeping
  pen : 0 < a.penalty
  nf : a.finished = false
  nl : a.htype ≠ .latency
  md : a.maxDuration = none
  vpn : 0 ≤ a.varPenalty
  /-- only enabled variables are in the modified set -/
  men : a.modified = true → 0 < a.varPenalty
  /-- outside the modified set `last_value_` is the rate of the variable -/
  lv : a.modified = false → a.lastValue = (if 0 < a.varPenalty then a.varValue else 0)
  lv0 : 0 ≤ a.lastValue
  lu : a.lastUpdate ≤ now
  alive : 0 < f.remains
  dis0 : a.varPenalty = 0 → a.varValue = 0
  /-- the heap holds the date at which `remains` is exhausted at the current rate -/
  date : a.modified = false → 0 < a.varPenalty → 0 < a.lastValue →
    a.heap = some (a.lastUpdate + a.remains / a.lastValue)

theorem Rel.prod_nonneg {now : Rat} {a : LAction} {f : Action} (h : Rel now a f) :
    0 ≤ a.lastValue * (now - a.lastUpdate) :=
  Rat.mul_nonneg h.lv0 (by have := h.lu; grind)

theorem remains_pos {now : Rat} {a : LAction} (hv : 0 < virt a now) (hfit : 0 ≤ a.lastValue * (now - a.lastUpdate)) :
    0 < a.remains := by
  unfold virt at hv; grind

theorem amount_le {now : Rat} {a : LAction} (hv : 0 < virt a now) : a.lastValue * (now - a.lastUpdate) ≤ a.remains := by
  unfold virt at hv; grind

/-- `virt` of an action just brought up to date (`lastUpdate = now`) is its `remains` -/
theorem sub_mul_sub_self (x r now : Rat) : x - r * (now - now) = x := by
  rw [Rat.sub_self, Rat.mul_zero, Rat.sub_eq_add_neg, Rat.neg_zero, Rat.add_zero]

theorem Rel.not_modified {now : Rat} {a : LAction} {f : Action} (h : Rel now a f) (h0 : a.varPenalty = 0) :
    a.modified = false := by
  cases hm : a.modified with
  | false => rfl
  | true => exact absurd h0 (Rat.ne_of_gt (h.men hm))

theorem Rel.lmmSetPenalty_zero {now : Rat} {a : LAction} {f : Action} (h : Rel now a f) :
    a.lmmSetPenalty 0 = { a with varPenalty := 0, varValue := 0, modified := false } := by
  unfold LAction.lmmSetPenalty
  split
  · rename_i h0
    have hm := h.not_modified h0.symm
    have hv := h.dis0 h0.symm
    clear h
    cases a
    simp only at h0 hm hv
    subst h0 hm hv
    rfl
  · simp only [Rat.lt_irrefl, if_false, decide_false]

/-- `suspend()` brings `remains` up to date before disabling the variable, and the action leaves the heap -/
theorem rel_suspend {now : Rat} {a : LAction} {f : Action} (h : Rel now a f) :
    Rel now (a.suspend p0 now) f.suspend := by
  unfold LAction.suspend LAction.updateRemainsLazy Action.suspend
  rw [if_pos h.nsl, h.lmmSetPenalty_zero]
  have hv : 0 < virt a now := h.rem ▸ h.alive
  simp only [h.nf, h.pen, remains_pos hv h.prod_nonneg, p0, doubleUpdate_prec_zero (amount_le hv), Rat.lt_irrefl, if_true,
    if_false, not_false_eq_true, and_self, Bool.false_eq_true]
  exact { h with
    rem := (h.rem.trans (sub_mul_sub_self _ _ _).symm :), vp := rfl, vv := rfl, nsl := nofun, nf := rfl, nl := nofun,
    vpn := Rat.le_refl, men := nofun, lv := fun _ => rfl, lv0 := Rat.le_refl, lu := Rat.le_refl,
    dis0 := fun _ => rfl, date := fun _ h0 => absurd h0 Rat.lt_irrefl }

/-- when the LMM penalty does not change the heap entry is kept; otherwise the action enters the modified set -/
theorem rel_resume {now : Rat} {a : LAction} {f : Action} (h : Rel now a f) :
    Rel now a.resume f.resume := by
  unfold LAction.resume LAction.lmmSetPenalty Action.resume
  rw [if_pos h.nsl]
  by_cases hq : a.penalty = a.varPenalty
  · rw [if_pos hq, if_pos hq]
    exact { h with vp := hq.symm.trans h.pn, nsl := nofun }
  · rw [if_neg hq, if_neg hq]
    simp only [h.pen, if_true, decide_true]
    exact { h with
      vp := h.pn, nsl := nofun, nl := nofun, vpn := Rat.le_of_lt h.pen, men := fun _ => h.pen, lv := nofun,
      dis0 := fun h0 => absurd h0 (Rat.ne_of_gt h.pen), date := nofun }

theorem rel_setPenalty {now : Rat} {a : LAction} {f : Action} (q : Rat) (hqp : 0 < q) (h : Rel now a f) :
    Rel now (a.setPenalty q) (f.setPenalty q) := by
  unfold LAction.setPenalty LAction.lmmSetPenalty Action.setPenalty
  simp only [hqp, if_true, decide_true]
  by_cases hq : q = a.varPenalty
  · rw [if_pos hq, if_pos hq]
    exact { h with vp := hq.symm, pn := rfl, pen := hqp }
  · rw [if_neg hq, if_neg hq]
    exact { h with
      vp := rfl, pn := rfl, pen := hqp, nl := nofun, vpn := Rat.le_of_lt hqp, men := fun _ => hqp, lv := nofun,
      dis0 := fun h0 => absurd h0 (Rat.ne_of_gt hqp), date := nofun }

/-- `set_bound` puts an enabled action in the modified set; a disabled one has `last_value_ = 0` -/
theorem rel_setBound {now : Rat} {a : LAction} {f : Action} (h : Rel now a f) :
    Rel now (a.setBound now) f := by
  unfold LAction.setBound
  rcases Rat.le_iff_lt_or_eq.mp h.vpn with hen | hdis
  · rw [decide_eq_true hen]
    split
    · exact { h with nl := nofun, men := fun _ => hen, lv := nofun, date := nofun }
    · exact { h with men := fun _ => hen, lv := nofun, date := nofun }
  · have hlv := h.lv (h.not_modified hdis.symm)
    have hnen : ¬ 0 < a.varPenalty := by rw [← hdis]; exact Rat.lt_irrefl
    rw [decide_eq_false hnen]
    split
    · exact { h with nl := nofun, men := nofun, lv := fun _ => hlv, date := fun _ h0 => absurd h0 hnen }
    · exact { h with men := nofun, lv := fun _ => hlv, date := fun _ h0 => absurd h0 hnen }

theorem rel_apply {now : Rat} {a : LAction} {f : Action} (o : UOp) (ho : OpOk o) (h : Rel now a f) :
    Rel now (a.apply p0 now o) (applyF f o) := by
  cases o with
  | suspend => exact rel_suspend h
  | resume => exact rel_resume h
  | setPenalty q => exact rel_setPenalty q ho h
  | setBound => exact rel_setBound h

theorem rel_ops {now : Rat} : ∀ (ops : List UOp) (a : LAction) (f : Action), (∀ o ∈ ops, OpOk o) → Rel now a f →
    Rel now (ops.foldl (LAction.apply p0 now) a) (ops.foldl applyF f) := by
  intro ops
  induction ops with
  | nil => intro a f _ h; exact h
  | cons o os ih =>
    intro a f ho h
    simp only [List.foldl]
    obtain ⟨ho1, ho'⟩ := List.forall_mem_cons.mp ho
    exact ih _ _ ho' (rel_apply o ho1 h)

/-- an action the Lazy loop handles normally: running, enabled, positive penalty, no deadline, not in latency.  It is all
`resolve_live` and the rate histories need; `Rel` gives it for an action in the modified set (`rel_resolve_modified`). -/
structure Live (a : LAction) : Prop where
  en : 0 < a.varPenalty
  pen : 0 < a.penalty
  nf : a.finished = false
  nl : a.htype ≠ .latency
  md : a.maxDuration = none
  mo : a.modified = true

theorem resolve_live (a : LAction) (now r : Rat) (h : Live a) (hv : 0 < virt a now)
    (hfit : 0 ≤ a.lastValue * (now - a.lastUpdate)) :
    a.resolve p0 now r =
      { a with modified := false, varValue := r, remains := virt a now, lastUpdate := now, lastValue := r,
               heap := if 0 < r then some (now + virt a now / r) else a.heap,
               htype := if 0 < r then .normal else a.htype } := by
  have hrem := remains_pos hv hfit
  have hle := amount_le hv
  have hnb : ¬ (a.penalty ≤ 0 ∨ a.htype = .latency) :=
    fun hc => hc.elim (fun hc => absurd h.pen (Rat.not_lt.mpr hc)) h.nl
  unfold virt at hv
  unfold LAction.resolve
  rw [if_neg (by simp [h.mo])]
  simp only [h.en, if_true, h.nf]
  rw [if_neg (by simp), if_neg hnb]
  unfold LAction.updateRemainsLazy
  simp only [hrem, if_true, h.en, h.md, p0, doubleUpdate_prec_zero hle, virt]
  by_cases hr : 0 < r
  · simp only [hr, if_true, hv]
  · simp only [hr, if_false]

theorem normal_or_kept_ne_latency {r : Rat} {t : HType} (h : t ≠ .latency) :
    (if 0 < r then HType.normal else t) ≠ .latency := by
  split
  · nofun
  · exact h

theorem rel_resolve_modified {now : Rat} {a : LAction} {f : Action} (r : Rat) (hr : 0 ≤ r) (h : Rel now a f)
    (hm : a.modified = true) :
    Rel now (a.resolve p0 now r) { f with varValue := r } ∧ (a.resolve p0 now r).modified = false := by
  have hen := h.men hm
  rw [resolve_live a now r ⟨hen, h.pen, h.nf, h.nl, h.md, hm⟩ (by rw [← h.rem]; exact h.alive) h.prod_nonneg]
  exact ⟨{ h with
    rem := (h.rem.trans (sub_mul_sub_self _ _ _).symm :), vv := rfl, nl := normal_or_kept_ne_latency h.nl, men := nofun,
    lv := fun _ => (if_pos hen).symm, lv0 := hr, lu := Rat.le_refl,
    dis0 := fun h0 => absurd h0 (Rat.ne_of_gt hen), date := fun _ _ h0 => if_pos h0 }, rfl⟩

/-- a round in which the action is not in the modified set: nothing is recomputed — the date in the heap must still be
the right one (field `date` of `Rel`) -/
theorem rel_resolve_untouched {now : Rat} {a : LAction} {f : Action} (r : Rat) (h : Rel now a f)
    (hm : a.modified = false) (hsame : 0 < a.varPenalty → r = a.varValue) :
    Rel now (a.resolve p0 now r) (if 0 < f.varPenalty then { f with varValue := r } else f) ∧
    (a.resolve p0 now r).modified = false := by
  have hid : a.resolve p0 now r = a := by unfold LAction.resolve; simp [hm]
  rw [hid]
  refine ⟨?_, hm⟩
  split
  · rename_i hen
    exact { h with vv := (hsame (by rw [h.vp]; exact hen)).symm }
  · exact h

/-- `solve()` + `next_occurring_event_lazy` after the user operations of the round -/
theorem rel_round {now : Rat} {a : LAction} {f : Action} (touch : Bool) (r : Rat) (hr : 0 ≤ r) (h : Rel now a f) :
    Rel now ((if 0 < a.varPenalty ∧ (touch = true ∨ r ≠ a.varValue) then { a with modified := true } else a).resolve p0 now r)
      (if 0 < f.varPenalty then { f with varValue := r } else f) ∧
    ((if 0 < a.varPenalty ∧ (touch = true ∨ r ≠ a.varValue) then { a with modified := true } else a).resolve p0 now r).modified
      = false := by
  by_cases hc : 0 < a.varPenalty ∧ (touch = true ∨ r ≠ a.varValue)
  · rw [if_pos hc, if_pos (by rw [← h.vp]; exact hc.1)]
    exact rel_resolve_modified r hr { h with men := fun _ => hc.1, lv := nofun, date := nofun } rfl
  · rw [if_neg hc]
    cases hm : a.modified with
    | true =>
      rw [if_pos (by rw [← h.vp]; exact h.men hm)]
      exact rel_resolve_modified r hr h hm
    | false =>
      exact rel_resolve_untouched r h hm (fun hen => by
        apply Classical.byContradiction; intro hne; exact hc ⟨hen, Or.inr hne⟩)

theorem Rel.rate_eq {now : Rat} {a : LAction} {f : Action} (h : Rel now a f) (hm : a.modified = false) :
    f.rate = a.lastValue := by
  rw [h.lv hm, Action.rate, ← h.vp, ← h.vv, h.fac, Rat.mul_one]

theorem rel_advance {now : Rat} {a : LAction} {f : Action} (dur : Rat) (hd : 0 ≤ dur) (h : Rel now a f)
    (hm : a.modified = false) (hal : f.rate * dur < f.remains) :
    Rel (now + dur) a (f.updateRemains p0 (f.rate * dur)) := by
  unfold Action.updateRemains
  rw [p0, doubleUpdate_prec_zero (Rat.le_of_lt hal), h.rate_eq hm]
  rw [h.rate_eq hm] at hal
  have hrem := h.rem; have hlu := h.lu
  unfold virt at hrem
  exact { h with
    rem := by show f.remains - a.lastValue * dur = a.remains - a.lastValue * (now + dur - a.lastUpdate); grind
    lu := by grind
    alive := by show 0 < f.remains - a.lastValue * dur; grind }

theorem rel_step {now : Rat} {a : LAction} {f : Action} (s : Step) (hs : StepOk s) (h : Rel now a f)
    (hal : (fullSolve f s).rate * s.dur < (fullSolve f s).remains) :
    Rel (now + s.dur) (lazyStep p0 now a s) (fullStep p0 f s) ∧ (lazyStep p0 now a s).modified = false := by
  have h1 := rel_ops s.ops a f hs.1 h
  have h2 := rel_round s.touch s.rate hs.2.1 h1
  unfold lazyStep fullStep
  exact ⟨rel_advance s.dur hs.2.2 h2.1 h2.2 hal, h2.2⟩

theorem rel_run : ∀ (steps : List Step) (now : Rat) (a : LAction) (f : Action), Rel now a f →
    (∀ s ∈ steps, StepOk s) → StaysAlive p0 steps f →
    Rel (runOps p0 steps now a f).1 (runOps p0 steps now a f).2.1 (runOps p0 steps now a f).2.2 ∧
    ((steps ≠ [] ∨ a.modified = false) → (runOps p0 steps now a f).2.1.modified = false) := by
  intro steps
  induction steps with
  | nil =>
    intro now a f h _ _
    simp only [runOps]
    exact ⟨h, fun hc => by rcases hc with hc | hc; exact absurd rfl hc; exact hc⟩
  | cons s ss ih =>
    intro now a f h hok hal
    simp only [runOps]
    obtain ⟨hok1, hok'⟩ := List.forall_mem_cons.mp hok
    have hs := rel_step s hok1 h hal.1
    have := ih (now + s.dur) _ _ hs.1 hok' hal.2
    exact ⟨this.1, fun _ => this.2 (Or.inr hs.2)⟩

theorem rel_heap_date {now : Rat} {a : LAction} {f : Action} (h : Rel now a f) (hm : a.modified = false)
    (hr : 0 < f.rate) : a.heap = some (now + f.remains / f.rate) := by
  have hen : 0 < a.varPenalty := by
    unfold Action.rate at hr; rw [← h.vp] at hr; split at hr
    · assumption
    · exact absurd hr Rat.lt_irrefl
  rw [h.rate_eq hm] at hr ⊢
  rw [h.date hm hen hr, h.rem, virt]
  congr 1
  have hne : a.lastValue ≠ 0 := Rat.ne_of_gt hr
  grind

end SgVerif.C19
