import SgVerif.C19.Lemmas
import SgVerif.Common.Rat
/-
C19 — Update algorithms give the same timings (DESIGN §8 C19): for every history of rate changes, suspend/resume, bound and
penalty changes, the date at which the Lazy heap completes the action is the date at which Full's `remains` reaches 0, and
TI's integral inversion gives the date of stepping through the profile.  Exact arithmetic (`prec.work = 0`): the precision
clamps shift each date by less than `sg_precision_timing`, which the correspondence absorbs in its 1e-9 tolerance.
`lazy_eq_full_dates` holds on the code since the fix "re-setting an unchanged sharing penalty under the lazy update lost the
completion date of the action"; the `_regression` theorems are about the code before it (`setPenaltyPre`, `resumePre`).
`ti_integral_eq_partial` is inside one period of the profile: the cyclic reduction `floor(amount/total)` of
`CpuTiTmgr::solve` is not modelled.
-/
namespace SgVerif.C19
open SgVerif.C21

theorem work_nonneg : ∀ (segs : List Seg), (∀ s ∈ segs, 0 ≤ s.rate ∧ 0 ≤ s.dur) → 0 ≤ work segs
  | [], _ => Rat.le_refl
  | s :: ss, h =>
    have ⟨hs, h'⟩ := List.forall_mem_cons.mp h
    Rat.add_nonneg (Rat.mul_nonneg hs.1 hs.2) (work_nonneg ss h')

theorem lazy_seg (a : LAction) (now r dur : Rat) (h : Live a) (hv : 0 < virt a now)
    (hfit : 0 ≤ a.lastValue * (now - a.lastUpdate)) (hr : 0 ≤ r) (hd : 0 ≤ dur) :
    let b : LAction := { a.resolve p0 now r with modified := true }
    Live b ∧ virt b (now + dur) = virt a now - r * dur ∧ 0 ≤ b.lastValue * (now + dur - b.lastUpdate) := by
  rw [resolve_live a now r h hv hfit]
  refine ⟨⟨h.en, h.pen, h.nf, normal_or_kept_ne_latency h.nl, h.md, rfl⟩, ?_, ?_⟩
  · show virt a now - r * (now + dur - now) = _; grind
  · show 0 ≤ r * (now + dur - now); exact Rat.mul_nonneg hr (by grind)

/-- **Lazy = Full on `remains`**: through any history of rate changes during which the action stays alive, the remains
Lazy would report (`get_remains()`) equals Full's `remains`, at every segment boundary -/
theorem lazy_remains_eq_full : ∀ (segs : List Seg) (now : Rat) (a : LAction), Live a →
    (∀ s ∈ segs, 0 ≤ s.rate ∧ 0 ≤ s.dur) → 0 ≤ a.lastValue * (now - a.lastUpdate) → work segs < virt a now →
    ∃ t b, lazyRun p0 segs now a = (t, b) ∧ fullRun p0 segs now (virt a now) = (t, virt b t) ∧
      virt b t = virt a now - work segs ∧ Live b ∧ 0 ≤ b.lastValue * (t - b.lastUpdate) := by
  intro segs
  induction segs with
  | nil =>
    intro now a hl _ hf _
    exact ⟨now, a, rfl, rfl, by simp only [work]; grind, hl, hf⟩
  | cons s ss ih =>
    intro now a hl hs hf hw
    obtain ⟨hs0, hss⟩ := List.forall_mem_cons.mp hs
    have hwk := work_nonneg ss hss
    have hsd := Rat.mul_nonneg hs0.1 hs0.2
    simp only [work] at hw
    obtain ⟨hlb, hvb, hfb⟩ := lazy_seg a now s.rate s.dur hl (by grind) hf hs0.1 hs0.2
    obtain ⟨t, b, e1, e2, e3, hlt, hft⟩ := ih (now + s.dur) _ hlb hss hfb (by rw [hvb]; grind)
    refine ⟨t, b, e1, ?_, ?_, hlt, hft⟩
    · rw [← e2, hvb, fullRun, p0, doubleUpdate_prec_zero (by grind)]
    · rw [e3, hvb]; simp only [work]; grind

theorem full_completes_at (R r : Rat) (hr : 0 < r) :
    doubleUpdate 0 R (r * (R / r)) = 0 ∧ (∀ δ, 0 ≤ δ → δ < R / r → 0 < doubleUpdate 0 R (r * δ)) := by
  constructor
  · rw [Rat.mul_comm, Rat.div_mul_cancel (Rat.ne_of_gt hr), doubleUpdate_prec_zero Rat.le_refl, Rat.sub_self]
  · intro δ _ hδ
    have h := (Rat.lt_div_iff hr).mp hδ
    rw [doubleUpdate_prec_zero (by rw [Rat.mul_comm]; exact Rat.le_of_lt h), Rat.mul_comm]; grind

/-- special case of `lazy_eq_full_dates` (histories of rate changes).  After any such history, when the solver gives the
final rate `r > 0`, the completion date stored in the Lazy heap is `now + R/r`, where `R` is Full's `remains` at that date; and
Full, stepping at rate `r` (with arbitrary intermediate events), has `remains > 0` strictly before that date and exactly 0
at it — so `update_actions_state_full` finishes the action at the date at which `update_actions_state_lazy` pops it. -/
theorem lazy_eq_full_dates_rates (segs : List Seg) (t0 : Rat) (a : LAction) (r : Rat) (hr : 0 < r) (hl : Live a)
    (hs : ∀ s ∈ segs, 0 ≤ s.rate ∧ 0 ≤ s.dur) (hf : 0 ≤ a.lastValue * (t0 - a.lastUpdate)) (hw : work segs < virt a t0) :
    let L := lazyRun p0 segs t0 a
    let F := fullRun p0 segs t0 (virt a t0)
    (L.2.resolve p0 L.1 r).heap = some (F.1 + F.2 / r) ∧
    doubleUpdate 0 F.2 (r * (F.2 / r)) = 0 ∧
    (∀ δ, 0 ≤ δ → δ < F.2 / r → 0 < doubleUpdate 0 F.2 (r * δ)) := by
  obtain ⟨t, b, e1, e2, e3, hlb, hfb⟩ := lazy_remains_eq_full segs t0 a hl hs hf hw
  simp only [e1, e2]
  have hv : 0 < virt b t := by rw [e3]; grind
  rw [resolve_live b t r hlb hv hfb]
  exact ⟨if_pos hr, full_completes_at _ r hr⟩

/-- `suspend()` brings `remains` up to date before the variable is disabled: nothing is lost -/
theorem suspend_keeps_virtual (a : LAction) (now : Rat) (hl : Live a) (hv : 0 < virt a now)
    (hf : 0 ≤ a.lastValue * (now - a.lastUpdate)) :
    (a.suspend p0 now).remains = virt a now ∧ (a.suspend p0 now).lastValue = 0 ∧ (a.suspend p0 now).lastUpdate = now ∧
    (a.suspend p0 now).heap = none := by
  have hrem := remains_pos hv hf
  have hle := amount_le hv
  have hne : ¬ (0 : Rat) = a.varPenalty := by have := hl.en; grind
  unfold LAction.suspend LAction.lmmSetPenalty LAction.updateRemainsLazy
  simp only [hne, if_false, hl.nf, hl.pen, hrem, p0, doubleUpdate_prec_zero hle]
  simp [virt]

/-- a penalty change that really changes the LMM penalty puts the action in the modified set: the next round recomputes
its date (`resolve`) -/
theorem setPenalty_changed (a : LAction) (q : Rat) (hq : q ≠ a.varPenalty) (hpos : 0 < q) :
    (a.setPenalty q).modified = true ∧ (a.setPenalty q).heap = none ∧ (a.setPenalty q).varPenalty = q := by
  unfold LAction.setPenalty LAction.lmmSetPenalty
  simp [hq, hpos]

theorem resume_changed (a : LAction) (hq : a.penalty ≠ a.varPenalty) (hpos : 0 < a.penalty) :
    a.resume.modified = true ∧ a.resume.heap = none ∧ a.resume.varPenalty = a.penalty := by
  unfold LAction.resume LAction.lmmSetPenalty
  simp [hq, hpos]

theorem setBound_modified (a : LAction) (now : Rat) (h : 0 < a.varPenalty) : (a.setBound now).modified = true := by
  unfold LAction.setBound; split <;> simp [h]

/-- `set_sharing_penalty` with the penalty the variable already has leaves the whole Lazy state alone (heap entry and
`ActionHeap::Type` included): `update_variable_penalty` returns at once and `changed` is false -/
theorem setPenalty_noop_keeps (a : LAction) (hq : a.varPenalty = a.penalty) : a.setPenalty a.penalty = a := by
  cases a
  simp_all [LAction.setPenalty, LAction.lmmSetPenalty]

/-- `resume()` of an action whose variable is already enabled with its penalty (e.g. after a priority change made while
it was suspended, which re-enables the variable) only resets `suspended_` -/
theorem resume_noop_keeps (a : LAction) (hq : a.varPenalty = a.penalty) : a.resume = { a with suspended := false } := by
  unfold LAction.resume LAction.lmmSetPenalty
  simp [hq]

/-- **Regression (code before the fix).**  From any settled state (the action is not in the modified set, e.g. right after
a solve) `set_sharing_penalty` with the current penalty dropped the heap entry and left the action out of the modified
set; no later round gave it a date (`resolve` is the identity), whatever the solver computed — while Full completes it
(C21 `completion_exact`).  Witness on the library before the fix: `exec 1000 flops @100; update_priority(1)` at t=5 never
completed under cpu/optim:Lazy and completed at t=10 under Full (props/C19/corpus.txt). -/
theorem lazy_noop_penalty_regression (p : Prec) (a : LAction) (hm : a.modified = false)
    (hq : a.varPenalty = a.penalty) :
    ∀ t r, ((a.setPenaltyPre a.penalty).resolve p t r).heap = none ∧
           ((a.setPenaltyPre a.penalty).resolve p t r).modified = false ∧
           (((a.setPenaltyPre a.penalty).resolve p t r).updateStateLazy p t).finished = a.finished := by
  intro t r
  have h1 : a.setPenaltyPre a.penalty = { a with heap := none, htype := .unset } := by
    unfold LAction.setPenaltyPre LAction.lmmSetPenalty; simp [hq]
  rw [h1]
  unfold LAction.resolve
  simp [hm, LAction.updateStateLazy]

/-- same defect (before the fix) through `resume()` on an action whose variable is already enabled -/
theorem lazy_noop_resume_regression (p : Prec) (a : LAction) (hm : a.modified = false)
    (hq : a.varPenalty = a.penalty) :
    ∀ t r, (a.resumePre.resolve p t r).heap = none ∧ (a.resumePre.resolve p t r).modified = false := by
  intro t r
  have h1 : a.resumePre = { a with suspended := false, heap := none, htype := .unset } := by
    unfold LAction.resumePre LAction.lmmSetPenalty; simp [hq]
  rw [h1]
  unfold LAction.resolve
  simp [hm]

/-- **lazy_eq_full_dates** (full, CPU action without deadline, positive priorities).  Take the Lazy view `a` and the Full
view `f` of an action (`Rel`), and any history of engine rounds — user operations at the current date (suspend, resume,
set_bound, set_sharing_penalty with any positive value, including the ones that do not modify the LMM system), a solve
that touches the action or not and gives it any rate ≥ 0 (the same as before when the action is not touched), a time
advance — during which Full's action does not complete.  Then the two views still agree (`get_remains()` under Lazy =
Full's `remains`), and whenever the action progresses (`rate > 0`) the date under which it sits in the Lazy heap is
`now + R/rate` with `R` Full's `remains`: Full, stepping at that rate through arbitrary intermediate events, has
`remains > 0` strictly before that date and exactly 0 at it — `update_actions_state_full` finishes the action at the date
at which `update_actions_state_lazy` pops it. -/
theorem lazy_eq_full_dates (steps : List Step) (t0 : Rat) (a : LAction) (f : Action) (hR : Rel t0 a f)
    (hok : ∀ s ∈ steps, StepOk s) (hal : StaysAlive p0 steps f) :
    let now := (runOps p0 steps t0 a f).1
    let L := (runOps p0 steps t0 a f).2.1
    let F := (runOps p0 steps t0 a f).2.2
    F.remains = virt L now ∧
    ((steps ≠ [] ∨ a.modified = false) → 0 < F.rate →
      L.heap = some (now + F.remains / F.rate) ∧
      doubleUpdate 0 F.remains (F.rate * (F.remains / F.rate)) = 0 ∧
      (∀ δ, 0 ≤ δ → δ < F.remains / F.rate → 0 < doubleUpdate 0 F.remains (F.rate * δ))) := by
  obtain ⟨hrel, hmod⟩ := rel_run steps t0 a f hR hok hal
  exact ⟨hrel.rem, fun hc hr => ⟨rel_heap_date hrel (hmod hc) hr, full_completes_at _ _ hr⟩⟩

/-- **ti_integral_eq** (partial: one period).  The date TI obtains by inverting the integral of the profile
(`solve_simple`) is the date Full/Lazy reach by stepping through the pieces of the profile (a profile event at each piece
boundary), for every profile with positive speeds, every start date and every amount — including "the amount does not fit
in the period" (`none` on both sides). -/
theorem ti_integral_eq_partial : ∀ (pieces : List Piece) (now amount : Rat), (∀ q ∈ pieces, 0 < q.speed) →
    stepThrough pieces now amount = (solveSimple pieces amount).map (now + ·) := by
  intro pieces
  induction pieces with
  | nil => intro now amount _; rfl
  | cons q qs ih =>
    intro now amount hs
    obtain ⟨hq, hs'⟩ := List.forall_mem_cons.mp hs
    unfold stepThrough solveSimple
    simp only [rat_div_le_iff hq, Rat.mul_comm q.dur]
    split
    · rfl
    · rw [ih (now + q.dur) _ hs']
      cases solveSimple qs (amount - q.speed * q.dur) with
      | none => rfl
      | some x => simp [Rat.add_assoc]

/-- hypotheses of `lazy_eq_full_dates_rates` on a non-trivial history: cost 10, rate 2 for 1 s, suspended (rate 0) for
3 s, rate 1 for 2 s — 6 units of work still to do when the final rate arrives -/
example : let a : LAction := { cost := 10, remains := 10 }
    Live a ∧ (∀ s ∈ [Seg.mk 2 1, Seg.mk 0 3, Seg.mk 1 2], 0 ≤ s.rate ∧ 0 ≤ s.dur) ∧
    0 ≤ a.lastValue * (0 - a.lastUpdate) ∧ work [Seg.mk 2 1, Seg.mk 0 3, Seg.mk 1 2] < virt a 0 := by
  refine ⟨?_, ?_, ?_, ?_⟩
  · constructor <;> decide +kernel
  all_goals decide +kernel

/-- hypotheses of `lazy_eq_full_dates`: a fresh exec of 10 flops (`Action` constructor on both sides) and the history
"update_priority(current priority), rate 2 for 1 s; suspend, 3 s; resume + set_bound, rate 1 for 2 s" -/
example : let a : LAction := { cost := 10, remains := 10 }
    let f : Action := { cost := 10, remains := 10 }
    let steps : List Step := [⟨[.setPenalty 1], true, 2, 1⟩, ⟨[.suspend], false, 0, 3⟩, ⟨[.resume, .setBound], false, 1, 2⟩]
    Rel 0 a f ∧ (∀ s ∈ steps, StepOk s) ∧ StaysAlive p0 steps f := by
  refine ⟨?_, ?_, ?_⟩
  · constructor <;> decide +kernel
  · intro s hs
    simp at hs
    rcases hs with rfl | rfl | rfl <;> (refine ⟨?_, ?_, ?_⟩ <;> simp [OpOk] <;> grind)
  · refine ⟨?_, ?_, ?_, trivial⟩ <;> decide +kernel

/-- the witness of the fixed defect on the model: `exec 1000 flops @100; update_priority(1)` at t=5 (the solver does not
touch the action in that round): the heap still holds t=10 one second later -/
example : (runOps p0 [⟨[], true, 100, 5⟩, ⟨[.setPenalty 1], false, 100, 1⟩] 0
    ({ cost := 1000, remains := 1000 } : LAction) ({ cost := 1000, remains := 1000 } : Action)).2.1.heap = some 10 := by
  decide +kernel

/-- hypotheses of the regression theorems and of the `_noop_keeps` lemmas: the state right after a solve (not in the
modified set, variable enabled with the action's penalty) -/
example : let a : LAction := { cost := 1000, remains := 1000, modified := false, heap := some 10, htype := .normal }
    a.modified = false ∧ a.varPenalty = a.penalty := ⟨rfl, rfl⟩

example : ∀ q ∈ [Piece.mk 2 1, Piece.mk 2 (1/2), Piece.mk 4 (1/4)], 0 < q.speed := by
  decide +kernel

end SgVerif.C19
