import SgVerif.C39.Model
/-
C39 — facts about the generated table itself: a Boolean property of pairs of kinds holds everywhere if it evaluates to true on
the list of all pairs (`Kind.forall₂`: the finite tables of the directory are instances), and the symmetry of `dependsBase`
(the swap on unequal kinds, a symmetric arm on every diagonal cell).
-/
namespace SgVerif.C39

theorem Kind.mem_all (k : Kind) : k ∈ Kind.all := by cases k <;> decide

theorem Kind.forall₂ {p : Kind → Kind → Bool} (h : (Kind.all.all fun a => Kind.all.all fun b => p a b) = true) (a b : Kind) :
    p a b = true :=
  List.all_eq_true.mp (List.all_eq_true.mp h a (Kind.mem_all a)) b (Kind.mem_all b)

theorem Kind.toNat_inj (a b : Kind) (h : a.toNat = b.toNat) : a = b :=
  of_decide_eq_true (Kind.forall₂ (p := fun a b => decide (a.toNat = b.toNat → a = b)) (by decide) a b) h

/-- `BarrierTransition::depends` is symmetric on two transitions of the same kind (the diagonal cell
BARRIER_ASYNC_LOCK × BARRIER_ASYNC_LOCK selects it since the LOCK/LOCK repair).  It is NOT symmetric on arbitrary
operands (only `o` is tested for being a barrier transition), hence the hypothesis. -/
theorem barrierDepends_symm_of_kind_eq (u1 u2 : Base) (h : u1.kind = u2.kind) :
    barrierDepends u1 u2 = barrierDepends u2 u1 := by
  unfold barrierDepends
  rw [h]
  by_cases hb : u1.bar = u2.bar
  · simp [hb]
  · have hb' : ¬ u2.bar = u1.bar := fun e => hb e.symm
    simp [hb, hb']

theorem evalAction_diag_symm (k : Kind) (u1 u2 : Base) (hk : u1.kind = u2.kind) :
    evalAction (lut k k) u1 u2 = evalAction (lut k k) u2 u1 := by
  have ib (a b : Int) : (a == b) = (b == a) := BEq.comm
  -- the selected arm is found by evaluation; it is constant, or compares two fields with `==`, or is `barrierDepends`
  cases k <;> first
    | rfl
    | exact congrArg some (ib _ _)
    | exact congrArg some (Bool.or_comm _ _)
    | exact congrArg some (barrierDepends_symm_of_kind_eq _ _ hk)

theorem dependsBase_symm (u1 u2 : Base) : dependsBase u1 u2 = dependsBase u2 u1 := by
  unfold dependsBase
  by_cases h1 : u2.kind.toNat < u1.kind.toNat
  · have h2 : ¬ u1.kind.toNat < u2.kind.toNat := by omega
    simp [h1, h2]
  · by_cases h2 : u1.kind.toNat < u2.kind.toNat
    · simp [h1, h2]
    · have : u1.kind = u2.kind := Kind.toNat_inj _ _ (by omega)
      simp only [h1, h2, if_false]
      rw [this]
      exact evalAction_diag_symm _ _ _ this

namespace Full

/-- unfolds `dependsBase` on two transitions of known kinds -/
macro "dep_simp" "at" h:ident : tactic => `(tactic|
  simp [dependsBase, Kind.toNat, lut, lutRow_RANDOM, lutRow_ACTOR_JOIN, lutRow_ACTOR_SLEEP, lutRow_ACTOR_CREATE,
    lutRow_ACTOR_EXIT, lutRow_TESTANY, lutRow_WAITANY, lutRow_BARRIER_ASYNC_LOCK, lutRow_BARRIER_WAIT,
    lutRow_COMM_ASYNC_RECV, lutRow_COMM_ASYNC_SEND, lutRow_COMM_IPROBE, lutRow_COMM_TEST, lutRow_COMM_WAIT,
    lutRow_MUTEX_ASYNC_LOCK, lutRow_MUTEX_TEST, lutRow_MUTEX_TRYLOCK, lutRow_MUTEX_UNLOCK, lutRow_MUTEX_WAIT,
    lutRow_MUTEX_LOCK_NOMC, lutRow_SEM_ASYNC_LOCK, lutRow_SEM_UNLOCK, lutRow_SEM_WAIT, lutRow_SEM_LOCK_NOMC,
    lutRow_CONDVAR_ASYNC_LOCK, lutRow_CONDVAR_BROADCAST, lutRow_CONDVAR_SIGNAL, lutRow_CONDVAR_WAIT,
    lutRow_CONDVAR_NOMC, lutRow_UNKNOWN, evalAction, baseVirtualDepends, barrierDepends, *] at $h:ident)

end Full

end SgVerif.C39
