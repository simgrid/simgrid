import SgVerif.C39.ActorGroup
import SgVerif.C39.Handler
import SgVerif.McRef.Trace
/-
C39 — assembly of `indep_commute` over ALL pairs of kinds: actor rows (never co-enabled where footprints meet),
cross-group pairs (tags), pairs of kinds that act on objects (`plain_commute`); then the World as a labelled transition
system (`McRef.LTS`) and the commutation hypothesis `LTS.Commutes` of C38 discharged on it.
-/
namespace SgVerif.C39.Full
open Sem

/-- reachable-state invariant used by the semaphore group -/
def World.inv (w : World) : Prop := ∀ m, (w.sync.sem m).inv

def isActorKind (k : Kind) : Bool := k == .ACTOR_JOIN || k == .ACTOR_CREATE

/-- finite table (900 cells): every pair of kinds is an actor row, a cross-group pair or a pair of kinds that act on objects -/
theorem family_table (k1 k2 : Kind) : (isActorKind k1 || isActorKind k2 || tagDisj k1 k2 || (plainK k1 && plainK k2)) = true :=
  Kind.forall₂ (p := fun a b => isActorKind a || isActorKind b || tagDisj a b || (plainK a && plainK b)) (by decide) k1 k2

theorem uses_lock {k : Kind} (h : isMutexKind (lockOp k) = true) : isLockKind k = true := by
  cases k <;> first | rfl | cases h

/-- two transitions that meet on one mutex: a condvar kind among them brings its cell of `cv_table`, two mutex kinds theirs -/
theorem mutex_meet (t1 t2 : Base) (ha : t1.aid ≠ t2.aid) (o : MutexSt) (hd : dependsBase t1 t2 = some false)
    (hx : calPair t1 t2 = false) (em : t1.mutex = t2.mutex) : mutexC.CommuteAt t1 t2 o := by
  have tab (t1 t2 : Base) (c1 : isCvKind t1.kind = true) (hd : dependsBase t1 t2 = some false) (hx : calPair t1 t2 = false)
      (em : t1.mutex = t2.mutex) (u1 : isMutexKind (lockOp t1.kind) = true) (u2 : isMutexKind (lockOp t2.kind) = true) :
      indepSame (lockOp t1.kind) (lockOp t2.kind) = true := by
    simpa [lockIndepSame, u1, u2] using (cv_table t1 t2 c1 (uses_lock u2) hd hx).1 em
  by_cases c1 : isCvKind t1.kind = true
  · exact mutexOf_commuteAt lockOp t1 t2 ha o (tab t1 t2 c1 hd hx em)
  by_cases c2 : isCvKind t2.kind = true
  · rw [dependsBase_symm] at hd
    rw [calPair_comm] at hx
    exact (mutexOf_commuteAt lockOp t2 t1 (fun e => ha e.symm) o (tab t2 t1 c2 hd hx em.symm)).symm
  refine mutexOf_commuteAt lockOp t1 t2 ha o fun u1 u2 => ?_
  have m1 : isMutexKind t1.kind = true := by simpa [isLockKind, c1] using uses_lock u1
  have m2 : isMutexKind t2.kind = true := by simpa [isLockKind, c2] using uses_lock u2
  rw [lockOp_mutex m1, lockOp_mutex m2]
  exact mutex_indepSame t1 t2 m1 m2 em hd

theorem create_create_dep (t1 t2 : Base) (h1 : t1.kind = .ACTOR_CREATE) (h2 : t2.kind = .ACTOR_CREATE) (ha : t1.aid ≠ t2.aid) :
    depends (.base t1) (.base t2) = some true := by
  rw [depends_base _ _ ha]
  simp [dependsBase, h1, h2, Kind.toNat, lut, lutRow_ACTOR_CREATE, evalAction]

theorem indep_commute_aux (w : World) (t1 t2 : Base) (hinv : w.inv) (ha : t1.aid ≠ t2.aid)
    (f1 : fireable w t1 = true) (f2 : fireable w t2 = true)
    (hd : depends (.base t1) (.base t2) = some false) (hx : calPair t1 t2 = false) : Commute w t1 t2 := by
  have ha' : t2.aid ≠ t1.aid := fun e => ha e.symm
  by_cases j1 : t1.kind = .ACTOR_JOIN
  · exact join_left w t1 t2 j1 ha f1 f2
  by_cases j2 : t2.kind = .ACTOR_JOIN
  · exact (join_left w t2 t1 j2 ha' f2 f1).symm
  by_cases c1 : t1.kind = .ACTOR_CREATE
  · by_cases c2 : t2.kind = .ACTOR_CREATE
    · rw [create_create_dep t1 t2 c1 c2 ha] at hd; cases hd
    · exact create_left w t1 t2 c1 ha f1 f2 c2
  by_cases c2 : t2.kind = .ACTOR_CREATE
  · exact (create_left w t2 t1 c2 ha' f2 f1 c1).symm
  have hact1 : isActorKind t1.kind = false := by simp [isActorKind, j1, c1]
  have hact2 : isActorKind t2.kind = false := by simp [isActorKind, j2, c2]
  have ht := family_table t1.kind t2.kind
  rw [hact1, hact2, Bool.false_or, Bool.false_or, Bool.or_eq_true, Bool.and_eq_true] at ht
  rcases ht with ht | ⟨p1, p2⟩
  · exact commute_of_noWrite w t1 t2 f1 f2 (tag_noWrite t1 t2 ha ht)
  have hb := (depends_base _ _ ha).symm.trans hd
  exact plain_commute w t1 t2 p1 p2 ha f1 f2 (mutex_meet t1 t2 ha _ hb hx)
    (fun es => semC_commuteAt t1 t2 ha _ (hinv _) fun u1 u2 => sem_indepSame t1 t2 u1 u2 es hb)
    (fun eb => barC_commuteAt t1 t2 ha _ fun u1 u2 => bar_indepSame t1 t2 u1 u2 eb hb)
    (fun ec => cvC_commuteAt t1 t2 ha _ fun u1 u2 => (cv_table t1 t2 u1 (by simp [isLockKind, u2]) hb hx).2 ec)
    (fun ex => mbC_commuteAt t1 t2 _ ex fun _ _ => hb)

open SgVerif.McRef
def worldLTS : LTS World Base where
  enabled := fireable
  exec := exec

/-- the dependency relation restricted to what the footprint argument alone justifies: two transitions are independent
when they belong to different actors, none is an ACTOR_JOIN / ACTOR_CREATE and their kinds are tag-disjoint (cross-group
pairs, and pairs of one group none of which writes: TEST × TEST, …).  Everything else is dependent. -/
def crossDep (t1 t2 : Base) : Bool := t1.aid == t2.aid || !tagDisj t1.kind t2.kind

theorem tagDisj_symm (k1 k2 : Kind) : tagDisj k1 k2 = tagDisj k2 k1 := by
  simp only [tagDisj, Bool.and_assoc]
  rw [Bool.and_left_comm, Bool.and_comm ((tagsW k1).all _)]

/-- `LTS.Commutes` holds on the World for the cross-group relation, in EVERY state, no invariant needed -/
theorem world_commutes_cross : LTS.Commutes worldLTS crossDep where
  sym := by
    intro x y
    unfold crossDep
    rw [tagDisj_symm x.kind y.kind, BEq.comm (a := x.aid)]
  persist := by
    intro s x y h _
    simp only [crossDep, Bool.or_eq_false_iff, beq_eq_false_iff_ne, Bool.not_eq_false'] at h
    obtain ⟨h1, h2⟩ := tag_noWrite x y h.1 h.2
    exact (disjoint_commute s x y h1 h2).1
  comm := by
    intro s x y h _ _
    simp only [crossDep, Bool.or_eq_false_iff, beq_eq_false_iff_ne, Bool.not_eq_false'] at h
    obtain ⟨h1, h2⟩ := tag_noWrite x y h.1 h.2
    exact World.eq_of_equiv (disjoint_commute s x y h1 h2).2.2

/-- the part of `LTS.Commutes` that holds for the WHOLE table (minus `calPair`): co-enabled, declared-independent
transitions do not disable each other and commute to EQUAL states; what is missing is said at `C39.world_indep_comm` -/
theorem world_indep_comm (w : World) (t1 t2 : Base) (hinv : w.inv) (ha : t1.aid ≠ t2.aid)
    (f1 : worldLTS.enabled w t1 = true) (f2 : worldLTS.enabled w t2 = true)
    (hd : depends (.base t1) (.base t2) = some false) (hx : calPair t1 t2 = false) :
    worldLTS.enabled (worldLTS.exec w t1) t2 = true ∧ worldLTS.enabled (worldLTS.exec w t2) t1 = true ∧
    worldLTS.exec (worldLTS.exec w t1) t2 = worldLTS.exec (worldLTS.exec w t2) t1 := by
  obtain ⟨c1, c2, c3⟩ := indep_commute_aux w t1 t2 hinv ha f1 f2 hd hx
  exact ⟨c1, c2, World.eq_of_equiv c3⟩

def setDead (s : State) (d : Int → Bool) : State := { s with dead := d }

@[simp] theorem setDead_mutex (s : State) (d : Int → Bool) : (setDead s d).mutex = s.mutex := rfl
@[simp] theorem setDead_sem (s : State) (d : Int → Bool) : (setDead s d).sem = s.sem := rfl
@[simp] theorem setDead_bar (s : State) (d : Int → Bool) : (setDead s d).bar = s.bar := rfl
@[simp] theorem setDead_ret (s : State) (d : Int → Bool) : (setDead s d).ret = s.ret := rfl
@[simp] theorem setDead_dead (s : State) (d : Int → Bool) : (setDead s d).dead = d := rfl

end SgVerif.C39.Full
