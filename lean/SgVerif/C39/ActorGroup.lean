import SgVerif.C39.Frame
/-
C39 — actor group: ACTOR_JOIN and ACTOR_CREATE against every kind.  Whenever their footprints meet the footprint of the
other transition, the two are not co-enabled, whatever the table says; otherwise the footprint theorem applies.
ACTOR_CREATE × ACTOR_CREATE (both draw `maxpid_`) is declared dependent by the table.
-/
namespace SgVerif.C39.Full
open Sem

theorem ne_of_bool {f : Int → Bool} {a b : Int} (h1 : f a = true) (h2 : f b = false) : a ≠ b := by
  intro e; rw [e, h2] at h1; cases h1

theorem fire_alive {w : World} {t : Base} (f : fireable w t = true) : w.ex t.aid = true ∧ w.sync.dead t.aid = false := by
  simp [fireable, alive] at f
  exact ⟨f.1.1.1.1, f.1.1.1.2⟩

theorem fire_join {w : World} {t : Base} (hk : t.kind = .ACTOR_JOIN) (f : fireable w t = true) :
    w.sync.dead t.target = true ∧ w.ex t.target = true := by
  simp [fireable, enabled, labelOk, Sem.enabled, hk] at f
  exact ⟨f.1.1.2, f.2⟩

theorem fire_create {w : World} {t : Base} (hk : t.kind = .ACTOR_CREATE) (f : fireable w t = true) :
    w.ex t.child = false := by
  simp [fireable, labelOk, hk] at f
  exact f.2.2

theorem tagsR_other (k : Kind) (hj : k ≠ .ACTOR_JOIN) (hc : k ≠ .ACTOR_CREATE) : ∀ x ∈ tagsR k, x ≠ .actor ∧ x ≠ .pid := by
  cases k <;> first | exact absurd rfl hj | exact absurd rfl hc | decide

theorem actor_notin (k : Kind) (hj : k ≠ .ACTOR_JOIN) (hc : k ≠ .ACTOR_CREATE) : Tag.actor ∉ tagsR k :=
  fun h => (tagsR_other k hj hc _ h).1 rfl

/-- a join reads the entries of its target, which is dead: no co-enabled transition of another actor writes them, and
nobody else writes the entries of the joiner -/
theorem join_left (w : World) (t1 t2 : Base) (hk : t1.kind = .ACTOR_JOIN) (ha : t1.aid ≠ t2.aid)
    (f1 : fireable w t1 = true) (f2 : fireable w t2 = true) : Commute w t1 t2 := by
  obtain ⟨e1, d1⟩ := fire_alive f1
  obtain ⟨_, d2⟩ := fire_alive f2
  obtain ⟨jd, je⟩ := fire_join hk f1
  have hne : t1.target ≠ t2.aid := ne_of_bool jd d2
  have hW : objW t1 = [] := by simp only [objW, hk]
  have hR : objR t1 = [.dead t1.target, .ex t1.target] := by simp only [objR, hk]
  -- the join writes no shared location and reads two entries of its target, which is not `t2.aid`
  refine commute_of_noWrite w t1 t2 f1 f2 (noWrite_of_obj t1 t2 ha (by simp [hW, hR, own, hne]) ?_ (by simp [hW]) ?_)
  -- no object of `t2` is an entry of the joiner
  · by_cases hc : t2.kind = .ACTOR_CREATE
    · have c2 : t2.child ≠ t1.aid := (ne_of_bool e1 (fire_create hc f2)).symm
      simp [objW, objR, hc, own, c2]
    by_cases hj : t2.kind = .ACTOR_JOIN
    · have c1 : t2.target ≠ t1.aid := ne_of_bool (fire_join hj f2).1 d1
      simp [objW, objR, hj, own, c1]
    · exact fun l hl => obj_not_own t2 (actor_notin _ hj hc) l hl _
  -- `t2` writes neither of the two entries the join reads
  · by_cases hc : t2.kind = .ACTOR_CREATE
    · have c1 : t2.child ≠ t1.target := (ne_of_bool je (fire_create hc f2)).symm
      rw [hW, hR]; simp [objW, hc, c1]
    by_cases hj : t2.kind = .ACTOR_JOIN
    · simp [objW, hj]
    · intro l hl hm
      have := (tagsR_other _ hj hc _ (List.mem_append_left _ (objW_tag t2 l hl))).1
      simp only [hW, hR, List.nil_append, List.mem_cons, List.mem_nil_iff, or_false] at hm
      rcases hm with rfl | rfl <;> exact this rfl

/-- a created actor does not exist yet: no co-enabled transition touches its entries, and only another ACTOR_CREATE
draws the next pid -/
theorem create_left (w : World) (t1 t2 : Base) (hk : t1.kind = .ACTOR_CREATE) (ha : t1.aid ≠ t2.aid)
    (f1 : fireable w t1 = true) (f2 : fireable w t2 = true) (hk2 : t2.kind ≠ .ACTOR_CREATE) : Commute w t1 t2 := by
  by_cases hj : t2.kind = .ACTOR_JOIN
  · exact (join_left w t2 t1 hj (fun e => ha e.symm) f2 f1).symm
  · have c1 : t1.child ≠ t2.aid := (ne_of_bool (fire_alive f2).1 (fire_create hk f1)).symm
    have ht := tagsR_other _ hj hk2
    have h1 : ∀ l ∈ objW t1 ++ objR t1, l.tag = .actor ∨ l.tag = .pid := fun l hl => by
      have := objR_tag t1 l hl
      rw [hk] at this
      simpa [tagsR, tagsW, or_comm] using this
    apply commute_of_noWrite w t1 t2 f1 f2
    refine noWrite_of_obj t1 t2 ha ?_ (fun l hl => obj_not_own t2 (actor_notin _ hj hk2) l hl _) ?_ ?_
    · simp [objW, objR, hk, own, c1]
    · intro l hl hr
      have := ht _ (objR_tag t2 l hr)
      rcases h1 l (List.mem_append_left _ hl) with h | h <;> simp [h] at this
    · intro l hl hr
      have := ht _ (List.mem_append_left _ (objW_tag t2 l hl))
      rcases h1 l hr with h | h <;> simp [h] at this

end SgVerif.C39.Full
