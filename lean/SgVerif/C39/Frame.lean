import SgVerif.C39.World
import SgVerif.C39.Commute
/-
C39 — the footprint argument: a transition reads only `rd t`, writes only `wr t`; two transitions none of which
writes what the other one reads or writes commute, and neither changes whether the other one can be fired
(`disjoint_commute`).  The shared locations of two transitions of different groups have different tags, so this applies
whatever the parameters are (`tag_noWrite`; `tagDisj` is a finite table over pairs of kinds).
-/
namespace SgVerif.C39.Full
open Sem

theorem World.eq_of_equiv {w1 w2 : World} (h : w1.equiv w2) : w1 = w2 := by
  obtain ⟨⟨m1, s1, b1, r1, d1⟩, cw1, cg1, sd1, rc1, e1, l1, n1⟩ := w1
  obtain ⟨⟨m2, s2, b2, r2, d2⟩, cw2, cg2, sd2, rc2, e2, l2, n2⟩ := w2
  simp only [World.mk.injEq, State.mk.injEq]
  exact ⟨⟨funext fun i => Val.mutex.inj (h (.mutex i)), funext fun i => Val.sem.inj (h (.sem i)),
      funext fun i => Val.bar.inj (h (.bar i)), funext fun i => Val.int.inj (h (.ret i)), funext fun i => Val.bool.inj (h (.dead i))⟩,
    funext fun i => Val.ints.inj (h (.cvW i)), funext fun i => Val.ints.inj (h (.cvG i)),
    funext fun i => Val.ints.inj (h (.sends i)), funext fun i => Val.ints.inj (h (.recvs i)),
    funext fun i => Val.bool.inj (h (.ex i)), funext fun i => Val.nat.inj (h (.left i)), Val.int.inj (h .nextPid)⟩

theorem wr_sub_rd (t : Base) (l : Loc) (h : l ∈ wr t) : l ∈ rd t := by
  simp only [wr, rd, List.mem_append] at *
  exact h.imp_right Or.inl

theorem tick_get (w : World) (a : Int) (l : Loc) (h : l ∉ own a) : (tick w a).get l = w.get l := by
  simp only [own, List.mem_cons, List.mem_nil_iff, or_false, not_or] at h
  cases l <;> simp_all [tick, World.get, upd]

/-- the kinds that `core` leaves to `Sem.exec` -/
theorem sem_exec_outside (w : World) (t : Base) (l : Loc) (h : l ∉ wr t) :
    ({ w with sync := Sem.exec w.sync t } : World).get l = w.get l := by
  rw [exec_plain]
  cases l <;> first | rfl | skip
  case mutex i =>
    refine congrArg Val.mutex (Comp.app_other _ _ _ _ _ fun u e => ?_)
    -- a kind that concerns the sort and does not write the object it names is a mutex reader
    rcases mutexKind_cases t.kind u with (hk | hk) | (hk | hk) | hk <;> simp [wr, objW, hk, e] at h <;>
      simp [mutexS, mutexOf, execMutex, hk]
  case sem i =>
    refine congrArg Val.sem (Comp.app_other _ _ _ _ _ fun u e => ?_)
    rcases semKind_cases _ u with hk | hk | hk <;> simp [wr, objW, hk, e] at h
  case bar i =>
    refine congrArg Val.bar (Comp.app_other _ _ _ _ _ fun u e => ?_)
    rcases barKind_cases _ u with hk | hk <;> simp [wr, objW, hk, e] at h
  case ret a => exact congrArg Val.int (report_other _ _ fun e => h (by simp [wr, own, e]))
  case dead a => exact congrArg Val.bool (report_other _ _ fun e => h (by simp [wr, own, e]))

theorem core_outside (w : World) (t : Base) (l : Loc) (h : l ∉ wr t) : (core w t).get l = w.get l := by
  unfold core
  -- the arms of `core`, as `split` names them: `h_1` … `h_10` are CONDVAR_ASYNC_LOCK, _SIGNAL, _BROADCAST, _WAIT,
  -- COMM_ASYNC_SEND, _RECV, COMM_TEST, _WAIT, _IPROBE, ACTOR_CREATE; `h_11` is the kinds left to `Sem.exec`
  split
  case h_11 => exact sem_exec_outside w t l h
  all_goals cases l <;> first | rfl | skip
  all_goals simp [wr, own, objW, *] at h
  all_goals simp [World.get, upd, h]

theorem exec_outside (w : World) (t : Base) (l : Loc) (h : l ∉ wr t) : (exec w t).get l = w.get l := by
  have h' : l ∉ own t.aid := fun hm => h (by simp [wr, hm])
  rw [exec, tick_get _ _ _ h', core_outside _ _ _ h]

theorem fireable_congr (w w' : World) (t : Base) (h : ∀ l ∈ rd t, w.get l = w'.get l) : fireable w t = fireable w' t := by
  have hex := Val.bool.inj (h (.ex t.aid) (by simp [rd, own]))
  have hdead := Val.bool.inj (h (.dead t.aid) (by simp [rd, own]))
  -- each check reads one or two shared locations of its kind
  have hen : enabled w t = enabled w' t := by
    unfold enabled
    split
    · rw [Val.ints.inj (h (.cvG t.condvar) (by simp [rd, objW, *]))]
    · simp only [matched, Val.ints.inj (h (.sends t.mbox) (by simp [rd, objR, *])),
        Val.ints.inj (h (.recvs t.mbox) (by simp [rd, objR, *]))]
    · unfold Sem.enabled
      split
      · rw [Val.mutex.inj (h (.mutex t.mutex) (by simp [rd, objR, *]))]
      · rw [Val.sem.inj (h (.sem t.sem) (by simp [rd, objW, *]))]
      · rw [Val.bar.inj (h (.bar t.bar) (by simp [rd, objW, *]))]
      · exact Val.bool.inj (h (.dead t.target) (by simp [rd, objR, *]))
      · rfl
  have hwf : wf w t = wf w' t := by
    unfold wf
    split
    · rw [Val.mutex.inj (h (.mutex t.mutex) (by simp [rd, objW, *]))]
    · unfold Sem.wf
      split
      · rw [Val.mutex.inj (h (.mutex t.mutex) (by simp [rd, objW, *]))]
      · rfl
  have hl : labelOk w t = labelOk w' t := by
    unfold labelOk
    split
    · rw [Val.ints.inj (h (.sends t.mbox) (by simp [rd, objW, *]))]
    · rw [Val.ints.inj (h (.recvs t.mbox) (by simp [rd, objW, *]))]
    · rw [Val.ints.inj (h (.sends t.mbox) (by simp [rd, objR, *])), Val.ints.inj (h (.recvs t.mbox) (by simp [rd, objR, *]))]
    · rw [Val.ints.inj (h (.sends t.mbox) (by simp [rd, objR, *])), Val.ints.inj (h (.recvs t.mbox) (by simp [rd, objR, *]))]
    · rfl
    · exact Val.bool.inj (h (.ex t.target) (by simp [rd, objR, *]))
    · rw [Val.int.inj (h .nextPid (by simp [rd, objW, *])), Val.bool.inj (h (.ex t.child) (by simp [rd, objW, *]))]
    · rfl
  simp only [fireable, alive, hex, hdead, hen, hwf, hl]

/-- the kinds that `core` leaves to `Sem.exec`: on each family the handler acts on ONE object, so what it leaves at an index
is a function of what was there; the result reported by a mutex kind is read off the mutex it names -/
theorem sem_exec_inside (w w' : World) (t : Base) (h : ∀ l ∈ rd t, w.get l = w'.get l) (l : Loc) (hl : l ∈ wr t) :
    ({ w with sync := Sem.exec w.sync t } : World).get l = ({ w' with sync := Sem.exec w'.sync t } : World).get l := by
  have hr := h l (wr_sub_rd t l hl)
  have hs : sret t (w.sync.mutex t.mutex) = sret t (w'.sync.mutex t.mutex) := by
    unfold sret
    cases u : isMutexKind t.kind
    · rfl
    · rw [Val.mutex.inj (h (.mutex t.mutex) (by
        rcases mutexKind_cases _ u with (hk | hk) | (hk | hk) | hk <;> simp [rd, objW, objR, hk]))]
  rw [exec_plain, exec_plain, hs]
  cases l
  case mutex i => exact congrArg Val.mutex (Comp.app_congr _ _ _ _ (Val.mutex.inj hr))
  case sem i => exact congrArg Val.sem (Comp.app_congr _ _ _ _ (Val.sem.inj hr))
  case bar i => exact congrArg Val.bar (Comp.app_congr _ _ _ _ (Val.bar.inj hr))
  case ret a => exact congrArg Val.int (report_congr _ _ (Val.int.inj hr))
  case dead a => exact congrArg Val.bool (report_congr _ _ (Val.bool.inj hr))
  all_goals exact hr

/-- what a handler writes is a function of what it reads -/
theorem core_inside (w w' : World) (t : Base) (h : ∀ l ∈ rd t, w.get l = w'.get l) (l : Loc) (hl : l ∈ wr t) :
    (core w t).get l = (core w' t).get l := by
  have hr := h l (wr_sub_rd t l hl)
  have g : ∀ l, l ∈ objW t ++ objR t → w.get l = w'.get l := fun l hl => h l (List.mem_append_right _ hl)
  unfold core
  -- `h_1` … `h_11` as in `core_outside`
  split
  case h_11 => exact sem_exec_inside w w' t h l hl
  all_goals cases l <;> first | exact hr | skip
  case h_1.mutex i | h_4.mutex i =>
    have em := Val.mutex.inj (g (.mutex t.mutex) (by simp [objW, *]))
    exact congrArg Val.mutex (upd_congr (by rw [em]) (Val.mutex.inj hr))
  case h_1.cvW i | h_2.cvW i =>
    have ec := Val.ints.inj (g (.cvW t.condvar) (by simp [objW, *]))
    exact congrArg Val.ints (upd_congr (by rw [ec]) (Val.ints.inj hr))
  case h_2.cvG i | h_3.cvG i =>
    have ec := Val.ints.inj (g (.cvW t.condvar) (by simp [objW, *]))
    have eg := Val.ints.inj (g (.cvG t.condvar) (by simp [objW, *]))
    exact congrArg Val.ints (upd_congr (by rw [ec, eg]) (Val.ints.inj hr))
  case h_3.cvW i => exact congrArg Val.ints (upd_congr rfl (Val.ints.inj hr))
  case h_4.cvG i =>
    have eg := Val.ints.inj (g (.cvG t.condvar) (by simp [objW, *]))
    exact congrArg Val.ints (upd_congr (by rw [eg]) (Val.ints.inj hr))
  case h_5.sends i =>
    have es := Val.ints.inj (g (.sends t.mbox) (by simp [objW, *]))
    exact congrArg Val.ints (upd_congr (by rw [es]) (Val.ints.inj hr))
  case h_6.recvs i =>
    have er := Val.ints.inj (g (.recvs t.mbox) (by simp [objW, *]))
    exact congrArg Val.ints (upd_congr (by rw [er]) (Val.ints.inj hr))
  case h_7.ret a =>
    have em : matched w t.mbox t.comm.toNat = matched w' t.mbox t.comm.toNat := by
      unfold matched
      rw [Val.ints.inj (g (.sends t.mbox) (by simp [objR, *])), Val.ints.inj (g (.recvs t.mbox) (by simp [objR, *]))]
    exact congrArg Val.int (upd_congr (by rw [em]) (Val.int.inj hr))
  case h_8.ret a =>
    have es := Val.ints.inj (g (.sends t.mbox) (by simp [objR, *]))
    exact congrArg Val.int (upd_congr (by rw [es]) (Val.int.inj hr))
  case h_9.ret a =>
    have es := Val.ints.inj (g (.sends t.mbox) (by simp [objR, *]))
    have er := Val.ints.inj (g (.recvs t.mbox) (by simp [objR, *]))
    exact congrArg Val.int (upd_congr (by rw [es, er]) (Val.int.inj hr))
  case h_10.dead a =>
    have el := Val.nat.inj (g (.left t.child) (by simp [objR, *]))
    exact congrArg Val.bool (upd_congr (by rw [el]) (Val.bool.inj hr))
  case h_10.ex a => exact congrArg Val.bool (upd_congr rfl (Val.bool.inj hr))
  case h_10.nextPid => exact congrArg (fun v => Val.int (v + 1)) (Val.int.inj hr)

theorem tick_congr (w w' : World) (a : Int) (l : Loc) (hd : w.get (.dead a) = w'.get (.dead a))
    (hl : w.get (.left a) = w'.get (.left a)) (h : w.get l = w'.get l) : (tick w a).get l = (tick w' a).get l := by
  cases l
  case dead b => exact congrArg Val.bool (upd_congr (by rw [Val.bool.inj hd, Val.nat.inj hl]) (Val.bool.inj h))
  case left b => exact congrArg Val.nat (upd_congr (by rw [Val.nat.inj hl]) (Val.nat.inj h))
  all_goals exact h

theorem exec_inside (w w' : World) (t : Base) (h : ∀ l ∈ rd t, w.get l = w'.get l) :
    ∀ l ∈ wr t, (exec w t).get l = (exec w' t).get l := fun l hl =>
  tick_congr _ _ _ _ (core_inside w w' t h _ (by simp [wr, own])) (core_inside w w' t h _ (by simp [wr, own]))
    (core_inside w w' t h l hl)

/-- `t2` writes nothing that `t1` reads or writes -/
def noWriteInto (t2 t1 : Base) : Prop := ∀ l ∈ wr t2, l ∉ rd t1

theorem agree_after (w : World) (t1 t2 : Base) (h : noWriteInto t2 t1) : ∀ l ∈ rd t1, (exec w t2).get l = w.get l :=
  fun l hl => exec_outside w t2 l (fun hm => h l hm hl)

theorem disjoint_commute (w : World) (t1 t2 : Base) (h21 : noWriteInto t2 t1) (h12 : noWriteInto t1 t2) :
    fireable (exec w t1) t2 = fireable w t2 ∧ fireable (exec w t2) t1 = fireable w t1 ∧
    (exec (exec w t1) t2).equiv (exec (exec w t2) t1) := by
  refine ⟨fireable_congr _ _ _ (agree_after w t2 t1 h12), fireable_congr _ _ _ (agree_after w t1 t2 h21), ?_⟩
  intro l
  by_cases h1 : l ∈ wr t1
  · have h2 : l ∉ wr t2 := fun hm => h21 l hm (wr_sub_rd _ _ h1)
    rw [exec_outside _ t2 l h2]
    exact (exec_inside _ _ t1 (agree_after w t1 t2 h21) l h1).symm
  · by_cases h2 : l ∈ wr t2
    · rw [exec_outside _ t1 l h1]
      exact exec_inside _ _ t2 (agree_after w t2 t1 h12) l h2
    · rw [exec_outside _ t2 l h2, exec_outside _ t1 l h1, exec_outside _ t1 l h1, exec_outside _ t2 l h2]


inductive Tag where
  | mutex | sem | bar | cvW | cvG | sends | recvs | actor | pid
  deriving DecidableEq, Repr

def Loc.tag : Loc → Tag
  | .mutex _ => .mutex | .sem _ => .sem | .bar _ => .bar | .cvW _ => .cvW | .cvG _ => .cvG
  | .sends _ => .sends | .recvs _ => .recvs
  | .ret _ | .dead _ | .ex _ | .left _ => .actor
  | .nextPid => .pid

/-- tags of the shared locations a kind writes -/
def tagsW : Kind → List Tag
  | .MUTEX_ASYNC_LOCK | .MUTEX_TRYLOCK | .MUTEX_UNLOCK => [.mutex]
  | .SEM_ASYNC_LOCK | .SEM_UNLOCK | .SEM_WAIT => [.sem]
  | .BARRIER_ASYNC_LOCK | .BARRIER_WAIT => [.bar]
  | .CONDVAR_ASYNC_LOCK => [.cvW, .mutex]
  | .CONDVAR_SIGNAL | .CONDVAR_BROADCAST => [.cvW, .cvG]
  | .CONDVAR_WAIT => [.cvG, .mutex]
  | .COMM_ASYNC_SEND => [.sends]
  | .COMM_ASYNC_RECV => [.recvs]
  | .ACTOR_CREATE => [.actor, .pid]
  | _ => []

/-- tags of the shared locations a kind reads or writes -/
def tagsR (k : Kind) : List Tag :=
  tagsW k ++ match k with
  | .MUTEX_TEST | .MUTEX_WAIT => [.mutex]
  | .COMM_TEST | .COMM_WAIT | .COMM_IPROBE => [.sends, .recvs]
  | .ACTOR_JOIN => [.actor]
  | .ACTOR_CREATE => [.actor]
  | _ => []

/-- no shared location of `k1` can be a shared location of `k2` written by one of them, and neither touches the actor
table outside its own entries -/
def tagDisj (k1 k2 : Kind) : Bool :=
  !(tagsR k1).contains .actor && !(tagsR k2).contains .actor &&
  (tagsW k1).all (fun x => !(tagsR k2).contains x) && (tagsW k2).all (fun x => !(tagsR k1).contains x)

theorem objW_tag (t : Base) (l : Loc) (h : l ∈ objW t) : l.tag ∈ tagsW t.kind := by
  cases hk : t.kind <;> simp [objW, hk] at h <;> (try rcases h with h | h | h) <;> subst_vars <;> simp [Loc.tag, tagsW]

theorem objR_tag (t : Base) (l : Loc) (h : l ∈ objW t ++ objR t) : l.tag ∈ tagsR t.kind := by
  rw [List.mem_append] at h
  rcases h with h | h
  · exact List.mem_append_left _ (objW_tag t l h)
  · cases hk : t.kind <;> simp [objR, hk] at h <;> (try rcases h with h | h) <;> subst_vars <;> simp [Loc.tag, tagsR, tagsW]

theorem own_tag (a : Int) (l : Loc) (h : l ∈ own a) : l.tag = .actor := by
  simp [own] at h
  rcases h with h | h | h | h <;> subst h <;> rfl

theorem own_disjoint (a1 a2 : Int) (ha : a1 ≠ a2) (l : Loc) (h1 : l ∈ own a1) (h2 : l ∈ own a2) : False := by
  simp [own] at h1 h2
  rcases h1 with h | h | h | h <;> subst h <;> simp at h2 <;> exact ha h2

theorem noWrite_of_obj (t1 t2 : Base) (ha : t1.aid ≠ t2.aid)
    (o1 : ∀ l ∈ objW t1 ++ objR t1, l ∉ own t2.aid) (o2 : ∀ l ∈ objW t2 ++ objR t2, l ∉ own t1.aid)
    (h12 : ∀ l ∈ objW t1, l ∉ objW t2 ++ objR t2) (h21 : ∀ l ∈ objW t2, l ∉ objW t1 ++ objR t1) :
    noWriteInto t2 t1 ∧ noWriteInto t1 t2 := by
  constructor <;> intro l hw hr <;> simp only [wr, rd, List.mem_append] at hw hr
  · rcases hw with hw | hw <;> rcases hr with hr | hr
    · exact own_disjoint _ _ ha l hr hw
    · exact o1 l (List.mem_append.mpr hr) hw
    · exact o2 l (List.mem_append_left _ hw) hr
    · exact h21 l hw (List.mem_append.mpr hr)
  · rcases hw with hw | hw <;> rcases hr with hr | hr
    · exact own_disjoint _ _ ha l hw hr
    · exact o2 l (List.mem_append.mpr hr) hw
    · exact o1 l (List.mem_append_left _ hw) hr
    · exact h12 l hw (List.mem_append.mpr hr)

theorem obj_not_own (t : Base) (hk : Tag.actor ∉ tagsR t.kind) (l : Loc) (h : l ∈ objW t ++ objR t) (a : Int) : l ∉ own a :=
  fun ho => hk (own_tag a l ho ▸ objR_tag t l h)

theorem tag_noWrite (t1 t2 : Base) (ha : t1.aid ≠ t2.aid) (h : tagDisj t1.kind t2.kind = true) :
    noWriteInto t2 t1 ∧ noWriteInto t1 t2 := by
  simp only [tagDisj, Bool.and_eq_true, Bool.not_eq_true', List.all_eq_true, List.contains_eq_mem,
    decide_eq_false_iff_not] at h
  obtain ⟨⟨⟨hf1, hf2⟩, h12⟩, h21⟩ := h
  exact noWrite_of_obj t1 t2 ha (fun l hl => obj_not_own t1 hf1 l hl _) (fun l hl => obj_not_own t2 hf2 l hl _)
    (fun l hl hr => h12 _ (objW_tag t1 l hl) (objR_tag t2 l hr)) (fun l hl hr => h21 _ (objW_tag t2 l hl) (objR_tag t1 l hr))

/-- the conclusion of `indep_commute`, as one proposition -/
def Commute (w : World) (t1 t2 : Base) : Prop :=
  fireable (exec w t1) t2 = true ∧ fireable (exec w t2) t1 = true ∧ (exec (exec w t1) t2).equiv (exec (exec w t2) t1)

theorem Commute.symm {w : World} {t1 t2 : Base} (h : Commute w t1 t2) : Commute w t2 t1 :=
  ⟨h.2.1, h.1, fun l => (h.2.2 l).symm⟩

theorem commute_of_noWrite (w : World) (t1 t2 : Base) (f1 : fireable w t1 = true) (f2 : fireable w t2 = true)
    (h : noWriteInto t2 t1 ∧ noWriteInto t1 t2) : Commute w t1 t2 := by
  obtain ⟨c1, c2, c3⟩ := disjoint_commute w t1 t2 h.1 h.2
  exact ⟨c1.trans f2, c2.trans f1, c3⟩

theorem tick_comm (w : World) {a b : Int} (h : a ≠ b) : tick (tick w a) b = tick (tick w b) a := by
  have h' : b ≠ a := fun e => h e.symm
  simp only [tick, upd_other _ _ _ _ h, upd_other _ _ _ _ h', upd_comm _ _ _ h]

end SgVerif.C39.Full
