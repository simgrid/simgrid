import SgVerif.C39.Assembly
import SgVerif.C38.Props
/-
C39 — Declared-independent transitions commute; the dependency relation is symmetric.
Property theorems only.  `lut` and `evalAction`, on which `depends` (Model.lean) rests, come from the GENERATED module Gen.lean
(the table is what the compiler computed for `dependency_table`, the arms are transliterated from
`Transition::dispatch_depends`), so building this file re-checks the theorems against the source as it is now.
-/
namespace SgVerif.C39

/-- **The dependency relation is symmetric** — for every pair of transitions (any kinds incl. TESTANY/WAITANY with any
member lists, any parameter values, any actors), including *whether the checker aborts* (`none`).
Proof: unequal kinds are swapped into the same (row ≤ column) cell by both calls; equal kinds select a diagonal cell,
and every arm on the diagonal of the generated table is symmetric (`evalAction_diag_symm`, by cases over the table). -/
theorem depends_symm (t1 t2 : Tr) : depends t1 t2 = depends t2 t1 := by
  unfold depends
  by_cases h : t1.aid = t2.aid
  · simp [h]
  · have h' : ¬ t2.aid = t1.aid := fun e => h e.symm
    simp only [h, h', if_false]
    cases t1.current <;> cases t2.current <;> simp [dependsBase_symm]

/-- the table itself is symmetric (finite table: the 30 × 30 generated cells, evaluated). `dispatch_depends` only
reads the upper triangle, so this is about the builder (`rule` writes both cells), not needed by `depends_symm`. -/
theorem lut_symm (k1 k2 : Kind) : lut k1 k2 = lut k2 k1 :=
  of_decide_eq_true (Kind.forall₂ (p := fun a b => decide (lut a b = lut b a)) (by decide) k1 k2)

/-- every `static_cast<const XTransition*>` of the arm selected for a cell is applied to an object whose kind is
constructed as an `XTransition` by `deserialize_transition` (finite table). Otherwise the real `depends` would read
members of the wrong class. -/
theorem casts_wellTyped (k1 k2 : Kind) (h : k1.toNat ≤ k2.toNat) : castsOk k1 k2 = true :=
  of_decide_eq_true (Kind.forall₂ (p := fun a b => decide (a.toNat ≤ b.toNat → castsOk a b = true)) (by decide) k1 k2) h

/-- two transitions of the same actor are always dependent -/
theorem same_actor_dependent (t1 t2 : Tr) (h : t1.aid = t2.aid) : depends t1 t2 = some true := by
  simp [depends, h]

-- non-vacuity: concrete dependent and independent pairs, and a pair on which the checker aborts
example : depends (.base { kind := .MUTEX_ASYNC_LOCK, aid := 1, mutex := 3 })
                  (.base { kind := .MUTEX_TRYLOCK, aid := 2, mutex := 3 }) = some true := by decide
example : depends (.base { kind := .MUTEX_ASYNC_LOCK, aid := 1, mutex := 3 })
                  (.base { kind := .MUTEX_UNLOCK, aid := 2, mutex := 3 }) = some false := by decide
example : depends (.waitany 1 0 [{ kind := .COMM_WAIT, aid := 1, comm := 7, mbox := 2, sender := 1, receiver := -1 }])
                  (.base { kind := .COMM_ASYNC_RECV, aid := 2, mbox := 2 }) = none := by decide
example : depends (.waitany 1 1 [{ kind := .COMM_WAIT, aid := 1, comm := 7, mbox := 2, sender := 1, receiver := 2 },
                                 { kind := .COMM_WAIT, aid := 1, comm := 8, mbox := 2, sender := 1, receiver := -1 },
                                 { kind := .COMM_WAIT, aid := 1, comm := 9, mbox := 2, sender := 3, receiver := 1 }])
                  (.base { kind := .COMM_ASYNC_SEND, aid := 3, mbox := 2, comm := 9 }) = some true := by decide

/-! ## Declared-independent transitions commute (MC-mode semantics of `Sem`, unbounded queues, any number of actors)

Full-strength statement of the property (DESIGN §8 C39):
  theorem indep_commute : ∀ s t₁ t₂, aid t₁ ≠ aid t₂ → enabled s t₁ → enabled s t₂ → depends t₁ t₂ = some false →
      enabled (exec s t₁) t₂ ∧ enabled (exec s t₂) t₁ ∧ exec (exec s t₁) t₂ ≈ exec (exec s t₂) t₁
It WAS false for BARRIER_ASYNC_LOCK × BARRIER_ASYNC_LOCK and for COMM_TEST × COMM_ASYNC_SEND/RECV on an unpaired comm;
both cells are repaired (`barrier_lock_lock_counterexample`, `comm_send_test_counterexample` are now regression
statements: the OLD cell / arm, kept as literals, fails on the witness and the current `depends` answers "dependent").
Below: the groups mutex (25 pairs of kinds), semaphore (9), barrier (4) on `Sem.State` and the repaired cell COMM_TEST ×
COMM_ASYNC_SEND on the mailbox mini-model; all pairs of kinds: `indep_commute` further down, on the `World`.
`≈` is `State.equiv` (pointwise equality: the transitions of these groups allocate no identifiers). -/
open Sem

/-- **Mutex group** — every pair of MUTEX_{ASYNC_LOCK,TEST,TRYLOCK,UNLOCK,WAIT} transitions of different actors, on
the same or on different mutexes, any owner, any waiting queue.  `wf` excludes only an UNLOCK by a non-owner, on which
`MutexImpl::unlock` aborts ("undefined behavior" per its own message); the conclusion includes that neither order hits
that assertion and that each actor observes the same result (`ret`: try_lock / test outcome) in both orders. -/
theorem indep_commute_mutex (s : State) (t1 t2 : Base)
    (h1 : isMutexKind t1.kind = true) (h2 : isMutexKind t2.kind = true) (ha : t1.aid ≠ t2.aid)
    (e1 : enabled s t1 = true) (e2 : enabled s t2 = true) (w1 : wf s t1 = true) (w2 : wf s t2 = true)
    (hd : depends (.base t1) (.base t2) = some false) :
    enabled (exec s t1) t2 = true ∧ enabled (exec s t2) t1 = true ∧
    wf (exec s t1) t2 = true ∧ wf (exec s t2) t1 = true ∧
    (exec (exec s t1) t2).equiv (exec (exec s t2) t1) := by
  rw [depends_base _ _ ha] at hd
  rw [enabled_mutex _ _ h1] at e1
  rw [enabled_mutex _ _ h2] at e2
  rw [wf_mutex _ _ h1] at w1
  rw [wf_mutex _ _ h2] at w2
  rw [enabled_mutex _ _ h2, enabled_mutex _ _ h1, wf_mutex _ _ h2, wf_mutex _ _ h1]
  simp only [exec_mutex _ _ h1, exec_mutex _ _ h2]
  obtain ⟨c1, c2, c3, c4, c5⟩ := mutexS.commute s.mutex t1 t2 t1.mutex t2.mutex
    ((mutexS.okAt_uses h1 _).trans (Bool.and_eq_true_iff.mpr ⟨e1, w1⟩)) ((mutexS.okAt_uses h2 _).trans (Bool.and_eq_true_iff.mpr ⟨e2, w2⟩))
    fun hm => mutexOf_commuteAt id t1 t2 ha _ fun _ _ => mutex_indepSame t1 t2 h1 h2 hm hd
  simp only [mutexS.okAt_uses h1, mutexS.okAt_uses h2, mutexS.app_uses h1, mutexS.app_uses h2, mutexS.resAt_uses h1,
    mutexS.resAt_uses h2] at c1 c2 c3 c4 c5
  have c1 := Bool.and_eq_true_iff.mp c1
  have c2 := Bool.and_eq_true_iff.mp c2
  have c4 := Option.some.inj c4
  have c5 := Option.some.inj c5
  dsimp only [mutexS, mutexOf, id] at c4 c5
  rw [c4, c5]
  exact ⟨c1.1, c2.1, c1.2, c2.2, congrFun c3, fun _ => rfl, fun _ => rfl, congrFun (upd_comm _ _ _ ha), fun _ => rfl⟩

/-- without `wf` the mutex statement is false at model level: an actor queued on a mutex that issues UNLOCK
(impossible through s4u::Mutex, whose lock() is ASYNC_LOCK immediately followed by WAIT) becomes the owner if the real
owner unlocks first, and hits the assertion otherwise.  Recorded, not a finding: not reachable through the public API. -/
theorem mutex_unlock_nonowner_counterexample :
    let s : State := { mutex := fun _ => { owner := some 1, queue := [2] }, sem := fun _ => ⟨0, [], []⟩,
                       bar := fun _ => ⟨0, [], []⟩, ret := fun _ => 0, dead := fun _ => false }
    let t1 : Base := { kind := .MUTEX_UNLOCK, aid := 1, mutex := 0 }
    let t2 : Base := { kind := .MUTEX_UNLOCK, aid := 2, mutex := 0 }
    depends (.base t1) (.base t2) = some false ∧ wf s t2 = false ∧ wf (exec s t1) t2 = true := by decide

/-- **Semaphore group** — every pair of SEM_{ASYNC_LOCK,UNLOCK,WAIT} transitions of different actors, any value, any
queues; `SemSt.inv` (acquisitions only queue up at value 0) is the reachable-state invariant, preserved by every
transition (`sem_inv_preserved_all`). -/
theorem indep_commute_sem (s : State) (t1 t2 : Base)
    (h1 : isSemKind t1.kind = true) (h2 : isSemKind t2.kind = true) (ha : t1.aid ≠ t2.aid)
    (hinv : ∀ m, (s.sem m).inv)
    (e1 : enabled s t1 = true) (e2 : enabled s t2 = true)
    (hd : depends (.base t1) (.base t2) = some false) :
    enabled (exec s t1) t2 = true ∧ enabled (exec s t2) t1 = true ∧
    (exec (exec s t1) t2).equiv (exec (exec s t2) t1) := by
  rw [depends_base _ _ ha] at hd
  rw [enabled_sem _ _ h1] at e1
  rw [enabled_sem _ _ h2] at e2
  rw [enabled_sem _ _ h2, enabled_sem _ _ h1]
  simp only [exec_sem _ _ h1, exec_sem _ _ h2]
  obtain ⟨c1, c2, c3, -, -⟩ := semC.commute s.sem t1 t2 t1.sem t2.sem ((semC.okAt_uses h1 _).trans e1) ((semC.okAt_uses h2 _).trans e2)
    fun hm => semC_commuteAt t1 t2 ha _ (hinv _) fun _ _ => sem_indepSame t1 t2 h1 h2 hm hd
  simp only [semC.okAt_uses h1, semC.okAt_uses h2, semC.app_uses h1, semC.app_uses h2] at c1 c2 c3
  exact ⟨c1, c2, fun _ => rfl, congrFun c3, fun _ => rfl, fun _ => rfl, fun _ => rfl⟩

theorem sem_inv_preserved_all (s : State) (t : Base) (h : isSemKind t.kind = true) (hinv : ∀ m, (s.sem m).inv) :
    ∀ m, ((exec s t).sem m).inv :=
  sem_exec_inv s t hinv

/-- **Barrier group** — every pair of BARRIER_{ASYNC_LOCK,WAIT} transitions of different actors, on the same or on
different barriers, any expected count (0 included), any waiting / granted lists.  Since the repair of the cell
BARRIER_ASYNC_LOCK × BARRIER_ASYNC_LOCK the only pair declared independent on one barrier is WAIT × WAIT. -/
theorem indep_commute_bar (s : State) (t1 t2 : Base)
    (h1 : isBarKind t1.kind = true) (h2 : isBarKind t2.kind = true) (ha : t1.aid ≠ t2.aid)
    (e1 : enabled s t1 = true) (e2 : enabled s t2 = true)
    (hd : depends (.base t1) (.base t2) = some false) :
    enabled (exec s t1) t2 = true ∧ enabled (exec s t2) t1 = true ∧
    (exec (exec s t1) t2).equiv (exec (exec s t2) t1) := by
  rw [depends_base _ _ ha] at hd
  rw [enabled_bar _ _ h1] at e1
  rw [enabled_bar _ _ h2] at e2
  rw [enabled_bar _ _ h2, enabled_bar _ _ h1]
  simp only [exec_bar _ _ h1, exec_bar _ _ h2]
  obtain ⟨c1, c2, c3, -, -⟩ := barC.commute s.bar t1 t2 t1.bar t2.bar ((barC.okAt_uses h1 _).trans e1) ((barC.okAt_uses h2 _).trans e2)
    fun hm => barC_commuteAt t1 t2 ha _ fun _ _ => bar_indepSame t1 t2 h1 h2 hm hd
  simp only [barC.okAt_uses h1, barC.okAt_uses h2, barC.app_uses h1, barC.app_uses h2] at c1 c2 c3
  exact ⟨c1, c2, fun _ => rfl, fun _ => rfl, congrFun c3, fun _ => rfl, fun _ => rfl⟩

/-- **Regression (repaired defect `barrier-lock-lock-declared-independent`).**  Barrier of 2 with one actor (3) already
waiting; actors 1 and 2 both about to lock: whoever locks first trips the barrier together with 3 and the other one is
left waiting, so the two orders end in different states (and differ in which BARRIER_WAIT is enabled).  The OLD table
held `ALWAYS_INDEP` in the cell BARRIER_ASYNC_LOCK × BARRIER_ASYNC_LOCK (literal below: that arm answers "independent"
on this pair); the table as compiled now selects `EVAL_BARRIER_DEPENDS` and `depends` answers "dependent". -/
theorem barrier_lock_lock_counterexample :
    let s : State := { mutex := fun _ => ⟨none, []⟩, sem := fun _ => ⟨0, [], []⟩,
                       bar := fun _ => { expected := 2, waiting := [3], granted := [] }, ret := fun _ => 0, dead := fun _ => false }
    let t1 : Base := { kind := .BARRIER_ASYNC_LOCK, aid := 1, bar := 0 }
    let t2 : Base := { kind := .BARRIER_ASYNC_LOCK, aid := 2, bar := 0 }
    let w1 : Base := { kind := .BARRIER_WAIT, aid := 1, bar := 0 }
    evalAction .ALWAYS_INDEP t1 t2 = some false ∧                  -- the old cell
    lut .BARRIER_ASYNC_LOCK .BARRIER_ASYNC_LOCK = .EVAL_BARRIER_DEPENDS ∧ depends (.base t1) (.base t2) = some true ∧
    enabled s t1 = true ∧ enabled s t2 = true ∧
    (exec (exec s t1) t2).bar 0 ≠ (exec (exec s t2) t1).bar 0 ∧
    enabled (exec (exec s t1) t2) w1 = true ∧ enabled (exec (exec s t2) t1) w1 = false := by decide

/-- the arm EVAL_COMM_SEND_TEST (= EVAL_COMM_RECV_TEST up to the class of `t1`) as it was BEFORE the repair of
`comm-test-vs-async-send-recv-unpaired`, kept as a literal for the regression statement below:
  if (s->get_mailbox() != t->get_mailbox()) return false;
  if ((s->aid_ != t->get_sender()) && (s->aid_ != t->get_receiver())) return false;
  return t->get_comm() == s->get_comm(); -/
def oldCommSendTestArm (t1 t2 : Base) : Option Bool :=
  if t1.mbox != t2.mbox then some false
  else if (t1.aid != t2.sender) && (t1.aid != t2.receiver) then some false
  else some (t2.comm == t1.comm)

/-- the repaired arm = the old one preceded by "a test whose comm has no sender yet depends on every send on its mailbox" -/
theorem commSendTestArm_eq (t1 t2 : Base) :
    evalAction .EVAL_COMM_SEND_TEST t1 t2 =
      if t1.mbox != t2.mbox then some false else if !(t2.sender != -1) then some true else oldCommSendTestArm t1 t2 := by
  simp only [evalAction, oldCommSendTestArm]
  by_cases h : t1.mbox = t2.mbox <;> simp [h]

theorem commRecvTestArm_eq (t1 t2 : Base) :
    evalAction .EVAL_COMM_RECV_TEST t1 t2 =
      if t1.mbox != t2.mbox then some false else if !(t2.receiver != -1) then some true else oldCommSendTestArm t1 t2 := by
  simp only [evalAction, oldCommSendTestArm]
  by_cases h : t1.mbox = t2.mbox <;> simp [h]

/-- **Regression (repaired defect `comm-test-vs-async-send-recv-unpaired`).**  Actor 1 posted a receive (comm 7 on
mailbox 0, no sender yet) and is about to test it; actor 2 is about to send on mailbox 0.  The OLD arm answered
"independent" because actor 2 is neither the sender (-1) nor the receiver (1) recorded in the test, but the send pairs
comm 7: the test fails if it goes first and succeeds if it goes second.  The current `depends` answers "dependent". -/
theorem comm_send_test_counterexample :
    let s : CommSem.CState := { sender := fun _ => -1, receiver := fun c => if c = 7 then 1 else -1,
                                recvq := fun m => if m = 0 then [7] else [], ret := fun _ => 0, exists_ := fun _ => true }
    let t1 : Base := { kind := .COMM_TEST, aid := 1, comm := 7, sender := -1, receiver := 1, mbox := 0 }
    let t2 : Base := { kind := .COMM_ASYNC_SEND, aid := 2, comm := 0, mbox := 0 }
    oldCommSendTestArm t2 t1 = some false ∧                         -- the old arm (operands in table order: SEND, TEST)
    lut .COMM_ASYNC_SEND .COMM_TEST = .EVAL_COMM_SEND_TEST ∧ depends (.base t1) (.base t2) = some true ∧
    CommSem.enabled s t1 = true ∧ CommSem.enabled s t2 = true ∧
    (CommSem.exec (CommSem.exec s t1) t2).ret 1 = 0 ∧ (CommSem.exec (CommSem.exec s t2) t1).ret 1 = 1 := by decide

/-- **Repaired cell COMM_ASYNC_SEND × COMM_TEST commutes** on the mailbox mini-model `CommSem` (receive queues only), for
every state, every test and every send of different actors.  Hypotheses tying the test's label to the state, as the
application reports it: the recorded sender/receiver are those of the tested comm (`hs`, `hr`); a pending receive has no
sender yet, and the tested comm, if still pending, is pending in the mailbox recorded in the test (`hq`). -/
theorem comm_send_test_commute (s : CommSem.CState) (t1 t2 : Base)
    (h1 : t1.kind = .COMM_TEST) (h2 : t2.kind = .COMM_ASYNC_SEND) (ha : t1.aid ≠ t2.aid)
    (hs : t1.sender = s.sender t1.comm) (_hr : t1.receiver = s.receiver t1.comm)
    (hq : ∀ m c, c ∈ s.recvq m → s.sender c = -1 ∧ (c = t1.comm → m = t1.mbox))
    (hd : depends (.base t1) (.base t2) = some false) :
    CommSem.enabled (CommSem.exec s t1) t2 = CommSem.enabled s t2 ∧
    CommSem.enabled (CommSem.exec s t2) t1 = CommSem.enabled s t1 ∧
    (CommSem.exec (CommSem.exec s t1) t2).ret t1.aid = (CommSem.exec s t1).ret t1.aid ∧
    (∀ a, (CommSem.exec (CommSem.exec s t1) t2).ret a = (CommSem.exec (CommSem.exec s t2) t1).ret a) ∧
    (∀ c, (CommSem.exec (CommSem.exec s t1) t2).sender c = (CommSem.exec (CommSem.exec s t2) t1).sender c) ∧
    (∀ m, (CommSem.exec (CommSem.exec s t1) t2).recvq m = (CommSem.exec (CommSem.exec s t2) t1).recvq m) := by
  have hdep : evalAction .EVAL_COMM_SEND_TEST t2 t1 = some false := by
    simpa [depends, Tr.aid, Tr.current, dependsBase, ha, h1, h2, Kind.toNat, lut, lutRow_COMM_ASYNC_SEND] using hd
  rw [commSendTestArm_eq] at hdep
  cases hqm : s.recvq t2.mbox with
  | nil => simp [CommSem.exec, CommSem.enabled, h1, h2, hqm]
  | cons c cs =>
    have hc := hq t2.mbox c (by simp [hqm])
    have hne : ¬ t1.comm = c := by
      intro e
      have hm : t2.mbox = t1.mbox := hc.2 e.symm
      have hs' : t1.sender = -1 := by rw [hs, e]; exact hc.1
      simp [hm, hs'] at hdep
    simp [CommSem.exec, CommSem.enabled, CommSem.upd, h1, h2, hqm, hne]

/-- **Regression (repaired defect `random-indep-of-own-actor-create` / `odpor-random-with-created-actor-spurious-crash`).**
`rule_all(RANDOM, ALWAYS_INDEP)` used to overwrite the cell RANDOM × ACTOR_CREATE too (old cell value as a literal
below), so the first transition of a created actor, when it is a RANDOM, was declared independent of the ACTOR_CREATE
that *enables* it.  The cell is `EVAL_T2_ACTOR_CREATE` again: dependent iff the RANDOM is issued by the created actor. -/
theorem random_create_enables_counterexample :
    let s : CommSem.CState := { sender := fun _ => -1, receiver := fun _ => -1, recvq := fun _ => [], ret := fun _ => 0,
                                exists_ := fun a => a == 1 }
    let t1 : Base := { kind := .ACTOR_CREATE, aid := 1, child := 3 }
    let t2 : Base := { kind := .RANDOM, aid := 3, min := 0, max := 1 }
    let t3 : Base := { kind := .RANDOM, aid := 2, min := 0, max := 1 }
    evalAction .ALWAYS_INDEP t2 t1 = some false ∧                   -- the old cell
    lut .RANDOM .ACTOR_CREATE = .EVAL_T2_ACTOR_CREATE ∧
    depends (.base t1) (.base t2) = some true ∧ depends (.base t1) (.base t3) = some false ∧
    CommSem.enabled s t2 = false ∧ CommSem.enabled (CommSem.exec s t1) t2 = true := by decide

-- non-vacuity of the commute theorems: a declared-independent, co-enabled LOCK/UNLOCK pair on a contended mutex
example :
    let s : State := { mutex := fun _ => { owner := some 2, queue := [5] }, sem := fun _ => ⟨0, [], []⟩,
                       bar := fun _ => ⟨0, [], []⟩, ret := fun _ => 0, dead := fun _ => false }
    let t1 : Base := { kind := .MUTEX_ASYNC_LOCK, aid := 1, mutex := 0 }
    let t2 : Base := { kind := .MUTEX_UNLOCK, aid := 2, mutex := 0 }
    isMutexKind t1.kind = true ∧ isMutexKind t2.kind = true ∧ enabled s t1 = true ∧ enabled s t2 = true ∧
    wf s t1 = true ∧ wf s t2 = true ∧ depends (.base t1) (.base t2) = some false ∧
    (exec (exec s t1) t2).mutex 0 = { owner := some 5, queue := [1] } := by decide
example :
    let s : State := { mutex := fun _ => ⟨none, []⟩, sem := fun _ => { value := 0, queue := [4], granted := [2] },
                       bar := fun _ => ⟨0, [], []⟩, ret := fun _ => 0, dead := fun _ => false }
    let t1 : Base := { kind := .SEM_UNLOCK, aid := 1, sem := 0 }
    let t2 : Base := { kind := .SEM_WAIT, aid := 2, sem := 0 }
    enabled s t1 = true ∧ enabled s t2 = true ∧ (s.sem 0).inv ∧ depends (.base t1) (.base t2) = some true := by
  refine ⟨by decide, by decide, ?_, by decide⟩
  simp [SemSt.inv]

-- non-vacuity of `indep_commute_bar`: two granted waiters of one barrier (WAIT × WAIT), and locks of two barriers
example :
    let s : State := { mutex := fun _ => ⟨none, []⟩, sem := fun _ => ⟨0, [], []⟩,
                       bar := fun _ => { expected := 2, waiting := [], granted := [1, 2] }, ret := fun _ => 0, dead := fun _ => false }
    let t1 : Base := { kind := .BARRIER_WAIT, aid := 1, bar := 0 }
    let t2 : Base := { kind := .BARRIER_WAIT, aid := 2, bar := 0 }
    isBarKind t1.kind = true ∧ isBarKind t2.kind = true ∧ enabled s t1 = true ∧ enabled s t2 = true ∧
    depends (.base t1) (.base t2) = some false ∧ (exec (exec s t1) t2).bar 0 = { expected := 2, waiting := [], granted := [] } := by
  decide
example : depends (.base { kind := .BARRIER_ASYNC_LOCK, aid := 1, bar := 0 })
                  (.base { kind := .BARRIER_ASYNC_LOCK, aid := 2, bar := 1 }) = some false := by decide
-- non-vacuity of `comm_send_test_commute`: the tested comm (7, mailbox 0) is already paired, another receive (8) is pending
example :
    let s : CommSem.CState := { sender := fun c => if c = 7 then 3 else -1, receiver := fun c => if c = 7 then 1 else if c = 8 then 4 else -1,
                                recvq := fun m => if m = 0 then [8] else [], ret := fun _ => 0, exists_ := fun _ => true }
    let t1 : Base := { kind := .COMM_TEST, aid := 1, comm := 7, sender := 3, receiver := 1, mbox := 0 }
    let t2 : Base := { kind := .COMM_ASYNC_SEND, aid := 2, comm := 0, mbox := 0 }
    t1.sender = s.sender t1.comm ∧ t1.receiver = s.receiver t1.comm ∧ depends (.base t1) (.base t2) = some false ∧
    (CommSem.exec (CommSem.exec s t2) t1).ret 1 = 1 ∧ (CommSem.exec s t2).sender 8 = 2 := by decide
example :     -- ... and that state satisfies the queue hypothesis `hq` of the theorem
    let s : CommSem.CState := { sender := fun c => if c = 7 then 3 else -1, receiver := fun c => if c = 7 then 1 else if c = 8 then 4 else -1,
                                recvq := fun m => if m = 0 then [8] else [], ret := fun _ => 0, exists_ := fun _ => true }
    ∀ m c, c ∈ s.recvq m → s.sender c = -1 ∧ (c = 7 → m = 0) := by
  intro s m c h
  by_cases hm : m = 0
  · have hc : c = 8 := by simpa [s, hm] using h
    subst hc; simp [s]
  · simp [s, hm] at h


/-! ## `indep_commute` over ALL pairs of kinds (World = mutexes, semaphores, barriers, condition variables, mailboxes,
actor table; MC-mode semantics, unbounded queues, any number of actors)

Full-strength statement (DESIGN §8 C39), FALSE on the current table because of ONE cell:
  ∀ w t₁ t₂, w.inv → aid t₁ ≠ aid t₂ → fireable w t₁ → fireable w t₂ → depends t₁ t₂ = some false →
     fireable (exec w t₁) t₂ ∧ fireable (exec w t₂) t₁ ∧ exec (exec w t₁) t₂ ≈ exec (exec w t₂) t₁
`condvar_async_lock_pair_counterexample`: two CONDVAR_ASYNC_LOCK on ONE condition variable (with two mutexes) are
`ALWAYS_INDEP` in the table but enqueue their issuers in execution order (finding
`condvar-async-lock-pair-declared-independent`, replayed on the real implementation).  `indep_commute` below is the
statement with exactly that cell excluded (`calPair`).  `fireable` = issuer alive ∧ observer `is_enabled()` ∧ no kernel
`xbt_assert` (unlock / condvar wait by a non-owner) ∧ the label describes the state (comm number, recorded peers, fresh
child pid, no timeout).  `≈` = equality location by location. -/
open Full

/-- **Declared-independent transitions commute — every pair of kinds** (30 × 30 cells of the generated table, every arm,
all parameters), for every state of the World satisfying the semaphore invariant, any queues, any number of actors:
both stay fireable (neither disables the other, no kernel assertion appears, labels stay valid) and the two orders reach
the same state.  Only hypothesis on the cell: it is not `calPair` (two CONDVAR_ASYNC_LOCK on one condvar: counterexample
below).  Kinds the checker refuses (`depends = none`: *_NOMC, unwrapped ANY) are excluded by `hd` itself.
Proof: footprint theorem (`Full.disjoint_commute`) for the cross-group cells (`Full.tag_noWrite`, finite table
`Full.family_table`), non-co-enabledness for the ACTOR_JOIN / ACTOR_CREATE rows, `Full.plain_commute` for the kinds that
act on objects. -/
theorem indep_commute (w : World) (t1 t2 : Base) (hinv : w.inv) (ha : t1.aid ≠ t2.aid)
    (f1 : fireable w t1 = true) (f2 : fireable w t2 = true)
    (hd : depends (.base t1) (.base t2) = some false) (hx : calPair t1 t2 = false) :
    fireable (Full.exec w t1) t2 = true ∧ fireable (Full.exec w t2) t1 = true ∧
    (Full.exec (Full.exec w t1) t2).equiv (Full.exec (Full.exec w t2) t1) :=
  indep_commute_aux w t1 t2 hinv ha f1 f2 hd hx

/-- the footprint argument, on its own: two transitions none of which writes a location the other reads or writes
(`Full.rd`, `Full.wr`: lists of locations per kind) commute and leave each other's fireability unchanged — whatever
the table says.  Used for all cross-group cells (mutex × sem, comm × mutex, …). -/
theorem footprint_commute (w : World) (t1 t2 : Base) (h21 : noWriteInto t2 t1) (h12 : noWriteInto t1 t2) :
    fireable (Full.exec w t1) t2 = fireable w t2 ∧ fireable (Full.exec w t2) t1 = fireable w t1 ∧
    (Full.exec (Full.exec w t1) t2).equiv (Full.exec (Full.exec w t2) t1) :=
  disjoint_commute w t1 t2 h21 h12

/-- cross-group cells: whenever the shared locations of two kinds carry different tags (finite table `tagDisj`) the
footprints of two transitions of different actors are disjoint, for all parameters -/
theorem cross_group_footprints_disjoint (t1 t2 : Base) (ha : t1.aid ≠ t2.aid) (h : tagDisj t1.kind t2.kind = true) :
    noWriteInto t2 t1 ∧ noWriteInto t1 t2 :=
  tag_noWrite t1 t2 ha h

/-- the World invariant (acquisitions of a semaphore only queue up at value 0) is preserved by every transition -/
theorem world_inv_preserved (w : World) (t : Base) (hinv : w.inv) : (Full.exec w t).inv := by
  intro m
  show ((core w t).sync.sem m).inv
  unfold core
  split <;> first | exact hinv m | exact sem_exec_inv w.sync t hinv m

/-- a World for the examples: everything empty, actors 1..4 exist with 5 transitions left each -/
def w0 : World :=
  { sync := { mutex := fun _ => ⟨none, []⟩, sem := fun _ => ⟨0, [], []⟩, bar := fun _ => ⟨0, [], []⟩, ret := fun _ => 0, dead := fun _ => false },
    cvW := fun _ => [], cvG := fun _ => [], sends := fun _ => [], recvs := fun _ => [],
    ex := fun a => decide (1 ≤ a ∧ a ≤ 4), left := fun _ => 5, nextPid := 5 }

/-- **Counterexample (finding `condvar-async-lock-pair-declared-independent`).**  Actor 1 owns mutex 0, actor 2 owns
mutex 1, both are about to wait on condition variable 0 (CONDVAR_ASYNC_LOCK).  The table answers "independent"
(`ALWAYS_INDEP`), both are fireable, but the waiting queue of the condvar is [1,2] in one order and [2,1] in the other:
a later CONDVAR_SIGNAL grants actor 1 in one case and actor 2 in the other.  Replayed on the real implementation
(props/C39/witness_condvar.cpp: outcomes `1|0|` vs `0|1|`; dpor / sdpor / odpor explore one execution and miss the other). -/
theorem condvar_async_lock_pair_counterexample :
    let w : World := { w0 with sync := { w0.sync with mutex := fun m => if m = 0 then ⟨some 1, []⟩ else if m = 1 then ⟨some 2, []⟩ else ⟨none, []⟩ } }
    let t1 : Base := { kind := .CONDVAR_ASYNC_LOCK, aid := 1, condvar := 0, mutex := 0 }
    let t2 : Base := { kind := .CONDVAR_ASYNC_LOCK, aid := 2, condvar := 0, mutex := 1 }
    let sg : Base := { kind := .CONDVAR_SIGNAL, aid := 3, condvar := 0 }
    lut .CONDVAR_ASYNC_LOCK .CONDVAR_ASYNC_LOCK = .ALWAYS_INDEP ∧ depends (.base t1) (.base t2) = some false ∧
    fireable w t1 = true ∧ fireable w t2 = true ∧ calPair t1 t2 = true ∧
    (Full.exec (Full.exec w t1) t2).cvW 0 = [1, 2] ∧ (Full.exec (Full.exec w t2) t1).cvW 0 = [2, 1] ∧
    (Full.exec (Full.exec (Full.exec w t1) t2) sg).cvG 0 = [1] ∧ (Full.exec (Full.exec (Full.exec w t2) t1) sg).cvG 0 = [2] := by
  decide

-- non-vacuity of `indep_commute`: a cross-group pair, a comm pair on one mailbox, a condvar / mutex pair on one mutex
example :       -- MUTEX_UNLOCK (hand-off to the queue) × SEM_ASYNC_LOCK
    let w : World := { w0 with sync := { w0.sync with mutex := fun _ => ⟨some 1, [3]⟩ } }
    let t1 : Base := { kind := .MUTEX_UNLOCK, aid := 1, mutex := 0 }
    let t2 : Base := { kind := .SEM_ASYNC_LOCK, aid := 2, sem := 0 }
    fireable w t1 = true ∧ fireable w t2 = true ∧ depends (.base t1) (.base t2) = some false ∧ calPair t1 t2 = false ∧
    (Full.exec (Full.exec w t1) t2).sync.mutex 0 = ⟨some 3, []⟩ ∧ (Full.exec (Full.exec w t1) t2).sync.sem 0 = ⟨0, [2], []⟩ := by decide
example : w0.inv := by intro m; simp [w0, SemSt.inv]
example :       -- COMM_ASYNC_SEND × COMM_TEST on mailbox 0: the tested comm (0,0) already has its sender (3), the send is comm (0,1)
    let w : World := { w0 with sends := fun x => if x = 0 then [3] else [], recvs := fun _ => [] }
    let t1 : Base := { kind := .COMM_ASYNC_SEND, aid := 1, mbox := 0, comm := 1 }
    let t2 : Base := { kind := .COMM_TEST, aid := 2, mbox := 0, comm := 0, sender := 3, receiver := -1 }
    fireable w t1 = true ∧ fireable w t2 = true ∧ depends (.base t1) (.base t2) = some false ∧
    (Full.exec (Full.exec w t1) t2).sends 0 = [3, 1] ∧ (Full.exec (Full.exec w t1) t2).sync.ret 2 = 0 := by decide
example :       -- CONDVAR_ASYNC_LOCK (releases mutex 0 to the queue) × CONDVAR_WAIT of a granted actor (lock_async on mutex 0)
    let w : World := { w0 with sync := { w0.sync with mutex := fun _ => ⟨some 1, [4]⟩ }, cvG := fun _ => [2] }
    let t1 : Base := { kind := .CONDVAR_ASYNC_LOCK, aid := 1, condvar := 0, mutex := 0 }
    let t2 : Base := { kind := .CONDVAR_WAIT, aid := 2, condvar := 0, mutex := 0, granted := true }
    fireable w t1 = true ∧ fireable w t2 = true ∧ depends (.base t1) (.base t2) = some false ∧ calPair t1 t2 = false ∧
    (Full.exec (Full.exec w t1) t2).sync.mutex 0 = ⟨some 4, [2]⟩ ∧ (Full.exec (Full.exec w t2) t1).sync.mutex 0 = ⟨some 4, [2]⟩ := by decide
example :       -- footprints: a semaphore transition and a mailbox transition never meet
    tagDisj .SEM_UNLOCK .COMM_ASYNC_RECV = true ∧ tagDisj .MUTEX_UNLOCK .MUTEX_ASYNC_LOCK = false := by decide


/-- **C38's hypothesis `LTS.Commutes` discharged on the World** for the relation `crossDep` (independent = different
actors, no ACTOR_JOIN / ACTOR_CREATE, kinds with tag-disjoint footprints: all cross-group cells and the read-only pairs of a
group): symmetric, "neither enables nor disables" with the labels included, equal states — in every state. -/
theorem world_commutes_cross : McRef.LTS.Commutes worldLTS crossDep := Full.world_commutes_cross

/-- hence (C38 `equiv_traces_same_outcome`): two executions of the World that differ by swaps of adjacent cross-group
transitions reach the same state (or are both refused), from every state -/
theorem world_equiv_traces_same_state {u v : List Base} (h : McRef.TraceEq crossDep u v) (w : World) :
    worldLTS.run w u = worldLTS.run w v :=
  C38.equiv_traces_same_outcome worldLTS crossDep Full.world_commutes_cross h w

/-- for the WHOLE table (minus `calPair`), the "commute" and "do not disable" parts of `LTS.Commutes`, with EQUAL states.
Missing for `Commutes worldLTS (table)`: "does not enable" inside the families; it is FALSE for the cells
RANDOM × ACTOR_JOIN and ACTOR_CREATE × ACTOR_JOIN when the join targets the issuer (`random_join_enables_counterexample`). -/
theorem world_indep_comm (w : World) (t1 t2 : Base) (hinv : w.inv) (ha : t1.aid ≠ t2.aid)
    (f1 : worldLTS.enabled w t1 = true) (f2 : worldLTS.enabled w t2 = true)
    (hd : depends (.base t1) (.base t2) = some false) (hx : calPair t1 t2 = false) :
    worldLTS.enabled (worldLTS.exec w t1) t2 = true ∧ worldLTS.enabled (worldLTS.exec w t2) t1 = true ∧
    worldLTS.exec (worldLTS.exec w t1) t2 = worldLTS.exec (worldLTS.exec w t2) t1 :=
  Full.world_indep_comm w t1 t2 hinv ha f1 f2 hd hx

/-- **"does not enable" fails for RANDOM × ACTOR_JOIN** (model level; the strengthening C38 needs, not part of the C39
statement, which is about co-enabled transitions).  Actor 1 is about to do its LAST transition, a RANDOM; actor 2 waits to
join it.  The table says independent (`rule_all(RANDOM, ALWAYS_INDEP)` overwrites the cell, like it did for RANDOM ×
ACTOR_CREATE), the join is not fireable before the RANDOM and fireable after it.  Same for ACTOR_CREATE as last transition
(cell EVAL_T2_ACTOR_CREATE only looks at the created child). -/
theorem random_join_enables_counterexample :
    let w : World := { w0 with left := fun a => if a = 1 then 1 else 5 }
    let t1 : Base := { kind := .RANDOM, aid := 1, min := 0, max := 1 }
    let c1 : Base := { kind := .ACTOR_CREATE, aid := 1, child := 5 }
    let t2 : Base := { kind := .ACTOR_JOIN, aid := 2, target := 1 }
    depends (.base t1) (.base t2) = some false ∧ depends (.base c1) (.base t2) = some false ∧
    fireable w t1 = true ∧ fireable w c1 = true ∧ fireable w t2 = false ∧
    fireable (Full.exec w t1) t2 = true ∧ fireable (Full.exec w c1) t2 = true := by decide

-- non-vacuity of `world_commutes_cross` / `world_equiv_traces_same_state`: a lock and a send swapped around a test
example :
    let a : Base := { kind := .MUTEX_ASYNC_LOCK, aid := 1, mutex := 0 }
    let b : Base := { kind := .COMM_ASYNC_SEND, aid := 2, mbox := 0, comm := 0 }
    crossDep a b = false ∧ worldLTS.enabled w0 a = true ∧ worldLTS.enabled w0 b = true ∧
    (worldLTS.run w0 [a, b]).isSome = true := by decide
example : McRef.TraceEq crossDep
    [{ kind := .MUTEX_ASYNC_LOCK, aid := 1, mutex := 0 }, { kind := .COMM_ASYNC_SEND, aid := 2, mbox := 0, comm := 0 }]
    [{ kind := .COMM_ASYNC_SEND, aid := 2, mbox := 0, comm := 0 }, { kind := .MUTEX_ASYNC_LOCK, aid := 1, mutex := 0 }] :=
  .swap _ _ [] (by decide)

end SgVerif.C39
