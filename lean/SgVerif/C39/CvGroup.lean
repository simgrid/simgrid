import SgVerif.C39.Frame
import SgVerif.C39.Lemmas
/-
C39 — lock family: mutex transitions and condition variables.  Every handler of the family is one operation on its mutex
(`mutexC`, through `lockOp`) and one on its condition variable (`cvC`); `cv_table` reads off the table which pairs of them
are independent on one object.
-/
namespace SgVerif.C39.Full
open Sem

def isCvKind : Kind → Bool
  | .CONDVAR_ASYNC_LOCK | .CONDVAR_SIGNAL | .CONDVAR_BROADCAST | .CONDVAR_WAIT => true
  | _ => false

/-- what a handler does to the queues (waiting, granted) of its condition variable -/
def cvStep (k : Kind) (a : Int) (q : List Int × List Int) : List Int × List Int :=
  match k with
  | .CONDVAR_ASYNC_LOCK => (q.1 ++ [a], q.2)
  | .CONDVAR_SIGNAL => (q.1.tail, q.2 ++ q.1.take 1)
  | .CONDVAR_BROADCAST => ([], q.2 ++ q.1)
  | .CONDVAR_WAIT => (q.1, q.2.erase a)
  | _ => q

def cvEn : Kind → Int → List Int → Bool
  | .CONDVAR_WAIT, a, g => g.contains a
  | _, _, _ => true

def isSignalKind (k : Kind) : Bool := k == .CONDVAR_SIGNAL || k == .CONDVAR_BROADCAST

/-- pairs of kinds whose operations on ONE condition variable commute: all but two CONDVAR_ASYNC_LOCK (queue order) and a
wake-up against a CONDVAR_ASYNC_LOCK or a CONDVAR_WAIT -/
def cvIndepSame (k1 k2 : Kind) : Bool :=
  !(k1 == .CONDVAR_ASYNC_LOCK && k2 == .CONDVAR_ASYNC_LOCK) &&
  !(isSignalKind k1 && (k2 == .CONDVAR_ASYNC_LOCK || k2 == .CONDVAR_WAIT)) &&
  !(isSignalKind k2 && (k1 == .CONDVAR_ASYNC_LOCK || k1 == .CONDVAR_WAIT))

theorem cvKind_cases (k : Kind) (h : isCvKind k = true) :
    k = .CONDVAR_ASYNC_LOCK ∨ k = .CONDVAR_SIGNAL ∨ k = .CONDVAR_BROADCAST ∨ k = .CONDVAR_WAIT := by
  cases k <;> first | (cases h; done) | decide

theorem cv_obj_commute (q : List Int × List Int) (k1 k2 : Kind) (a1 a2 : Int) (ha : a1 ≠ a2)
    (h1 : isCvKind k1 = true) (h2 : isCvKind k2 = true) (hi : cvIndepSame k1 k2 = true)
    (e1 : cvEn k1 a1 q.2 = true) (e2 : cvEn k2 a2 q.2 = true) :
    cvEn k2 a2 (cvStep k1 a1 q).2 = true ∧ cvEn k1 a1 (cvStep k2 a2 q).2 = true ∧
    cvStep k2 a2 (cvStep k1 a1 q) = cvStep k1 a1 (cvStep k2 a2 q) := by
  have ha' : a2 ≠ a1 := fun e => ha e.symm
  obtain ⟨wq, g⟩ := q
  rcases cvKind_cases _ h1 with rfl | rfl | rfl | rfl <;> rcases cvKind_cases _ h2 with rfl | rfl | rfl | rfl
  -- the pair is excluded by `hi`; or both orders are the same term; or (signal / broadcast) `take 1 ++ tail`; or the
  -- two operations touch different queues or erase different issuers
  all_goals first
    | exact absurd hi (by decide)
    | exact ⟨rfl, rfl, rfl⟩
    | (refine ⟨rfl, rfl, ?_⟩; cases wq <;> simp [cvStep]; done)
    | (simp_all [cvStep, cvEn, List.mem_erase_of_ne, List.erase_comm]; done)


def isLockKind (k : Kind) : Bool := isMutexKind k || isCvKind k

theorem lockKind_cases (k : Kind) (h : isLockKind k = true) :
    k = .MUTEX_ASYNC_LOCK ∨ k = .MUTEX_TEST ∨ k = .MUTEX_TRYLOCK ∨ k = .MUTEX_UNLOCK ∨ k = .MUTEX_WAIT ∨
    k = .CONDVAR_ASYNC_LOCK ∨ k = .CONDVAR_SIGNAL ∨ k = .CONDVAR_BROADCAST ∨ k = .CONDVAR_WAIT := by
  cases k <;> first | (cases h; done) | decide

def lockIndepSame (k1 k2 : Kind) : Bool :=
  !(isMutexKind (lockOp k1) && isMutexKind (lockOp k2)) || indepSame (lockOp k1) (lockOp k2)

/-- the label of a CONDVAR_WAIT carries no timeout (`labelOk`) -/
def noTimeout : Kind → Bool → Bool
  | .CONDVAR_WAIT, timeout => !timeout
  | _, _ => true

def cvC : Comp₂ (List Int) (List Int) where
  uses t := isCvKind t.kind
  step t q := cvStep t.kind t.aid q
  ok t q := cvEn t.kind t.aid q.2 && noTimeout t.kind t.timeout
  res _ _ := none
  w₁ t := isCvKind t.kind && t.kind != .CONDVAR_WAIT
  w₂ t := isCvKind t.kind && t.kind != .CONDVAR_ASYNC_LOCK
  idle₁ := fun t _ h => by obtain ⟨k⟩ := t; cases k <;> first | (cases h; done) | rfl
  idle₂ := fun t _ h => by obtain ⟨k⟩ := t; cases k <;> first | (cases h; done) | rfl

theorem cvC_commuteAt (t1 t2 : Base) (ha : t1.aid ≠ t2.aid) (q : List Int × List Int)
    (hi : isCvKind t1.kind = true → isCvKind t2.kind = true → cvIndepSame t1.kind t2.kind = true) : cvC.CommuteAt t1 t2 q := by
  refine .of_uses fun u1 u2 o1 o2 => ?_
  have o1 := Bool.and_eq_true_iff.mp o1
  have o2 := Bool.and_eq_true_iff.mp o2
  obtain ⟨c1, c2, c3⟩ := cv_obj_commute q _ _ _ _ ha u1 u2 (hi u1 u2) o1.1 o2.1
  exact ⟨Bool.and_eq_true_iff.mpr ⟨c1, o2.2⟩, Bool.and_eq_true_iff.mpr ⟨c2, o1.2⟩, c3, rfl, rfl⟩

/-- THE cell that does not commute (finding `condvar-async-lock-pair-declared-independent`): two CONDVAR_ASYNC_LOCK on one
condition variable are declared independent (`ALWAYS_INDEP`) but queue their issuers in the order in which they run -/
def calPair (t1 t2 : Base) : Bool :=
  t1.kind == .CONDVAR_ASYNC_LOCK && t2.kind == .CONDVAR_ASYNC_LOCK && t1.condvar == t2.condvar

theorem cv_table (t1 t2 : Base) (h1 : isCvKind t1.kind = true) (h2 : isLockKind t2.kind = true)
    (hd : dependsBase t1 t2 = some false) (hx : calPair t1 t2 = false) :
    (t1.mutex = t2.mutex → lockIndepSame t1.kind t2.kind = true) ∧
    (t1.condvar = t2.condvar → cvIndepSame t1.kind t2.kind = true) := by
  rcases cvKind_cases _ h1 with hk1 | hk1 | hk1 | hk1
  all_goals rw [hk1]; rcases lockKind_cases _ h2 with hk2 | hk2 | hk2 | hk2 | hk2 | hk2 | hk2 | hk2 | hk2 <;> rw [hk2]
  -- two CONDVAR_ASYNC_LOCK: first alternative of `cvKind_cases`, sixth of `lockKind_cases`
  case inl.inr.inr.inr.inr.inr.inl =>
    refine ⟨fun _ => by decide, fun e => ?_⟩
    simp [calPair, hk1, hk2, e] at hx
  all_goals
    rw [dependsBase_of_kinds t1 t2 _ _ hk1 hk2] at hd
    conv at hd => lhs; whnf
    simp at hd
    refine ⟨fun e => ?_, fun e => ?_⟩
  -- each implication is a closed Boolean fact, or its premise is what the table (`hd`) excludes
  all_goals first | decide | exact absurd e hd | exact absurd e.symm hd

theorem calPair_comm (t1 t2 : Base) : calPair t1 t2 = calPair t2 t1 := by
  simp only [calPair]
  rw [Bool.and_comm (t1.kind == _), BEq.comm (a := t1.condvar)]

end SgVerif.C39.Full
