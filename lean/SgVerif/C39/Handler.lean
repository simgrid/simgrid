import SgVerif.C39.CvGroup
import SgVerif.C39.CommGroup
/-
C39 — the handlers of the nineteen kinds that act on mutexes, semaphores, barriers, condition variables and mailboxes, as ONE
form: on each of the five sorts of objects the operation of `Comp` on the object the transition names (none if the sort does
not concern it), and a result for the issuer.  Two such transitions of different actors commute as soon as their operations
commute on every object they both name (`plain_commute`).
-/
namespace SgVerif.C39.Full
open Sem

/-- the kinds whose handler touches nothing but the objects it names and the result of its issuer -/
def plainK (k : Kind) : Bool := isLockKind k || isSemKind k || isBarKind k || isCommKind k

theorem report_comm (r : Int → Int) {a1 a2 : Int} (ha : a1 ≠ a2) (p1 p2 : Option Int) :
    report (report r a1 p1) a2 p2 = report (report r a2 p2) a1 p1 := by
  cases p1 <;> cases p2 <;> first | rfl | exact upd_comm _ _ _ ha

/-- a mutex kind reports the result of its mutex operation (the two condvar kinds perform one and report nothing), a
COMM_TEST / COMM_WAIT / COMM_IPROBE what it saw in its mailbox -/
def plainRes (w : World) (t : Base) : Option Int :=
  (bif isMutexKind t.kind then mutexC.resAt t (w.sync.mutex t.mutex) else none) <|> mbC.resAt t (w.sends t.mbox, w.recvs t.mbox)

def plainCore (w : World) (t : Base) : World :=
  { w with
    sync := { mutex := mutexC.app t t.mutex w.sync.mutex, sem := semC.app t t.sem w.sync.sem, bar := barC.app t t.bar w.sync.bar,
              ret := report w.sync.ret t.aid (plainRes w t), dead := w.sync.dead },
    cvW := cvC.app₁ t t.condvar w.cvW w.cvG, cvG := cvC.app₂ t t.condvar w.cvW w.cvG,
    sends := mbC.app₁ t t.mbox w.sends w.recvs, recvs := mbC.app₂ t t.mbox w.sends w.recvs }

def plainOk (w : World) (t : Base) : Bool :=
  mutexC.okAt t (w.sync.mutex t.mutex) && semC.okAt t (w.sync.sem t.sem) && barC.okAt t (w.sync.bar t.bar) &&
  cvC.okAt t (w.cvW t.condvar, w.cvG t.condvar) && mbC.okAt t (w.sends t.mbox, w.recvs t.mbox)

/-- with the kind known both sides compute to the same record: `Comp.app` leaves a family alone where `core` does -/
theorem core_plain (w : World) (t : Base) (h : plainK t.kind = true) : core w t = plainCore w t := by
  obtain ⟨k⟩ := t
  cases k <;> first | (cases h; done) | rfl

theorem fireable_plain (w : World) (t : Base) (h : plainK t.kind = true) : fireable w t = (alive w t.aid && plainOk w t) := by
  -- the five components are unfolded once, before the split into nineteen kinds (unfolding them in each case is the slow step)
  simp only [plainOk, Comp.okAt, mutexC, mutexOf, semC, barC, cvC, mbC]
  cases hk : t.kind <;> first | (rw [hk] at h; cases h; done) | skip
  all_goals simp only [fireable, enabled, wf, labelOk, Sem.enabled, Sem.wf, hk,
    menabled, mwf, senabled, benabled, cvEn, noTimeout, mbOk, lockOp, matched, matchedL, isMutexKind, isSemKind, isBarKind, isCvKind,
    isCommKind, Bool.not_true, Bool.not_false, Bool.true_or, Bool.false_or, Bool.and_true, Bool.true_and, Bool.and_assoc]

theorem alive_tick (w : World) {a b : Int} (h : b ≠ a) : alive (tick w a) b = alive w b := by
  simp only [alive, tick, upd_other _ _ _ _ h]

/-- a handler of this form neither reads nor writes what the end of another actor's transition (`tick`) writes, so that
bookkeeping moves behind it (`rfl`) and factors out of both orders -/
theorem commute_of_plainCore (w : World) (t1 t2 : Base) (p1 : plainK t1.kind = true) (p2 : plainK t2.kind = true)
    (ha : t1.aid ≠ t2.aid) (h1 : fireable (plainCore w t1) t2 = true) (h2 : fireable (plainCore w t2) t1 = true)
    (h : plainCore (plainCore w t1) t2 = plainCore (plainCore w t2) t1) : Commute w t1 t2 := by
  have ha' : t2.aid ≠ t1.aid := fun e => ha e.symm
  have ft (w' : World) (a : Int) (t : Base) (p : plainK t.kind = true) (hne : t.aid ≠ a) : fireable (tick w' a) t = fireable w' t := by
    rw [fireable_plain _ _ p, fireable_plain _ _ p]
    exact congrArg (· && plainOk w' t) (alive_tick w' hne)
  have ct (w' : World) (a : Int) (t : Base) : plainCore (tick w' a) t = tick (plainCore w' t) a := rfl
  refine ⟨?_, ?_, ?_⟩
  · rw [exec, core_plain _ _ p1, ft _ _ _ p2 ha']; exact h1
  · rw [exec, core_plain _ _ p2, ft _ _ _ p1 ha]; exact h2
  · simp only [exec, core_plain _ _ p1, core_plain _ _ p2, ct, h, tick_comm _ ha']
    exact fun _ => rfl

/-- each sort of objects contributes through `Comp.commute`; the results go to two different actors;
`commute_of_plainCore` adds the end of the transitions -/
theorem plain_commute (w : World) (t1 t2 : Base) (p1 : plainK t1.kind = true) (p2 : plainK t2.kind = true)
    (ha : t1.aid ≠ t2.aid) (f1 : fireable w t1 = true) (f2 : fireable w t2 = true)
    (hm : t1.mutex = t2.mutex → mutexC.CommuteAt t1 t2 (w.sync.mutex t2.mutex))
    (hs : t1.sem = t2.sem → semC.CommuteAt t1 t2 (w.sync.sem t2.sem))
    (hb : t1.bar = t2.bar → barC.CommuteAt t1 t2 (w.sync.bar t2.bar))
    (hc : t1.condvar = t2.condvar → cvC.CommuteAt t1 t2 (w.cvW t2.condvar, w.cvG t2.condvar))
    (hx : t1.mbox = t2.mbox → mbC.CommuteAt t1 t2 (w.sends t2.mbox, w.recvs t2.mbox)) : Commute w t1 t2 := by
  rw [fireable_plain _ _ p1] at f1
  rw [fireable_plain _ _ p2] at f2
  simp only [plainOk, Bool.and_eq_true] at f1 f2
  obtain ⟨al1, ⟨⟨⟨m1, s1⟩, b1⟩, c1⟩, x1⟩ := f1
  obtain ⟨al2, ⟨⟨⟨m2, s2⟩, b2⟩, c2⟩, x2⟩ := f2
  obtain ⟨M1, M2, M3, M4, M5⟩ := mutexC.commute w.sync.mutex t1 t2 _ _ m1 m2 hm
  obtain ⟨S1, S2, S3, -, -⟩ := semC.commute w.sync.sem t1 t2 _ _ s1 s2 hs
  obtain ⟨B1, B2, B3, -, -⟩ := barC.commute w.sync.bar t1 t2 _ _ b1 b2 hb
  obtain ⟨C1, C2, C3, C4, -, -⟩ := cvC.commute w.cvW w.cvG t1 t2 _ _ c1 c2 hc
  obtain ⟨X1, X2, X3, X4, X5, X6⟩ := mbC.commute w.sends w.recvs t1 t2 _ _ x1 x2 hx
  refine commute_of_plainCore w t1 t2 p1 p2 ha ?_ ?_ ?_
  · rw [fireable_plain _ _ p2]
    show (alive w t2.aid && plainOk (plainCore w t1) t2) = true
    simp only [plainOk, plainCore, al2, M1, S1, B1, C1, X1]; rfl
  · rw [fireable_plain _ _ p1]
    show (alive w t1.aid && plainOk (plainCore w t2) t1) = true
    simp only [plainOk, plainCore, al1, M2, S2, B2, C2, X2]; rfl
  · simp only [plainCore, plainRes, M3, S3, B3, C3, C4, X3, X4, M4, M5, X5, X6, report_comm _ ha]

end SgVerif.C39.Full
