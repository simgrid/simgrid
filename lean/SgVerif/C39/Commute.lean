import SgVerif.C39.Model
/-
C39 — handlers as operations on families of objects (`Comp`): two handlers commute as soon as their operations on ONE object
do, should they name the same one (`Comp.commute`); on two objects nothing is shared.  Then the case of one mutex, one
semaphore, one barrier (`*_obj_commute`).
-/
namespace SgVerif.C39
open Sem

theorem upd_same {β : Type} (f : Int → β) (k : Int) (v : β) : upd f k v k = v := by simp [upd]
theorem upd_other {β : Type} (f : Int → β) (k x : Int) (v : β) (h : x ≠ k) : upd f k v x = f x := by simp [upd, h]

theorem upd_comm {β : Type} (f : Int → β) {k1 k2 : Int} (v1 v2 : β) (h : k1 ≠ k2) :
    upd (upd f k1 v1) k2 v2 = upd (upd f k2 v2) k1 v1 := by
  funext x
  have h' : k2 ≠ k1 := fun e => h e.symm
  by_cases h1 : x = k1 <;> by_cases h2 : x = k2 <;> simp [upd, h1, h2, h, h']

theorem upd_upd {β : Type} (f : Int → β) (k : Int) (v1 v2 : β) : upd (upd f k v1) k v2 = upd f k v2 := by
  funext x
  by_cases h : x = k <;> simp [upd, h]

theorem upd_self {β : Type} (f : Int → β) (k : Int) : upd f k (f k) = f := by
  funext x
  by_cases h : x = k <;> simp [upd, h]

theorem upd_congr {β : Type} {f g : Int → β} {k i : Int} {u v : β} (hk : u = v) (hi : f i = g i) : upd f k u i = upd g k v i := by
  unfold upd; split <;> assumption

/-- the entry of actor `a` becomes `p`, if there is one -/
def report {β : Type} (r : Int → β) (a : Int) (p : Option β) : Int → β := p.elim r (upd r a)

theorem report_other {β : Type} (r : Int → β) {a b : Int} (p : Option β) (h : b ≠ a) : report r a p b = r b := by
  cases p <;> first | rfl | exact upd_other _ _ _ _ h

theorem report_congr {β : Type} {r r' : Int → β} (a : Int) (p : Option β) {b : Int} (h : r b = r' b) :
    report r a p b = report r' a p b := by
  cases p <;> first | exact h | exact upd_congr rfl h

/-- how the transitions act on the objects of one sort (mutexes, semaphores, mailboxes …): whether a transition concerns
that sort at all, what its handler does to the object it names, what being fireable asks of that object, and the result the
handler reports to its issuer -/
structure Comp (β : Type) where
  uses : Base → Bool
  step : Base → β → β
  ok : Base → β → Bool
  res : Base → β → Option Int

namespace Comp
variable {β : Type} (c : Comp β)

def stepAt (t : Base) (o : β) : β := bif c.uses t then c.step t o else o
def okAt (t : Base) (o : β) : Bool := !c.uses t || c.ok t o
def resAt (t : Base) (o : β) : Option Int := bif c.uses t then c.res t o else none

/-- the handler of `t` on object `k` of the family `f`; a transition that does not concern the sort leaves `f` as it is (and
not `upd f k (f k)`: the handlers of the model then ARE of this form, by `rfl`) -/
def app (t : Base) (k : Int) (f : Int → β) : Int → β := bif c.uses t then upd f k (c.step t (f k)) else f

theorem app_eq (t : Base) (k : Int) (f : Int → β) : c.app t k f = upd f k (c.stepAt t (f k)) := by
  unfold app stepAt
  cases c.uses t
  · exact (upd_self f k).symm
  · rfl

theorem app_uses {t : Base} (h : c.uses t = true) (k : Int) (f : Int → β) : c.app t k f = upd f k (c.step t (f k)) := by
  unfold app; rw [h]; rfl

theorem okAt_uses {t : Base} (h : c.uses t = true) (o : β) : c.okAt t o = c.ok t o := by
  unfold okAt; rw [h]; rfl

theorem resAt_uses {t : Base} (h : c.uses t = true) (o : β) : c.resAt t o = c.res t o := by
  unfold resAt; rw [h]; rfl

theorem app_other (t : Base) (k : Int) (f : Int → β) (i : Int) (h : c.uses t = true → i = k → c.step t (f k) = f k) :
    c.app t k f i = f i := by
  unfold app
  cases u : c.uses t
  · rfl
  · by_cases e : i = k
    · rw [cond_true, e, upd_same, h u e]
    · exact upd_other _ _ _ _ e

theorem app_congr (t : Base) (k : Int) {f f' : Int → β} (i : Int) (h : f i = f' i) : c.app t k f i = c.app t k f' i := by
  unfold app
  cases c.uses t
  · exact h
  · by_cases e : i = k
    · rw [cond_true, cond_true, e, upd_same, upd_same, ← e, h]
    · rw [cond_true, cond_true, upd_other _ _ _ _ e, upd_other _ _ _ _ e, h]

/-- on ONE object on which both transitions are admissible: both stay so, the two orders give the same object, and each
issuer is reported the same result in both orders -/
def CommuteAt (t1 t2 : Base) (o : β) : Prop :=
  c.okAt t1 o = true → c.okAt t2 o = true →
  c.okAt t2 (c.stepAt t1 o) = true ∧ c.okAt t1 (c.stepAt t2 o) = true ∧ c.stepAt t2 (c.stepAt t1 o) = c.stepAt t1 (c.stepAt t2 o) ∧
  c.resAt t2 (c.stepAt t1 o) = c.resAt t2 o ∧ c.resAt t1 (c.stepAt t2 o) = c.resAt t1 o

variable {c}

theorem CommuteAt.of_uses {t1 t2 : Base} {o : β}
    (h : c.uses t1 = true → c.uses t2 = true → c.ok t1 o = true → c.ok t2 o = true →
      c.ok t2 (c.step t1 o) = true ∧ c.ok t1 (c.step t2 o) = true ∧ c.step t2 (c.step t1 o) = c.step t1 (c.step t2 o) ∧
      c.res t2 (c.step t1 o) = c.res t2 o ∧ c.res t1 (c.step t2 o) = c.res t1 o) : c.CommuteAt t1 t2 o := by
  intro e1 e2
  unfold stepAt okAt resAt at *
  cases u1 : c.uses t1 <;> cases u2 : c.uses t2 <;> simp only [u1, u2, cond_true, cond_false, Bool.not_true, Bool.not_false,
    Bool.false_or, Bool.true_or] at e1 e2 ⊢
  · exact ⟨trivial, trivial, trivial, trivial, trivial⟩
  · exact ⟨e2, trivial, trivial, trivial, trivial⟩
  · exact ⟨trivial, e1, trivial, trivial, trivial⟩
  · exact h u1 u2 e1 e2

theorem CommuteAt.symm {t1 t2 : Base} {o : β} (h : c.CommuteAt t1 t2 o) : c.CommuteAt t2 t1 o := fun e2 e1 =>
  let ⟨c1, c2, c3, c4, c5⟩ := h e1 e2
  ⟨c2, c1, c3.symm, c5, c4⟩

variable (c)

theorem commute (f : Int → β) (t1 t2 : Base) (k1 k2 : Int) (e1 : c.okAt t1 (f k1) = true) (e2 : c.okAt t2 (f k2) = true)
    (h : k1 = k2 → c.CommuteAt t1 t2 (f k2)) :
    c.okAt t2 (c.app t1 k1 f k2) = true ∧ c.okAt t1 (c.app t2 k2 f k1) = true ∧
    c.app t2 k2 (c.app t1 k1 f) = c.app t1 k1 (c.app t2 k2 f) ∧
    c.resAt t2 (c.app t1 k1 f k2) = c.resAt t2 (f k2) ∧ c.resAt t1 (c.app t2 k2 f k1) = c.resAt t1 (f k1) := by
  simp only [app_eq]
  by_cases hk : k1 = k2
  · obtain ⟨c1, c2, c3, c4, c5⟩ := h hk (hk ▸ e1) e2
    simp only [hk, upd_same, upd_upd, c3]
    exact ⟨c1, c2, trivial, c4, c5⟩
  · have hk' : k2 ≠ k1 := fun e => hk e.symm
    simp only [upd_other _ _ _ _ hk, upd_other _ _ _ _ hk']
    exact ⟨e2, e1, upd_comm _ _ _ hk, trivial, trivial⟩

end Comp

/-- a sort whose objects are pairs kept as two families (`cvW`/`cvG`, `sends`/`recvs`): which half a transition may write -/
structure Comp₂ (β γ : Type) extends Comp (β × γ) where
  w₁ : Base → Bool
  w₂ : Base → Bool
  idle₁ : ∀ t o, w₁ t = false → (toComp.stepAt t o).1 = o.1
  idle₂ : ∀ t o, w₂ t = false → (toComp.stepAt t o).2 = o.2

namespace Comp₂
variable {β γ : Type} (d : Comp₂ β γ)

def app₁ (t : Base) (k : Int) (f : Int → β) (g : Int → γ) : Int → β := bif d.w₁ t then upd f k (d.stepAt t (f k, g k)).1 else f
def app₂ (t : Base) (k : Int) (f : Int → β) (g : Int → γ) : Int → γ := bif d.w₂ t then upd g k (d.stepAt t (f k, g k)).2 else g

theorem app₁_eq (t : Base) (k : Int) (f : Int → β) (g : Int → γ) : d.app₁ t k f g = upd f k (d.stepAt t (f k, g k)).1 := by
  unfold app₁
  cases h : d.w₁ t
  · rw [d.idle₁ t _ h]; exact (upd_self f k).symm
  · rfl

theorem app₂_eq (t : Base) (k : Int) (f : Int → β) (g : Int → γ) : d.app₂ t k f g = upd g k (d.stepAt t (f k, g k)).2 := by
  unfold app₂
  cases h : d.w₂ t
  · rw [d.idle₂ t _ h]; exact (upd_self g k).symm
  · rfl

theorem commute (f : Int → β) (g : Int → γ) (t1 t2 : Base) (k1 k2 : Int)
    (e1 : d.okAt t1 (f k1, g k1) = true) (e2 : d.okAt t2 (f k2, g k2) = true)
    (h : k1 = k2 → d.CommuteAt t1 t2 (f k2, g k2)) :
    d.okAt t2 (d.app₁ t1 k1 f g k2, d.app₂ t1 k1 f g k2) = true ∧ d.okAt t1 (d.app₁ t2 k2 f g k1, d.app₂ t2 k2 f g k1) = true ∧
    d.app₁ t2 k2 (d.app₁ t1 k1 f g) (d.app₂ t1 k1 f g) = d.app₁ t1 k1 (d.app₁ t2 k2 f g) (d.app₂ t2 k2 f g) ∧
    d.app₂ t2 k2 (d.app₁ t1 k1 f g) (d.app₂ t1 k1 f g) = d.app₂ t1 k1 (d.app₁ t2 k2 f g) (d.app₂ t2 k2 f g) ∧
    d.resAt t2 (d.app₁ t1 k1 f g k2, d.app₂ t1 k1 f g k2) = d.resAt t2 (f k2, g k2) ∧
    d.resAt t1 (d.app₁ t2 k2 f g k1, d.app₂ t2 k2 f g k1) = d.resAt t1 (f k1, g k1) := by
  simp only [app₁_eq, app₂_eq]
  by_cases hk : k1 = k2
  · obtain ⟨c1, c2, c3, c4, c5⟩ := h hk (hk ▸ e1) e2
    simp only [hk, upd_same, upd_upd, c3]
    exact ⟨c1, c2, trivial, trivial, c4, c5⟩
  · have hk' : k2 ≠ k1 := fun e => hk e.symm
    simp only [upd_other _ _ _ _ hk, upd_other _ _ _ _ hk']
    exact ⟨e2, e1, upd_comm _ _ _ hk, upd_comm _ _ _ hk, trivial, trivial⟩

end Comp₂

/-- `dependsBase` on two transitions of known kinds.  Every lemma that reads cells of the table (`mutex_/sem_/bar_indepSame`,
`cv_table`, `mb_writer_reader`, `mbC_commuteAt`) enumerates its pairs of kinds, rewrites with this, and evaluates what is then
closed: `simp only [Kind.toNat, Nat.reduceLT, ↓reduceIte]` for the order test, `conv => lhs; arg 1; whnf` for the cell,
`evalAction` for the arm; no equation of the thirty rows of the table is needed.  The evaluation wants constructors, so it
stays at the enumeration and is not a lemma over `k1 k2`. -/
theorem dependsBase_of_kinds (t1 t2 : Base) (k1 k2 : Kind) (h1 : t1.kind = k1) (h2 : t2.kind = k2) :
    dependsBase t1 t2 =
      if k2.toNat < k1.toNat then evalAction (lut k2 k1) t2 t1 else evalAction (lut k1 k2) t1 t2 := by
  subst h1 h2; rfl

theorem depends_base (t1 t2 : Base) (ha : t1.aid ≠ t2.aid) : depends (.base t1) (.base t2) = dependsBase t1 t2 := by
  simp [depends, Tr.aid, Tr.current, ha]

/-- pairs of kinds of one group (mutex, semaphore, barrier) the table declares independent even on the same object: inside a
group the selected arm compares nothing but the object named, and the sample labels name object 0 of every sort -/
def indepSame (k1 k2 : Kind) : Bool := dependsBase { kind := k1, aid := 1 } { kind := k2, aid := 2 } == some false

def menabled (st : MutexSt) : Kind → Int → Bool
  | .MUTEX_WAIT, a => st.owner == some a
  | _, _ => true
def mwf (st : MutexSt) : Kind → Int → Bool
  | .MUTEX_UNLOCK, a => st.owner == some a
  | _, _ => true

theorem mutexKind_cases (k : Kind) (h : isMutexKind k = true) :
    (k = .MUTEX_TEST ∨ k = .MUTEX_WAIT) ∨ (k = .MUTEX_ASYNC_LOCK ∨ k = .MUTEX_TRYLOCK) ∨ k = .MUTEX_UNLOCK := by
  cases k <;> first | (cases h; done) | decide

theorem mutex_reader (st st' : MutexSt) (k : Kind) (a : Int) (hk : k = .MUTEX_TEST ∨ k = .MUTEX_WAIT)
    (h : (st'.owner == some a) = (st.owner == some a)) :
    (∀ s, (execMutex s k a).1 = s) ∧ menabled st' k a = menabled st k a ∧ mwf st' k a = true ∧
    (execMutex st' k a).2 = (execMutex st k a).2 := by
  rcases hk with rfl | rfl
  · exact ⟨fun _ => rfl, rfl, rfl, by simp only [execMutex, h]⟩
  · exact ⟨fun _ => rfl, by simp only [menabled, h], rfl, rfl⟩

theorem lock_keeps_owner (st : MutexSt) (k : Kind) (a1 a : Int) (ha : a1 ≠ a) (hk : k = .MUTEX_ASYNC_LOCK ∨ k = .MUTEX_TRYLOCK) :
    ((execMutex st k a1).1.owner == some a) = (st.owner == some a) := by
  obtain ⟨o, q⟩ := st
  rcases hk with rfl | rfl <;> cases o <;> simp [execMutex, ha]

/-- the independent pairs: two readers; a reader and a lock or trylock (`lock_keeps_owner`); MUTEX_ASYNC_LOCK and
MUTEX_UNLOCK (the unlocker owns the mutex, so the lock only queues); two MUTEX_UNLOCK cannot both be well-formed -/
theorem mutex_obj_commute (st : MutexSt) (k1 k2 : Kind) (a1 a2 : Int) (ha : a1 ≠ a2)
    (h1 : isMutexKind k1 = true) (h2 : isMutexKind k2 = true) (hi : indepSame k1 k2 = true)
    (e1 : menabled st k1 a1 = true) (e2 : menabled st k2 a2 = true)
    (w1 : mwf st k1 a1 = true) (w2 : mwf st k2 a2 = true) :
    menabled (execMutex st k1 a1).1 k2 a2 = true ∧ menabled (execMutex st k2 a2).1 k1 a1 = true ∧
    mwf (execMutex st k1 a1).1 k2 a2 = true ∧ mwf (execMutex st k2 a2).1 k1 a1 = true ∧
    (execMutex (execMutex st k1 a1).1 k2 a2).1 = (execMutex (execMutex st k2 a2).1 k1 a1).1 ∧
    (execMutex (execMutex st k1 a1).1 k2 a2).2 = (execMutex st k2 a2).2 ∧
    (execMutex (execMutex st k2 a2).1 k1 a1).2 = (execMutex st k1 a1).2 := by
  have ha' : a2 ≠ a1 := fun e => ha e.symm
  rcases mutexKind_cases k1 h1 with r1 | l1 | rfl <;> rcases mutexKind_cases k2 h2 with r2 | l2 | rfl
  · obtain ⟨x1, -, -, -⟩ := mutex_reader st st k1 a1 r1 rfl
    obtain ⟨y1, -, -, -⟩ := mutex_reader st st k2 a2 r2 rfl
    simp only [x1, y1, and_true]
    exact ⟨e2, e1, w2, w1⟩
  · obtain ⟨x1, x2, x3, x4⟩ := mutex_reader st (execMutex st k2 a2).1 k1 a1 r1 (lock_keeps_owner st k2 a2 a1 ha' l2)
    rw [x1]
    exact ⟨e2, x2.trans e1, w2, x3, (x1 _).symm, rfl, x4⟩
  · rcases r1 with rfl | rfl <;> exact absurd hi (by decide)
  · obtain ⟨x1, x2, x3, x4⟩ := mutex_reader st (execMutex st k1 a1).1 k2 a2 r2 (lock_keeps_owner st k1 a1 a2 ha l1)
    rw [x1]
    exact ⟨x2.trans e2, e1, x3, w1, x1 _, x4, rfl⟩
  · rcases l1 with rfl | rfl <;> rcases l2 with rfl | rfl <;> exact absurd hi (by decide)
  · rcases l1 with rfl | rfl
    · obtain ⟨o, q⟩ := st
      simp [mwf] at w2
      subst w2
      cases q <;> simp [menabled, mwf, execMutex]
    · exact absurd hi (by decide)
  · rcases r2 with rfl | rfl <;> exact absurd hi (by decide)
  · rcases l2 with rfl | rfl
    · obtain ⟨o, q⟩ := st
      simp [mwf] at w1
      subst w1
      cases q <;> simp [menabled, mwf, execMutex]
    · exact absurd hi (by decide)
  · simp [mwf] at w1 w2
    exact absurd (Option.some.inj (w1.symm.trans w2)) ha

theorem exec_mutex (s : State) (t : Base) (h : isMutexKind t.kind = true) :
    exec s t = { s with mutex := upd s.mutex t.mutex (execMutex (s.mutex t.mutex) t.kind t.aid).1,
                        ret := upd s.ret t.aid (execMutex (s.mutex t.mutex) t.kind t.aid).2 } := by
  simp [exec, h]

theorem enabled_mutex (s : State) (t : Base) (h : isMutexKind t.kind = true) :
    enabled s t = menabled (s.mutex t.mutex) t.kind t.aid := by
  rcases mutexKind_cases _ h with (hk | hk) | (hk | hk) | hk <;> simp [enabled, menabled, hk]

theorem wf_mutex (s : State) (t : Base) (h : isMutexKind t.kind = true) :
    wf s t = mwf (s.mutex t.mutex) t.kind t.aid := by
  rcases mutexKind_cases _ h with (hk | hk) | (hk | hk) | hk <;> simp [wf, mwf, hk]

/-- the mutex operation a lock-family handler performs: `ConditionVariableImpl::acquire_async` unlocks the mutex, the
second simcall of a condvar wait does `lock_async` -/
def lockOp : Kind → Kind
  | .CONDVAR_ASYNC_LOCK => .MUTEX_UNLOCK
  | .CONDVAR_WAIT => .MUTEX_ASYNC_LOCK
  | k => k

/-- the mutexes, when a transition of kind `k` performs the mutex operation `f k` -/
def mutexOf (f : Kind → Kind) : Comp MutexSt where
  uses t := isMutexKind (f t.kind)
  step t st := (execMutex st (f t.kind) t.aid).1
  ok t st := menabled st (f t.kind) t.aid && mwf st (f t.kind) t.aid
  res t st := some (execMutex st (f t.kind) t.aid).2

/-- the mutex kinds and the two condvar kinds that perform a mutex operation -/
def mutexC : Comp MutexSt := mutexOf lockOp

/-- the mutex kinds proper -/
def mutexS : Comp MutexSt := mutexOf id

theorem lockOp_mutex {k : Kind} (h : isMutexKind k = true) : lockOp k = k := by
  cases k <;> first | rfl | cases h

theorem mutexOf_commuteAt (f : Kind → Kind) (t1 t2 : Base) (ha : t1.aid ≠ t2.aid) (o : MutexSt)
    (hi : isMutexKind (f t1.kind) = true → isMutexKind (f t2.kind) = true → indepSame (f t1.kind) (f t2.kind) = true) :
    (mutexOf f).CommuteAt t1 t2 o := by
  refine .of_uses fun u1 u2 o1 o2 => ?_
  have o1 := Bool.and_eq_true_iff.mp o1
  have o2 := Bool.and_eq_true_iff.mp o2
  obtain ⟨c1, c2, c3, c4, c5, c6, c7⟩ := mutex_obj_commute o _ _ _ _ ha u1 u2 (hi u1 u2) o1.1 o2.1 o1.2 o2.2
  exact ⟨Bool.and_eq_true_iff.mpr ⟨c1, c3⟩, Bool.and_eq_true_iff.mpr ⟨c2, c4⟩, c5, congrArg some c6, congrArg some c7⟩

theorem mutex_indepSame (t1 t2 : Base) (h1 : isMutexKind t1.kind = true) (h2 : isMutexKind t2.kind = true)
    (hm : t1.mutex = t2.mutex) (hd : dependsBase t1 t2 = some false) : indepSame t1.kind t2.kind = true := by
  rcases mutexKind_cases _ h1 with (hk1 | hk1) | (hk1 | hk1) | hk1 <;>
  rcases mutexKind_cases _ h2 with (hk2 | hk2) | (hk2 | hk2) | hk2
  all_goals
    rw [hk1, hk2]
    rw [dependsBase_of_kinds t1 t2 _ _ hk1 hk2] at hd
    simp only [Kind.toNat, Nat.reduceLT, ↓reduceIte] at hd
    conv at hd => lhs; arg 1; whnf
    simp [evalAction, hm] at hd
  all_goals decide


def senabled (st : SemSt) : Kind → Int → Bool
  | .SEM_WAIT, a => st.granted.contains a
  | _, _ => true

theorem semKind_cases (k : Kind) (h : isSemKind k = true) : k = .SEM_ASYNC_LOCK ∨ k = .SEM_UNLOCK ∨ k = .SEM_WAIT := by
  cases k <;> first | (cases h; done) | decide

/-- on a semaphore whose acquisitions queue up only at value 0, a lock and an unlock commute: the unlock serves the head of
the queue, the lock joins its tail or takes the value the unlock gave back -/
theorem sem_lock_unlock (st : SemSt) (a b : Int) (hinv : st.inv) :
    execSem (execSem st .SEM_ASYNC_LOCK a) .SEM_UNLOCK b = execSem (execSem st .SEM_UNLOCK b) .SEM_ASYNC_LOCK a := by
  obtain ⟨v, q, g⟩ := st
  cases v <;> cases q <;> simp_all [execSem, SemSt.inv]

/-- a lock appends to `granted` or to the queue, so it keeps the grant of another actor and commutes with its consumption -/
theorem sem_lock_wait (st : SemSt) (a b : Int) (hb : st.granted.contains b = true) :
    (execSem st .SEM_ASYNC_LOCK a).granted.contains b = true ∧
    execSem (execSem st .SEM_ASYNC_LOCK a) .SEM_WAIT b = execSem (execSem st .SEM_WAIT b) .SEM_ASYNC_LOCK a := by
  obtain ⟨v, q, g⟩ := st
  cases v <;> simp_all [execSem, List.erase_append_left]

theorem sem_obj_commute (st : SemSt) (k1 k2 : Kind) (a1 a2 : Int) (ha : a1 ≠ a2)
    (h1 : isSemKind k1 = true) (h2 : isSemKind k2 = true) (hi : indepSame k1 k2 = true)
    (hinv : st.inv) (e1 : senabled st k1 a1 = true) (e2 : senabled st k2 a2 = true) :
    senabled (execSem st k1 a1) k2 a2 = true ∧ senabled (execSem st k2 a2) k1 a1 = true ∧
    execSem (execSem st k1 a1) k2 a2 = execSem (execSem st k2 a2) k1 a1 := by
  rcases semKind_cases _ h1 with rfl | rfl | rfl <;> rcases semKind_cases _ h2 with rfl | rfl | rfl
  · exact absurd hi (by decide)
  · exact ⟨rfl, rfl, sem_lock_unlock st a1 a2 hinv⟩
  · exact ⟨(sem_lock_wait st a1 a2 e2).1, rfl, (sem_lock_wait st a1 a2 e2).2⟩
  · exact ⟨rfl, rfl, (sem_lock_unlock st a2 a1 hinv).symm⟩
  -- SEM_UNLOCK does not look at its issuer
  · exact ⟨rfl, rfl, rfl⟩
  · exact absurd hi (by decide)
  · exact ⟨rfl, (sem_lock_wait st a2 a1 e1).1, (sem_lock_wait st a2 a1 e1).2.symm⟩
  · exact absurd hi (by decide)
  · simp only [senabled, execSem, List.contains_eq_mem, decide_eq_true_eq] at *
    exact ⟨(List.mem_erase_of_ne (fun e => ha e.symm)).mpr e2, (List.mem_erase_of_ne ha).mpr e1, by rw [List.erase_comm]⟩

def semC : Comp SemSt where
  uses t := isSemKind t.kind
  step t st := execSem st t.kind t.aid
  ok t st := senabled st t.kind t.aid
  res _ _ := none

theorem semC_commuteAt (t1 t2 : Base) (ha : t1.aid ≠ t2.aid) (o : SemSt) (hinv : o.inv)
    (hi : isSemKind t1.kind = true → isSemKind t2.kind = true → indepSame t1.kind t2.kind = true) : semC.CommuteAt t1 t2 o :=
  .of_uses fun u1 u2 o1 o2 =>
    let ⟨c1, c2, c3⟩ := sem_obj_commute o _ _ _ _ ha u1 u2 (hi u1 u2) hinv o1 o2
    ⟨c1, c2, c3, rfl, rfl⟩

theorem exec_sem (s : State) (t : Base) (h : isSemKind t.kind = true) :
    exec s t = { s with sem := upd s.sem t.sem (execSem (s.sem t.sem) t.kind t.aid) } := by
  rcases semKind_cases _ h with hk | hk | hk <;> simp [exec, isMutexKind, isSemKind, hk]

theorem enabled_sem (s : State) (t : Base) (h : isSemKind t.kind = true) :
    enabled s t = senabled (s.sem t.sem) t.kind t.aid := by
  rcases semKind_cases _ h with hk | hk | hk <;> simp [enabled, senabled, hk]

theorem sem_indepSame (t1 t2 : Base) (h1 : isSemKind t1.kind = true) (h2 : isSemKind t2.kind = true)
    (hm : t1.sem = t2.sem) (hd : dependsBase t1 t2 = some false) : indepSame t1.kind t2.kind = true := by
  rcases semKind_cases _ h1 with hk1 | hk1 | hk1 <;> rcases semKind_cases _ h2 with hk2 | hk2 | hk2
  all_goals
    rw [hk1, hk2]
    rw [dependsBase_of_kinds t1 t2 _ _ hk1 hk2] at hd
    simp only [Kind.toNat, Nat.reduceLT, ↓reduceIte] at hd
    conv at hd => lhs; arg 1; whnf
    simp [evalAction, hm] at hd
  all_goals decide

theorem sem_inv_preserved (st : SemSt) (k : Kind) (a : Int) (h : st.inv) : (execSem st k a).inv := by
  obtain ⟨v, q, g⟩ := st
  unfold execSem
  split
  · cases v <;> simp_all [SemSt.inv]
  · cases q <;> simp_all [SemSt.inv]
  · exact h
  · exact h

def benabled (st : BarSt) : Kind → Int → Bool
  | .BARRIER_WAIT, a => st.granted.contains a
  | _, _ => true

theorem barKind_cases (k : Kind) (h : isBarKind k = true) : k = .BARRIER_ASYNC_LOCK ∨ k = .BARRIER_WAIT := by
  cases k <;> first | (cases h; done) | decide

theorem bar_obj_commute (st : BarSt) (k1 k2 : Kind) (a1 a2 : Int) (ha : a1 ≠ a2)
    (h1 : isBarKind k1 = true) (h2 : isBarKind k2 = true) (hi : indepSame k1 k2 = true)
    (e1 : benabled st k1 a1 = true) (e2 : benabled st k2 a2 = true) :
    benabled (execBar st k1 a1) k2 a2 = true ∧ benabled (execBar st k2 a2) k1 a1 = true ∧
    execBar (execBar st k1 a1) k2 a2 = execBar (execBar st k2 a2) k1 a1 := by
  rcases barKind_cases _ h1 with rfl | rfl <;> rcases barKind_cases _ h2 with rfl | rfl <;>
    first | exact absurd hi (by decide) | skip
  simp only [benabled, execBar, List.contains_eq_mem, decide_eq_true_eq] at *
  exact ⟨(List.mem_erase_of_ne (fun e => ha e.symm)).mpr e2, (List.mem_erase_of_ne ha).mpr e1, by rw [List.erase_comm]⟩

def barC : Comp BarSt where
  uses t := isBarKind t.kind
  step t st := execBar st t.kind t.aid
  ok t st := benabled st t.kind t.aid
  res _ _ := none

theorem barC_commuteAt (t1 t2 : Base) (ha : t1.aid ≠ t2.aid) (o : BarSt)
    (hi : isBarKind t1.kind = true → isBarKind t2.kind = true → indepSame t1.kind t2.kind = true) : barC.CommuteAt t1 t2 o :=
  .of_uses fun u1 u2 o1 o2 =>
    let ⟨c1, c2, c3⟩ := bar_obj_commute o _ _ _ _ ha u1 u2 (hi u1 u2) o1 o2
    ⟨c1, c2, c3, rfl, rfl⟩

theorem exec_bar (s : State) (t : Base) (h : isBarKind t.kind = true) :
    exec s t = { s with bar := upd s.bar t.bar (execBar (s.bar t.bar) t.kind t.aid) } := by
  rcases barKind_cases _ h with hk | hk <;> simp [exec, isMutexKind, isSemKind, isBarKind, hk]

theorem enabled_bar (s : State) (t : Base) (h : isBarKind t.kind = true) :
    enabled s t = benabled (s.bar t.bar) t.kind t.aid := by
  rcases barKind_cases _ h with hk | hk <;> simp [enabled, benabled, hk]

theorem bar_indepSame (t1 t2 : Base) (h1 : isBarKind t1.kind = true) (h2 : isBarKind t2.kind = true)
    (hm : t1.bar = t2.bar) (hd : dependsBase t1 t2 = some false) : indepSame t1.kind t2.kind = true := by
  rcases barKind_cases _ h1 with hk1 | hk1 <;> rcases barKind_cases _ h2 with hk2 | hk2
  all_goals
    rw [hk1, hk2]
    rw [dependsBase_of_kinds t1 t2 _ _ hk1 hk2] at hd
    simp only [Kind.toNat, Nat.reduceLT, ↓reduceIte] at hd
    conv at hd => lhs; arg 1; whnf
    simp [evalAction, barrierDepends, hk1, hk2, hm] at hd
  all_goals decide


/-- what `simcall_handle` reports to the issuer: the result of a mutex operation, the value drawn by RANDOM -/
def sret (t : Base) (o : MutexSt) : Option Int :=
  bif isMutexKind t.kind then some (execMutex o t.kind t.aid).2 else bif t.kind == .RANDOM then some t.min else none

/-- `simcall_handle` of any kind as ONE record: the operation of the kind on the mutex, the semaphore and the barrier its
label names (none if the sort does not concern it), a result for the issuer, and its death for ACTOR_EXIT -/
theorem exec_plain (s : State) (t : Base) :
    exec s t = ⟨mutexS.app t t.mutex s.mutex, semC.app t t.sem s.sem, barC.app t t.bar s.bar,
      report s.ret t.aid (sret t (s.mutex t.mutex)), report s.dead t.aid (bif t.kind == .ACTOR_EXIT then some true else none)⟩ := by
  obtain ⟨k⟩ := t
  cases k <;> rfl

theorem sem_exec_inv (s : State) (t : Base) (hinv : ∀ m, (s.sem m).inv) (m : Int) : ((exec s t).sem m).inv := by
  rw [exec_plain]
  show (semC.app t t.sem s.sem m).inv
  unfold Comp.app
  cases semC.uses t
  · exact hinv m
  · by_cases hx : m = t.sem
    · rw [cond_true, hx, upd_same]; exact sem_inv_preserved _ _ _ (hinv _)
    · rw [cond_true, upd_other _ _ _ _ hx]; exact hinv m

end SgVerif.C39
