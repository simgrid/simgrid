import SgVerif.C39.Frame
import SgVerif.C39.Lemmas
/-
C39 — communication group (COMM_ASYNC_SEND / RECV, COMM_TEST, COMM_WAIT, COMM_IPROBE).  The handler of every kind of the
group is one operation on the two lists (sends, receives) of its mailbox and one result reported to its issuer (`mbC`);
what two of them do on ONE mailbox is `mbC_commuteAt`.
-/
namespace SgVerif.C39.Full
open Sem

theorem sideOk_append (l : List Int) (n : Nat) (v a : Int) (h : n < l.length) : sideOk (l ++ [a]) n v = sideOk l n v := by
  simp [sideOk, List.getElem?_append_left h]

theorem sideOk_lt (l : List Int) (n : Nat) (v : Int) (h : sideOk l n v = true) (hv : v ≠ -1) : n < l.length := by
  unfold sideOk at h
  cases hl : l[n]? with
  | none => simp [hl] at h; exact absurd h hv
  | some a => exact (List.getElem?_eq_some_iff.mp hl).1

/-- `matched` on the two lists of one mailbox -/
def matchedL (S R : List Int) (n : Nat) : Bool := n < S.length && n < R.length

theorem matchedL_lt {S R : List Int} {n : Nat} (h : matchedL S R n = true) : n < S.length ∧ n < R.length := by
  simpa [matchedL] using h

theorem matchedL_append_S (S R : List Int) (n : Nat) (a : Int) (h : n < S.length) : matchedL (S ++ [a]) R n = matchedL S R n := by
  simp [matchedL, h, Nat.lt_succ_of_lt h]

theorem matchedL_append_R (S R : List Int) (n : Nat) (a : Int) (h : n < R.length) : matchedL S (R ++ [a]) n = matchedL S R n := by
  simp [matchedL, h, Nat.lt_succ_of_lt h]

def isCommKind : Kind → Bool
  | .COMM_ASYNC_SEND | .COMM_ASYNC_RECV | .COMM_TEST | .COMM_WAIT | .COMM_IPROBE => true
  | _ => false

/-- what a handler does to the lists (sends, receives) of its mailbox -/
def mbStep (k : Kind) (a : Int) (q : List Int × List Int) : List Int × List Int :=
  match k with
  | .COMM_ASYNC_SEND => (q.1 ++ [a], q.2)
  | .COMM_ASYNC_RECV => (q.1, q.2 ++ [a])
  | _ => q

/-- what `enabled` and `labelOk` ask of the mailbox of a comm transition -/
def mbOk (t : Base) (q : List Int × List Int) : Bool :=
  match t.kind with
  | .COMM_ASYNC_SEND => t.comm == (q.1.length : Int)
  | .COMM_ASYNC_RECV => t.comm == (q.2.length : Int)
  | .COMM_TEST => decide (0 ≤ t.comm) && sideOk q.1 t.comm.toNat t.sender && sideOk q.2 t.comm.toNat t.receiver
  | .COMM_WAIT => matchedL q.1 q.2 t.comm.toNat &&
      (decide (0 ≤ t.comm) && sideOk q.1 t.comm.toNat t.sender && sideOk q.2 t.comm.toNat t.receiver && !t.timeout)
  | _ => true

def mbRet (t : Base) (q : List Int × List Int) : Option Int :=
  match t.kind with
  | .COMM_TEST => some (if matchedL q.1 q.2 t.comm.toNat then 1 else 0)
  | .COMM_WAIT => some ((q.1[t.comm.toNat]?).getD 0)
  | .COMM_IPROBE =>
    some (if t.isSender then (if q.1.length < q.2.length then 1 else 0) else (if q.2.length < q.1.length then 1 else 0))
  | _ => none

def isCommWriter (k : Kind) : Bool := k == .COMM_ASYNC_SEND || k == .COMM_ASYNC_RECV

theorem commWriter_cases (k : Kind) (h : isCommWriter k = true) : k = .COMM_ASYNC_RECV ∨ k = .COMM_ASYNC_SEND := by
  cases k <;> first | (cases h; done) | decide

theorem commKind_cases (k : Kind) (h : isCommKind k = true) :
    k = .COMM_ASYNC_RECV ∨ k = .COMM_ASYNC_SEND ∨ k = .COMM_IPROBE ∨ k = .COMM_TEST ∨ k = .COMM_WAIT := by
  cases k <;> first | (cases h; done) | decide

theorem mbStep_reader (k : Kind) (a : Int) (q : List Int × List Int) (h : isCommWriter k = false) : mbStep k a q = q := by
  cases k <;> first | rfl | cases h

/-- a send (receive) only appends to the list of sends (receives) of the mailbox: it changes the outcome of a test / the
enabledness of a wait on comm (mailbox, n) only when it IS the n-th send (receive), and then the table declares the two
dependent (the tested comm has no sender (receiver) yet) or the wait is not enabled -/
theorem mb_writer_reader (S R : List Int) (t1 t2 : Base) (w1 : isCommWriter t1.kind = true) (h2 : isCommKind t2.kind = true)
    (w2 : isCommWriter t2.kind = false) (hm : t1.mbox = t2.mbox) (hd : dependsBase t1 t2 = some false)
    (o2 : mbOk t2 (S, R) = true) :
    mbOk t2 (mbStep t1.kind t1.aid (S, R)) = true ∧ mbRet t2 (mbStep t1.kind t1.aid (S, R)) = mbRet t2 (S, R) := by
  rcases commWriter_cases _ w1 with hk1 | hk1
  all_goals rcases commKind_cases _ h2 with hk2 | hk2 | hk2 | hk2 | hk2 <;> rw [hk2] at w2 <;> cases w2
  all_goals
    rw [dependsBase_of_kinds t1 t2 _ _ hk1 hk2] at hd
    simp only [Kind.toNat, Nat.reduceLT, ↓reduceIte] at hd
    conv at hd => lhs; arg 1; whnf
    simp [evalAction, hm] at hd
  all_goals
    simp only [mbOk, mbStep, mbRet, hk1, hk2] at o2 ⊢
    have o := o2
    simp only [Bool.and_eq_true] at o
  · -- RECV × TEST: the tested comm has its receiver
    have hx := sideOk_lt _ _ _ o.2 (fun e => by simp [e] at hd)
    simpa only [sideOk_append _ _ _ _ hx, matchedL_append_R _ _ _ _ hx, and_true] using o2
  · -- RECV × WAIT: the awaited comm is matched
    have hx := (matchedL_lt o.1).2
    simpa only [sideOk_append _ _ _ _ hx, matchedL_append_R _ _ _ _ hx, and_true] using o2
  · -- SEND × TEST: the tested comm has its sender
    have hx := sideOk_lt _ _ _ o.1.2 (fun e => by simp [e] at hd)
    simpa only [sideOk_append _ _ _ _ hx, matchedL_append_S _ _ _ _ hx, and_true] using o2
  · -- SEND × WAIT
    have hx := (matchedL_lt o.1).1
    simpa only [sideOk_append _ _ _ _ hx, matchedL_append_S _ _ _ _ hx, List.getElem?_append_left hx, and_true] using o2

theorem mbRet_writer (t : Base) (q : List Int × List Int) (h : isCommWriter t.kind = true) : mbRet t q = none := by
  rcases commWriter_cases _ h with hk | hk <;> simp only [mbRet, hk]

def mbC : Comp₂ (List Int) (List Int) where
  uses t := isCommKind t.kind
  step t q := mbStep t.kind t.aid q
  ok t q := mbOk t q
  res t q := mbRet t q
  w₁ t := t.kind == .COMM_ASYNC_SEND
  w₂ t := t.kind == .COMM_ASYNC_RECV
  idle₁ := fun t _ h => by obtain ⟨k⟩ := t; cases k <;> first | (cases h; done) | rfl
  idle₂ := fun t _ h => by obtain ⟨k⟩ := t; cases k <;> first | (cases h; done) | rfl

theorem mbC_commuteAt (t1 t2 : Base) (q : List Int × List Int) (hm : t1.mbox = t2.mbox)
    (hd : isCommKind t1.kind = true → isCommKind t2.kind = true → dependsBase t1 t2 = some false) : mbC.CommuteAt t1 t2 q := by
  refine .of_uses fun h1 h2 o1 o2 => ?_
  have hd := hd h1 h2
  dsimp only [mbC] at o1 o2 ⊢
  obtain ⟨S, R⟩ := q
  cases w1 : isCommWriter t1.kind <;> cases w2 : isCommWriter t2.kind
  · simp only [mbStep_reader _ _ _ w1, mbStep_reader _ _ _ w2]
    exact ⟨o2, o1, trivial, trivial, trivial⟩
  · obtain ⟨c1, c2⟩ := mb_writer_reader S R t2 t1 w2 h1 w1 hm.symm (by rw [dependsBase_symm]; exact hd) o1
    simp only [mbStep_reader _ _ _ w1]
    exact ⟨o2, c1, trivial, trivial, c2⟩
  · obtain ⟨c1, c2⟩ := mb_writer_reader S R t1 t2 w1 h2 w2 hm hd o2
    simp only [mbStep_reader _ _ _ w2]
    exact ⟨c1, o1, trivial, c2, trivial⟩
  · simp only [mbRet_writer _ _ w1, mbRet_writer _ _ w2]
    rcases commWriter_cases _ w1 with hk1 | hk1 <;> rcases commWriter_cases _ w2 with hk2 | hk2
    all_goals
      rw [dependsBase_of_kinds t1 t2 _ _ hk1 hk2] at hd
      simp only [Kind.toNat, Nat.reduceLT, ↓reduceIte] at hd
      conv at hd => lhs; arg 1; whnf
      simp [evalAction, hm] at hd
    all_goals simp only [mbOk, mbStep, hk1, hk2] at o1 o2 ⊢
    all_goals exact ⟨o2, o1, trivial, trivial, trivial⟩

end SgVerif.C39.Full
