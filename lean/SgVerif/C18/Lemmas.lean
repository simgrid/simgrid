import SgVerif.LmmBook.WF
/-
The counter invariant `CE` (concurrency_current_ = Σ get_concurrency over the enabled
elements) is preserved by every internal function — unconditionally, also on the branches where an assertion fires
(`fail` only sets the flag): it is a property of single constraints that every constraint update keeps (`CE_upd`),
hence an instance of the step relations (`ce`).
-/
namespace SgVerif.C18
open SgVerif.LmmBook

/-- `concurrency_current_` of every constraint is the sum of `get_concurrency()` over its enabled elements -/
def CE : Sys → Prop := AllC fun _ k => k.cur = sumConc k.policy k.en

theorem sumConc_append (pol : Policy) (l₁ l₂ : List Entry) : sumConc pol (l₁ ++ l₂) = sumConc pol l₁ + sumConc pol l₂ := by
  induction l₁ with
  | nil => simp [sumConc]
  | cons a rest ih => simp only [List.cons_append, sumConc, ih]; omega

theorem sumConc_eraseP (pol : Policy) (p : Entry → Bool) (l : List Entry) (e : Entry) (h : l.find? p = some e) :
    sumConc pol (l.eraseP p) + conc pol e.w = sumConc pol l := by
  obtain ⟨he, as, bs, hl, has⟩ := List.find?_eq_some_iff_append.mp h
  rw [hl, List.eraseP_append_right _ (fun a ha => by simpa using has a ha), List.eraseP_cons_of_pos he]
  simp only [sumConc_append, sumConc]
  omega

theorem sumConc_setW (pol : Policy) (v i w' : Nat) (l : List Entry) (e : Entry) (h : l.find? (isRef v i) = some e) :
    sumConc pol (setW v i w' l) + conc pol e.w = sumConc pol l + conc pol w' := by
  obtain ⟨he, as, bs, hl, has⟩ := List.find?_eq_some_iff_append.mp h
  rw [hl, setW_append v i w' e bs he as has]
  simp only [sumConc_append, sumConc]
  omega

/-- every constraint update moves the counter by the `get_concurrency()` of the element it links or unlinks -/
theorem CE_upd (ok : Prop) (k k' : Cnst) (hk : CUpd ok k k') (h : k.cur = sumConc k.policy k.en) : k'.cur = sumConc k'.policy k'.en := by
  cases hk with
  | movedEn v i e he _ => simp only [Cnst.movedEn, sumConc]; omega
  | movedDis v i e he hle =>
    have := sumConc_eraseP k.policy (isRef v i) _ e he
    simp only [Cnst.movedDis]; omega
  | freedEn v i e he hle =>
    have := sumConc_eraseP k.policy (isRef v i) _ e he
    simp only [Cnst.freedEn]; omega
  | freedDis v i => exact h
  | bound b => exact h

theorem ce : StepRel (fun s s' => CE s → CE s') := keepsC fun ok _ => CE_upd ok

theorem expand_CE (s : Sys) (c v w : Nat) (f : Bool) (h : CE s) : CE (expand s c v w f) := by
  have h0 : CE { s with modflag := true } := h.cnsts rfl
  rcases expand_cases s c v w f with heq | ⟨i, e, _, _, he, hle, heq⟩ | ⟨i, e, _, _, _, heq⟩ | ⟨_, heq⟩
  all_goals rw [heq]
  · exact h0
  · refine expandTail_rel ce _ _ _ _ (h0.setC c _ ?_)
    have := h c
    have := sumConc_setW (s.cnsts c).policy v i (addW (s.cnsts c).policy e.w w) _ e he
    simp only
    omega
  · exact expandTail_rel ce _ _ _ _ (h0.setC c _ (h c))
  · refine expandTail_rel ce _ _ _ _ ((h.setC c _ ?_).cnsts (createElem_cnsts ..))
    have := h c
    unfold createdCnst
    split
    · simp only [sumConc]; omega
    · exact this

theorem step_CE (s : Sys) (op : Op) (h : CE s) : CE (step s op) := by
  refine step_cases (P := CE) s op h ?_
  cases op with
  | cnew b l p => exact (h.setC s.nc _ rfl).cnsts rfl
  | vnew p b => exact h
  | expand c v w f => exact fun _ _ => expand_CE _ _ _ _ _ h
  | vfree v =>
    obtain ⟨s3, h3, heq⟩ := varFree_rel ce s v
    show CE (varFree s v)
    rw [heq]
    exact h3 h
  | vbound v b => exact updateVarBound_rel ce s v b h
  | vpen v p => exact updatePenalty_rel ce s v p h
  | cbound c b => exact updateCnstBound_rel ce s c b h
  | solve => exact h.cnsts (solveOp_frame s).cnsts

theorem run_CE (s : Sys) (hist : List Op) (h : CE s) : CE (run s hist) := by
  unfold run
  exact foldl_inv (P := CE) step_CE _ _ h

theorem init_CE (cfg : Cfg) (sel : Bool) : CE (init cfg sel) := by
  intro c; rfl

end SgVerif.C18
