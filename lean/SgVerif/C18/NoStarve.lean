import SgVerif.LmmBook.Marks
import SgVerif.LmmBook.WFRun
import SgVerif.C18.Bounded
import SgVerif.C18.Starve
import SgVerif.Common.List
/-
The no-starvation invariant `NS` through every operation of the repaired code (`fixSuspend`), for histories without
`force_creation` (`ND`: no variable uses a constraint twice), and the combined invariant `Inv` through `step` and
`run`.  `NSP s P x` is the invariant inside an operation: every live variable but `x` is satisfied or uses a
constraint of the pending list `P`, which `on_disabled_var` is still to examine.
-/
namespace SgVerif.C18
open SgVerif.LmmBook

/-- no variable has two elements on the same constraint (true without `force_creation`) -/
def ND (s : Sys) : Prop := ∀ v, (s.vars v).cn.Nodup

/-- `w` is satisfied, or it uses a constraint (with a limit) of the pending list `P` that `on_disabled_var` is about
to examine -/
def SatP (s : Sys) (P : List Nat) (w : Nat) : Prop :=
  Sat s w ∨ ∃ c ∈ (s.vars w).cn, c ∈ P ∧ (s.cnsts c).limit ≠ none

/-- inside an operation: every live variable but `x` is satisfied or uses a pending constraint -/
def NSP (s : Sys) (P : List Nat) (x : Option Nat) : Prop :=
  ∀ w, (s.vars w).alive = true → some w ≠ x → SatP s P w

/-- **no live staged variable starves** -/
def NS (s : Sys) : Prop := ∀ w, (s.vars w).alive = true → Sat s w

/-- `NS` is the property as stated with `Starving`: no live staged variable has a free slot on all its constraints -/
theorem NS_iff {s : Sys} : NS s ↔ ∀ v, ¬ Starving s v := by
  constructor
  · intro h v ⟨hal, hst, hno⟩
    rcases h v hal with h0 | ⟨c, hc, hfull⟩
    · omega
    · exact hno c hc hfull
  · intro hns w hw
    by_cases hst : (s.vars w).staged = 0
    · exact Or.inl hst
    · right
      apply Classical.byContradiction
      intro hh
      exact hns w ⟨hw, by omega, fun c hc hf => hh ⟨c, hc, hf⟩⟩

theorem NS.toNSP {s : Sys} (h : NS s) (P : List Nat) (x : Option Nat) : NSP s P x := fun w hw _ => Or.inl (h w hw)

theorem NSP.toNS {s : Sys} (h : NSP s [] none) : NS s := by
  intro w hw
  rcases h w hw (by intro hh; cases hh) with h1 | ⟨c, _, hc, _⟩
  · exact h1
  · simp at hc

theorem NSP.grow {s s' : Sys} {P : List Nat} {x : Option Nat} (h : NSP s P x) (hg : Grow s s') : NSP s' P x := by
  intro w hw hx
  rw [hg.alive] at hw
  rcases h w hw hx with h1 | ⟨c, hc, hp, hl⟩
  · exact Or.inl (hg.sat h1)
  · exact Or.inr ⟨c, hg.cn w c hc, hp, by rw [hg.limit]; exact hl⟩

theorem NSP.mono {s : Sys} {P P' : List Nat} {x : Option Nat} (h : NSP s P x) (hsub : ∀ c ∈ P, c ∈ P') : NSP s P' x := by
  intro w hw hx
  rcases h w hw hx with h1 | ⟨c, hc, hp, hl⟩
  · exact Or.inl h1
  · exact Or.inr ⟨c, hc, hsub c hp, hl⟩

theorem Sat.setV_ne {s : Sys} {v w : Nat} (h : Sat s w) (x : Var) (hwv : w ≠ v) : Sat (s.setV v x) w := by
  unfold Sat
  rw [setV_vars, if_neg hwv]
  exact h

theorem NS_grow {s s' : Sys} (h : NS s) (hg : Grow s s') : NS s' :=
  fun w hw => hg.sat (h w (by rw [← hg.alive]; exact hw))

theorem NS_markOnly {s s' : Sys} (h : NS s) (hm : MarkOnly s s') : NS s' := NS_grow h (Grow.of_markOnly hm)

theorem NS_modflag {s : Sys} (h : NS s) (b : Bool) : NS { s with modflag := b } := NS_grow h (.of_eq rfl rfl)

theorem NS_setV {s : Sys} (h : NS s) (v : Nat) (x : Var) (ha : x.alive = (s.vars v).alive) (hc : x.cn = (s.vars v).cn)
    (hs : x.staged = (s.vars v).staged) : NS (s.setV v x) :=
  NS_grow h (Grow_setV s v x ha (fun _ hm => hc ▸ hm) (Or.inl hs))

theorem ND_cnSame {s s' : Sys} (h : ND s) (hc : ∀ u, (s'.vars u).cn = (s.vars u).cn) : ND s' :=
  fun v => by rw [hc]; exact h v

theorem ND_freeTail {s : Sys} (c : Nat) (h : ND s) : ND (freeTail s c) := ND_cnSame h (freeTail_rel same s c).cn

theorem dis_vars_nodup {s : Sys} {loc : Loc} (h : WFl s loc) (hnd : ND s) (c : Nat) :
    ((s.cnsts c).dis.map (·.var)).Nodup := by
  rw [List.nodup_iff_pairwise_ne, List.pairwise_map]
  refine List.Pairwise.imp_of_mem ?_ (h.disK c)
  intro a b ha hb hk hv
  apply hk
  refine ⟨hv, ?_⟩
  have h1 := (h.disA c a ha).1
  have h2 := (h.disA c b hb).1
  rw [hv] at h1
  exact (List.getElem?_inj (lt_of_getElem? h1) (hnd b.var)).mp (h1.trans h2.symm)

theorem hdis_of_WFX {s : Sys} {v i : Nat} (h : WFX s v i) (w c : Nat) (hw : w ≠ v ∨ i = 0)
    (hst : (s.vars w).staged ≠ 0) (hc : c ∈ (s.vars w).cn) : ∃ e ∈ (s.cnsts c).dis, e.var = w := by
  obtain ⟨j, hj⟩ := List.mem_iff_getElem?.mp hc
  have hloc : (stdLoc s).upto v i none w j = some false := by
    simp only [Loc.upto, stdLoc, h.so.st w hst]
    rw [if_neg (fun hh => by rcases hw with hw | hw <;> omega)]
    rfl
  obtain ⟨e, he, hr⟩ := h.l.disD w j c hj hloc
  exact ⟨e, he, ((isRef_iff w j e).mp hr).1⟩

theorem NSP_onDisabledVar {s : Sys} {P : List Nat} {x : Option Nat} (c : Nat) (h : NSP s (c :: P) x)
    (hdis : ∀ w, (s.vars w).alive = true → some w ≠ x → (s.vars w).staged ≠ 0 → c ∈ (s.vars w).cn →
      ∃ e ∈ (s.cnsts c).dis, e.var = w)
    (hnd : ((s.cnsts c).dis.map (·.var)).Nodup) (hnf : (onDisabledVar s c).failed = false) :
    NSP (onDisabledVar s c) P x := by
  have hg := Grow_onDisabledVar s c
  intro w hw hx
  have hw0 : (s.vars w).alive = true := by rw [← hg.alive]; exact hw
  rcases h w hw0 hx with h1 | ⟨c', hc', hp, hl⟩
  · exact Or.inl (hg.sat h1)
  · rcases List.mem_cons.mp hp with hcc | hcc
    · subst hcc
      by_cases hst : (s.vars w).staged = 0
      · exact Or.inl (hg.sat (Or.inl hst))
      · cases hlim : (s.cnsts c').limit with
        | none => exact absurd hlim hl
        | some lim =>
          obtain ⟨e, he, hev⟩ := hdis w hw0 hx hst hc'
          rcases onDisabledVar_sat c' lim hlim hnd hnf with hf | hs
          · exact Or.inl (Or.inr ⟨c', hg.cn w c' hc', hf⟩)
          · have := hs e he; rw [hev] at this; exact Or.inl this
    · exact Or.inr ⟨c', hg.cn w c' hc', hcc, by rw [hg.limit]; exact hl⟩

theorem NSP_foldl_onDisabledVar {P : List Nat} : ∀ (l : List Nat) (s : Sys), WF s → ND s → NSP s (l ++ P) none →
    (l.foldl onDisabledVar s).failed = false → NSP (l.foldl onDisabledVar s) P none := by
  intro l
  induction l with
  | nil => intro s _ _ h _; exact h
  | cons c rest ih =>
    intro s hwf hnd h hnf
    simp only [List.foldl_cons] at hnf ⊢
    have hnf1 := foldl_sticky onDisabledVar_sticky _ _ hnf
    refine ih _ (WFX_onDisabledVar c hwf hnf1) (ND_cnSame hnd (onDisabledVar_rel' same s c).cn) ?_ hnf
    exact NSP_onDisabledVar c h (fun w _ _ hst hc => hdis_of_WFX hwf w c (Or.inr rfl) hst hc)
      (dis_vars_nodup hwf.l hnd c) hnf1

/-- `disable_var(v)` touches only the constraints of `v`, and lowers a counter by at most the number of elements `v`
has on the constraint (here: one, `ND`) -/
theorem disableVar_cnsts {s : Sys} (v : Nat) (hnd : ND s) (hnf : (disableVar s v).failed = false) (c : Nat) :
    (c ∉ (s.vars v).cn → (disableVar s v).cnsts c = s.cnsts c) ∧
    (s.cnsts c).cur ≤ ((disableVar s v).cnsts c).cur + 1 := by
  -- before slot `i`: `c` is untouched unless one of the slots `< i` is on `c`, and then it lost at most one
  have hloop := disableVar_ind hnf
    (fun i st => (c ∉ (s.vars v).cn.take i → st.cnsts c = s.cnsts c) ∧ (s.cnsts c).cur ≤ (st.cnsts c).cur + 1)
    (fun s2 hc2 => ⟨fun _ => by rw [hc2], by rw [hc2]; omega⟩) ?_
  · obtain ⟨s3, hq, heq⟩ := hloop
    rw [heq]
    exact ⟨fun hno => hq.1 (fun hh => hno (List.mem_of_mem_take hh)), hq.2⟩
  · intro st c' i hi ⟨h1, h2⟩ hn
    obtain ⟨e, _, hle, heq⟩ := moveToDis_inv st c' v i hn
    have htake : (s.vars v).cn.take (i+1) = (s.vars v).cn.take i ++ [c'] := by
      rw [List.take_add_one, hi]; rfl
    rw [heq, htake]
    simp only [setC_cnsts, List.mem_append, List.mem_singleton, not_or]
    by_cases hcc : c = c'
    · subst hcc
      rw [if_pos rfl]
      refine ⟨fun hh => absurd rfl hh.2, ?_⟩
      -- no earlier slot is on `c` (`ND`)
      have hnone : c ∉ (s.vars v).cn.take i := by
        intro hmem
        obtain ⟨j, hj⟩ := List.mem_iff_getElem?.mp hmem
        have hjlt : j < i := by have := lt_of_getElem? hj; simp only [List.length_take] at this; omega
        rw [List.getElem?_take_of_lt hjlt] at hj
        have := (List.getElem?_inj (lt_of_getElem? hj) (hnd v)).mp (hj.trans hi.symm)
        omega
      rw [h1 hnone]
      have := conc_le_one (s.cnsts c).policy e.w
      simp only [Cnst.movedDis]
      omega
    · rw [if_neg hcc]
      exact ⟨fun hh => h1 hh.1, h2⟩

theorem NSP_disableVar {s : Sys} (v : Nat) (h : NS s) (hnd : ND s) (hnf : (disableVar s v).failed = false) :
    NSP (disableVar s v) (s.vars v).cn none := by
  have hv := disableVar_vars s v hnf
  have hlim := (disableVar_rel same s v).limit
  intro w hw _
  rw [hv.alive] at hw
  by_cases hwv : w = v
  · subst hwv; exact Or.inl (Or.inl hv.stagedv)
  · rcases h w hw with h1 | ⟨c, hc, hf⟩
    · exact Or.inl (Or.inl (by rw [hv.staged w hwv]; exact h1))
    · by_cases hcv : c ∈ (s.vars v).cn
      · obtain ⟨l, hl, _⟩ := hf
        exact Or.inr ⟨c, by rw [hv.cn]; exact hc, hcv, by rw [hlim, hl]; intro hh; cases hh⟩
      · exact Or.inl (Or.inr ⟨c, by rw [hv.cn]; exact hc, hf.congr ((disableVar_cnsts v hnd hnf c).1 hcv)⟩)

theorem NS_suspend {s : Sys} (v : Nat) (hwf : WF s) (hnd : ND s) (h : NS s) (hpen : (s.vars v).pen ≠ 0)
    (hnf : ((s.vars v).cn.foldl onDisabledVar (disableVar s v)).failed = false) :
    NS ((s.vars v).cn.foldl onDisabledVar (disableVar s v)) := by
  have hnf1 := foldl_sticky onDisabledVar_sticky _ _ hnf
  refine (NSP_foldl_onDisabledVar _ _ (WF_disableVar v hwf hpen hnf1) (ND_cnSame hnd (disableVar_vars s v hnf1).cn) ?_ hnf).toNS
  rw [List.append_nil]
  exact NSP_disableVar v h hnd hnf1

theorem NS_stageBack {s : Sys} (c v lim : Nat) (hwf : WF s) (hnd : ND s) (h : NS s) (hpen : (s.vars v).pen ≠ 0)
    (hc : c ∈ (s.vars v).cn) (hlim : (s.cnsts c).limit = some lim) (hlt : lim < (s.cnsts c).cur)
    (hnf : (stageBack s v).failed = false) : NS (stageBack s v) := by
  obtain ⟨hnf1, hnf2⟩ := stageBack_stages hnf
  unfold stageBack
  simp only
  have hv1 := disableVar_vars s v hnf1
  rw [hv1.cn] at hnf2 ⊢
  have hfull1 : Full (disableVar s v) c :=
    ⟨lim, by rw [(disableVar_rel same s v).limit]; exact hlim, by have := (disableVar_cnsts v hnd hnf1 c).2; omega⟩
  have hg2 := grow.foldl (s.vars v).cn Grow_onDisabledVar (disableVar s v)
  have hns2 := NS_suspend v hwf hnd h hpen hnf2
  intro w hw
  by_cases hwv : w = v
  · subst hwv
    refine Or.inr ⟨c, ?_, hg2.full hfull1⟩
    rw [setV_vars, if_pos rfl]
    apply hg2.cn w c
    rw [hv1.cn]; exact hc
  · rw [setV_vars, if_neg hwv] at hw
    exact (hns2 w hw).setV_ne _ hwv

theorem NS_expandTail {s : Sys} (c v w' : Nat) (hwf : WF s) (hnd : ND s) (h : NS s) (hc : c ∈ (s.vars v).cn)
    (hnf : (expandTail s c v w').failed = false) : NS (expandTail s c v w') := by
  rw [expandTail_eq] at hnf ⊢
  refine NS_markOnly ?_ (expandMarks_markOnly _ c v w')
  have hnf1 := expandMarks_rel sticky.toMarkRel _ c v w' hnf
  rcases expandStage_cases s c v with ⟨he, _⟩ | ⟨he, hp, lim, hl, hlt⟩
  · rw [he]; exact h
  · rw [he] at hnf1 ⊢; exact NS_stageBack c v lim hwf hnd h hp hc hl hlt hnf1

theorem conc_mono (p : Policy) {w w' : Nat} (h : w ≤ w') : conc p w ≤ conc p w' := by
  unfold conc
  split
  · exact Nat.le_refl _
  · split <;> split <;> omega

theorem le_addW (p : Policy) (old w : Nat) : old ≤ addW p old w := by
  unfold addW; split <;> omega

theorem Grow_createElem (s : Sys) (c v w : Nat) : Grow s (createElem s c v w) := by
  obtain ⟨a, ha⟩ := createElem_eq s c v w
  rw [ha]
  refine grow.trans (b := ({ s with modflag := true } : Sys).setV v { s.vars v with cn := (s.vars v).cn ++ [c] }) ?_
    (grow.trans (Grow_setC _ c (createdCnst s c v w) ?_ ?_) (.of_eq rfl rfl))
  · exact grow.trans (b := { s with modflag := true }) (.of_eq rfl rfl)
      (Grow_setV _ v _ rfl (fun _ h => List.mem_append_left _ h) (Or.inl rfl))
  · unfold createdCnst; split <;> rfl
  · unfold createdCnst; split
    · exact Nat.le_add_right _ _
    · exact Nat.le_refl _

theorem ND_createElem {s : Sys} {c v : Nat} (w : Nat) (h : ND s) (hno : c ∉ (s.vars v).cn) : ND (createElem s c v w) := by
  intro u
  rw [createElem_vars]; simp only
  split
  · exact nodup_concat (h v) hno
  · exact h u

theorem NS_expand {s : Sys} (c v w : Nat) (hwf : WF s) (hnd : ND s) (h : NS s) (hc : c < s.nc)
    (hal : (s.vars v).alive = true) (hnf : (expand s c v w false).failed = false) : NS (expand s c v w false) := by
  rcases expand_inv s c v w false hnf with ⟨i, e, hcn, hp, he, hle, heq⟩ | ⟨i, e, hcn, hp, he, heq⟩ | ⟨hno, heq⟩
  · rw [heq] at hnf ⊢
    have hg : Grow s (reuseEn s c v i w e) := grow.trans (b := { s with modflag := true }) (.of_eq rfl rfl) (Grow_setC _ c _ rfl (by
      have := conc_mono (s.cnsts c).policy (le_addW (s.cnsts c).policy e.w w)
      show (s.cnsts c).cur ≤ (s.cnsts c).cur - _ + _
      omega))
    exact NS_expandTail c v _ (WF_reuseEn hwf w hcn he) (ND_cnSame hnd (fun _ => rfl)) (NS_grow h hg)
      (List.mem_iff_getElem?.mpr ⟨i, hcn⟩) hnf
  · rw [heq] at hnf ⊢
    have hg : Grow s (reuseDis s c v i w e) :=
      grow.trans (b := { s with modflag := true }) (.of_eq rfl rfl) (Grow_setC _ c _ rfl (Nat.le_refl _))
    exact NS_expandTail c v _ (WF_reuseDis hwf w hcn he) (ND_cnSame hnd (fun _ => rfl)) (NS_grow h hg)
      (List.mem_iff_getElem?.mpr ⟨i, hcn⟩) hnf
  · rw [heq] at hnf ⊢
    exact NS_expandTail c v _ (WF_createElem c v w hwf hc hal) (ND_createElem w hnd (hno rfl))
      (NS_grow h (Grow_createElem s c v w)) (by rw [createElem_vars]; simp) hnf

/-- an element left `c`: whoever relied on `c` being full now relies on `c` being pending -/
theorem NSP_lower {s : Sys} {x : Option Nat} (c : Nat) (k : Cnst) (h : NSP s [] x) (hk : k.limit = (s.cnsts c).limit) :
    NSP (s.setC c k) [c] x := by
  intro w hw hx
  rcases h w hw hx with h1 | ⟨c', _, hp, _⟩
  · rcases h1 with h1 | ⟨c', hc', hf⟩
    · exact Or.inl (Or.inl h1)
    · by_cases hcc : c' = c
      · subst hcc
        obtain ⟨l, hl, _⟩ := hf
        refine Or.inr ⟨c', hc', List.mem_singleton.mpr rfl, ?_⟩
        simp only [setC_cnsts, if_true, hk, hl]
        intro hh; cases hh
      · exact Or.inl (Or.inr ⟨c', hc', hf.congr (if_neg hcc)⟩)
  · simp at hp

theorem NSP_freeTail {s : Sys} {v i : Nat} (c : Nat) (hwf : WFX s v i) (hnd : ND s) (h : NSP s [c] (some v))
    (hnf : (freeTail s c).failed = false) : NSP (freeTail s c) [] (some v) := by
  have hdis : ∀ w, (s.vars w).alive = true → some w ≠ some v → (s.vars w).staged ≠ 0 → c ∈ (s.vars w).cn →
      ∃ e ∈ (s.cnsts c).dis, e.var = w := by
    intro w _ hx hst hc
    exact hdis_of_WFX hwf w c (Or.inl (fun hh => hx (by rw [hh]))) hst hc
  unfold freeTail at hnf ⊢
  split
  · rename_i hemp
    rw [Bool.and_eq_true] at hemp
    have hd : (s.cnsts c).dis = [] := List.isEmpty_iff.mp hemp.2
    intro w hw hx
    have hw' : (s.vars w).alive = true := hw
    rcases h w hw' hx with h1 | ⟨c', hc', hp, _⟩
    · exact Or.inl ((Grow.of_eq rfl rfl).sat h1)
    · have hcc : c' = c := List.mem_singleton.mp hp
      subst hcc
      by_cases hst : (s.vars w).staged = 0
      · exact Or.inl (Or.inl hst)
      · obtain ⟨e, he, _⟩ := hdis w hw' hx hst hc'
        rw [hd] at he; simp at he
  · rename_i hemp
    simp only [hemp] at hnf
    exact NSP_onDisabledVar c h hdis (dis_vars_nodup hwf.l hnd c) hnf

theorem NSP_freeElem {s : Sys} {v i : Nat} (c : Nat) (hwf : WFX s v i) (hnd : ND s) (h : NSP s [] (some v))
    (hcn : (s.vars v).cn[i]? = some c) (hnf : (freeElem s c v i).failed = false) :
    NSP (freeElem s c v i) [] (some v) := by
  rcases freeElem_inv s c v i hnf with ⟨hp, e, he, _, heq⟩ | ⟨hp, hen, e, he, heq⟩
  · rw [heq] at hnf ⊢
    exact NSP_freeTail c (WFX_freed (b := true) c _ hwf hcn (by simp; omega) ⟨rfl, rfl⟩) (ND_cnSame hnd (fun _ => rfl))
      (NSP_lower c _ h rfl) hnf
  · rw [heq] at hnf ⊢
    exact NSP_freeTail c (WFX_freed (b := false) c _ hwf hcn (by simp [hp]) ⟨rfl, rfl⟩) (ND_cnSame hnd (fun _ => rfl))
      (NSP_lower c _ h rfl) hnf

theorem NS_varFree {s : Sys} (v : Nat) (hwf : WF s) (hnd : ND s) (h : NS s) (hnf : (varFree s v).failed = false) :
    NS (varFree s v) := by
  have hloop := varFree_ind hnf
    (fun i st => WFX st v i ∧ ND st ∧ NSP st [] (some v) ∧ (st.vars v).cn = (s.vars v).cn)
    (fun s1 hm => ⟨WFX.markOnly (s := { s with varset := s.varset.erase v, modflag := true }) ((hwf.toX v).of_eq rfl rfl) hm,
      ND_cnSame hnd hm.cn,
      (NS_markOnly (NS_grow (s' := { s with varset := s.varset.erase v, modflag := true }) h (.of_eq rfl rfl)) hm).toNSP [] (some v),
      hm.cn v⟩) ?_
  · obtain ⟨s3, ⟨_, _, hp, _⟩, heq⟩ := hloop
    rw [heq]
    intro w hw
    by_cases hwv : w = v
    · subst hwv; simp [setV_vars] at hw
    · rw [setV_vars, if_neg hwv] at hw
      rcases hp w hw (fun hh => hwv (Option.some.inj hh)) with h1 | ⟨_, _, hp', _⟩
      · exact h1.setV_ne _ hwv
      · simp at hp'
  · intro st c i hi ⟨hw, hn, hp, hc⟩ hnf'
    have hcn : (st.vars v).cn[i]? = some c := by rw [hc]; exact hi
    have hs := freeElem_rel same st c v i
    exact ⟨WFX_freeElem c hw hcn hnf', ND_cnSame hn hs.cn, NSP_freeElem c hw hn hp hcn hnf', (hs.cn v).trans hc⟩

theorem NS_updatePenalty {s : Sys} (v p : Nat) (hwf : WF s) (hnd : ND s) (h : NS s) (hfix : s.cfg.fixSuspend = true)
    (hnf : (updatePenalty s v p).failed = false) : NS (updatePenalty s v p) := by
  have h0 : NS { s with modflag := true } := NS_modflag h true
  have halive : ∀ (x : Var) w, x.alive = (s.vars v).alive → ((({ s with modflag := true } : Sys).setV v x).vars w).alive = true →
      (s.vars w).alive = true := fun x w hx hw => by rw [← setV_field Var.alive _ v x hx w]; exact hw
  rcases updatePenalty_cases s v p with heq | ⟨_, _, hms, heq⟩ | ⟨_, _, _, heq⟩ | ⟨_, hz, hf, heq⟩ | ⟨_, _, hf, heq⟩ |
    ⟨_, _, heq⟩
  all_goals rw [heq] at hnf ⊢
  · exact h
  · intro w hw
    by_cases hwv : w = v
    · subst hwv
      -- `get_min_concurrency_slack() == 0`: the variable cannot be enabled
      exact sat_of_not_canEnable (by unfold canEnable; rw [hms]; simp [slackPos])
    · exact (h0 w (halive _ w (by rfl) hw)).setV_ne _ hwv
  · have hv := enableVar_vars (stagedAt s v p) v
    intro w hw
    by_cases hwv : w = v
    · subst hwv; exact Or.inl hv.stagedv
    · rw [hv.alive] at hw
      exact (Grow_enableVar _ v).sat ((h0 w (halive _ w (by rfl) hw)).setV_ne _ hwv)
  · exact NS_suspend v (WF_modflag hwf true) (ND_cnSame hnd (fun _ => rfl)) h0 (Nat.ne_of_gt hz) hnf
  · rw [(disableVar_rel same _ v).dims.2.2.1] at hf
    rw [show ({ s with modflag := true } : Sys).cfg = s.cfg from rfl, hfix] at hf
    cases hf
  · exact NS_markOnly (NS_setV h0 v _ (by rfl) (by rfl) (by rfl)) (umcsFromVar_markOnly _ _)

theorem ND_step {s : Sys} (op : Op) (hno : op.noForce = true) (h : ND s) (hnf : (step s op).failed = false) :
    ND (step s op) := by
  refine step_cases (P := fun s' => s'.failed = false → ND s') s op (fun _ => h) ?_ hnf
  cases op with
  | cnew b l p => exact fun _ => ND_cnSame h (fun _ => rfl)
  | vnew p b =>
    intro _ u
    rw [vnew_vars]
    split
    · exact List.nodup_nil
    · exact h u
  | expand c v w f =>
    intro _ _ hnf'
    have hf : f = false := by simpa [Op.noForce] using hno
    rcases expand_inv s c v w f hnf' with ⟨i, e, _, _, _, _, heq⟩ | ⟨i, e, _, _, _, heq⟩ | ⟨hnot, heq⟩
    · rw [heq]; exact ND_cnSame (s := reuseEn s c v i w e) (ND_cnSame h (fun _ => rfl)) (expandTail_rel same _ _ _ _).cn
    · rw [heq]; exact ND_cnSame (s := reuseDis s c v i w e) (ND_cnSame h (fun _ => rfl)) (expandTail_rel same _ _ _ _).cn
    · rw [heq]; exact ND_cnSame (ND_createElem w h (hnot hf)) (expandTail_rel same _ _ _ _).cn
  | vfree v =>
    obtain ⟨s3, h3, heq⟩ := varFree_rel same s v
    intro _ u
    show ((varFree s v).vars u).cn.Nodup
    rw [heq, setV_vars]
    split
    · exact List.nodup_nil
    · rw [h3.cn]; exact h u
  | vbound v b => exact fun _ => ND_cnSame h (updateVarBound_rel same s v b).cn
  | vpen v p => exact fun _ => ND_cnSame h (updatePenalty_rel same s v p).cn
  | cbound c b => exact fun _ => ND_cnSame h (updateCnstBound_rel same s c b).cn
  | solve => exact fun _ => ND_cnSame h (fun u => ((solveOp_frame s).vars u).cn)

theorem NS_step {s : Sys} (op : Op) (hno : op.noForce = true) (hfix : s.cfg.fixSuspend = true) (hwf : WF s)
    (hnd : ND s) (h : NS s) (hnf : (step s op).failed = false) : NS (step s op) := by
  refine step_cases (P := fun s' => s'.failed = false → NS s') s op (fun _ => h) ?_ hnf
  cases op with
  | cnew b l p =>
    -- no variable uses the new constraint
    intro _ w hw
    rcases h w hw with h1 | ⟨c, hc, hf⟩
    · exact Or.inl h1
    · exact Or.inr ⟨c, hc, hf.congr (if_neg (Nat.ne_of_lt (hwf.so.cnlt w c hc)))⟩
  | vnew p b =>
    intro _ w hw
    rw [vnew_vars] at hw
    by_cases hwn : w = s.nv
    · left; rw [vnew_vars, if_pos hwn]
    · rw [if_neg hwn] at hw
      exact (Grow.of_eq rfl rfl).sat ((h w hw).setV_ne _ hwn)
  | expand c v w f =>
    have hf : f = false := by simpa [Op.noForce] using hno
    subst hf
    exact fun hc hal hnf' => NS_expand c v w hwf hnd h hc hal hnf'
  | vfree v => exact NS_varFree v hwf hnd h
  | vbound v b =>
    intro _
    unfold updateVarBound
    exact NS_markOnly (NS_setV (NS_modflag h true) v _ (by rfl) (by rfl) (by rfl)) (foldl_umcs_markOnly _ _)
  | vpen v p => exact NS_updatePenalty v p hwf hnd h hfix
  | cbound c b =>
    intro _
    unfold updateCnstBound
    exact NS_grow (NS_markOnly (NS_modflag h true) (umcs_markOnly _ c)) (Grow_setC _ c _ (by rfl) (Nat.le_refl _))
  | solve =>
    exact fun _ => NS_grow h (.of_veq (solveOp_frame s).cnsts (solveOp_frame s).vars)

/-- the combined invariant of the repaired code on histories without `force_creation` -/
structure Inv (s : Sys) : Prop where
  wf : WF s
  nd : ND s
  ns : NS s
  fix : s.cfg.fixSuspend = true

theorem Inv_step {s : Sys} (op : Op) (hno : op.noForce = true) (h : Inv s) (hnf : (step s op).failed = false) :
    Inv (step s op) :=
  ⟨WF_step op h.wf hnf, ND_step op hno h.nd hnf, NS_step op hno h.fix h.wf h.nd h.ns hnf,
   by rw [step_cfg s op]; exact h.fix⟩

theorem Inv_init (cfg : Cfg) (sel : Bool) (hfix : cfg.fixSuspend = true) : Inv (init cfg sel) :=
  ⟨WF_init cfg sel, fun _ => List.nodup_nil, fun w hw => by simp [init] at hw, hfix⟩

theorem Inv_run : ∀ (hist : List Op) (s : Sys), (∀ op ∈ hist, op.noForce = true) → Inv s →
    (run s hist).failed = false → Inv (run s hist) := by
  intro hist
  induction hist with
  | nil => intro s _ h _; exact h
  | cons op rest ih =>
    intro s hno h hnf
    have hnf1 : (step s op).failed = false := foldl_sticky step_sticky rest _ hnf
    exact ih _ (fun o ho => hno o (List.mem_cons_of_mem _ ho)) (Inv_step op (hno op List.mem_cons_self) h hnf1) hnf

end SgVerif.C18
