import SgVerif.C18.NoStarve
/-
C18 — Concurrency limits are enforced without starvation.  Property theorems over the bookkeeping model
`SgVerif.LmmBook` (src/kernel/lmm/System.cpp).  `run (init cfg sel) h` is the state after the history `h` of public
operations; `cfg` selects the code as it is (`Cfg.current`) or with the proposed repairs (`Cfg.fixed`).
-/
namespace SgVerif.C18
open SgVerif.LmmBook

/-- **conc_counter_exact** (full strength): after ANY history of public operations (any length, any limits, any
weights, any policy, `force_creation` included, selective update on or off, current or repaired code), the counter
`concurrency_current_` of EVERY constraint equals the sum of `Element::get_concurrency()` over its enabled elements.
(Also on the branch where an `xbt_assert` fires: `failed` only records the abort.) -/
theorem conc_counter_exact (cfg : Cfg) (sel : Bool) (h : List Op) (c : Nat) :
    ((run (init cfg sel) h).cnsts c).cur
      = sumConc ((run (init cfg sel) h).cnsts c).policy ((run (init cfg sel) h).cnsts c).en :=
  run_CE _ h (init_CE cfg sel) c

/-- **conc_le_limit** (full strength): after ANY history of public operations (any length, limits, weights, policies,
`force_creation` included, selective on/off, current or repaired code) in which no `xbt_assert` fired
(`failed = false`: a fired assertion aborts the program, there is no state to speak of), EVERY constraint with a
concurrency limit has `concurrency_current_ ≤ concurrency_limit_`.  With `conc_counter_exact`: the number of enabled
elements counting towards the limit never exceeds it.  The heart is the loop lemma `disableVar_gives_back`
(C18/Bounded.lean): on the overflow path of `expand`, `disable_var` gives back exactly the slot `expand` took. -/
theorem conc_le_limit (cfg : Cfg) (sel : Bool) (h : List Op) (hnf : (run (init cfg sel) h).failed = false)
    (c l : Nat) (hl : ((run (init cfg sel) h).cnsts c).limit = some l) :
    ((run (init cfg sel) h).cnsts c).cur ≤ l ∧
    sumConc ((run (init cfg sel) h).cnsts c).policy ((run (init cfg sel) h).cnsts c).en ≤ l := by
  have h1 := run_BD h _ (BD_init cfg sel) hnf c l hl
  exact ⟨h1, by rw [← conc_counter_exact]; exact h1⟩

/-- **element lists are well-formed** (full strength, all histories incl. `force_creation`, no assertion fired): every
element `(v, i)` of every variable is linked exactly once — in the enabled list of its constraint iff the variable's
penalty is positive, else in the disabled list —, the lists contain nothing else, a staged variable is disabled.
(`check_concurrency`'s "Variable inconsistency" assertions.) -/
theorem lists_well_formed (cfg : Cfg) (sel : Bool) (h : List Op) (hnf : (run (init cfg sel) h).failed = false) :
    WF (run (init cfg sel) h) := run_WF cfg sel h hnf

/-- **staged_implies_some_full** (full strength for the repaired code): with `update_variable_penalty(var, 0)` repaired
(`fixSuspend`; the other two switches are free), after EVERY public operation of EVERY history without
`force_creation` in which no assertion fired, NO live staged variable starves: it uses at least one constraint with
`get_concurrency_slack() ≤ 0`.  The exclusion of `force_creation` is necessary (`force_creation_counterexample`,
registered finding `force-creation-duplicate`), and so is the repair (`staged_implies_some_full_counterexample`).
Proof: invariant `Inv` (C18/NoStarve.lean) = element-list well-formedness + no duplicate constraint per variable +
no starvation; the walk lemma `odvWalk_sat` of `on_disabled_var`. -/
theorem staged_implies_some_full (cfg : Cfg) (hfix : cfg.fixSuspend = true) (sel : Bool) (h : List Op)
    (hf : ∀ op ∈ h, op.noForce = true) (hnf : (run (init cfg sel) h).failed = false) (v : Nat) :
    ¬ Starving (run (init cfg sel) h) v :=
  NS_iff.mp (Inv_run h _ hf (Inv_init cfg sel hfix) hnf).ns v

/-- **no_starvation_step** (full strength, repaired code): from ANY state (reachable or not) that is well-formed, has
no variable with two elements on one constraint, and in which no staged variable starves, one more public operation
(not `force_creation`) that fires no assertion leaves no staged variable starving — and re-establishes the
hypotheses. -/
theorem no_starvation_step (s : Sys) (op : Op) (hfix : s.cfg.fixSuspend = true) (hwf : WF s) (hnd : ND s)
    (hns : ∀ v, ¬ Starving s v) (hno : op.noForce = true) (hnf : (step s op).failed = false) :
    (∀ v, ¬ Starving (step s op) v) ∧ WF (step s op) ∧ ND (step s op) := by
  have hi := Inv_step op hno ⟨hwf, hnd, NS_iff.mpr hns, hfix⟩ hnf
  exact ⟨NS_iff.mp hi.ns, hi.wf, hi.nd⟩

/-- limit 1; v0 enabled, v1 staged behind it; `update_variable_penalty(v0, 0)` (suspend) -/
def suspendWitness : List Op :=
  [.cnew 40 (some 1) .shared, .vnew 4 (-1), .expand 0 0 4 false, .vnew 4 (-1), .expand 0 1 4 false, .vpen 0 0]

/-- **counterexample on the current code**: after the suspend the constraint has a free slot (`cur = 0 < 1`), v1 is
still staged, no assertion fired: v1 starves.  Replayed on libsimgrid by props/C18/corpus.txt (W1). -/
theorem staged_implies_some_full_counterexample :
    Starving (run (init Cfg.current true) suspendWitness) 1 ∧ (run (init Cfg.current true) suspendWitness).failed = false := by
  decide

/-- with the repair the same history enables v1 -/
theorem staged_ok_fixed_on_witness :
    ¬ Starving (run (init Cfg.fixed true) suspendWitness) 1 ∧ ((run (init Cfg.fixed true) suspendWitness).vars 1).pen = 4 := by
  decide

/-- `expand(c, v, 1, force_creation = true)` on a constraint of limit 1 that v already uses: v is staged while the
constraint has a free slot (v would need two).  Holds for the repaired code as well (finding
`force-creation-duplicate`, only reachable through the ptask_L07 flag). -/
theorem force_creation_counterexample :
    Starving (run (init Cfg.fixed true)
      [.cnew 40 (some 1) .shared, .vnew 4 (-1), .expand 0 0 4 false, .expand 0 0 4 true]) 0 := by
  decide

theorem slackPos_none : slackPos none = true := rfl
theorem slackPos_some (m : Int) : slackPos (some m) = true ↔ 0 < m := slackPos_some' m

/-- `Variable::get_min_concurrency_slack() > 0` (with its early return) says exactly that every constraint of the
variable has a positive slack -/
theorem minSlackGo_pos (s : Sys) : ∀ (l : List Nat) (acc : Option Int),
    slackPos (minSlackGo s l acc) = true ↔ (slackPos acc = true ∧ ∀ c ∈ l, slackPos (slack (s.cnsts c)) = true) :=
  minSlackGo_pos' s

/-- **can_enable_iff**: `on_disabled_var` enables a variable exactly when it is staged and every constraint it uses
has a free slot (for every state: no hypothesis) -/
theorem can_enable_iff (s : Sys) (v : Nat) :
    canEnable s v = true ↔ (0 < (s.vars v).staged ∧ ∀ c ∈ (s.vars v).cn, slackPos (slack (s.cnsts c)) = true) :=
  can_enable_iff' s v

/-- a staged variable is enabled by `variable_free` of the variable that held the slot; no assertion fires -/
example :
    let s := run (init Cfg.current false)
      [.cnew 40 (some 1) .shared, .vnew 4 (-1), .expand 0 0 4 false, .vnew 8 (-1), .expand 0 1 4 false, .vfree 0]
    s.failed = false ∧ (s.vars 1).pen = 8 ∧ (s.vars 1).staged = 0 ∧ (s.cnsts 0).cur = 1 := by decide

/-- an element of weight 1/2 does not count; growing it to 1 by a second `expand` makes it count and stages the
variable when the constraint is full -/
example :
    let s := run (init Cfg.current true)
      [.cnew 40 (some 1) .shared, .vnew 4 (-1), .expand 0 0 4 false, .vnew 4 (-1), .expand 0 1 2 false, .expand 0 1 2 false]
    s.failed = false ∧ (s.vars 1).pen = 0 ∧ (s.vars 1).staged = 4 ∧ (s.cnsts 0).cur = 1 ∧ Full s 0 := by decide

/-- non-vacuity of `staged_implies_some_full` / `conc_le_limit`: the suspend history on the repaired code has no
`force_creation`, fires no assertion, and reaches the limit -/
example : (∀ op ∈ suspendWitness, op.noForce = true) ∧ (run (init Cfg.fixed true) suspendWitness).failed = false ∧
    ((run (init Cfg.fixed true) suspendWitness).cnsts 0).limit = some 1 ∧ ((run (init Cfg.fixed true) suspendWitness).cnsts 0).cur = 1 := by
  decide

/-- non-vacuity of `no_starvation_step`: the state before the suspend satisfies the hypotheses (v1 is staged behind v0
on a full constraint), and the suspend is a non-failing step -/
example :
    let s := run (init Cfg.fixed true) (suspendWitness.take 5)
    s.cfg.fixSuspend = true ∧ WF s ∧ ND s ∧ (∀ v, ¬ Starving s v) ∧ (s.vars 1).staged = 4 ∧ Full s 0 ∧
    (step s (.vpen 0 0)).failed = false := by
  have hnf : (run (init Cfg.fixed true) (suspendWitness.take 5)).failed = false := by decide
  have hi := Inv_run (suspendWitness.take 5) _ (by decide) (Inv_init Cfg.fixed true rfl) hnf
  refine ⟨by decide, hi.wf, hi.nd, ?_, by decide, by decide, by decide⟩
  exact staged_implies_some_full Cfg.fixed rfl true _ (by decide) hnf

end SgVerif.C18
