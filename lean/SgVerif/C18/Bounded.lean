import SgVerif.LmmBook.WFPrim
import SgVerif.C18.Lemmas
/-
`concurrency_current_ ≤ concurrency_limit_` (`BD`) through every operation, under "no
assertion fired".  It is a property of single constraints that every constraint update within the limit keeps
(`lim_upd`), hence kept by every internal function of a run that does not fail (`bd`, `bdx`).  The only place where
the counter may exceed the limit is inside `expand`, between `increase_concurrency(false)` and the `disable_var` of
the overflow path: the loop lemma `disableVar_gives_back` shows that `disable_var` lowers that counter by at least the
slot `expand` just took.
-/
namespace SgVerif.C18
open SgVerif.LmmBook

/-- every constraint with a limit has `concurrency_current_ ≤ concurrency_limit_` -/
def BD : Sys → Prop := AllC fun _ k => ∀ lim, k.limit = some lim → k.cur ≤ lim

/-- `BD` except that constraint `c` may be one above its limit -/
def BDx (s : Sys) (c : Nat) : Prop :=
  AllC (fun c' k => ∀ lim, k.limit = some lim → k.cur ≤ lim + (if c' = c then 1 else 0)) s

theorem conc_le_one (p : Policy) (w : Nat) : conc p w ≤ 1 := by
  unfold conc; split
  · exact Nat.le_refl _
  · split <;> omega

theorem lim_upd (n : Nat) {k k' : Cnst} (hk : CUpd True k k') (h : ∀ lim, k.limit = some lim → k.cur ≤ lim + n) :
    ∀ lim, k'.limit = some lim → k'.cur ≤ lim + n := by
  intro lim hl
  rw [hk.limit] at hl
  have := h lim hl
  cases hk with
  | movedEn v i e he hlim => exact Nat.le_trans (hlim trivial lim hl) (Nat.le_add_right _ _)
  | movedDis v i e he hle => exact Nat.le_trans (Nat.sub_le _ _) this
  | freedEn v i e he hle => exact Nat.le_trans (Nat.sub_le _ _) this
  | freedDis v i => exact this
  | bound b => exact this

theorem bd : StepRel (fun s s' => s'.failed = false → s.failed = false ∧ (BD s → BD s')) :=
  keepsOk (fun _ _ _ hk => lim_upd 0 hk)

theorem bdx (c : Nat) : StepRel (fun s s' => s'.failed = false → s.failed = false ∧ (BDx s c → BDx s' c)) :=
  keepsOk (fun _ _ _ hk => lim_upd _ hk)

theorem find?_eraseP_ne {p q : Entry → Bool} (hpq : ∀ x, q x = true → p x = false) :
    ∀ (l : List Entry), (l.eraseP q).find? p = l.find? p := by
  intro l
  induction l with
  | nil => rfl
  | cons y rest ih =>
    by_cases hq : q y = true
    · simp [hq, hpq y hq]
    · have hq' : q y = false := by simpa using hq
      simp [hq', List.find?_cons, ih]

theorem isRef_ne_idx (v i t : Nat) (hne : i ≠ t) (x : Entry) (h : isRef v i x = true) : isRef v t x = false :=
  (isRef_false_iff v t x).mpr (fun hk => hne (((isRef_iff v i x).mp h).2.symm.trans hk.2))

/-- **the loop lemma**: `disable_var(v)` gives back the slot that `expand` took on `c`: if the element `(v, t)` is
enabled on `c` and counts 1, the counter of `c` drops by at least one.  Before slot `t` the element is still found in
the enabled list of `c` (erasing other slots does not hide it); at slot `t` the counter drops -/
theorem disableVar_gives_back {s : Sys} {c v t : Nat} {e : Entry} (hb : BDx s c)
    (hcn : (s.vars v).cn[t]? = some c) (hf : (s.cnsts c).en.find? (isRef v t) = some e)
    (hc1 : conc (s.cnsts c).policy e.w = 1) (hnf : (disableVar s v).failed = false) : BD (disableVar s v) := by
  have hloop := disableVar_ind hnf
    (fun i st => (st.cnsts c).policy = (s.cnsts c).policy ∧ (st.cnsts c).cur ≤ (s.cnsts c).cur ∧
      (t < i → (st.cnsts c).cur + 1 ≤ (s.cnsts c).cur) ∧ (i ≤ t → (st.cnsts c).en.find? (isRef v t) = some e))
    (fun s2 hc2 => by rw [hc2]; exact ⟨rfl, Nat.le_refl _, fun h => absurd h (Nat.not_lt_zero _), fun _ => hf⟩) ?_
  · obtain ⟨s3, ⟨_, _, hq, _⟩, heq⟩ := hloop
    have hq := hq (lt_of_getElem? hcn)
    intro c' lim hl
    -- the other constraints stay within their limit; `c` was at most one above and lost one
    have hx := (disableVar_rel (bdx c) s v hnf).2 hb c' lim hl
    by_cases hcc : c' = c
    · subst hcc
      rw [(disableVar_rel same s v).limit] at hl
      have := hb c' lim hl
      rw [heq]
      rw [if_pos rfl] at this
      show (s3.cnsts c').cur ≤ lim
      omega
    · rw [if_neg hcc] at hx; exact hx
  · intro st c' i hi ⟨hpol, hle, hlt, hq⟩ hn
    obtain ⟨e', he', hle', heq⟩ := moveToDis_inv st c' v i hn
    rw [heq, setC_cnsts]
    by_cases hcc : c = c'
    · subst hcc
      rw [if_pos rfl]
      refine ⟨hpol, Nat.le_trans (Nat.sub_le _ _) hle, fun hit => ?_, fun hit => ?_⟩
      · show (st.cnsts c).cur - conc (st.cnsts c).policy e'.w + 1 ≤ _
        by_cases hit' : i = t
        · subst hit'
          rw [hq (Nat.le_refl _)] at he'
          rw [Option.some.inj he', ← hpol] at hc1
          omega
        · omega
      · show ((st.cnsts c).en.eraseP (isRef v i)).find? (isRef v t) = some e
        rw [find?_eraseP_ne (isRef_ne_idx v i t (by omega))]
        exact hq (by omega)
    · rw [if_neg hcc]
      have hne : i ≠ t := fun hit => by rw [hit, hcn] at hi; exact hcc (Option.some.inj hi)
      exact ⟨hpol, hle, fun hit => hlt (by omega), fun hit => hq (by omega)⟩

theorem BD_of_BDx {s : Sys} {c : Nat} (hb : BDx s c)
    (hno : ∀ lim, (s.cnsts c).limit = some lim → ¬ lim < (s.cnsts c).cur) : BD s := by
  intro c' lim hl
  have := hb c' lim hl
  by_cases hc : c' = c
  · subst hc; have := hno lim hl; omega
  · simp only [hc, if_false] at this; exact this

theorem BD_expandTail {s : Sys} (c v w' : Nat) (hb : BDx s c)
    (hov : ∀ lim, (s.cnsts c).limit = some lim → lim < (s.cnsts c).cur → (s.vars v).pen ≠ 0 ∧
      ∃ t e, (s.vars v).cn[t]? = some c ∧ (s.cnsts c).en.find? (isRef v t) = some e ∧ conc (s.cnsts c).policy e.w = 1)
    (hnf : (expandTail s c v w').failed = false) : BD (expandTail s c v w') := by
  rw [expandTail_eq] at hnf ⊢
  refine AllC.cnsts ?_ (expandMarks_markOnly _ c v w').cnsts
  have hnf1 := expandMarks_rel sticky.toMarkRel _ c v w' hnf
  rcases expandStage_cases s c v with ⟨he, hno⟩ | ⟨he, _, lim, hl, hlt⟩
  · rw [he]
    exact BD_of_BDx hb (fun lim hl hlt => hno (hov lim hl hlt).1 lim hl hlt)
  · rw [he] at hnf1 ⊢
    obtain ⟨_, t, e, hcn, hf, hc1⟩ := hov lim hl hlt
    obtain ⟨hnf2, hnf3⟩ := stageBack_stages hnf1
    exact ((bd.toPre.foldl _ (onDisabledVar_rel' bd) _ hnf3).2 (disableVar_gives_back hb hcn hf hc1 hnf2)).cnsts rfl

theorem find?_setW (v i w' : Nat) (l : List Entry) (e : Entry) (h : l.find? (isRef v i) = some e) :
    (setW v i w' l).find? (isRef v i) = some { e with w := w' } := by
  obtain ⟨he, as, bs, hl, has⟩ := List.find?_eq_some_iff_append.mp h
  rw [hl, setW_append v i w' e bs he as has]
  exact List.find?_eq_some_iff_append.mpr ⟨he, as, bs, rfl, has⟩

theorem BDx_setC {s : Sys} (h : BD s) (c : Nat) (k : Cnst) (hk : ∀ lim, k.limit = some lim → k.cur ≤ lim + 1) :
    BDx (s.setC c k) c :=
  have hx : BDx s c := fun c' lim hl => Nat.le_trans (h c' lim hl) (Nat.le_add_right _ _)
  hx.setC c k (by rw [if_pos rfl]; exact hk)

theorem BD_expand {s : Sys} (c v w : Nat) (f : Bool) (h : BD s) (hnf : (expand s c v w f).failed = false) :
    BD (expand s c v w f) := by
  have h0 : BD { s with modflag := true } := h.cnsts rfl
  rcases expand_inv s c v w f hnf with ⟨i, e, hcn, hp, he, hle, heq⟩ | ⟨i, e, hcn, hp, he, heq⟩ | ⟨_, heq⟩
  · rw [heq] at hnf ⊢
    have hc1 := conc_le_one (s.cnsts c).policy (addW (s.cnsts c).policy e.w w)
    refine BD_expandTail _ _ _ (BDx_setC h0 c _ (fun lim hl => by have := h c lim hl; simp only; omega)) ?_ hnf
    intro lim hl hlt
    simp only [reuseEn, setC_cnsts, if_true] at hl hlt ⊢
    refine ⟨hp, i, { e with w := addW (s.cnsts c).policy e.w w }, hcn, find?_setW v i _ _ e he, ?_⟩
    have := h c lim hl
    simp only
    omega
  · rw [heq] at hnf ⊢
    exact (expandTail_rel bd _ _ _ _ hnf).2 (h0.setC c _ (h c))
  · rw [heq] at hnf ⊢
    have hc1 := conc_le_one (s.cnsts c).policy w
    have hcs := createElem_cnsts s c v w
    by_cases hp : (s.vars v).pen ≠ 0
    · have hk : createdCnst s c v w = _ := if_pos hp
      refine BD_expandTail _ _ _ ((BDx_setC h c (createdCnst s c v w) (fun lim hl => ?_)).cnsts hcs) ?_ hnf
      · rw [hk] at hl ⊢; have := h c lim hl; simp only; omega
      · intro lim hl hlt
        rw [hcs] at hl hlt ⊢
        rw [createElem_vars]
        simp only [if_true, hk] at hl hlt ⊢
        have := h c lim hl
        exact ⟨hp, (s.vars v).cn.length, ⟨v, (s.vars v).cn.length, w⟩, by simp, by simp [isRef], by simp only; omega⟩
    · have hk : createdCnst s c v w = _ := if_neg hp
      exact (expandTail_rel bd _ _ _ _ hnf).2 ((h.setC c (createdCnst s c v w) (by rw [hk]; exact h c)).cnsts hcs)

theorem BD_step {s : Sys} (op : Op) (h : BD s) (hnf : (step s op).failed = false) : BD (step s op) := by
  refine step_cases (P := fun s' => s'.failed = false → BD s') s op (fun _ => h) ?_ hnf
  cases op with
  | cnew b l p => exact fun _ => (h.setC s.nc _ (fun lim _ => Nat.zero_le _)).cnsts rfl
  | vnew p b => exact fun _ => h.cnsts rfl
  | expand c v w f => exact fun _ _ => BD_expand c v w f h
  | vfree v =>
    obtain ⟨s3, h3, heq⟩ := varFree_rel bd s v
    show (varFree s v).failed = false → BD (varFree s v)
    rw [heq]
    exact fun hn => ((h3 hn).2 (h.cnsts rfl)).cnsts rfl
  | vbound v b => exact fun hn => (updateVarBound_rel bd s v b hn).2 h
  | vpen v p => exact fun hn => (updatePenalty_rel bd s v p hn).2 h
  | cbound c b => exact fun hn => (updateCnstBound_rel bd s c b hn).2 h
  | solve => exact fun _ => h.cnsts (solveOp_frame s).cnsts

theorem BD_init (cfg : Cfg) (sel : Bool) : BD (init cfg sel) := by
  intro c lim hl; simp [init] at hl

theorem run_BD (hist : List Op) (s : Sys) (h : BD s) (hnf : (run s hist).failed = false) : BD (run s hist) :=
  run_inv (Q := BD) (fun _ op h hn => BD_step op h hn) hist s h hnf

end SgVerif.C18
