import SgVerif.LmmBook.WFPrim
/-
No starvation: the monotonicity relation `Grow` (what `enable_var` and hence `on_disabled_var` may do: counters only
increase, staged penalties only drop to 0) and the walk lemma of `on_disabled_var`.
-/
namespace SgVerif.C18
open SgVerif.LmmBook

/-- a constraint with a limit and no free slot: `get_concurrency_slack() <= 0` -/
def Full (s : Sys) (c : Nat) : Prop := ∃ l, (s.cnsts c).limit = some l ∧ l ≤ (s.cnsts c).cur

instance (s : Sys) (c : Nat) : Decidable (Full s c) := by
  unfold Full
  cases h : (s.cnsts c).limit with
  | none => exact isFalse (by simp)
  | some l => exact if h2 : l ≤ (s.cnsts c).cur then isTrue ⟨l, rfl, h2⟩ else isFalse (by simp; exact Nat.lt_of_not_le h2)

theorem Full.congr {s s' : Sys} {c : Nat} (h : Full s c) (hc : s'.cnsts c = s.cnsts c) : Full s' c := by
  unfold Full; rw [hc]; exact h

/-- a live variable that wants to run (`staged_sharing_penalty_ > 0`), is held back, and none of the constraints it
uses is full: it waits although every resource it uses has room -/
def Starving (s : Sys) (v : Nat) : Prop :=
  (s.vars v).alive = true ∧ 0 < (s.vars v).staged ∧ ∀ c ∈ (s.vars v).cn, ¬ Full s c

instance (s : Sys) (v : Nat) : Decidable (Starving s v) := by unfold Starving; exact inferInstance

theorem slackPos_none' : slackPos none = true := rfl
theorem slackPos_some' (m : Int) : slackPos (some m) = true ↔ 0 < m := by simp [slackPos]

theorem minSlackGo_pos' (s : Sys) : ∀ (l : List Nat) (acc : Option Int),
    slackPos (minSlackGo s l acc) = true ↔ (slackPos acc = true ∧ ∀ c ∈ l, slackPos (slack (s.cnsts c)) = true) := by
  intro l
  induction l with
  | nil => intro acc; simp [minSlackGo]
  | cons c rest ih =>
    intro acc
    simp only [minSlackGo, List.mem_cons, forall_eq_or_imp]
    cases hs : slack (s.cnsts c) with
    | none =>
      simp only [slackPos_none', true_and]
      exact ih acc
    | some sl =>
      cases acc with
      | none =>
        simp only [if_true, slackPos_none', true_and, slackPos_some']
        by_cases h0 : sl = 0
        · simp [h0, slackPos_some']
        · simp only [h0, if_false]
          rw [ih, slackPos_some']
      | some m =>
        simp only [slackPos_some']
        by_cases hlt : sl < m
        · simp only [hlt, decide_true, if_true]
          by_cases h0 : sl = 0
          · simp [h0, slackPos_some']
          · simp only [h0, if_false]
            rw [ih, slackPos_some']
            constructor
            · intro ⟨h1, h2⟩; exact ⟨by omega, h1, h2⟩
            · intro ⟨_, h1, h2⟩; exact ⟨h1, h2⟩
        · simp only [hlt, decide_false, Bool.false_eq_true, if_false]
          rw [ih, slackPos_some']
          constructor
          · intro ⟨h1, h2⟩; exact ⟨h1, by omega, h2⟩
          · intro ⟨h1, _, h2⟩; exact ⟨h1, h2⟩

theorem can_enable_iff' (s : Sys) (v : Nat) :
    canEnable s v = true ↔ (0 < (s.vars v).staged ∧ ∀ c ∈ (s.vars v).cn, slackPos (slack (s.cnsts c)) = true) := by
  unfold canEnable minSlack
  rw [Bool.and_eq_true, minSlackGo_pos', decide_eq_true_eq]
  simp [slackPos_none']

theorem slackPos_of_not_full {s : Sys} {c : Nat} (h : ¬ Full s c) : slackPos (slack (s.cnsts c)) = true := by
  unfold slack
  cases hl : (s.cnsts c).limit with
  | none => rfl
  | some l =>
    show slackPos (some ((l : Int) - ((s.cnsts c).cur : Int))) = true
    rw [slackPos_some']
    have : ¬ l ≤ (s.cnsts c).cur := fun hle => h ⟨l, hl, hle⟩
    omega

/-- variable `w` is not starving (regardless of `alive`) -/
def Sat (s : Sys) (w : Nat) : Prop := (s.vars w).staged = 0 ∨ ∃ c ∈ (s.vars w).cn, Full s c

theorem sat_of_not_canEnable {s : Sys} {w : Nat} (h : canEnable s w ≠ true) : Sat s w := by
  rw [Ne, can_enable_iff'] at h
  by_cases hs : (s.vars w).staged = 0
  · exact Or.inl hs
  · right
    apply Classical.byContradiction
    intro hno
    exact h ⟨by omega, fun c hc => slackPos_of_not_full (fun hf => hno ⟨c, hc, hf⟩)⟩

/-- what `enable_var`, hence `on_disabled_var`, may do: limits kept, counters only go up, `cnsts_` only grows, a staged
penalty stays or drops to 0 -/
structure Grow (s s' : Sys) : Prop where
  limit : ∀ c, (s'.cnsts c).limit = (s.cnsts c).limit
  cur : ∀ c, (s.cnsts c).cur ≤ (s'.cnsts c).cur
  cn : ∀ u, ∀ c ∈ (s.vars u).cn, c ∈ (s'.vars u).cn
  alive : ∀ u, (s'.vars u).alive = (s.vars u).alive
  staged : ∀ u, (s'.vars u).staged = (s.vars u).staged ∨ (s'.vars u).staged = 0

theorem grow : Pre Grow where
  refl _ := ⟨fun _ => rfl, fun _ => Nat.le_refl _, fun _ _ h => h, fun _ => rfl, fun _ => Or.inl rfl⟩
  trans h1 h2 := by
    refine ⟨fun k => (h2.limit k).trans (h1.limit k), fun k => Nat.le_trans (h1.cur k) (h2.cur k),
      fun u k hk => h2.cn u k (h1.cn u k hk), fun u => (h2.alive u).trans (h1.alive u), ?_⟩
    intro u
    rcases h2.staged u with h | h
    · rcases h1.staged u with h' | h'
      · exact Or.inl (h.trans h')
      · exact Or.inr (h.trans h')
    · exact Or.inr h

theorem Grow.full {s s' : Sys} (h : Grow s s') {c : Nat} (hf : Full s c) : Full s' c := by
  obtain ⟨l, hl, hle⟩ := hf
  exact ⟨l, by rw [h.limit]; exact hl, Nat.le_trans hle (h.cur c)⟩

theorem Grow.sat {s s' : Sys} (h : Grow s s') {w : Nat} (hs : Sat s w) : Sat s' w := by
  rcases hs with hs | ⟨c, hc, hf⟩
  · left
    rcases h.staged w with h' | h'
    · rw [h']; exact hs
    · exact h'
  · exact Or.inr ⟨c, h.cn w c hc, h.full hf⟩

theorem Grow.of_veq {s s' : Sys} (hc : s'.cnsts = s.cnsts) (hv : ∀ u, VEq (s'.vars u) (s.vars u)) : Grow s s' :=
  ⟨fun c => by rw [hc], fun c => by rw [hc]; exact Nat.le_refl _, fun u c h => by rw [(hv u).cn]; exact h,
   fun u => (hv u).alive, fun u => Or.inl (hv u).staged⟩

theorem Grow.of_markOnly {s s' : Sys} (h : MarkOnly s s') : Grow s s' := .of_veq h.cnsts h.vars

theorem Grow.of_eq {s s' : Sys} (hc : s'.cnsts = s.cnsts) (hv : s'.vars = s.vars) : Grow s s' :=
  .of_veq hc (fun u => by rw [hv]; rfl)

theorem Grow_setC (s : Sys) (c : Nat) (k : Cnst) (hl : k.limit = (s.cnsts c).limit) (hc : (s.cnsts c).cur ≤ k.cur) :
    Grow s (s.setC c k) := by
  refine ⟨setC_field Cnst.limit s c k hl, ?_, fun _ _ hh => hh, fun _ => rfl, fun _ => Or.inl rfl⟩
  intro c'; rw [setC_cnsts]; split
  · rename_i hcc; rw [hcc]; exact hc
  · exact Nat.le_refl _

theorem Grow_fail (s : Sys) : Grow s s.fail := .of_eq rfl rfl

theorem Grow_setV (s : Sys) (v : Nat) (x : Var) (ha : x.alive = (s.vars v).alive) (hc : ∀ c ∈ (s.vars v).cn, c ∈ x.cn)
    (hs : x.staged = (s.vars v).staged ∨ x.staged = 0) : Grow s (s.setV v x) := by
  refine ⟨fun _ => rfl, fun _ => Nat.le_refl _, fun u c hm => ?_, setV_field Var.alive s v x ha, fun u => ?_⟩
  all_goals rw [setV_vars]; split
  · rename_i hu; rw [hu] at hm; exact hc c hm
  · exact hm
  · rename_i hu; rw [hu]; exact hs
  · exact Or.inl rfl

theorem Grow_moveToEn (s : Sys) (c v i : Nat) : Grow s (moveToEn s c v i) := by
  have key : ∀ e, Grow s (s.setC c ((s.cnsts c).movedEn v i e)) := fun e => Grow_setC s c _ rfl (Nat.le_add_right _ _)
  rcases moveToEn_cases s c v i with h1 | ⟨e, _, h1 | ⟨h1, _⟩⟩ <;> rw [h1]
  · exact Grow_fail s
  · exact grow.trans (key e) (Grow_fail _)
  · exact key e

/-- each stage of `enable_var` is in `Grow`; the staged penalty of `v` drops to 0 in the first -/
theorem Grow_enableVar (s : Sys) (v : Nat) : Grow s (enableVar s v) := by
  unfold enableVar
  refine grow.trans ?_ (.of_markOnly (umcsFromVar_markOnly _ v))
  refine grow.trans ?_ (forElems_rel grow Grow_moveToEn v _ _ _)
  refine grow.trans (b := s.setV v _) ?_ (.of_eq rfl rfl)
  exact Grow_setV s v _ rfl (fun _ h => h) (Or.inr rfl)

theorem Grow_odvWalk (s : Sys) (c n : Nat) (l : List Entry) : Grow s (odvWalk c n l s) :=
  odvWalk_inv (P := Grow s) (fun s' w _ hs => grow.trans hs (Grow_enableVar s' w)) (fun s' hs => grow.trans hs (Grow_fail s'))
    c n l s (grow.refl s)

theorem Grow_onDisabledVar (s : Sys) (c : Nat) : Grow s (onDisabledVar s c) :=
  onDisabledVar_rel grow Grow_enableVar Grow_fail s c

theorem odvAfter_nodup (en : Bool) (e : Entry) (after : List Entry) (h : e.var ∉ after.map (·.var)) :
    odvAfter en e after = after := by
  have hne : ∀ a ∈ after, (a.var != e.var) = true := fun a ha => by
    rw [bne_iff_ne]
    intro hh
    exact h (hh ▸ List.mem_map.mpr ⟨a, ha, rfl⟩)
  cases after with
  | nil => rfl
  | cons nx rest =>
    have hnx : (nx.var == e.var) = false := by
      have := hne nx List.mem_cons_self
      rw [bne, Bool.not_eq_true'] at this
      exact this
    unfold odvAfter
    simp only [hnx, Bool.and_false, Bool.false_eq_true, if_false]
    split
    · exact List.filter_eq_self.mpr hne
    · rfl

/-- **walk lemma**: after `on_disabled_var`'s loop over a list of elements of pairwise different variables, either the
constraint is full or every variable of the list is satisfied (was enabled, or is not staged, or uses a full
constraint) -/
theorem odvWalk_sat (c lim : Nat) : ∀ (n : Nat) (l : List Entry) (s : Sys), (s.cnsts c).limit = some lim →
    l.length ≤ n → (l.map (·.var)).Nodup → (odvWalk c n l s).failed = false →
    Full (odvWalk c n l s) c ∨ ∀ e ∈ l, Sat (odvWalk c n l s) e.var := by
  intro n l
  induction l generalizing n with
  | nil => intro _ _ _ _ _; exact Or.inr (fun e he => nomatch he)
  | cons e after ih =>
    intro s hlim hlen hnd hnf
    cases n with
    | zero => exact absurd hlen (Nat.not_succ_le_zero _)
    | succ n =>
      simp only [List.map_cons, List.nodup_cons] at hnd
      rw [odvWalk_cons] at hnf ⊢
      rw [odvAfter_nodup _ _ _ hnd.1] at hnf ⊢
      have hsat1 : Sat (if canEnable s e.var then enableVar s e.var else s) e.var ∧
          Grow s (if canEnable s e.var then enableVar s e.var else s) := by
        split
        · exact ⟨Or.inl (enableVar_vars s e.var).stagedv, Grow_enableVar s _⟩
        · rename_i hc; exact ⟨sat_of_not_canEnable hc, grow.refl s⟩
      generalize (if canEnable s e.var then enableVar s e.var else s) = s1 at hnf hsat1 ⊢
      have hlim1 : (s1.cnsts c).limit = some lim := by rw [hsat1.2.limit]; exact hlim
      unfold odvRest at hnf ⊢
      rw [hlim1] at hnf ⊢
      simp only at hnf ⊢
      by_cases hlt : lim < (s1.cnsts c).cur
      · rw [if_pos hlt] at hnf; simp [Sys.fail] at hnf
      · rw [if_neg hlt] at hnf ⊢
        by_cases heq : (s1.cnsts c).cur = lim
        · rw [if_pos heq]
          left; exact ⟨lim, hlim1, by omega⟩
        · rw [if_neg heq] at hnf ⊢
          have hlen' : after.length ≤ n := by simp only [List.length_cons] at hlen; omega
          have hg1 := Grow_odvWalk s1 c n after
          rcases ih n s1 hlim1 hlen' hnd.2 hnf with h | h
          · exact Or.inl h
          · right
            intro e' he'
            rcases List.mem_cons.mp he' with h1 | h1
            · rw [h1]; exact hg1.sat hsat1.1
            · exact h e' h1

theorem onDisabledVar_sat {s : Sys} (c lim : Nat) (hlim : (s.cnsts c).limit = some lim)
    (hnd : ((s.cnsts c).dis.map (·.var)).Nodup) (hnf : (onDisabledVar s c).failed = false) :
    Full (onDisabledVar s c) c ∨ ∀ e ∈ (s.cnsts c).dis, Sat (onDisabledVar s c) e.var := by
  unfold onDisabledVar at hnf ⊢
  rw [hlim] at hnf ⊢
  simp only at hnf ⊢
  exact odvWalk_sat c lim _ _ s hlim (Nat.le_refl _) hnd hnf

end SgVerif.C18
