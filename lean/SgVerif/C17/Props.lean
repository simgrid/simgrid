import SgVerif.LmmBook.WFRun
import SgVerif.LmmBook.Marks
/-
C17 — Selective (lazy) solving equals full recomputation.  Property theorems over the bookkeeping model
`SgVerif.LmmBook` (src/kernel/lmm/System.cpp): modified constraint set, `visited_` marks, `visited_counter_`.
The solver arithmetic is NOT modelled here (C15/C16 do that): it enters `selective_eq_full_of_closed` as the locality
hypothesis `Local` on an abstract solver.
-/
namespace SgVerif.C17
open SgVerif.LmmBook

/-- `K` is a union of connected components of the graph "two constraints share an enabled variable" -/
def Closed (s : Sys) (K : Nat → Prop) : Prop :=
  ∀ c, K c → ∀ e ∈ (s.cnsts c).en, ∀ c2 ∈ (s.vars e.var).cn, K c2

/-- decidable version for the modified set of a state (the driver evaluates it after every operation) -/
def closedModified (s : Sys) : Bool :=
  s.modified.all fun c => (s.cnsts c).en.all fun e => (s.vars e.var).cn.all fun c2 => c2 ∈ s.modified

theorem closedModified_iff (s : Sys) : closedModified s = true ↔ Closed s (· ∈ s.modified) := by
  unfold closedModified Closed
  simp only [List.all_eq_true, decide_eq_true_eq]

/-
**modified_set_is_closed** — full-strength statement (NOT proved here, and FALSE on the current code):

  theorem modified_set_is_closed (h : List Op) (hf : ∀ op ∈ h, op.noForce = true) :
      let s := run (init Cfg.fixed true) h
      s.failed = false → Closed s (· ∈ s.modified) ∧ (every constraint whose `cdata` changed since the last solve is in s.modified)

What is established instead: the two ways the current code breaks it (counterexample theorems below, both replayed on
the library), that the repaired model is closed on the same histories, the wrap-around lemma, and the corollary
`selective_eq_full_of_closed` which takes closure and "untouched data is unchanged" as explicit hypotheses.
`closedModified` is evaluated by the driver on the model state after every operation of every generated history
(it is how violations are classified), and model = library on all of them.
-/

/-- A on L0,L1 and B on L0,L2 are created disabled, the system is solved, then both are enabled in the same
interval (two communications whose latency ends at the same date).  B's first constraint L0 is already marked. -/
def resumeWitness : List Op :=
  [.cnew 40 none .shared, .cnew 40 none .shared, .cnew 4 none .shared,
   .vnew 0 (-1), .expand 0 0 4 false, .expand 1 0 4 false,
   .vnew 0 (-1), .expand 0 1 4 false, .expand 2 1 4 false,
   .vnew 4 (-1), .expand 2 2 4 false, .solve, .vpen 0 4, .vpen 1 4]

/-- **counterexample on the current code**: the modified set is [L0, L1]; L2, which the enabled variable B uses, is
missing: the selective solve ignores L2 (library: B = 5 on a link of capacity 1).  Finding
`modified-set-not-closed-when-cnst-already-marked`. -/
theorem modified_set_is_closed_counterexample :
    let s := run (init Cfg.current true) resumeWitness
    s.failed = false ∧ s.modified = [0, 1] ∧ (s.vars 1).pen = 4 ∧ (s.vars 1).cn = [0, 2] ∧ closedModified s = false := by
  decide

/-- the repaired `update_modified_cnst_set_from_variable` marks L2 as well -/
theorem modified_set_closed_fixed_on_witness :
    let s := run (init Cfg.fixed true) resumeWitness
    s.failed = false ∧ s.modified = [0, 1, 2] ∧ closedModified s = true := by
  decide

/-- same defect through `expand`: an enabled variable is expanded onto a constraint that is already marked -/
theorem expand_marked_counterexample :
    let h := [.cnew 40 none .shared, .cnew 8 none .shared, .vnew 4 (-1), .expand 0 0 4 false, .vnew 4 (-1),
              .expand 0 1 4 false, .solve, .cbound 1 8, .expand 1 0 4 false]
    closedModified (run (init Cfg.current true) h) = false ∧ closedModified (run (init Cfg.fixed true) h) = true := by
  decide

/-- what one effective `solve` does to the counter and the marks on the current code: the counter advances by one
modulo 2^32 and, unless it becomes 1, no mark changes.  Hence `k` solves after its creation a variable that was never
visited still has `visited_ = 0` and the counter is `1 + k mod 2^32`: this is what the harness emulates by presetting
`visited_counter_`. -/
theorem solve_advances_counter (s : Sys) (hsel : s.sel = true) (hm : s.modflag = true) (hcfg : s.cfg.fixWrap = false) :
    (solveOp s).counter = (s.counter + 1) % U32 ∧
    ((s.counter + 1) % U32 ≠ 1 → ∀ v, ((solveOp s).vars v).visited = (s.vars v).visited) := by
  unfold solveOp removeAllModified
  simp only [hm, hsel, hcfg, Bool.not_true, Bool.false_eq_true, if_false, if_true]
  constructor
  · split <;> rfl
  · intro h v
    simp only [h, if_false]

/-- **wraparound_resets_marks** (repaired code): if no mark exceeds the counter (the invariant all operations keep:
marks are only ever set to the counter, to the counter minus one at creation, or to 0 at a reset), then after
`remove_all_modified_cnst_set` NO live variable carries a mark equal to the new counter — in particular when the
counter wraps from 2^32-1: it restarts at 1 with every mark at 0 — and the invariant holds again. -/
theorem wraparound_resets_marks (s : Sys) (hcfg : s.cfg.fixWrap = true) (hc : s.counter < U32)
    (hv : ∀ v ∈ s.varset, (s.vars v).visited ≤ s.counter) :
    let s' := removeAllModified s
    (∀ v ∈ s'.varset, (s'.vars v).visited ≠ s'.counter) ∧ 1 ≤ s'.counter ∧ s'.counter < U32 ∧
    (∀ v ∈ s'.varset, (s'.vars v).visited ≤ s'.counter) ∧ s'.modified = [] ∧ s'.varset = s.varset := by
  obtain ⟨hlo, hhi, hm⟩ := removeAllModified_marks hcfg hc
  have hs := (removeAllModified_frame s).varset
  refine ⟨?_, hlo, hhi, ?_, rfl, hs⟩
  · intro v hvm; rw [hs] at hvm; exact Nat.ne_of_lt (hm v hvm (hv v hvm))
  · intro v hvm; rw [hs] at hvm; exact Nat.le_of_lt (hm v hvm (hv v hvm))

/-- **marks_invariant** (full strength, repaired `remove_all_modified_cnst_set`; the other switches are free): the
invariant that `wraparound_resets_marks` assumes is carried through EVERY public operation of EVERY history (any
length — in particular histories of more than 2^32 solves, which no test can run —, `force_creation` included, no
"no assertion fired" hypothesis): `visited_counter_` stays in `[1, 2^32)`, no live variable carries a mark above the
counter, and every live variable is in `variable_set` (the list the wrap-around reset iterates over). -/
theorem marks_invariant (cfg : Cfg) (hfix : cfg.fixWrap = true) (sel : Bool) (h : List Op) :
    let s := run (init cfg sel) h
    1 ≤ s.counter ∧ s.counter < U32 ∧ (∀ v, (s.vars v).alive = true → (s.vars v).visited ≤ s.counter) ∧
    (∀ v, (s.vars v).alive = true → v ∈ s.varset) := by
  have := run_MK h (init cfg sel) hfix (MK_init cfg sel)
  exact ⟨this.lo, this.hi, this.le, this.vs⟩

/-- **marks_fresh_after_solve** (full strength, repaired code): after ANY history, an effective `solve` of a selective
system leaves NO live variable whose mark equals `visited_counter_` — every live variable looks "not yet visited" to
the next `update_modified_cnst_set_rec`, also when the counter wraps (on the current code this fails:
`wraparound_counterexample`). -/
theorem marks_fresh_after_solve (cfg : Cfg) (hfix : cfg.fixWrap = true) (h : List Op)
    (hm : (run (init cfg true) h).modflag = true) (hnf : (run (init cfg true) h).failed = false) (v : Nat)
    (ha : ((run (init cfg true) (h ++ [.solve])).vars v).alive = true) :
    ((run (init cfg true) (h ++ [.solve])).vars v).visited ≠ (run (init cfg true) (h ++ [.solve])).counter := by
  have hk := run_MK h (init cfg true) hfix (MK_init cfg true)
  have hsel : (run (init cfg true) h).sel = true := (run_cfg_sel h _).2
  have hcfg : (run (init cfg true) h).cfg.fixWrap = true := by rw [(run_cfg_sel h _).1]; exact hfix
  have hrun : run (init cfg true) (h ++ [.solve])
      = removeAllModified { run (init cfg true) h with modflag := false } :=
    (run_append_one _ h .solve).trans (step_solve_eff _ hnf hm hsel)
  rw [hrun] at ha ⊢
  exact MK_removeAllModified_fresh (s := { run (init cfg true) h with modflag := false }) hcfg
    (hk.frame (mkf.modflag _ false)) v ha

/-- non-vacuity of `marks_invariant` / `marks_fresh_after_solve`: on the resume history (repaired code) the counter is 2
and three live variables carry the mark 2 (the bound `≤` is tight); the solve that follows is effective, fires no
assertion, and afterwards the counter is 3 while the marks are still 2 -/
example :
    let s := run (init Cfg.fixed true) resumeWitness
    let s' := run (init Cfg.fixed true) (resumeWitness ++ [.solve])
    s.counter = 2 ∧ (s.vars 0).alive = true ∧ (s.vars 0).visited = 2 ∧ (s.vars 2).visited = 2 ∧ s.modflag = true ∧
    s.failed = false ∧ s'.counter = 3 ∧ (s'.vars 0).alive = true ∧ (s'.vars 0).visited = 2 := by
  decide

/-- **counterexample on the current code**: the reset happens when the counter becomes 1, so it first takes the
value 0 — the value the marks are reset to, and the mark of a variable created at the beginning and never visited.
State: the invariant of `wraparound_resets_marks` holds, yet after the call a live variable's mark equals the counter. -/
theorem wraparound_counterexample :
    let s0 := run (init Cfg.current true) [.cnew 40 none .shared, .cnew 4 none .shared, .vnew 0 (-1), .expand 0 0 4 false, .expand 1 0 4 false]
    let s := { s0 with counter := U32 - 1 }
    (∀ v ∈ s.varset, (s.vars v).visited ≤ s.counter) ∧
    (removeAllModified s).counter = 0 ∧ ((removeAllModified s).vars 0).visited = (removeAllModified s).counter := by
  decide

/-- ... and its consequence: enabled while the counter is 0, the variable is taken for already visited and its
second constraint is left out of the modified set (library: 10 instead of 0.5 on a link of capacity 1; finding
`visited-counter-zero`).  `counter := U32 - 2` stands for 2^32 - 3 earlier solves (`solve_advances_counter`). -/
theorem wraparound_breaks_closure :
    let s0 := run (init Cfg.current true)
      [.cnew 40 none .shared, .cnew 4 none .shared, .cnew 4 none .shared, .vnew 0 (-1), .expand 0 0 4 false,
       .expand 1 0 4 false, .vnew 4 (-1), .expand 1 1 4 false, .solve]
    let s := run { s0 with counter := U32 - 2 } [.cbound 2 8, .solve, .cbound 2 12, .solve, .vpen 0 4]
    s.counter = 0 ∧ s.modified = [0] ∧ (s.vars 0).cn = [0, 1] ∧ closedModified s = false := by
  decide

/-- what a solver reads of a constraint: bound, policy, and for every enabled element the variable, the weight, the
variable's penalty, bound and list of constraints -/
def cdata (s : Sys) (c : Nat) : Int × Policy × List (Nat × Nat × Nat × Int × List Nat) :=
  ((s.cnsts c).bound, (s.cnsts c).policy,
   (s.cnsts c).en.map fun e => (e.var, e.w, (s.vars e.var).pen, (s.vars e.var).bound, (s.vars e.var).cn))

/-- `v` is an enabled variable of some constraint of `K` -/
def Touches (s : Sys) (K : Nat → Prop) (v : Nat) : Prop := ∃ c, K c ∧ ∃ e ∈ (s.cnsts c).en, e.var = v

/-- **Locality hypothesis on the abstract solver** (`solve s K v` = the value given to `v` when the constraint list `K`
is solved in state `s`): on a closed set of constraints the values depend only on the data of that set — neither on
the other constraints solved with it nor on the rest of the state.  This is the statement C15/C16's model of
`maxmin_solve` has to provide (`maxmin_component_local` in DESIGN.md §8 C17); it is NOT proved here. -/
def Local (solve : Sys → (Nat → Prop) → Nat → Rat) : Prop :=
  ∀ (s s' : Sys) (K K' : Nat → Prop), Closed s K → Closed s' K' → (∀ c, K c → K' c) →
    (∀ c, K c → cdata s c = cdata s' c) → ∀ v, Touches s K v → solve s K v = solve s' K' v

/-- **selective_eq_full_of_closed**: one selective solve.  `sp` is the state at the previous solve, where every
variable had the value of a full solve (`hprev`); `s` is the state now, `M` its modified set.  If `M` is closed
(`modified_set_is_closed`), the data of the constraints outside `M` did not change since `sp` (`hunt`: "contains every
constraint touched since the last solve"), and enabled variables sit in the enabled list of each of their constraints
(`hwf`, `hwf2`), then re-solving `M` only and keeping the other values gives every enabled variable exactly the value of a
full solve of `s` — for every solver satisfying `Local`. -/
theorem selective_eq_full_of_closed (solve : Sys → (Nat → Prop) → Nat → Rat) (hloc : Local solve)
    (sp s : Sys) (M : Nat → Prop) (old : Nat → Rat)
    (hprev : ∀ v, Touches sp (fun _ => True) v → old v = solve sp (fun _ => True) v)
    (hclosed : Closed s M)
    (hunt : ∀ c, ¬ M c → cdata s c = cdata sp c)
    (hwf : ∀ c, ∀ e ∈ (s.cnsts c).en, ∀ c2 ∈ (s.vars e.var).cn, ∃ e2 ∈ (s.cnsts c2).en, e2.var = e.var)
    (hwf2 : ∀ c, ∀ e ∈ (s.cnsts c).en, c ∈ (s.vars e.var).cn)
    (new : Nat → Rat)
    (hnewM : ∀ v, Touches s M v → new v = solve s M v)
    (hnewO : ∀ v, ¬ Touches s M v → new v = old v) :
    ∀ v, Touches s (fun _ => True) v → new v = solve s (fun _ => True) v := by
  intro v hv
  have hall : ∀ st : Sys, Closed st (fun _ => True) := fun _ _ _ _ _ _ _ => trivial
  by_cases hm : Touches s M v
  · rw [hnewM v hm]
    exact hloc s s M (fun _ => True) hclosed (hall s) (fun _ _ => trivial) (fun _ _ => rfl) v hm
  · rw [hnewO v hm]
    -- v is enabled on some constraint c outside M
    obtain ⟨c, _, e, he, hev⟩ := hv
    have hcM : ¬ M c := fun h => hm ⟨c, h, e, he, hev⟩
    have hcompl : Closed s (fun c => ¬ M c) := by
      intro c1 hc1 e1 he1 c2 hc2 hM2
      obtain ⟨e2, he2, hv2⟩ := hwf c1 e1 he1 c2 hc2
      have := hclosed c2 hM2 e2 he2 c1 (by rw [hv2]; exact hwf2 c1 e1 he1)
      exact hc1 this
    have htouch : Touches s (fun c => ¬ M c) v := ⟨c, hcM, e, he, hev⟩
    have h1 : solve s (fun c => ¬ M c) v = solve s (fun _ => True) v :=
      hloc s s _ _ hcompl (hall s) (fun _ _ => trivial) (fun _ _ => rfl) v htouch
    have h2 : solve s (fun c => ¬ M c) v = solve sp (fun _ => True) v :=
      hloc s sp _ _ hcompl (hall sp) (fun _ _ => trivial) (fun c hc => hunt c hc) v htouch
    have hsp : Touches sp (fun _ => True) v := by
      have hmem : v ∈ (cdata s c).2.2.map (·.1) := by
        simp only [cdata, List.map_map]; exact List.mem_map.mpr ⟨e, he, hev⟩
      rw [hunt c hcM] at hmem
      simp only [cdata, List.map_map] at hmem
      obtain ⟨e', he', hv'⟩ := List.mem_map.mp hmem
      exact ⟨c, trivial, e', he', hv'⟩
    rw [hprev v hsp, ← h2, h1]

/-- **selective_eq_full_partial**: `selective_eq_full_of_closed` for a state reached by ANY history in which no assertion
fired: the two well-formedness hypotheses (`hwf`, `hwf2`) are discharged by `run_WF` (element lists are well-formed
after every history, LmmBook/WFRun.lean).  Remaining hypotheses, NOT yet theorems over histories: closure of the
modified set (`hclosed`) and unchanged data outside it (`hunt`); and `Local` on the solver. -/
theorem selective_eq_full_partial (solve : Sys → (Nat → Prop) → Nat → Rat) (hloc : Local solve)
    (cfg : Cfg) (sel : Bool) (h : List Op) (hnf : (run (init cfg sel) h).failed = false)
    (sp : Sys) (M : Nat → Prop) (old : Nat → Rat)
    (hprev : ∀ v, Touches sp (fun _ => True) v → old v = solve sp (fun _ => True) v)
    (hclosed : Closed (run (init cfg sel) h) M)
    (hunt : ∀ c, ¬ M c → cdata (run (init cfg sel) h) c = cdata sp c)
    (new : Nat → Rat)
    (hnewM : ∀ v, Touches (run (init cfg sel) h) M v → new v = solve (run (init cfg sel) h) M v)
    (hnewO : ∀ v, ¬ Touches (run (init cfg sel) h) M v → new v = old v) :
    ∀ v, Touches (run (init cfg sel) h) (fun _ => True) v → new v = solve (run (init cfg sel) h) (fun _ => True) v := by
  have hl := (run_WF cfg sel h hnf).wfl
  apply selective_eq_full_of_closed solve hloc sp _ M old hprev hclosed hunt ?_ ?_ new hnewM hnewO
  · intro c e he c2 hc2
    obtain ⟨j, hj⟩ := List.mem_iff_getElem?.mp hc2
    have hloc' := (hl.enA c e he).2
    obtain ⟨e2, he2, hr⟩ := hl.enD e.var j c2 hj (by simpa [stdLoc] using hloc')
    exact ⟨e2, he2, ((isRef_iff e.var j e2).mp hr).1⟩
  · intro c e he
    exact List.mem_iff_getElem?.mpr ⟨_, (hl.enA c e he).1⟩

/-- non-vacuity of `selective_eq_full_partial`: the repaired resume history fires no assertion and its modified set is
closed (hypotheses `hnf`, `hclosed` with `M := (· ∈ s.modified)` are satisfiable on a non-trivial state) -/
example :
    let s := run (init Cfg.fixed true) resumeWitness
    s.failed = false ∧ closedModified s = true ∧ s.modified = [0, 1, 2] := by decide

end SgVerif.C17
