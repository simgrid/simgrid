import SgVerif.C49.Model
/-
C49 — the invariant of the Parmap protocol and its preservation by every micro-step.
Two ideas carry it.  Ownership of indices: every index below `common_index` (and below the length) has been counted once or
is held by exactly one thread that is about to call `worker_fun` on it (`Calls`); `fetch_add` hands out the next one.
Round accounting: inside the parallel section `thread_counter` is 1 (the controller) plus the number of workers that have
signalled the current round (`InvB.btc`), so when it reaches `num_workers` every worker is parked for the next round.
-/
namespace SgVerif.C49

def callIdxW : WPc → Option Nat
  | .call _ _ i => some i
  | _ => none

def callIdxM : MPc → Option Nat
  | .call i => some i
  | _ => none

/-- the index thread `k` is about to process (it is at the `worker_fun(data[i])` program point), if any -/
def callAt (s : State) : Nat → Option Nat
  | 0 => callIdxM s.m
  | k + 1 => (s.ws[k]?).bind callIdxW

/-- the controller is outside the parallel section (before `work_round` is incremented / after `master_wait` returned) -/
def phaseA : MPc → Bool
  | .idle | .setIdx | .sigStore | .sigInc => true
  | _ => false

/-- what a worker can be doing while the controller is in round `wr` on data of length `len` -/
def wOK (wr len : Nat) : WPc → Bool
  | .wait r => r == wr || r == wr + 1
  | .fetch r L => r == wr && L == len
  | .call r L _ => r == wr && L == len
  | .signal r => r == wr

/-- the worker has done `worker_signal` of round `wr` -/
def finished (wr : Nat) : WPc → Bool
  | .wait r => r == wr + 1
  | _ => false

/-- the bookkeeping of the indices handed out, inside the parallel section -/
structure Calls (s : State) : Prop where
  -- an index held by a thread was handed out, is inside the vector and not counted yet
  ca : ∀ k i, callAt s k = some i → i < s.ci ∧ i < s.len ∧ s.cnt i = 0
  -- no two threads hold the same index
  cb : ∀ k1 k2 i, callAt s k1 = some i → callAt s k2 = some i → k1 = k2
  -- an index handed out and not counted yet is held by some thread
  cc : ∀ j, s.cnt j = 0 → j < s.ci → j < s.len → ∃ k, callAt s k = some j
  -- nothing at or above `common_index` has been counted
  cd : ∀ j, s.ci ≤ j → s.cnt j = 0

/-- outside the parallel section: every worker is parked for the next round; the sequential prologue of `apply` -/
structure InvA (s : State) : Prop where
  pa : ∀ w ∈ s.ws, w = .wait (s.wr + 1)
  -- `apply` has reset the counters, then `common_index`, then `thread_counter`, in the order of its statements
  pcnt : (s.m = .setIdx ∨ s.m = .sigStore ∨ s.m = .sigInc) → ∀ j, s.cnt j = 0
  pci : (s.m = .sigStore ∨ s.m = .sigInc) → s.ci = 0
  ptc : s.m = .sigInc → s.tc = 1

/-- inside the parallel section -/
structure InvB (s : State) : Prop extends Calls s where
  -- every worker is in the current round with the current length, or already parked for the next one
  pb : ∀ w ∈ s.ws, wOK s.wr s.len w = true
  btc : s.tc = 1 + s.ws.countP (finished s.wr)
  -- the controller reaches `master_wait` only after a `fetch_add` beyond the end
  wd : s.m = .waitDone → s.len ≤ s.ci

/-- at most once per element and nothing beyond the vector, in every state; the rest by phase of the controller -/
structure Inv (s : State) : Prop where
  le1 : ∀ j, s.cnt j ≤ 1
  cl : ∀ j, s.len ≤ j → s.cnt j = 0
  a : phaseA s.m = true → InvA s
  b : phaseA s.m = false → InvB s

theorem countP_set (p : WPc → Bool) (l : List WPc) (k : Nat) (x old : WPc) (h : l[k]? = some old) :
    (l.set k x).countP p + (if p old then 1 else 0) = l.countP p + (if p x then 1 else 0) := by
  obtain ⟨hk, rfl⟩ := List.getElem?_eq_some_iff.mp h
  rw [List.countP_set hk]
  split
  · next hp =>
    have : 0 < l.countP p := List.countP_pos_iff.mpr ⟨_, List.getElem_mem hk, hp⟩
    omega
  · omega

theorem finished_eq (wr : Nat) (w : WPc) (h : finished wr w = true) : w = .wait (wr + 1) := by
  cases w <;> simp [finished] at h
  subst h; rfl

theorem callAt_set (s s' : State) (k : Nat) (x old : WPc) (hw : s.ws[k]? = some old) (hm : s'.m = s.m)
    (hws : s'.ws = s.ws.set k x) (k' : Nat) :
    callAt s' k' = if k' = k + 1 then callIdxW x else callAt s k' := by
  obtain ⟨hk, -⟩ := List.getElem?_eq_some_iff.mp hw
  cases k' with
  | zero => simp [callAt, hm]
  | succ k' =>
    simp only [callAt, hws, List.getElem?_set]
    by_cases e : k = k'
    · subst e; simp [hk]
    · have : ¬ k' = k := fun e2 => e e2.symm
      simp [e, this]

theorem callAt_old (s : State) (k : Nat) (old : WPc) (hw : s.ws[k]? = some old) : callAt s (k + 1) = callIdxW old := by
  simp [callAt, hw]

theorem callAt_set_silent (s s' : State) (k : Nat) (x old : WPc) (hw : s.ws[k]? = some old) (hm : s'.m = s.m)
    (hws : s'.ws = s.ws.set k x) (ho : callIdxW old = none) (hx : callIdxW x = none) (k' : Nat) :
    callAt s' k' = callAt s k' := by
  rw [callAt_set s s' k x old hw hm hws]
  split
  · next e => rw [e, callAt_old s k old hw, ho, hx]
  · rfl

theorem callAt_succ_congr (s s' : State) (h : s'.ws = s.ws) (k : Nat) : callAt s' (k + 1) = callAt s (k + 1) := by
  simp [callAt, h]

theorem callIdxM_none_A {m : MPc} (hA : phaseA m = true) : callIdxM m = none := by
  cases m <;> first | rfl | cases hA

theorem callAt_none_of_parked (s : State) (h0 : callIdxM s.m = none) (hpa : ∀ w ∈ s.ws, w = .wait (s.wr + 1)) (k : Nat) :
    callAt s k = none := by
  cases k with
  | zero => exact h0
  | succ k =>
    simp only [callAt]
    cases hw : s.ws[k]? with
    | none => rfl
    | some w => rw [hpa w (List.mem_of_getElem? hw)]; rfl

theorem callAt_none_A (s : State) (hI : Inv s) (hA : phaseA s.m = true) (k : Nat) : callAt s k = none :=
  callAt_none_of_parked s (callIdxM_none_A hA) (hI.a hA).pa k

theorem parked_of_tc {s : State} (hI : Inv s) (hB : phaseA s.m = false) (hge : numWorkers s ≤ s.tc) :
    ∀ w ∈ s.ws, w = .wait (s.wr + 1) := by
  have h1 := (hI.b hB).btc
  have h2 := List.countP_le_length (p := finished s.wr) (l := s.ws)
  have h3 : s.ws.countP (finished s.wr) = s.ws.length := by simp only [numWorkers] at hge; omega
  rw [List.countP_eq_length] at h3
  intro w hw; exact finished_eq _ _ (h3 w hw)

/-- thread `t` (not at a call) takes the index `common_index`: a `fetch_add` that finds an element left -/
theorem Calls.acquire {s s' : State} (h : Calls s) (t : Nat) (hold : callAt s t = none)
    (hcs : ∀ k, callAt s' k = if k = t then some s.ci else callAt s k)
    (hci : s'.ci = s.ci + 1) (hlen : s'.len = s.len) (hcnt : s'.cnt = s.cnt) (hlt : s.ci < s.len) : Calls s' where
  ca := by
    intro k i hk
    rw [hcs] at hk; rw [hci, hlen, hcnt]
    split at hk
    · cases hk; exact ⟨Nat.lt_succ_self _, hlt, h.cd _ (Nat.le_refl _)⟩
    · have := h.ca k i hk; exact ⟨Nat.lt_succ_of_lt this.1, this.2⟩
  cb := by
    intro k1 k2 i h1 h2
    rw [hcs] at h1 h2
    split at h1 <;> split at h2
    · rw [‹k1 = t›, ‹k2 = t›]
    · cases h1; exact absurd (h.ca k2 _ h2).1 (Nat.lt_irrefl _)
    · cases h2; exact absurd (h.ca k1 _ h1).1 (Nat.lt_irrefl _)
    · exact h.cb k1 k2 i h1 h2
  cc := by
    intro j hc hj hl
    rw [hcnt] at hc; rw [hci] at hj; rw [hlen] at hl
    by_cases e : j = s.ci
    · exact ⟨t, by rw [hcs, if_pos rfl, e]⟩
    · obtain ⟨k, hk⟩ := h.cc j hc (by omega) hl
      refine ⟨k, ?_⟩
      rw [hcs, if_neg (fun e2 => by rw [e2, hold] at hk; cases hk)]
      exact hk
  cd := by intro j hj; rw [hcnt]; exact h.cd j (by rw [hci] at hj; omega)

/-- a step that moves no thread to or from a call and leaves the counters alone; `common_index` grows only when it is
already past the end (a `fetch_add` that finds no element left) -/
theorem Calls.congr {s s' : State} (h : Calls s) (hcs : ∀ k, callAt s' k = callAt s k)
    (hci : s.ci ≤ s'.ci) (hge : s'.ci ≤ s.ci ∨ s.len ≤ s.ci) (hlen : s'.len = s.len) (hcnt : s'.cnt = s.cnt) : Calls s' where
  ca := by
    intro k i hk
    rw [hcs] at hk; rw [hlen, hcnt]
    have := h.ca k i hk; exact ⟨Nat.lt_of_lt_of_le this.1 hci, this.2⟩
  cb := by intro k1 k2 i h1 h2; rw [hcs] at h1 h2; exact h.cb k1 k2 i h1 h2
  cc := by
    intro j hc hj hl
    rw [hcnt] at hc; rw [hlen] at hl
    obtain ⟨k, hk⟩ := h.cc j hc (by omega) hl
    exact ⟨k, by rw [hcs]; exact hk⟩
  cd := by intro j hj; rw [hcnt]; exact h.cd j (Nat.le_trans hci hj)

/-- thread `t` returns from `worker_fun(data[i])`: element `i` is counted, and no other thread holds `i` -/
theorem Calls.finish {s s' : State} (h : Calls s) (t i : Nat) (hold : callAt s t = some i)
    (hcs : ∀ k, callAt s' k = if k = t then none else callAt s k)
    (hci : s'.ci = s.ci) (hlen : s'.len = s.len) (hcnt : s'.cnt = bump s.cnt i) :
    Calls s' ∧ ((∀ j, s.cnt j ≤ 1) → ∀ j, s'.cnt j ≤ 1) ∧ ((∀ j, s.len ≤ j → s.cnt j = 0) → ∀ j, s'.len ≤ j → s'.cnt j = 0) := by
  have hi := h.ca t i hold
  have hb : ∀ j, j ≠ i → bump s.cnt i j = s.cnt j := fun j hj => if_neg hj
  refine ⟨⟨?_, ?_, ?_, ?_⟩, ?_, ?_⟩
  · intro k i' hk
    rw [hcs] at hk; rw [hci, hlen, hcnt]
    split at hk
    · cases hk
    · next hne =>
      have := h.ca k i' hk
      rw [hb i' (fun e => hne (h.cb k t i' hk (e ▸ hold)))]
      exact this
  · intro k1 k2 i' h1 h2
    rw [hcs] at h1 h2
    split at h1
    · cases h1
    · split at h2
      · cases h2
      · exact h.cb k1 k2 i' h1 h2
  · intro j hc hj hl
    rw [hcnt] at hc; rw [hci] at hj; rw [hlen] at hl
    have hji : j ≠ i := by
      intro e
      rw [e, bump, if_pos rfl] at hc
      cases hc
    rw [hb j hji] at hc
    obtain ⟨k, hk⟩ := h.cc j hc hj hl
    refine ⟨k, ?_⟩
    rw [hcs, if_neg (fun e2 => by rw [e2, hold] at hk; cases hk; exact hji rfl)]
    exact hk
  · intro j hj
    rw [hci] at hj
    rw [hcnt, hb j (by omega)]
    exact h.cd j hj
  · intro hle j
    rw [hcnt]
    by_cases e : j = i
    · rw [e, bump, if_pos rfl, hi.2.2]; exact Nat.le_refl 1
    · rw [hb j e]; exact hle j
  · intro hcl j hj
    rw [hlen] at hj
    rw [hcnt, hb j (Nat.ne_of_gt (Nat.lt_of_lt_of_le hi.2.1 hj))]
    exact hcl j hj

theorem callAt_init (n k : Nat) : callAt (init n) k = none :=
  callAt_none_of_parked (init n) rfl (fun _ hw => List.eq_of_mem_replicate hw) k

theorem inv_init (n : Nat) : Inv (init n) :=
  ⟨fun _ => Nat.zero_le 1, fun _ _ => rfl,
    fun _ => ⟨fun _ hw => List.eq_of_mem_replicate hw, fun _ _ => rfl, fun _ => rfl, nofun⟩, nofun⟩

theorem inv_apply (s : State) (len : Nat) (hI : Inv s) : Inv (step s (.apply len)) := by
  simp only [step]
  split
  · next hm =>
    have hA : phaseA s.m = true := by rw [hm]; rfl
    exact ⟨fun _ => Nat.zero_le 1, fun _ _ => rfl,
      fun _ => ⟨(hI.a hA).pa, fun _ _ => rfl, fun h => (by rcases h with h | h <;> cases h), nofun⟩, nofun⟩
  · exact hI

theorem inv_stepMaster (s : State) (hI : Inv s) : Inv (stepMaster s) := by
  unfold stepMaster
  split
  · exact hI
  · -- setIdx: common_index = 0
    next hm =>
    have hA := hI.a (by rw [hm]; rfl)
    exact ⟨hI.le1, hI.cl, fun _ => ⟨hA.pa, fun _ => hA.pcnt (.inl hm), fun _ => rfl, nofun⟩, nofun⟩
  · -- sigStore: thread_counter.store(1)
    next hm =>
    have hA := hI.a (by rw [hm]; rfl)
    exact ⟨hI.le1, hI.cl, fun _ => ⟨hA.pa, fun _ => hA.pcnt (.inr (.inl hm)), fun _ => hA.pci (.inl hm), fun _ => rfl⟩, nofun⟩
  · -- sigInc: work_round.fetch_add(1): the parallel section starts
    next hm =>
    have hpA : phaseA s.m = true := by rw [hm]; rfl
    have hA := hI.a hpA
    have hn : ∀ k, callAt { s with wr := s.wr + 1, m := .fetch } k = none := fun k => by
      cases k with
      | zero => rfl
      | succ k => exact callAt_none_A s hI hpA (k + 1)
    refine ⟨hI.le1, hI.cl, nofun, fun _ =>
      ⟨⟨fun k i h => (by rw [hn] at h; cases h), fun k _ i h => (by rw [hn] at h; cases h), ?_, ?_⟩, ?_, ?_, nofun⟩⟩
    · intro j _ h; simp only at h; rw [hA.pci (.inr hm)] at h; omega
    · intro j _; exact hA.pcnt (.inr (.inr hm)) j
    · intro w hw; rw [hA.pa w hw]; simp [wOK]
    · have h0 : s.ws.countP (finished (s.wr + 1)) = 0 := by
        rw [List.countP_eq_zero]; intro w hw; rw [hA.pa w hw]; simp [finished]
      simp only [h0]; exact hA.ptc hm
  · -- fetch: index = common_index.fetch_add(1)
    next hm =>
    have hB := hI.b (by rw [hm]; rfl)
    have h0 : callAt s 0 = none := by simp [callAt, hm, callIdxM]
    split
    · next hlt =>
      exact ⟨hI.le1, hI.cl, nofun, fun _ =>
        ⟨hB.toCalls.acquire 0 h0 (fun k => by cases k <;> rfl) rfl rfl rfl hlt, hB.pb, hB.btc, nofun⟩⟩
    · next hge =>
      exact ⟨hI.le1, hI.cl, nofun, fun _ =>
        ⟨hB.toCalls.congr (fun k => by cases k with | zero => exact h0.symm | succ k => rfl) (Nat.le_succ _) (.inr (by omega)) rfl rfl,
          hB.pb, hB.btc, fun _ => by simp only; omega⟩⟩
  · -- call i: worker_fun(data[i])
    next i hm =>
    have hB := hI.b (by rw [hm]; rfl)
    have h0 : callAt s 0 = some i := by simp [callAt, hm, callIdxM]
    obtain ⟨hc, hle, hcl⟩ := hB.toCalls.finish (s' := { s with cnt := bump s.cnt i, m := .fetch }) 0 i h0
      (fun k => by cases k <;> rfl) rfl rfl rfl
    exact ⟨hle hI.le1, hcl hI.cl, nofun, fun _ => ⟨hc, hB.pb, hB.btc, nofun⟩⟩
  · -- waitDone: (re-)read thread_counter
    next hm =>
    have hB : phaseA s.m = false := by rw [hm]; rfl
    split
    · next hge =>
      -- every worker has signalled: the parallel section is over
      exact ⟨hI.le1, hI.cl, fun _ => ⟨parked_of_tc (s := s) hI hB hge, fun h => (by rcases h with h | h | h <;> cases h),
        fun h => (by rcases h with h | h <;> cases h), nofun⟩, nofun⟩
    · exact hI

theorem inv_worker {s s' : State} {k : Nat} {x old : WPc} (hI : Inv s) (hw : s.ws[k]? = some old)
    (hB : phaseA s.m = false) (hm : s'.m = s.m) (hws : s'.ws = s.ws.set k x) (hwr : s'.wr = s.wr) (hlen : s'.len = s.len)
    (hok : wOK s.wr s.len x = true)
    (htc : s'.tc + (if finished s.wr old then 1 else 0) = s.tc + (if finished s.wr x then 1 else 0))
    (le1 : ∀ j, s'.cnt j ≤ 1) (c : Calls s') (hci : s.ci ≤ s'.ci) (cl : ∀ j, s'.len ≤ j → s'.cnt j = 0) : Inv s' := by
  refine ⟨le1, cl, fun h => (by rw [hm, hB] at h; cases h), fun _ => ⟨c, ?_, ?_, fun h => ?_⟩⟩
  · intro w hw'
    rw [hws] at hw'; rw [hwr, hlen]
    rcases List.mem_or_eq_of_mem_set hw' with h | h
    · exact (hI.b hB).pb w h
    · rw [h]; exact hok
  · have := countP_set (finished s.wr) s.ws k x old hw
    have h2 := (hI.b hB).btc
    rw [hws, hwr]; omega
  · rw [hm] at h
    have := (hI.b hB).wd h
    rw [hlen]; omega

theorem Inv.worker {s : State} {k : Nat} {w : WPc} (hI : Inv s) (hw : s.ws[k]? = some w) (hne : w ≠ .wait (s.wr + 1)) :
    phaseA s.m = false ∧ wOK s.wr s.len w = true := by
  have hm := List.mem_of_getElem? hw
  cases hA : phaseA s.m with
  | true => exact absurd ((hI.a hA).pa w hm) hne
  | false => exact ⟨rfl, (hI.b hA).pb w hm⟩

theorem inv_stepWorker (s : State) (k : Nat) (hI : Inv s) : Inv (stepWorker s k) := by
  unfold stepWorker
  split
  · exact hI
  · -- worker_wait: (re-)read work_round
    next r hw =>
    split
    · next hr =>
      obtain ⟨hB, -⟩ := hI.worker hw (fun h => by injection h with h; omega)
      exact inv_worker hI hw hB rfl rfl rfl rfl (by simp [wOK, hr]) (by simp [finished, hr]) hI.le1
        ((hI.b hB).toCalls.congr (callAt_set_silent s _ k _ _ hw rfl rfl rfl rfl) (Nat.le_refl _) (.inl (Nat.le_refl _)) rfl rfl) (Nat.le_refl _) hI.cl
    · exact hI
  · -- work(): fetch_add
    next r L hw =>
    obtain ⟨hB, hok⟩ := hI.worker hw nofun
    simp only [wOK, Bool.and_eq_true, beq_iff_eq] at hok
    obtain ⟨hr, hL⟩ := hok
    split
    · next hlt =>
      exact inv_worker hI hw hB rfl rfl rfl rfl (by simp [wOK, hr, hL]) (by simp [finished]) hI.le1
        ((hI.b hB).toCalls.acquire (k + 1) (callAt_old s k _ hw) (callAt_set s _ k (.call r L s.ci) _ hw rfl rfl) rfl rfl rfl (hL ▸ hlt))
        (Nat.le_succ _) hI.cl
    · next hge =>
      exact inv_worker hI hw hB rfl rfl rfl rfl (by simp [wOK, hr]) (by simp [finished]) hI.le1
        ((hI.b hB).toCalls.congr (callAt_set_silent s _ k _ _ hw rfl rfl rfl rfl) (Nat.le_succ _) (.inr (by omega)) rfl rfl) (Nat.le_succ _) hI.cl
  · -- work(): worker_fun(data[i])
    next r L i hw =>
    obtain ⟨hB, hok⟩ := hI.worker hw nofun
    simp only [wOK, Bool.and_eq_true, beq_iff_eq] at hok
    obtain ⟨hc, hle, hcl⟩ := (hI.b hB).toCalls.finish (s' := { s with cnt := bump s.cnt i, ws := s.ws.set k (.fetch r L) })
      (k + 1) i (callAt_old s k _ hw) (callAt_set s _ k (.fetch r L) _ hw rfl rfl) rfl rfl rfl
    exact inv_worker hI hw hB rfl rfl rfl rfl (by simp [wOK, hok]) (by simp [finished]) (hle hI.le1) hc (Nat.le_refl _) (hcl hI.cl)
  · -- worker_signal: thread_counter.fetch_add(1); then round++ and worker_wait(round)
    next r hw =>
    obtain ⟨hB, hok⟩ := hI.worker hw nofun
    simp only [wOK, beq_iff_eq] at hok
    exact inv_worker hI hw hB rfl rfl rfl rfl (by simp [wOK, hok]) (by simp [finished, hok]) hI.le1
      ((hI.b hB).toCalls.congr (callAt_set_silent s _ k _ _ hw rfl rfl rfl rfl) (Nat.le_refl _) (.inl (Nat.le_refl _)) rfl rfl) (Nat.le_refl _) hI.cl

theorem Inv.handed {s : State} (hI : Inv s) {k1 k2 i : Nat} (h1 : callAt s k1 = some i) (h2 : callAt s k2 = some i) :
    k1 = k2 ∧ i < s.len ∧ s.cnt i = 0 := by
  -- a thread at a call: the controller is inside the parallel section
  cases hA : phaseA s.m with
  | true => rw [callAt_none_A s hI hA] at h1; cases h1
  | false =>
    have hB := hI.b hA
    exact ⟨hB.cb k1 k2 i h1 h2, (hB.ca k1 i h1).2⟩

theorem Inv.all_done {s : State} (hI : Inv s) (hm : s.m = .waitDone) (htc : numWorkers s ≤ s.tc) :
    (∀ j, j < s.len → s.cnt j = 1) ∧ (∀ j, s.len ≤ j → s.cnt j = 0) ∧ ∀ w ∈ s.ws, w = .wait (s.wr + 1) := by
  have hB : phaseA s.m = false := by rw [hm]; rfl
  have hall := parked_of_tc hI hB htc
  have hnone := callAt_none_of_parked s (by rw [hm]; rfl) hall
  refine ⟨?_, hI.cl, hall⟩
  intro j hj
  have hle := hI.le1 j
  have hwd := (hI.b hB).wd hm
  by_cases h0 : s.cnt j = 0
  · obtain ⟨k, hk⟩ := (hI.b hB).cc j h0 (by omega) hj
    rw [hnone] at hk; cases hk
  · omega

theorem Inv.no_leak {s : State} (hI : Inv s) :
    (phaseA s.m = true → (∀ w ∈ s.ws, w = .wait (s.wr + 1)) ∧ ∀ k, callAt s k = none) ∧
      (phaseA s.m = false → ∀ w ∈ s.ws, wOK s.wr s.len w = true) :=
  ⟨fun hA => ⟨(hI.a hA).pa, callAt_none_A _ hI hA⟩, fun hB => (hI.b hB).pb⟩

theorem inv_step (s : State) (e : Ev) (hI : Inv s) : Inv (step s e) := by
  cases e with
  | apply len => exact inv_apply s len hI
  | thr t =>
    cases t with
    | zero => exact inv_stepMaster s hI
    | succ k => exact inv_stepWorker s k hI

theorem inv_run (s : State) (es : List Ev) (hI : Inv s) : Inv (run s es) := by
  induction es generalizing s with
  | nil => exact hI
  | cons e es ih => exact ih (step s e) (inv_step s e hI)

theorem inv_reach (n : Nat) (es : List Ev) : Inv (run (init n) es) :=
  inv_run (init n) es (inv_init n)

end SgVerif.C49
