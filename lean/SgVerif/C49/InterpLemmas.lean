import SgVerif.C49.Lemmas
import SgVerif.C49.GenProgs
/-
C49 — the hand-written transition system of Model.lean is the abstraction (`abs`, Interp.lean) of the generic
interpretation of the GENERATED micro-op programs: forward simulation, for every number of workers / length / schedule.

The symbolic evaluator `Sym` (how the locals after a run of local steps derive from the locals before) turns "what is the
next visible micro-op after this one, for ALL values of the locals and shared variables" into a closed, decidable question
about the finite control skeleton of the programs; `Tables P` collects those questions (`siteW` / `siteM`: the successor of
every visible micro-op is the one the hand-written system says; fuel; closure of the finite set of call stacks), `tables`
answers them by evaluation on the generated programs of each mode, and the rest is generic in `P`.
-/
namespace SgVerif.C49

theorem settle_settled (P : Progs) (len f : Nat) (t : Thread) (h : settledStk P t.stack = true) : settle P len f t = t := by
  cases f with
  | zero => rfl
  | succ f => simp [settle, h]

theorem settle_step (P : Progs) (len f : Nat) (t : Thread) (h : settledStk P t.stack = false) :
    settle P len (f + 1) t = settle P len f (localStep P len t) := by
  simp [settle, h]

theorem localStep_stack (P : Progs) (len : Nat) (t : Thread) :
    (localStep P len t).stack =
      nextStack P t.stack (match topOp P t.stack with
        | some .whileIndexLtLength => decide (t.index < t.length)
        | _ => true) := by
  unfold localStep
  cases hs : t.stack with
  | nil => exact hs
  | cons fr rest =>
    simp only
    cases ho : topOp P (fr :: rest) with
    | none => rfl
    | some op => cases op <;> rfl

/-- a stack that the check settles within `f` local micro-ops gains nothing from one more unit of fuel -/
theorem settle_spare (P : Progs) (len : Nat) : ∀ (f : Nat) (t : Thread),
    settlesWithin P f t.stack = true → settle P len (f + 1) t = settle P len f t := by
  intro f
  induction f with
  | zero => intro t h; exact settle_settled P len 1 t h
  | succ f ih =>
    intro t h
    cases hs : settledStk P t.stack with
    | true => rw [settle_settled P len _ t hs, settle_settled P len _ t hs]
    | false =>
      rw [settle_step P len (f + 1) t hs, settle_step P len f t hs]
      apply ih
      rw [localStep_stack P len t]
      simp only [settlesWithin, hs, Bool.false_or] at h
      split at h
      · rename_i ho
        simp only [Bool.and_eq_true] at h
        simp only [ho]
        cases decide (t.index < t.length)
        · exact h.2
        · exact h.1
      · rename_i ho
        split
        · rename_i ho2; exact absurd ho2 ho
        · exact h

/-- `Tables.fuelM`/`fuelW` check that `settleFuel - 1` local micro-ops settle every stack of the skeleton: the one to spare is
the step taken here -/
theorem settle_localStep (P : Progs) (len : Nat) (t : Thread) (hs : settledStk P t.stack = false)
    (hf : settlesWithin P (settleFuel - 1) (localStep P len t).stack = true) :
    settle P len settleFuel (localStep P len t) = settle P len settleFuel t := by
  have h1 : settleFuel = (settleFuel - 1) + 1 := by decide
  rw [h1, settle_step P len _ t hs]
  exact settle_spare P len _ _ hf

theorem opStep_local (P : Progs) (nw : Nat) (t : Thread) (g : Shared) (hs : settledStk P t.stack = false) :
    opStep P nw t g = (localStep P g.len t, g) := by
  unfold opStep
  cases hst : t.stack with
  | nil => simp [settledStk, hst] at hs
  | cons fr rest =>
    cases ho : topOp P (fr :: rest) with
    | none => rfl
    | some op =>
      simp only [settledStk, hst, ho] at hs
      cases op <;> first | rfl | (simp [visible] at hs)

theorem opStep_idle (P : Progs) (nw : Nat) (t : Thread) (g : Shared) (hs : t.stack = []) : opStep P nw t g = (t, g) := by
  unfold opStep
  simp only [hs, topOp, localStep]

/-- how the locals after a run of local micro-ops derive from the locals `(index, length, round)` before it and the
shared data size: `index` is never touched; `length` is the old one or (if `ll`) the data size; `round` = (`rb` or the old
round) + `ri` -/
structure Sym where
  stack : List Frame
  ll : Bool
  rb : Option Nat
  ri : Nat
  deriving DecidableEq

def Sym.start (stk : List Frame) : Sym := ⟨stk, false, none, 0⟩

def Sym.conc (y : Sym) (i l r len : Nat) : Thread :=
  ⟨y.stack, i, if y.ll then len else l, (match y.rb with | some v => v | none => r) + y.ri⟩

/-- `localStep` on symbolic locals; `bl` / `bs` = outcome of `index < length` for the old length / for the data size -/
def symStep (P : Progs) (bl bs : Bool) (y : Sym) : Sym :=
  match y.stack with
  | [] => y
  | _ :: _ =>
    match topOp P y.stack with
    | none => { y with stack := nextStack P y.stack true }
    | some op =>
      match op with
      | .whileIndexLtLength => { y with stack := nextStack P y.stack (if y.ll then bs else bl) }
      | .loadLength => { y with stack := nextStack P y.stack true, ll := true }
      | .initRound v => { y with stack := nextStack P y.stack true, rb := some v, ri := 0 }
      | .incLocalRound => { y with stack := nextStack P y.stack true, ri := y.ri + 1 }
      | _ => { y with stack := nextStack P y.stack true }

def symSettle (P : Progs) (bl bs : Bool) : Nat → Sym → Sym
  | 0, y => y
  | f + 1, y => if settledStk P y.stack then y else symSettle P bl bs f (symStep P bl bs y)

theorem symStep_sound (P : Progs) (y : Sym) (i l r len : Nat) :
    localStep P len (y.conc i l r len) = (symStep P (decide (i < l)) (decide (i < len)) y).conc i l r len := by
  obtain ⟨stk, ll, rb, ri⟩ := y
  unfold localStep symStep
  dsimp only [Sym.conc]
  cases stk with
  | nil => rfl
  | cons fr rest =>
    dsimp only
    cases ho : topOp P (fr :: rest) with
    | none => rfl
    | some op =>
      cases op <;> try rfl
      case whileIndexLtLength => cases ll <;> rfl

theorem symSettle_sound (P : Progs) (i l r len : Nat) : ∀ (f : Nat) (y : Sym),
    settle P len f (y.conc i l r len) = (symSettle P (decide (i < l)) (decide (i < len)) f y).conc i l r len := by
  intro f
  induction f with
  | zero => intro y; rfl
  | succ f ih =>
    intro y
    have hst : (y.conc i l r len).stack = y.stack := rfl
    simp only [settle, symSettle, hst]
    split
    · rfl
    · rw [symStep_sound, ih]

theorem settle_sym (P : Progs) (stk : List Frame) (i l r len : Nat) :
    settle P len settleFuel ⟨stk, i, l, r⟩ =
      (symSettle P (decide (i < l)) (decide (i < len)) settleFuel (Sym.start stk)).conc i l r len :=
  symSettle_sound P i l r len settleFuel (Sym.start stk)

def shOf (s : State) : Shared := ⟨s.ci, s.tc, s.wr, s.len, s.cnt, s.applies⟩
def mkState (m : MPc) (ws : List WPc) (g : Shared) : State := ⟨m, ws, g.ci, g.tc, g.wr, g.len, g.cnt, g.applies⟩

/-- `stepWorker` seen from one worker: its program point and the shared variables.  The simulation is proved thread by
thread, so the step is needed as a function of one program point; `stepWorker_local` ties it to the model's. -/
def wstepLocal (w : WPc) (g : Shared) : WPc × Shared :=
  match w with
  | .wait r => if g.wr = r then (.fetch r g.len, g) else (.wait r, g)
  | .fetch r L => if g.ci < L then (.call r L g.ci, { g with ci := g.ci + 1 }) else (.signal r, { g with ci := g.ci + 1 })
  | .call r L i => (.fetch r L, { g with cnt := bump g.cnt i })
  | .signal r => (.wait (r + 1), { g with tc := g.tc + 1 })

/-- `stepMaster` seen from the controller (`stepMaster_local`) -/
def mstepLocal (m : MPc) (g : Shared) (nw : Nat) : MPc × Shared :=
  match m with
  | .idle => (.idle, g)
  | .setIdx => (.sigStore, { g with ci := 0 })
  | .sigStore => (.sigInc, { g with tc := 1 })
  | .sigInc => (.fetch, { g with wr := g.wr + 1 })
  | .fetch => if g.ci < g.len then (.call g.ci, { g with ci := g.ci + 1 }) else (.waitDone, { g with ci := g.ci + 1 })
  | .call i => (.fetch, { g with cnt := bump g.cnt i })
  | .waitDone => if nw ≤ g.tc then (.idle, { g with applies := g.applies + 1 }) else (.waitDone, g)

theorem set_self (l : List WPc) (k : Nat) (x : WPc) (h : l[k]? = some x) : l.set k x = l := by
  obtain ⟨hk, rfl⟩ := List.getElem?_eq_some_iff.mp h
  exact List.set_getElem_self hk

theorem stepWorker_local (s : State) (k : Nat) (w : WPc) (h : s.ws[k]? = some w) :
    stepWorker s k = mkState s.m (s.ws.set k (wstepLocal w (shOf s)).1) (wstepLocal w (shOf s)).2 := by
  unfold stepWorker
  rw [h]
  cases w with
  | wait r =>
    by_cases hc : s.wr = r
    · simp [wstepLocal, shOf, mkState, hc]
    · simp only [wstepLocal, shOf, mkState, hc, if_false]; rw [set_self _ _ _ h]
  | fetch r L =>
    by_cases hc : s.ci < L
    · simp [wstepLocal, shOf, mkState, hc]
    · simp [wstepLocal, shOf, mkState, hc]
  | call r L i => rfl
  | signal r => rfl

theorem stepMaster_local (s : State) :
    stepMaster s = mkState (mstepLocal s.m (shOf s) (numWorkers s)).1 s.ws (mstepLocal s.m (shOf s) (numWorkers s)).2 := by
  unfold stepMaster
  cases hm : s.m with
  | idle => simp only [mstepLocal, shOf, mkState]; rw [← hm]
  | setIdx => rfl
  | sigStore => rfl
  | sigInc => rfl
  | fetch =>
    by_cases hc : s.ci < s.len
    · simp [mstepLocal, shOf, mkState, hc]
    · simp [mstepLocal, shOf, mkState, hc]
  | call i => rfl
  | waitDone =>
    by_cases hc : numWorkers s ≤ s.tc
    · simp [mstepLocal, shOf, mkState, hc]
    · simp only [mstepLocal, shOf, mkState, hc, if_false]; rw [← hm]

theorem wstepLocal_len (w : WPc) (g : Shared) : (wstepLocal w g).2.len = g.len := by
  cases w <;> simp only [wstepLocal] <;> (try split) <;> rfl

theorem mstepLocal_len (m : MPc) (g : Shared) (nw : Nat) : (mstepLocal m g nw).2.len = g.len := by
  cases m <;> simp only [mstepLocal] <;> (try split) <;> rfl

/-- the symbolic thread at its next visible micro-op after executing the visible micro-op at the top of `stk` -/
def after (P : Progs) (stk : List Frame) (bl bs : Bool) : Sym :=
  symSettle P bl bs settleFuel (Sym.start (nextStack P stk true))

/-- after the visible micro-op at the top of `stk`, for the test outcomes `bl`/`bs`, the next visible micro-op is `op`, the
round is the old one + `k`, and (if `ll = some b`) the length is the data size (`b = true`) / the old length (`b = false`) -/
def chk (P : Progs) (stk : List Frame) (bl bs : Bool) (op : MicroOp) (ll : Option Bool) (k : Nat) : Bool :=
  decide (topOp P (after P stk bl bs).stack = some op) && decide ((after P stk bl bs).rb = none) &&
    decide ((after P stk bl bs).ri = k) &&
    (match ll with
     | none => true
     | some b => (after P stk bl bs).ll == b)

def all4 (p : Bool → Bool → Bool) : Bool := p true true && p true false && p false true && p false false

theorem all4_spec (p : Bool → Bool → Bool) (h : all4 p = true) (a b : Bool) : p a b = true := by
  simp only [all4, Bool.and_eq_true] at h
  cases a <;> cases b <;> simp [h]

/-- the sites check `chk` for the four outcomes of the two tests; this reads one of them off -/
theorem chk_spec {P : Progs} {stk : List Frame} {op : Bool → Bool → MicroOp} {ll : Bool → Bool → Option Bool} {k : Nat}
    (h : all4 (fun bl bs => chk P stk bl bs (op bl bs) (ll bl bs) k) = true) (bl bs : Bool) :
    topOp P (after P stk bl bs).stack = some (op bl bs) ∧ (after P stk bl bs).rb = none ∧ (after P stk bl bs).ri = k ∧
      ∀ b, ll bl bs = some b → (after P stk bl bs).ll = b := by
  have h := all4_spec _ h bl bs
  simp only [chk, Bool.and_eq_true, decide_eq_true_eq] at h
  refine ⟨h.1.1.1, h.1.1.2, h.1.2, ?_⟩
  intro b hb
  rw [hb] at h
  simpa using h.2

/-- worker: the successor of each visible micro-op is the one `stepWorker` says -/
def siteW (P : Progs) (stk : List Frame) : Bool :=
  match topOp P stk with
  | some .waitRoundEq => all4 fun bl bs => chk P stk bl bs .fetchIndex (some true) 0
  | some .fetchIndex => all4 fun bl bs => chk P stk bl bs (if bl then .callFun else .incTC) (if bl then some false else none) 0
  | some .callFun => all4 fun bl bs => chk P stk bl bs .fetchIndex (some false) 0
  | some .incTC => all4 fun bl bs => chk P stk bl bs .waitRoundEq none 1
  | _ => false

/-- controller: the successor of each visible micro-op is the one `stepMaster` says -/
def siteM (P : Progs) (stk : List Frame) : Bool :=
  match topOp P stk with
  | some (.storeIndex 0) => all4 fun bl bs => chk P stk bl bs (.storeTC 1) none 0
  | some (.storeTC 1) => all4 fun bl bs => chk P stk bl bs .incRound none 0
  | some .incRound => all4 fun bl bs => chk P stk bl bs .fetchIndex (some true) 0
  | some .fetchIndex => all4 fun bl bs => chk P stk bl bs (if bl then .callFun else .waitTCgeN) none 0
  | some .callFun => all4 fun bl bs => chk P stk bl bs .fetchIndex none 0
  | some .waitTCgeN => all4 fun bl bs => decide ((after P stk bl bs).stack = [])
  | _ => false

theorem settled_of_top (P : Progs) (stk : List Frame) (op : MicroOp) (h : topOp P stk = some op) (hv : visible op = true) :
    settledStk P stk = true := by
  cases stk with
  | nil => rfl
  | cons fr rest => simp only [settledStk, h, hv]

theorem settle_next (P : Progs) (stk : List Frame) (i l r len : Nat) :
    settle P len settleFuel ⟨nextStack P stk true, i, l, r⟩ = (after P stk (decide (i < l)) (decide (i < len))).conc i l r len := by
  unfold after; rw [settle_sym]

theorem absW_settled (P : Progs) (len : Nat) (t : Thread) (h : settledStk P t.stack = true) : absW P len t = pointW P t := by
  unfold absW; rw [settle_settled P len _ t h]

theorem absM_settled (P : Progs) (len : Nat) (t : Thread) (h : settledStk P t.stack = true) : absM P len t = pointM P t := by
  unfold absM; rw [settle_settled P len _ t h]

theorem siteW_sound (P : Progs) (stk : List Frame) (h : siteW P stk = true) (i l r : Nat) (g : Shared) (nw : Nat) :
    (absW P g.len (opStep P nw ⟨stk, i, l, r⟩ g).1, (opStep P nw ⟨stk, i, l, r⟩ g).2) =
      wstepLocal (pointW P ⟨stk, i, l, r⟩) g := by
  unfold siteW at h
  split at h
  · -- waitRoundEq
    rename_i ho
    have hset := settled_of_top P stk _ ho rfl
    simp only [opStep, pointW, ho, wstepLocal]
    by_cases hc : g.wr = r
    · obtain ⟨h1, h2, h3, h4⟩ := chk_spec h (decide (i < l)) (decide (i < g.len))
      simp only [hc, if_true, absW, settle_next, pointW, Sym.conc, h1, h2, h3, h4 true rfl, Nat.add_zero]
    · simp only [hc, if_false]
      rw [absW_settled P _ _ hset]; simp only [pointW, ho]
  · -- fetchIndex
    rename_i ho
    simp only [opStep, pointW, ho, wstepLocal]
    obtain ⟨h1, h2, h3, h4⟩ := chk_spec h (decide (g.ci < l)) (decide (g.ci < g.len))
    by_cases hc : g.ci < l
    · simp only [hc, decide_true, if_true] at h1 h2 h3 h4 ⊢
      simp only [absW, settle_next, hc, decide_true, pointW, Sym.conc, h1, h2, h3, h4 false rfl, Nat.add_zero]
      simp
    · simp only [hc, decide_false, if_false] at h1 h2 h3 h4 ⊢
      simp only [absW, settle_next, hc, decide_false, pointW, Sym.conc, h1, h2, h3, Nat.add_zero]
      simp
  · -- callFun
    rename_i ho
    simp only [opStep, pointW, ho, wstepLocal]
    obtain ⟨h1, h2, h3, h4⟩ := chk_spec h (decide (i < l)) (decide (i < g.len))
    simp only [absW, settle_next, pointW, Sym.conc, h1, h2, h3, h4 false rfl, Nat.add_zero]
    simp
  · -- incTC
    rename_i ho
    simp only [opStep, pointW, ho, wstepLocal]
    obtain ⟨h1, h2, h3, h4⟩ := chk_spec h (decide (i < l)) (decide (i < g.len))
    simp only [absW, settle_next, pointW, Sym.conc, h1, h2, h3]
  · cases h

theorem absM_next (P : Progs) (stk : List Frame) (i l r len : Nat) :
    absM P len ⟨nextStack P stk true, i, l, r⟩ = pointM P ((after P stk (decide (i < l)) (decide (i < len))).conc i l r len) := by
  unfold absM; rw [settle_next]

theorem siteM_sound (P : Progs) (stk : List Frame) (h : siteM P stk = true) (i l r : Nat) (g : Shared) (nw : Nat)
    (hl : phaseA (pointM P ⟨stk, i, l, r⟩) = false → l = g.len) :
    (absM P g.len (opStep P nw ⟨stk, i, l, r⟩ g).1, (opStep P nw ⟨stk, i, l, r⟩ g).2) =
        mstepLocal (pointM P ⟨stk, i, l, r⟩) g nw ∧
      (phaseA (absM P g.len (opStep P nw ⟨stk, i, l, r⟩ g).1) = false →
        (settle P g.len settleFuel (opStep P nw ⟨stk, i, l, r⟩ g).1).length = g.len) := by
  unfold siteM at h
  split at h
  · -- storeIndex 0
    rename_i ho
    obtain ⟨h1, h2, h3, h4⟩ := chk_spec h (decide (i < l)) (decide (i < g.len))
    simp only [opStep, pointM, ho, mstepLocal, absM_next, Sym.conc, h1]
    simp [phaseA]
  · -- storeTC 1
    rename_i ho
    obtain ⟨h1, h2, h3, h4⟩ := chk_spec h (decide (i < l)) (decide (i < g.len))
    simp only [opStep, pointM, ho, mstepLocal, absM_next, Sym.conc, h1]
    simp [phaseA]
  · -- incRound
    rename_i ho
    obtain ⟨h1, h2, h3, h4⟩ := chk_spec h (decide (i < l)) (decide (i < g.len))
    simp only [opStep, pointM, ho, mstepLocal, absM_next, settle_next, Sym.conc, h1, h4 true rfl]
    simp
  · -- fetchIndex
    rename_i ho
    have hl' : l = g.len := hl (by simp [pointM, ho, phaseA])
    subst hl'
    obtain ⟨h1, h2, h3, h4⟩ := chk_spec h (decide (g.ci < g.len)) (decide (g.ci < g.len))
    by_cases hc : g.ci < g.len
    · simp only [hc, decide_true, if_true] at h1
      simp only [opStep, pointM, ho, mstepLocal, absM_next, settle_next, Sym.conc, hc, decide_true, h1, if_true]
      simp
    · simp only [hc, decide_false] at h1
      simp only [opStep, pointM, ho, mstepLocal, absM_next, settle_next, Sym.conc, hc, decide_false, h1, if_false]
      simp
  · -- callFun
    rename_i ho
    have hl' : l = g.len := hl (by simp [pointM, ho, phaseA])
    subst hl'
    obtain ⟨h1, h2, h3, h4⟩ := chk_spec h (decide (i < g.len)) (decide (i < g.len))
    simp only [opStep, pointM, ho, mstepLocal, absM_next, settle_next, Sym.conc, h1]
    simp
  · -- waitTCgeN
    rename_i ho
    have hl' : l = g.len := hl (by simp [pointM, ho, phaseA])
    have hset := settled_of_top P stk _ ho rfl
    have h1 := all4_spec _ h (decide (i < l)) (decide (i < g.len))
    simp only [decide_eq_true_eq] at h1
    by_cases hc : nw ≤ g.tc
    · simp only [opStep, pointM, ho, mstepLocal, absM_next, Sym.conc, hc, if_true, h1]
      simp [phaseA, topOp]
    · simp only [opStep, pointM, ho, mstepLocal, hc, if_false]
      rw [absM_settled P _ _ hset, settle_settled P _ _ _ hset]
      simp [pointM, ho, hl']
  · cases h

/-- (worker) the abstraction `.wait (n+1)` does not depend on the data size -/
def lenIndepW (P : Progs) (stk : List Frame) : Bool :=
  all4 fun bl bs =>
    (!decide (topOp P (symSettle P bl bs settleFuel (Sym.start stk)).stack = some .waitRoundEq)) ||
      decide (symSettle P bl (!bs) settleFuel (Sym.start stk) = symSettle P bl bs settleFuel (Sym.start stk))

theorem pointW_wait (P : Progs) (t : Thread) (n : Nat) (h : pointW P t = .wait (n + 1)) :
    topOp P t.stack = some .waitRoundEq ∧ t.round = n + 1 := by
  unfold pointW at h
  split at h <;> simp_all

theorem absW_len_indep (P : Progs) (t : Thread) (h : lenIndepW P t.stack = true) (len L n : Nat)
    (hw : absW P len t = .wait (n + 1)) : absW P L t = .wait (n + 1) := by
  obtain ⟨stk, i, l, r⟩ := t
  unfold absW at hw ⊢
  rw [settle_sym] at hw ⊢
  obtain ⟨htop, hr⟩ := pointW_wait P _ n hw
  have h1 := all4_spec _ h (decide (i < l)) (decide (i < len))
  have htop' : topOp P (symSettle P (decide (i < l)) (decide (i < len)) settleFuel (Sym.start stk)).stack = some .waitRoundEq := htop
  simp only [htop', decide_true, Bool.not_true, Bool.false_or, decide_eq_true_eq] at h1
  have hy : symSettle P (decide (i < l)) (decide (i < L)) settleFuel (Sym.start stk) =
      symSettle P (decide (i < l)) (decide (i < len)) settleFuel (Sym.start stk) := by
    cases hb : decide (i < len) <;> cases hb' : decide (i < L) <;> simp_all
  rw [hy]
  have hr' : ((symSettle P (decide (i < l)) (decide (i < len)) settleFuel (Sym.start stk)).conc i l r L).round = n + 1 := hr
  simp only [pointW]
  have : ((symSettle P (decide (i < l)) (decide (i < len)) settleFuel (Sym.start stk)).conc i l r L).stack =
      (symSettle P (decide (i < l)) (decide (i < len)) settleFuel (Sym.start stk)).stack := rfl
  rw [this, htop', hr']

/-- everything the simulation needs to know about a program environment: closed decidable checks of its control skeleton -/
structure Tables (P : Progs) : Prop where
  closedM : ∀ stk ∈ stacksOf P .apply, ∀ b, nextStack P stk b ∈ stacksOf P .apply
  closedW : ∀ stk ∈ stacksOf P .workerMain, ∀ b, nextStack P stk b ∈ stacksOf P .workerMain
  fuelM : ∀ stk ∈ stacksOf P .apply, settlesWithin P (settleFuel - 1) stk = true
  fuelW : ∀ stk ∈ stacksOf P .workerMain, settlesWithin P (settleFuel - 1) stk = true
  sitesM : ∀ stk ∈ stacksOf P .apply, stk ≠ [] → settledStk P stk = true → siteM P stk = true
  sitesW : ∀ stk ∈ stacksOf P .workerMain, stk ≠ [] → settledStk P stk = true → siteW P stk = true
  lenW : ∀ stk ∈ stacksOf P .workerMain, lenIndepW P stk = true
  entryMem : [⟨.apply, 0⟩] ∈ stacksOf P .apply
  entry : all4 (fun bl bs =>
    decide (topOp P (symSettle P bl bs settleFuel (Sym.start [⟨.apply, 0⟩])).stack = some (.storeIndex 0))) = true
  initMem : [⟨.workerMain, 0⟩] ∈ stacksOf P .workerMain
  initW : absW P 0 ⟨[⟨.workerMain, 0⟩], 0, 0, 0⟩ = .wait 1

theorem tables (m : Mode) : Tables (progs m) where
  closedM := by cases m <;> decide +kernel
  closedW := by cases m <;> decide +kernel
  fuelM := by cases m <;> decide +kernel
  fuelW := by cases m <;> decide +kernel
  sitesM := by cases m <;> decide +kernel
  sitesW := by cases m <;> decide +kernel
  lenW := by cases m <;> decide +kernel
  entryMem := by cases m <;> decide
  entry := by cases m <;> decide
  initMem := by cases m <;> decide
  initW := by cases m <;> decide

theorem opStep_stack (P : Progs) (nw : Nat) (t : Thread) (g : Shared) :
    (opStep P nw t g).1.stack = t.stack ∨ ∃ b, (opStep P nw t g).1.stack = nextStack P t.stack b := by
  unfold opStep
  split
  all_goals first
    | exact Or.inr ⟨true, rfl⟩
    | (split <;> first | exact Or.inr ⟨true, rfl⟩ | exact Or.inl rfl)
    | exact Or.inr ⟨_, localStep_stack P g.len t⟩

theorem opStep_len (P : Progs) (nw : Nat) (t : Thread) (g : Shared) : (opStep P nw t g).2.len = g.len := by
  unfold opStep
  split
  all_goals first
    | rfl
    | (split <;> rfl)

theorem opStep_mem (P : Progs) (root : Fn) (hcl : ∀ stk ∈ stacksOf P root, ∀ b, nextStack P stk b ∈ stacksOf P root)
    (nw : Nat) (t : Thread) (g : Shared) (ht : t.stack ∈ stacksOf P root) : (opStep P nw t g).1.stack ∈ stacksOf P root := by
  rcases opStep_stack P nw t g with h | ⟨b, h⟩
  · rw [h]; exact ht
  · rw [h]; exact hcl _ ht b

theorem wthread_sim (P : Progs) (T : Tables P) (t : Thread) (ht : t.stack ∈ stacksOf P .workerMain) (g : Shared) (nw : Nat) :
    ((opStep P nw t g).2 = g ∧ absW P g.len (opStep P nw t g).1 = absW P g.len t) ∨
      (absW P g.len (opStep P nw t g).1, (opStep P nw t g).2) = wstepLocal (absW P g.len t) g := by
  by_cases he : t.stack = []
  · left; rw [opStep_idle P nw t g he]; exact ⟨rfl, rfl⟩
  · cases hs : settledStk P t.stack with
    | true =>
      right
      rw [absW_settled P g.len t hs]
      obtain ⟨stk, i, l, r⟩ := t
      exact siteW_sound P stk (T.sitesW stk ht he hs) i l r g nw
    | false =>
      left
      rw [opStep_local P nw t g hs]
      refine ⟨rfl, ?_⟩
      unfold absW
      rw [settle_localStep P g.len t hs]
      rw [localStep_stack]
      exact T.fuelW _ (T.closedW _ ht _)

/-- one micro-op of the controller is a stuttering step or the step of `stepMaster`; the cached `length` stays the data
size while the controller is in the parallel section -/
theorem mthread_sim (P : Progs) (T : Tables P) (t : Thread) (ht : t.stack ∈ stacksOf P .apply) (g : Shared) (nw : Nat)
    (hl : phaseA (absM P g.len t) = false → (settle P g.len settleFuel t).length = g.len) :
    ((opStep P nw t g).2 = g ∧ settle P g.len settleFuel (opStep P nw t g).1 = settle P g.len settleFuel t) ∨
      ((absM P g.len (opStep P nw t g).1, (opStep P nw t g).2) = mstepLocal (absM P g.len t) g nw ∧
        (phaseA (absM P g.len (opStep P nw t g).1) = false →
          (settle P g.len settleFuel (opStep P nw t g).1).length = g.len)) := by
  by_cases he : t.stack = []
  · left; rw [opStep_idle P nw t g he]; exact ⟨rfl, rfl⟩
  · cases hs : settledStk P t.stack with
    | true =>
      right
      rw [absM_settled P g.len t hs] at hl ⊢
      rw [settle_settled P g.len _ t hs] at hl
      obtain ⟨stk, i, l, r⟩ := t
      exact siteM_sound P stk (T.sitesM stk ht he hs) i l r g nw hl
    | false =>
      left
      rw [opStep_local P nw t g hs]
      refine ⟨rfl, ?_⟩
      rw [settle_localStep P g.len t hs]
      rw [localStep_stack]
      exact T.fuelM _ (T.closedM _ ht _)

theorem abs_eq (P : Progs) (s : IState) :
    abs P s = mkState (absM P s.sh.len s.ctl) (s.ws.map (absW P s.sh.len)) s.sh := rfl

theorem run_append (s : State) (es es' : List Ev) : run s (es ++ es') = run (run s es) es' := by
  induction es generalizing s with
  | nil => rfl
  | cons e es ih => exact ih (step s e)

/-- the simulation relation: the stacks are stacks of the control skeleton, the controller's cached length is the data size
in the parallel section, and the abstraction is a reachable state of the hand-written system -/
structure Sim (P : Progs) (n : Nat) (s : IState) : Prop where
  cst : s.ctl.stack ∈ stacksOf P .apply
  wst : ∀ t ∈ s.ws, t.stack ∈ stacksOf P .workerMain
  clen : phaseA (absM P s.sh.len s.ctl) = false → (settle P s.sh.len settleFuel s.ctl).length = s.sh.len
  reach : ∃ es', abs P s = run (init n) es'

theorem Sim.inv {P : Progs} {n : Nat} {s : IState} (hS : Sim P n s) : Inv (abs P s) := by
  obtain ⟨es', h⟩ := hS.reach
  rw [h]; exact inv_reach n es'

theorem Sim.next {P : Progs} {n : Nat} {s s' : IState} {e : Ev} (hS : Sim P n s)
    (h : abs P s' = abs P s ∨ abs P s' = step (abs P s) e) : ∃ es', abs P s' = run (init n) es' := by
  obtain ⟨es', hes⟩ := hS.reach
  rcases h with h | h
  · exact ⟨es', by rw [h, hes]⟩
  · exact ⟨es' ++ [e], by rw [h, hes, run_append]; rfl⟩

theorem absM_idle (P : Progs) (len : Nat) (t : Thread) (h : t.stack = []) : absM P len t = .idle := by
  have hs : settledStk P t.stack = true := by rw [h]; rfl
  rw [absM_settled P len t hs]
  simp [pointM, h, topOp]

theorem abs_iinit (P : Progs) (T : Tables P) (n : Nat) : abs P (iinit n) = init n := by
  have hm : absM P (iinit n).sh.len (iinit n).ctl = .idle := absM_idle _ _ _ rfl
  have hw : (iinit n).ws.map (absW P (iinit n).sh.len) = List.replicate n (.wait 1) := by
    simp only [iinit, List.map_replicate]; rw [T.initW]
  rw [abs_eq, hm, hw]; rfl

theorem sim_init (P : Progs) (T : Tables P) (n : Nat) : Sim P n (iinit n) where
  cst := by simp [iinit, stacksOf]
  wst := by
    intro t ht
    simp only [iinit] at ht
    rw [List.eq_of_mem_replicate ht]
    exact T.initMem
  clen := by
    intro h
    rw [absM_idle P _ _ rfl] at h
    simp [phaseA] at h
  reach := ⟨[], abs_iinit P T n⟩

/-- a step of worker `k` is a stuttering step or the step of `stepWorker`; it leaves the controller and the data size alone
and keeps the workers on stacks of the control skeleton -/
theorem abs_worker (P : Progs) (T : Tables P) (n : Nat) (s : IState) (k : Nat) (hS : Sim P n s) :
    Sim P n (istep P s (.thr (k + 1))) ∧
      (abs P (istep P s (.thr (k + 1))) = abs P s ∨ abs P (istep P s (.thr (k + 1))) = step (abs P s) (.thr (k + 1))) := by
  have hw := hS.wst
  cases hk : s.ws[k]? with
  | none =>
    have : istep P s (.thr (k + 1)) = s := by simp [istep, hk]
    rw [this]; exact ⟨hS, .inl rfl⟩
  | some t =>
    have htm : t ∈ s.ws := List.mem_of_getElem? hk
    have hlen := opStep_len P (s.ws.length + 1) t s.sh
    have hi : istep P s (.thr (k + 1)) =
        { s with ws := s.ws.set k (opStep P (s.ws.length + 1) t s.sh).1, sh := (opStep P (s.ws.length + 1) t s.sh).2 } := by
      simp [istep, hk]
    rw [hi]
    refine ⟨⟨hS.cst, ?_, ?_, hS.next ?hd⟩, ?hd⟩
    case hd =>
      simp only [abs_eq, hlen, List.map_set]
      have hk' : (s.ws.map (absW P s.sh.len))[k]? = some (absW P s.sh.len t) := by simp [hk]
      rcases wthread_sim P T t (hw t htm) s.sh (s.ws.length + 1) with ⟨hg, ha⟩ | hstep
      · left
        rw [hg, ha, set_self _ _ _ hk']
      · right
        show _ = stepWorker (abs P s) k
        rw [stepWorker_local (abs P s) k (absW P s.sh.len t) hk']
        have hsh : shOf (abs P s) = s.sh := rfl
        rw [hsh, ← hstep]; rfl
    · intro t' ht'
      rcases List.mem_or_eq_of_mem_set ht' with h | h
      · exact hw t' h
      · rw [h]; exact opStep_mem P .workerMain T.closedW _ _ _ (hw t htm)
    · simp only [hlen]; exact hS.clen

theorem abs_master (P : Progs) (T : Tables P) (n : Nat) (s : IState) (hS : Sim P n s) :
    Sim P n (istep P s (.thr 0)) ∧
      (abs P (istep P s (.thr 0)) = abs P s ∨ abs P (istep P s (.thr 0)) = step (abs P s) (.thr 0)) := by
  have hl := hS.clen
  have hlen := opStep_len P (s.ws.length + 1) s.ctl s.sh
  have hi : abs P (istep P s (.thr 0)) =
      mkState (absM P s.sh.len (opStep P (s.ws.length + 1) s.ctl s.sh).1) (s.ws.map (absW P s.sh.len))
        (opStep P (s.ws.length + 1) s.ctl s.sh).2 := by
    simp only [istep, abs_eq, hlen]
  have hi2 : (istep P s (.thr 0)).sh.len = s.sh.len := hlen
  have hi3 : (istep P s (.thr 0)).ctl = (opStep P (s.ws.length + 1) s.ctl s.sh).1 := rfl
  have hc := opStep_mem P .apply T.closedM (s.ws.length + 1) _ s.sh hS.cst
  rcases mthread_sim P T s.ctl hS.cst s.sh (s.ws.length + 1) hl with ⟨hg, ha⟩ | ⟨hstep, hl'⟩
  · refine ⟨⟨hc, hS.wst, ?_, hS.next (e := .thr 0) (.inl ?d)⟩, .inl ?d⟩
    case d => rw [hi, hg]; unfold absM; rw [ha]; rfl
    rw [hi2, hi3]; unfold absM at hl ⊢; rw [ha]; exact hl
  · refine ⟨⟨hc, hS.wst, by rw [hi2, hi3]; exact hl', hS.next (.inr ?d)⟩, .inr ?d⟩
    rw [hi]
    show _ = stepMaster (abs P s)
    rw [stepMaster_local (abs P s)]
    have hsh : shOf (abs P s) = s.sh := rfl
    have hnw : numWorkers (abs P s) = s.ws.length + 1 := by simp [numWorkers, abs]
    have hm : (abs P s).m = absM P s.sh.len s.ctl := rfl
    rw [hsh, hnw, hm, ← hstep]; rfl

theorem absM_entry (P : Progs) (T : Tables P) (len i l r : Nat) : absM P len ⟨[⟨.apply, 0⟩], i, l, r⟩ = .setIdx := by
  unfold absM
  rw [settle_sym]
  have h := all4_spec _ T.entry (decide (i < l)) (decide (i < len))
  simp only [decide_eq_true_eq] at h
  simp only [pointM, Sym.conc, h]

/-- `apply` when the controller is idle: the step of the hand-written system (every worker is parked, so no cached length
is invalidated); otherwise nothing happens -/
theorem abs_apply (P : Progs) (T : Tables P) (n : Nat) (s : IState) (L : Nat) (hS : Sim P n s) :
    Sim P n (istep P s (.apply L)) ∧
      (abs P (istep P s (.apply L)) = abs P s ∨ abs P (istep P s (.apply L)) = step (abs P s) (.apply L)) := by
  cases hst : s.ctl.stack with
  | cons fr rest =>
    have : istep P s (.apply L) = s := by simp [istep, hst]
    rw [this]
    exact ⟨hS, .inl rfl⟩
  | nil =>
    have hidle : (abs P s).m = .idle := absM_idle P _ _ hst
    have hpark := (hS.inv.a (by rw [hidle]; rfl)).pa
    have hws : s.ws.map (absW P L) = s.ws.map (absW P s.sh.len) := by
      apply List.map_congr_left
      intro t ht
      have h1 : absW P s.sh.len t = .wait ((abs P s).wr + 1) := hpark _ (List.mem_map_of_mem ht)
      rw [h1]
      exact absW_len_indep P t (T.lenW _ (hS.wst t ht)) s.sh.len L _ h1
    have hi : istep P s (.apply L) =
        { s with ctl := { s.ctl with stack := [⟨.apply, 0⟩] }, sh := { s.sh with len := L, cnt := fun _ => 0 } } := by
      simp [istep, hst]
    have hm : absM P L { s.ctl with stack := [⟨.apply, 0⟩] } = .setIdx := absM_entry P T L _ _ _
    refine ⟨⟨?_, ?_, ?_, hS.next (.inr ?d)⟩, .inr ?d⟩
    case d =>
      have hstep : step (abs P s) (.apply L) = { abs P s with len := L, cnt := fun _ => 0, m := .setIdx } := by
        simp only [step, hidle]
      rw [hstep, hi]
      simp only [abs_eq, hm, hws]
      rfl
    · rw [hi]; exact T.entryMem
    · rw [hi]; exact hS.wst
    · rw [hi]; intro h; simp only [hm, phaseA] at h; cases h

theorem sim_step (P : Progs) (T : Tables P) (n : Nat) (s : IState) (e : Ev) (hS : Sim P n s) :
    Sim P n (istep P s e) ∧ (abs P (istep P s e) = abs P s ∨ abs P (istep P s e) = step (abs P s) e) := by
  cases e with
  | apply L => exact abs_apply P T n s L hS
  | thr t =>
    cases t with
    | zero => exact abs_master P T n s hS
    | succ k => exact abs_worker P T n s k hS

theorem sim_run (P : Progs) (T : Tables P) (n : Nat) (es : List Ev) (s : IState) (hS : Sim P n s) : Sim P n (irun P s es) := by
  induction es generalizing s with
  | nil => exact hS
  | cons e es ih => exact ih _ (sim_step P T n s e hS).1

theorem sim_reach (m : Mode) (n : Nat) (es : List Ev) : Sim (progs m) n (irun (progs m) (iinit n) es) :=
  sim_run _ (tables m) n es _ (sim_init _ (tables m) n)

/-- thread `k` of the interpreter state (0 = controller) -/
def IState.thread (s : IState) : Nat → Option Thread
  | 0 => some s.ctl
  | k + 1 => s.ws[k]?

/-- thread `k`'s next micro-op is `worker_fun((*common_data)[index])` with `index = i` -/
def atCall (P : Progs) (s : IState) (k i : Nat) : Prop :=
  (s.thread k).any (fun t => decide (topOp P t.stack = some .callFun) && decide (t.index = i)) = true

instance (P : Progs) (s : IState) (k i : Nat) : Decidable (atCall P s k i) := by
  unfold atCall; infer_instance

theorem callAt_abs (P : Progs) (s : IState) (k i : Nat) (h : atCall P s k i) : callAt (abs P s) k = some i := by
  unfold atCall at h
  cases ht : s.thread k with
  | none => simp [ht] at h
  | some t =>
  simp only [ht, Option.any_some, Bool.and_eq_true, decide_eq_true_eq] at h
  obtain ⟨htop, hi⟩ := h
  have hs := settled_of_top P t.stack _ htop rfl
  cases k with
  | zero =>
    simp only [IState.thread, Option.some.injEq] at ht
    subst ht
    show callIdxM (absM P s.sh.len s.ctl) = some i
    rw [absM_settled P _ _ hs]
    simp [pointM, htop, callIdxM, hi]
  | succ k =>
    simp only [IState.thread] at ht
    show ((s.ws.map (absW P s.sh.len))[k]?).bind callIdxW = some i
    simp only [List.getElem?_map, ht, Option.map_some, Option.bind_some]
    rw [absW_settled P _ _ hs]
    simp [pointW, htop, callIdxW, hi]

theorem absM_waitDone (P : Progs) (len : Nat) (t : Thread) (h : topOp P t.stack = some .waitTCgeN) : absM P len t = .waitDone := by
  rw [absM_settled P _ _ (settled_of_top P t.stack _ h rfl)]
  simp [pointM, h]

end SgVerif.C49
