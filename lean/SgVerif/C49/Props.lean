import SgVerif.C49.InterpLemmas
/-
C49 — Parallel map processes each element exactly once.  Property theorems.

"Parmap applies the function to every element of the vector exactly once per apply, for any number of worker threads and
any synchronization mode."

Part 1 (tie to the source, syntactic): the micro-op programs GENERATED from src/xbt/parmap.hpp (Gen.lean), with the
stuttering micro-ops removed, are the lists `expected*` of Model.lean — for apply, work, next, worker_main and for each of
the three synchronisation modes.
Part 2: theorems about the hand-written transition system `step`/`run` of Model.lean for EVERY number of workers, EVERY
vector length, EVERY schedule (list of events, including any number of successive applies).
Part 3 (tie to the source, semantic): a GENERIC INTERPRETER of micro-op programs (Interp.lean: call stacks, structured loops,
locals, shared variables; it knows nothing about the protocol) runs the GENERATED programs; the hand-written system of
Part 2 is proved to be exactly the abstraction of that interpretation (program point of a thread = its next micro-op
touching a shared variable), for the three modes, and the theorems of Part 2 are restated on the interpreter states.  So
"the step function implements the generated lists" is proved, not read off by inspection.
Sequentially consistent atomics, waits = re-reads (safety only); see Model.lean / Interp.lean for what is outside.
-/
namespace SgVerif.C49

def coreS (x : Synchro) : Synchro :=
  { masterSignal := core x.masterSignal, masterWait := core x.masterWait,
    workerSignal := core x.workerSignal, workerWait := core x.workerWait }

/-! ### Part 1: the generated programs are the modelled ones (finite tables: `decide` is a proof here) -/
theorem gen_apply_core : core Gen.apply = expectedApply := by decide
theorem gen_work_core : core Gen.work = expectedWork := by decide
theorem gen_next_core : core Gen.next = expectedNext := by decide
theorem gen_workerMain_core : core Gen.workerMain = expectedWorkerMain := by decide
theorem gen_posix_core : coreS Gen.posix = expectedSynchro := by decide
theorem gen_futex_core : coreS Gen.futex = expectedSynchro := by decide
theorem gen_busy_core : coreS Gen.busy = expectedSynchro := by decide

/-- the function is applied to each element at most once during an apply -/
theorem each_index_at_most_once (n : Nat) (es : List Ev) (j : Nat) : (run (init n) es).cnt j ≤ 1 :=
  (inv_reach n es).le1 j

/-- the index counter hands out each index to at most one thread: two threads about to call `worker_fun` hold different
indices, each is a valid index of the vector not processed yet -/
theorem index_handed_to_one_thread (n : Nat) (es : List Ev) (k1 k2 i : Nat)
    (h1 : callAt (run (init n) es) k1 = some i) (h2 : callAt (run (init n) es) k2 = some i) :
    k1 = k2 ∧ i < (run (init n) es).len ∧ (run (init n) es).cnt i = 0 :=
  (inv_reach n es).handed h1 h2

/-- when `master_wait` reads a `thread_counter` that lets `apply` return, every element was processed exactly once,
nothing beyond the vector was touched, and every worker is parked in `worker_wait(next round)` -/
theorem apply_returns_after_all_done (n : Nat) (es : List Ev)
    (hm : (run (init n) es).m = .waitDone) (htc : numWorkers (run (init n) es) ≤ (run (init n) es).tc) :
    (∀ j, j < (run (init n) es).len → (run (init n) es).cnt j = 1) ∧
    (∀ j, (run (init n) es).len ≤ j → (run (init n) es).cnt j = 0) ∧
    (∀ w ∈ (run (init n) es).ws, w = .wait ((run (init n) es).wr + 1)) :=
  (inv_reach n es).all_done hm htc

/-- **exactly once per apply** -/
theorem each_index_exactly_once (n : Nat) (es : List Ev)
    (hm : (run (init n) es).m = .waitDone) (htc : numWorkers (run (init n) es) ≤ (run (init n) es).tc) (j : Nat) :
    (run (init n) es).cnt j = if j < (run (init n) es).len then 1 else 0 := by
  obtain ⟨h1, h2, _⟩ := apply_returns_after_all_done n es hm htc
  split
  · rename_i h; exact h1 j h
  · rename_i h; exact h2 j (by omega)

/-- repeated applies do not leak work between rounds: whenever the controller is outside the parallel section (between two
applies, or preparing the next one before `work_round` is incremented) every worker is parked in `worker_wait` for the
next round and no thread is inside `work()`; inside the section every worker works for the current round on the current
vector length -/
theorem no_leak_between_rounds (n : Nat) (es : List Ev) :
    (phaseA (run (init n) es).m = true →
      (∀ w ∈ (run (init n) es).ws, w = .wait ((run (init n) es).wr + 1)) ∧ ∀ k, callAt (run (init n) es) k = none) ∧
    (phaseA (run (init n) es).m = false →
      ∀ w ∈ (run (init n) es).ws, wOK (run (init n) es).wr (run (init n) es).len w = true) :=
  (inv_reach n es).no_leak

/-! ### non-vacuity: 1 worker + controller, vector of 2, an interleaving that reaches the returning read of master_wait -/
def demo : List Ev :=
  [.apply 2, .thr 0, .thr 0, .thr 0, .thr 1, .thr 1, .thr 0, .thr 1, .thr 0, .thr 0, .thr 1, .thr 0, .thr 1]

example : (run (init 1) demo).m = .waitDone ∧ numWorkers (run (init 1) demo) ≤ (run (init 1) demo).tc ∧
    (run (init 1) demo).cnt 0 = 1 ∧ (run (init 1) demo).cnt 1 = 1 ∧ (run (init 1) demo).cnt 2 = 0 := by decide

/-- a second apply after the first one returned (round 2), length 1, processed by the worker -/
example : (run (init 1) (demo ++ [.thr 0, .apply 1, .thr 0, .thr 0, .thr 0, .thr 1, .thr 1, .thr 1, .thr 0, .thr 1, .thr 1])).applies = 1 ∧
    (run (init 1) (demo ++ [.thr 0, .apply 1, .thr 0, .thr 0, .thr 0, .thr 1, .thr 1, .thr 1, .thr 0, .thr 1, .thr 1])).cnt 0 = 1 ∧
    (run (init 1) (demo ++ [.thr 0, .apply 1, .thr 0, .thr 0, .thr 0, .thr 1, .thr 1, .thr 1, .thr 0, .thr 1, .thr 1])).tc = 2 := by decide

/-! ### Part 3: the same theorems about the GENERIC INTERPRETATION of the GENERATED programs

`irun (progs mode) (iinit n) es` = the interpreter of Interp.lean executing the micro-op programs generated from parmap.hpp
for `mode ∈ {posix, futex, busy}`, with `n` workers, under the schedule `es` (one micro-op of one thread per event); `abs`
maps an interpreter state to a state of the hand-written system.  The finite control-flow facts (`tables`,
InterpLemmas.lean) are checked by `decide` on the generated lists: a change of parmap.hpp that alters the protocol makes them
false, an inserted lock/log/yield statement (`nop`) does not. -/

/-- **forward simulation**: one event of the interpretation of the generated programs is a stuttering step of the
hand-written system or exactly its step for the same event -/
theorem gen_forward_simulation (mode : Mode) (n : Nat) (es : List Ev) (e : Ev) :
    abs (progs mode) (istep (progs mode) (irun (progs mode) (iinit n) es) e) = abs (progs mode) (irun (progs mode) (iinit n) es) ∨
    abs (progs mode) (istep (progs mode) (irun (progs mode) (iinit n) es) e) =
      step (abs (progs mode) (irun (progs mode) (iinit n) es)) e := by
  exact (sim_step _ (tables mode) n _ e (sim_reach mode n es)).2

/-- **refinement**: every state of the interpretation of the generated programs abstracts to a reachable state of the
hand-written system, and the initial states correspond -/
theorem gen_refines_model (mode : Mode) (n : Nat) (es : List Ev) :
    abs (progs mode) (iinit n) = init n ∧ ∃ es', abs (progs mode) (irun (progs mode) (iinit n) es) = run (init n) es' := by
  exact ⟨abs_iinit (progs mode) (tables mode) n, (sim_reach mode n es).reach⟩

/-- the function is applied to each element at most once during an apply (generated code) -/
theorem gen_each_index_at_most_once (mode : Mode) (n : Nat) (es : List Ev) (j : Nat) :
    (irun (progs mode) (iinit n) es).cnt j ≤ 1 :=
  (sim_reach mode n es).inv.le1 j

/-- two threads whose next micro-op is the call of `worker_fun` hold different indices, valid and not yet processed -/
theorem gen_index_handed_to_one_thread (mode : Mode) (n : Nat) (es : List Ev) (k1 k2 i : Nat)
    (h1 : atCall (progs mode) (irun (progs mode) (iinit n) es) k1 i)
    (h2 : atCall (progs mode) (irun (progs mode) (iinit n) es) k2 i) :
    k1 = k2 ∧ i < (irun (progs mode) (iinit n) es).len ∧ (irun (progs mode) (iinit n) es).cnt i = 0 :=
  (sim_reach mode n es).inv.handed (callAt_abs _ _ _ _ h1) (callAt_abs _ _ _ _ h2)

/-- when the controller's next micro-op is the read of `thread_counter` in master_wait and that read lets `apply` return:
every element was processed exactly once, nothing beyond the vector was touched, and every worker's next visible micro-op
is the read of `work_round` in `worker_wait(work_round + 1)` -/
theorem gen_apply_returns_after_all_done (mode : Mode) (n : Nat) (es : List Ev)
    (hm : topOp (progs mode) (irun (progs mode) (iinit n) es).ctl.stack = some .waitTCgeN)
    (htc : (irun (progs mode) (iinit n) es).numWorkers ≤ (irun (progs mode) (iinit n) es).tc) :
    (∀ j, j < (irun (progs mode) (iinit n) es).len → (irun (progs mode) (iinit n) es).cnt j = 1) ∧
    (∀ j, (irun (progs mode) (iinit n) es).len ≤ j → (irun (progs mode) (iinit n) es).cnt j = 0) ∧
    (∀ t ∈ (irun (progs mode) (iinit n) es).ws,
      absW (progs mode) (irun (progs mode) (iinit n) es).len t = .wait ((irun (progs mode) (iinit n) es).wr + 1)) := by
  obtain ⟨a, b, c⟩ := (sim_reach mode n es).inv.all_done (absM_waitDone _ _ _ hm)
    (by simpa [numWorkers, abs, IState.numWorkers, IState.tc] using htc)
  exact ⟨a, b, fun t ht => c _ (List.mem_map_of_mem ht)⟩

/-- **exactly once per apply** (generated code) -/
theorem gen_each_index_exactly_once (mode : Mode) (n : Nat) (es : List Ev)
    (hm : topOp (progs mode) (irun (progs mode) (iinit n) es).ctl.stack = some .waitTCgeN)
    (htc : (irun (progs mode) (iinit n) es).numWorkers ≤ (irun (progs mode) (iinit n) es).tc) (j : Nat) :
    (irun (progs mode) (iinit n) es).cnt j = if j < (irun (progs mode) (iinit n) es).len then 1 else 0 := by
  obtain ⟨h1, h2, _⟩ := gen_apply_returns_after_all_done mode n es hm htc
  split
  · rename_i h; exact h1 j h
  · rename_i h; exact h2 j (by omega)

/-- repeated applies do not leak work between rounds (generated code): while the controller's next visible micro-op is
outside the parallel section (idle, or before `work_round` is incremented) every worker's next visible micro-op is the read
of `work_round` in `worker_wait(work_round + 1)` and no thread is about to call `worker_fun`; inside the section every
worker works for the current round with the current vector length.  In particular when the controller is not in `apply`
(empty call stack) all workers are parked. -/
theorem gen_no_leak_between_rounds (mode : Mode) (n : Nat) (es : List Ev) :
    (phaseA (absM (progs mode) (irun (progs mode) (iinit n) es).len (irun (progs mode) (iinit n) es).ctl) = true →
      (∀ t ∈ (irun (progs mode) (iinit n) es).ws,
        absW (progs mode) (irun (progs mode) (iinit n) es).len t = .wait ((irun (progs mode) (iinit n) es).wr + 1)) ∧
      ∀ k i, ¬ atCall (progs mode) (irun (progs mode) (iinit n) es) k i) ∧
    (phaseA (absM (progs mode) (irun (progs mode) (iinit n) es).len (irun (progs mode) (iinit n) es).ctl) = false →
      ∀ t ∈ (irun (progs mode) (iinit n) es).ws,
        wOK (irun (progs mode) (iinit n) es).wr (irun (progs mode) (iinit n) es).len
          (absW (progs mode) (irun (progs mode) (iinit n) es).len t) = true) ∧
    ((irun (progs mode) (iinit n) es).ctl.stack = [] →
      ∀ t ∈ (irun (progs mode) (iinit n) es).ws,
        absW (progs mode) (irun (progs mode) (iinit n) es).len t = .wait ((irun (progs mode) (iinit n) es).wr + 1)) := by
  obtain ⟨hA, hB⟩ := (sim_reach mode n es).inv.no_leak
  generalize irun (progs mode) (iinit n) es = s at *
  have h1 : phaseA (absM (progs mode) s.len s.ctl) = true →
      (∀ t ∈ s.ws, absW (progs mode) s.len t = .wait (s.wr + 1)) ∧ ∀ k i, ¬ atCall (progs mode) s k i := by
    intro hp
    obtain ⟨a, b⟩ := hA hp
    refine ⟨fun t ht => a _ (List.mem_map_of_mem ht), fun k i hc => ?_⟩
    have := callAt_abs _ _ _ _ hc
    rw [b k] at this; cases this
  refine ⟨h1, fun hp t ht => hB hp _ (List.mem_map_of_mem ht), fun hst => (h1 ?_).1⟩
  rw [absM_idle _ _ _ hst]; rfl

/-! ### non-vacuity (interpreter of the generated programs): 1 worker + controller, vector of 2.  The worker first runs
`worker_main` up to its `worker_wait`, then `apply 2` and a round-robin of the two threads, up to the read of
`thread_counter` that lets `master_wait` return — for each of the three modes. -/
def rr (k : Nat) : List Ev := (List.replicate k [Ev.thr 0, Ev.thr 1]).flatten
def demoI (k : Nat) : List Ev := List.replicate 12 (.thr 1) ++ [.apply 2] ++ rr k

example : topOp (progs .posix) (irun (progs .posix) (iinit 1) (demoI 22)).ctl.stack = some .waitTCgeN ∧
    (irun (progs .posix) (iinit 1) (demoI 22)).numWorkers ≤ (irun (progs .posix) (iinit 1) (demoI 22)).tc ∧
    (irun (progs .posix) (iinit 1) (demoI 22)).cnt 0 = 1 ∧ (irun (progs .posix) (iinit 1) (demoI 22)).cnt 1 = 1 ∧
    (irun (progs .posix) (iinit 1) (demoI 22)).cnt 2 = 0 ∧ (irun (progs .posix) (iinit 1) (demoI 22)).len = 2 := by decide

example : topOp (progs .futex) (irun (progs .futex) (iinit 1) (demoI 20)).ctl.stack = some .waitTCgeN ∧
    (irun (progs .futex) (iinit 1) (demoI 20)).numWorkers ≤ (irun (progs .futex) (iinit 1) (demoI 20)).tc ∧
    (irun (progs .futex) (iinit 1) (demoI 20)).cnt 0 = 1 ∧ (irun (progs .futex) (iinit 1) (demoI 20)).cnt 1 = 1 ∧
    (irun (progs .futex) (iinit 1) (demoI 20)).cnt 2 = 0 := by decide

example : topOp (progs .busy) (irun (progs .busy) (iinit 1) (demoI 20)).ctl.stack = some .waitTCgeN ∧
    (irun (progs .busy) (iinit 1) (demoI 20)).numWorkers ≤ (irun (progs .busy) (iinit 1) (demoI 20)).tc ∧
    (irun (progs .busy) (iinit 1) (demoI 20)).cnt 0 = 1 ∧ (irun (progs .busy) (iinit 1) (demoI 20)).cnt 1 = 1 ∧
    (irun (progs .busy) (iinit 1) (demoI 20)).cnt 2 = 0 := by decide

/-- both threads about to call `worker_fun`, on different elements (hypotheses of `gen_index_handed_to_one_thread`) -/
example : atCall (progs .posix) (irun (progs .posix) (iinit 1) (demoI 13 ++ [.thr 1])) 0 0 ∧
    atCall (progs .posix) (irun (progs .posix) (iinit 1) (demoI 13 ++ [.thr 1])) 1 1 := by decide

/-- a step of the interpreter that is a real step of the hand-written system, and one that is a stuttering step -/
example : abs (progs .posix) (istep (progs .posix) (irun (progs .posix) (iinit 1) (demoI 22)) (.thr 0)) =
      step (abs (progs .posix) (irun (progs .posix) (iinit 1) (demoI 22))) (.thr 0) ∧
    (abs (progs .posix) (irun (progs .posix) (iinit 1) (demoI 22))).m = .waitDone ∧
    (abs (progs .posix) (istep (progs .posix) (irun (progs .posix) (iinit 1) (demoI 22)) (.thr 0))).m = .idle ∧
    (istep (progs .posix) (irun (progs .posix) (iinit 1) (demoI 22)) (.thr 0)).ctl.stack ≠ [] := by
  refine ⟨?_, by decide, by decide, by decide⟩
  rcases gen_forward_simulation .posix 1 (demoI 22) (.thr 0) with h | h
  · exact absurd (congrArg State.m h) (by decide)
  · exact h

end SgVerif.C49
