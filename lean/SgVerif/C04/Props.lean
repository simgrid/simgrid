/-
C04 — Mutex semantics: exclusion, ownership, FIFO hand-off, try_lock, recursion.

Model: SgVerif/Sync/Model.lean (`Mutex.lockAsync/waitFor/tryLock/unlock` = MutexImpl.cpp as it is now, i.e. with
try_lock on a free mutex setting recursive_depth to 1) and the ghost-instrumented history run of C04/Model.lean.
Every theorem is for ALL histories (lists of lock / try_lock / unlock events by any actors, any length) that an S4U
program can produce on a mutex; mutexes do not interact (World.step touches `mutexes m` only), so "any number of
mutexes" is the same statement per mutex.
Excluded by the run (`illFormed`): events of an actor blocked in lock; re-lock of a NON-recursive mutex by its
owner (undefined in POSIX; what the code does then — the acquisition is queued, not granted, and wait_for, which tests
`granted_` since the repair of `mutex-relock-by-owner-returns`, blocks the owner on its own mutex for ever — is
`relock_blocks` below, modelled and checked by the correspondence, corpus case `nonrec-self`; the old behaviour
— return at once, stale acquisition — is kept as the regression statement `relock_pre_fix_returns`).
The `split_*` theorems take MUTEX_ASYNC_LOCK and MUTEX_WAIT (the path of the model checker) as separate events, in any
interleaving (run of C04/Split.lean).
-/
import SgVerif.C04.Lemmas
import SgVerif.C04.SplitLemmas
namespace SgVerif.C04
open SgVerif.Sync

/-- An actor whose (returned lock + successful try_lock) − unlock count is positive is the kernel's owner_.
This is "keeps it until its n-th unlock after n acquisitions in any lock/try_lock mix": as long as the count is
positive — i.e. fewer than n unlocks — the actor is the owner. -/
theorem holder_is_owner (r : Bool) (evs : List MEv) (s : St) (h : run (St.init r) evs = .ok s) (a : Aid)
    (ha : s.held a > 0) : s.m.owner = some a := by
  obtain ⟨_, hi, -, rfl⟩ := inv_run evs (inv_init r) h
  exact hi.holder_is_owner ha

/-- Mutual exclusion in the actors' view: two actors never both hold the mutex. -/
theorem mutex_exclusion (r : Bool) (evs : List MEv) (s : St) (h : run (St.init r) evs = .ok s) (a b : Aid)
    (ha : s.held a > 0) (hb : s.held b > 0) : a = b := by
  have h1 := holder_is_owner r evs s h a ha
  have h2 := holder_is_owner r evs s h b hb
  rw [h1] at h2
  exact Option.some.inj h2

/-- The n-th unlock: after an unlock that leaves the count positive the actor still owns the mutex, whatever the
other actors did in between (they can only queue or fail). -/
theorem recursive_nth_unlock (r : Bool) (evs : List MEv) (s s' : St) (o : Outs) (a : Aid)
    (h : run (St.init r) evs = .ok s) (hu : step s (.unlock a) = .ok (s', o)) (hpos : s'.held a > 0) :
    s'.m.owner = some a := by
  obtain ⟨_, hi, -, rfl⟩ := inv_step (inv_run evs (inv_init r) h) hu
  exact hi.holder_is_owner hpos

/-- The kernel's depth never lets a recursive owner go before its acquisitions are all released:
the actor-side count is bounded by recursive_depth (this is what failed before fix 201980a841). -/
theorem held_le_depth (r : Bool) (evs : List MEv) (s : St) (h : run (St.init r) evs = .ok s) (a : Aid)
    (hr : s.m.recursive = true) (ho : s.m.owner = some a) : (s.held a : Int) ≤ s.m.depth := by
  obtain ⟨ss, hi, -, rfl⟩ := inv_run evs (inv_init r) h
  have := (hi.ownerHeld a ho).1 hr
  show (ss.held a : Int) ≤ ss.m.depth
  omega

/-- Only the owner can release: unlock by anybody else is the assertion failure, and no state is produced. -/
theorem unlock_only_owner (m : Mutex) (a : Aid) (h : m.owner ≠ some a) : m.unlock a = .error .assertNotOwner :=
  unlock_notOwner h

theorem unlock_ok_is_owner (m m' : Mutex) (a : Aid) (fin : Option (Aid × Res)) (h : m.unlock a = .ok (m', fin)) :
    m.owner = some a := by
  by_cases ho : m.owner = some a
  · exact ho
  · rw [unlock_notOwner ho] at h; simp at h

/-- FIFO: over any history, the sequence of requests that had to queue = the sequence of hand-offs so far followed
by the current queue: the i-th hand-off goes to the i-th queued request. -/
theorem mutex_fifo (r : Bool) (evs : List MEv) (s : St) (h : run (St.init r) evs = .ok s) :
    s.enq = s.handoffs ++ s.m.queue.map (·.issuer) := by
  obtain ⟨_, hi, -, rfl⟩ := inv_run evs (inv_init r) h
  exact hi.fifo

/-- a releasing unlock gives the mutex to the head of the queue and answers its blocked `lock` (no lost hand-off) -/
theorem handoff_to_head (m : Mutex) (a : Aid) (acq : MAcq) (rest : List MAcq) (h : m.owner = some a)
    (hd : ¬ (m.recursive = true ∧ 1 < m.depth)) (hq : m.queue = acq :: rest) :
    m.unlock a = .ok ({ m with owner := some acq.issuer, depth := acq.depth, queue := rest },
                      if acq.waited then some (acq.issuer, acq.res) else none) :=
  unlock_handoff h hd hq

/-- blocked lockers are always registered (their simcall is answered by the hand-off) -/
theorem queued_are_waited (r : Bool) (evs : List MEv) (s : St) (h : run (St.init r) evs = .ok s) :
    ∀ q ∈ s.m.queue, q.waited = true := by
  obtain ⟨_, hi, hw, rfl⟩ := inv_run evs (inv_init r) h
  intro q hq
  have := hi.q1 q hq
  rw [this.2.2.2, ← hw, this.2.2.1]

/-- try_lock never blocks: it never registers an acquisition (queue untouched), for every state. -/
theorem trylock_never_blocks (m : Mutex) (a : Aid) : (m.tryLock a).1.queue = m.queue := by
  unfold Mutex.tryLock
  split
  · rfl
  · split <;> rfl

/-- try_lock succeeds iff the mutex is free or (recursive and held by the caller), for every state. -/
theorem trylock_iff (m : Mutex) (a : Aid) :
    (m.tryLock a).2 = true ↔ (m.owner = none ∨ (m.recursive = true ∧ m.owner = some a)) := by
  unfold Mutex.tryLock
  split
  · rename_i h; simp [h.1, h.2]
  · rename_i h
    split
    · rename_i h2
      simp only [Bool.false_eq_true, false_iff, not_or]
      exact ⟨h2, fun hh => h ⟨hh.2, hh.1⟩⟩
    · rename_i h2
      have : m.owner = none := by simpa using h2
      simp [this]

theorem trylock_success_owns (m : Mutex) (a : Aid) (h : (m.tryLock a).2 = true) : (m.tryLock a).1.owner = some a := by
  unfold Mutex.tryLock at *
  split
  · simp_all
  · split <;> simp_all

/-- split path = one-simcall path: `Mutex::lock` outside MC is literally lock_async followed by wait_for -/
theorem lock_is_split (m : Mutex) (a : Aid) (r : Res) :
    m.lock a r = (m.lockAsync a).1.waitFor a r (m.lockAsync a).2 := rfl

theorem bumpFirst_issuers (a : Aid) (q : List MAcq) : (bumpFirst a q).map (·.issuer) = q.map (·.issuer) := by
  induction q with
  | nil => rfl
  | cons x xs ih => simp only [bumpFirst]; split <;> simp [ih]

/-- lock_async never reorders the queue: it leaves it as it is or appends the caller at the tail -/
theorem lockAsync_keeps_order (m : Mutex) (a : Aid) :
    (m.lockAsync a).1.queue.map (·.issuer) = m.queue.map (·.issuer) ∨
    (m.lockAsync a).1.queue.map (·.issuer) = m.queue.map (·.issuer) ++ [a] := by
  unfold Mutex.lockAsync
  split
  · split
    · exact .inl rfl
    · split
      · exact .inl rfl
      · split
        · exact .inl (bumpFirst_issuers a m.queue)
        · exact .inr (by simp)
  · split
    · exact .inl rfl
    · exact .inr (by simp)

/-- MUTEX_WAIT completes at once iff the acquisition is granted (the test of MutexAcquisitionImpl::wait_for since the
repair of `mutex-relock-by-owner-returns`; it is also the enabledness test of the checker) -/
theorem waitFor_completes_iff (m : Mutex) (a : Aid) (r : Res) (granted : Bool) :
    (m.waitFor a r granted).2.isSome = true ↔ granted = true := by
  unfold Mutex.waitFor; split <;> simp_all

/-- the re-lock of a NON-recursive mutex by its owner blocks (one-simcall path): the acquisition is queued and registered,
nothing is answered, the owner is unchanged — the program is deadlocked on its own mutex, as under the checker -/
theorem relock_blocks (m : Mutex) (a : Aid) (r : Res) (hr : m.recursive = false) (ho : m.owner = some a) :
    (m.lock a r).2 = none ∧ (m.lock a r).1.owner = some a ∧
    (m.lock a r).1.queue = markLast a r (m.queue ++ [{ issuer := a }]) := by
  simp [Mutex.lock, Mutex.lockAsync, Mutex.waitFor, hr, ho]

/-- regression statement about the code BEFORE that repair (`Mutex.lockPre`: owner test in wait_for): the same re-lock
returned at once and left a stale acquisition in the queue -/
theorem relock_pre_fix_returns (m : Mutex) (a : Aid) (r : Res) (hr : m.recursive = false) (ho : m.owner = some a) :
    (m.lockPre a r).2 = some r ∧ (m.lockPre a r).1.queue = m.queue ++ [{ issuer := a }] := by
  simp [Mutex.lockPre, Mutex.lockAsync, Mutex.waitForPre, hr, ho]

/-- outside that re-lock the repaired and the old one-simcall `lock` are the same function -/
theorem lock_eq_lockPre (m : Mutex) (a : Aid) (r : Res) (h : ¬ (m.recursive = false ∧ m.owner = some a)) :
    m.lock a r = m.lockPre a r := by
  simp only [Mutex.lock, Mutex.lockPre, Mutex.waitFor, Mutex.waitForPre, lockAsync_granted_iff m a h]

/-- the D1 witness on the fixed code: try_lock; lock; unlock by actor 0 on a recursive mutex, then try_lock by 1 -/
example : ((run (St.init true) [.tryLock 0, .lock 0, .unlock 0, .tryLock 1]).toOption.map
    (fun s => (s.m.owner, s.held 0, s.held 1, s.m.depth))) = some (some 0, 1, 0, 1) := by decide

/-- a hand-off chain: 0 holds, 1 and 2 queue, two unlocks -/
example : ((run (St.init false) [.lock 0, .lock 1, .lock 2, .unlock 0, .unlock 1]).toOption.map
    (fun s => (s.m.owner, s.enq, s.handoffs, s.held 2))) = some (some 2, [1, 2], [1, 2], 1) := by decide

/-- unlock by a non-owner is rejected -/
example : (run (St.init false) [.lock 0, .unlock 1]).toOption.isNone = true := by decide

/-- `MutexImpl::try_lock` before fix 201980a841: on a free mutex the owner is set, `recursive_depth` left at 0 -/
def tryLockOld (m : Mutex) (a : Aid) : Mutex × Bool :=
  if m.owner = some a ∧ m.recursive then ({ m with depth := m.depth + 1 }, true)
  else if m.owner ≠ none then (m, false)
  else ({ m with owner := some a }, true)

/-- The defect fixed by 201980a841, kept as a regression witness: with the old try_lock the history
try_lock; lock; unlock of actor 0 on a recursive mutex frees the mutex while actor 0 still holds one acquisition. -/
theorem d1_old_code_counterexample :
    let m0 : Mutex := { recursive := true }
    let m1 := (tryLockOld m0 0).1
    let m2 := (m1.lock 0 .unit).1
    (m2.unlock 0).toOption.map (fun x => x.1.owner) = some none := by decide

/-! Whole histories of the split path (`srun`, C04/Split.lean): a MUTEX_WAIT may be executed granted (what the checker
does: it is enabled only then) or not granted (then it registers and is answered by the hand-off, as in a normal run).
`held a` counts the MUTEX_WAITs / successful try_locks that RETURNED to `a` minus its unlocks. -/

/-- the split events of `World.step` apply exactly the functions the split run applies (to `mutexes m`), with the same
answers -/
theorem split_step_is_world_step (w : World) (a : Aid) (m : Nat) :
    w.step (.lockAsync a m) = .ok ({ w with mutexes := upd w.mutexes m ((w.mutexes m).lockAsync a).1 },
                                   [(a, .flag ((w.mutexes m).lockAsync a).2)]) ∧
    w.step (.mutexWait a m) =
      .ok ({ w with mutexes := upd w.mutexes m ((w.mutexes m).waitFor a .unit ((w.mutexes m).isGranted a)).1 },
           optOut a ((w.mutexes m).waitFor a .unit ((w.mutexes m).isGranted a)).2) ∧
    w.step (.tryLock a m) = .ok ({ w with mutexes := upd w.mutexes m ((w.mutexes m).tryLock a).1 },
                                 [(a, .flag ((w.mutexes m).tryLock a).2)]) ∧
    w.step (.unlock a m) =
      (match (w.mutexes m).unlock a with
       | .error e => .error e
       | .ok (mu, fin) => .ok ({ w with mutexes := upd w.mutexes m mu },
                               (match fin with | some o => [o] | none => []) ++ [(a, .unit)])) :=
  ⟨rfl, rfl, rfl, rfl⟩

/-- split path: an actor whose MUTEX_WAIT / try_lock returns outnumber its unlocks is the kernel's owner -/
theorem split_holder_is_owner (r : Bool) (evs : List SEv) (s : SSt) (h : srun (SSt.init r) evs = .ok s) (a : Aid)
    (ha : s.held a > 0) : s.m.owner = some a :=
  (sinv_run evs (sinv_init r) h).holder_is_owner ha

/-- split path: mutual exclusion in the actors' view, every history, every interleaving of the split events -/
theorem split_mutex_exclusion (r : Bool) (evs : List SEv) (s : SSt) (h : srun (SSt.init r) evs = .ok s) (a b : Aid)
    (ha : s.held a > 0) (hb : s.held b > 0) : a = b := by
  have h1 := split_holder_is_owner r evs s h a ha
  have h2 := split_holder_is_owner r evs s h b hb
  rw [h1] at h2
  exact Option.some.inj h2

/-- split path: the recursive owner's returned acquisitions (plus the one it may hold granted but not yet waited) never
exceed recursive_depth; a non-recursive owner holds at most one -/
theorem split_held_le_depth (r : Bool) (evs : List SEv) (s : SSt) (h : srun (SSt.init r) evs = .ok s) (a : Aid)
    (ho : s.m.owner = some a) :
    (s.m.recursive = true → ((s.held a + (if s.pend a then 1 else 0) : Nat) : Int) ≤ s.m.depth) ∧
    (s.m.recursive = false → s.held a + (if s.pend a then 1 else 0) ≤ 1) :=
  (sinv_run evs (sinv_init r) h).ownerHeld a ho

/-- split path, FIFO: the acquisitions that entered `ongoing_acquisitions_` (in MUTEX_ASYNC_LOCK order) = the hand-offs
made so far, in order, followed by the current queue: the i-th hand-off goes to the i-th queued acquisition, whatever
the interleaving of the MUTEX_WAITs -/
theorem split_mutex_fifo (r : Bool) (evs : List SEv) (s : SSt) (h : srun (SSt.init r) evs = .ok s) :
    s.enq = s.handoffs ++ s.m.queue.map (·.issuer) ∧ (s.m.queue.map (·.issuer)).Nodup :=
  ⟨(sinv_run evs (sinv_init r) h).fifo, (sinv_run evs (sinv_init r) h).nodup⟩

/-- split path: MUTEX_WAIT of a pending acquisition completes at once iff the acquisition is granted (= it is not in the
queue), and on every reachable state this is the case iff the issuer is the owner: `granted_`, the test of
`MutexAcquisitionImpl::wait_for` and the enabledness test of the checker, coincides with the owner test the code used
before the repair of `mutex-relock-by-owner-returns` (the domain excludes the re-lock of a non-recursive mutex by its
owner, the only case where the two tests differ: `relock_blocks` / `relock_pre_fix_returns`) -/
theorem split_wait_enabled_iff_granted (r : Bool) (evs : List SEv) (s : SSt) (h : srun (SSt.init r) evs = .ok s)
    (a : Aid) (hp : s.pend a = true) :
    ((s.m.waitFor a .unit (s.m.isGranted a)).2.isSome = true ↔ a ∉ s.m.queue.map (·.issuer)) ∧
    (a ∉ s.m.queue.map (·.issuer) ↔ s.m.owner = some a) := by
  exact ⟨(waitFor_completes_iff ..).trans (isGranted_iff ..), (sinv_run evs (sinv_init r) h).owner_iff hp⟩

/-- split path, no lost hand-off: a queued acquisition is registered iff its issuer already executed its MUTEX_WAIT
(then the hand-off answers it, `handoff_to_head`); otherwise the hand-off only makes it the owner and the MUTEX_WAIT it
executes later returns at once (`split_wait_enabled_iff_granted`); nobody is blocked without being queued -/
theorem split_queued_registered_iff_blocked (r : Bool) (evs : List SEv) (s : SSt)
    (h : srun (SSt.init r) evs = .ok s) :
    (∀ q ∈ s.m.queue, q.waited = s.blocked q.issuer ∧ s.pend q.issuer = true ∧ s.m.owner ≠ some q.issuer) ∧
    (∀ a, s.blocked a = true → a ∈ s.m.queue.map (·.issuer)) ∧
    (∀ a, s.pend a = true → s.m.owner = some a ∨ a ∈ s.m.queue.map (·.issuer)) := by
  have hi := sinv_run evs (sinv_init r) h
  exact ⟨fun q hq => ⟨(hi.q1 q hq).2.2.2, (hi.q1 q hq).2.2.1, (hi.q1 q hq).2.1⟩, hi.bl, hi.pq⟩

/-- non-vacuity, split path: 0 and 1 lock asynchronously; 1 waits first (blocks, registered), 0 waits (returns); 2 locks
asynchronously and does NOT wait yet; unlock 0 answers 1; unlock 1 hands the mutex to 2 silently; the late MUTEX_WAIT
of 2 returns at once -/
example : ((srun (SSt.init false) [.asyncLock 0, .asyncLock 1, .wait 1, .wait 0, .asyncLock 2, .unlock 0, .unlock 1,
      .wait 2]).toOption.map (fun s => (s.m.owner, s.enq, s.handoffs, s.held 0, s.held 1, s.held 2))) =
    some (some 2, [1, 2], [1, 2], 0, 0, 1) := by decide

/-- … and in the middle of it: 1 is blocked and registered, 2 queued and not registered -/
example : ((srun (SSt.init false) [.asyncLock 0, .asyncLock 1, .wait 1, .wait 0, .asyncLock 2]).toOption.map
      (fun s => (s.m.owner, s.m.queue.map (fun q => (q.issuer, q.waited)), s.blocked 1, s.blocked 2, s.pend 2))) =
    some (some 0, [(1, true), (2, false)], true, false, true) := by decide

/-- a second event of an actor between its MUTEX_ASYNC_LOCK and the return of its MUTEX_WAIT is not a history -/
example : (srun (SSt.init true) [.asyncLock 0, .asyncLock 0]).toOption.isNone = true ∧
    (srun (SSt.init false) [.asyncLock 0, .asyncLock 1, .wait 1, .wait 1]).toOption.isNone = true := by decide

end SgVerif.C04
