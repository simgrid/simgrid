/-
C04 — what the invariants (C04/SplitLemmas.lean) need of `Mutex` beyond the branch equations of Sync/Lemmas.lean:
`markLast` on a queue with distinct issuers, `is_granted()` right after `lock_async`, and `try_lock` as a `lock_async`
that is taken back unless granted.  Core only.
-/
import SgVerif.C04.Model
import SgVerif.Sync.Lemmas
namespace SgVerif.C04
open SgVerif.Sync

theorem markLast_nodup (a : Aid) (r : Res) : ∀ (q : List MAcq), (q.map (·.issuer)).Nodup →
    markLast a r q = q.map (fun x => if x.issuer = a then { x with waited := true, res := r } else x)
  | [], _ => rfl
  | x :: xs, hnd => by
    simp only [List.map_cons, List.nodup_cons] at hnd
    simp only [markLast, List.map_cons]
    cases hany : xs.any (fun q => decide (q.issuer = a)) with
    | true =>
      have hx : x.issuer ≠ a := by
        intro e
        obtain ⟨y, hy, hya⟩ := List.any_eq_true.mp hany
        simp only [decide_eq_true_eq] at hya
        exact hnd.1 (by rw [e, ← hya]; exact List.mem_map_of_mem hy)
      simp [hx, markLast_nodup a r xs hnd.2]
    | false =>
      have hmap : xs.map (fun x => if x.issuer = a then { x with waited := true, res := r } else x) = xs := by
        refine (List.map_congr_left fun y hy => ?_).trans (List.map_id xs)
        have := List.any_eq_false.mp hany y hy
        simp only [decide_eq_true_eq] at this
        simp [this]
      simp only [Bool.false_eq_true, if_false, hmap]
      split <;> rfl

theorem markLast_issuers (a : Aid) (r : Res) : ∀ q : List MAcq, (markLast a r q).map (·.issuer) = q.map (·.issuer)
  | [] => rfl
  | x :: xs => by
    simp only [markLast]
    split
    · simp only [List.map_cons, markLast_issuers a r xs]
    · split <;> rfl

theorem isGranted_lockAsync {m : Mutex} {a : Aid} (hb : m.queue.any (fun q => decide (q.issuer = a)) = false) :
    (m.lockAsync a).1.isGranted a = (m.lockAsync a).2 := by
  cases ho : m.owner with
  | none => rw [lockAsync_free ho, Mutex.isGranted, hb]; rfl
  | some o =>
    by_cases hre : m.recursive = true ∧ o = a
    · rw [lockAsync_again (hre.2 ▸ ho) hre.1, Mutex.isGranted, hb]; rfl
    · rw [lockAsync_queue ho hre hb]; simp [Mutex.isGranted]

theorem isGranted_iff (m : Mutex) (a : Aid) : m.isGranted a = true ↔ a ∉ m.queue.map (·.issuer) := by
  simp [Mutex.isGranted]

theorem tryLock_eq (m : Mutex) (a : Aid) :
    m.tryLock a = if (m.tryLock a).2 then m.lockAsync a else (m, false) := by
  unfold Mutex.tryLock Mutex.lockAsync
  cases hr : m.recursive <;> cases ho : m.owner <;> simp
  all_goals split <;> simp_all

end SgVerif.C04
