/-
C04 — the invariant `SInv` of the split-path history run (C04/Split.lean), and the one-simcall run (C04/Model.lean) as
the special case of it in which every MUTEX_ASYNC_LOCK is followed at once by its MUTEX_WAIT.  Core only.
-/
import SgVerif.C04.Split
import SgVerif.C04.Lemmas
import SgVerif.Common.List
namespace SgVerif.C04
open SgVerif.Sync

/-- the states of the split run: what the ghosts `held`, `pend`, `blocked`, `enq`, `handoffs` mean for the kernel mutex -/
structure SInv (s : SSt) : Prop where
  free : s.m.owner = none → s.m.queue = []
  notOwner : ∀ b, s.m.owner ≠ some b → s.held b = 0
  -- returned acquisitions, plus the granted one not yet waited on, against `recursive_depth`
  ownerHeld : ∀ a, s.m.owner = some a →
    (s.m.recursive = true → ((s.held a + (if s.pend a then 1 else 0) : Nat) : Int) ≤ s.m.depth) ∧
    (s.m.recursive = false → s.held a + (if s.pend a then 1 else 0) ≤ 1)
  -- a queued acquisition: first level, not the owner's, its issuer pending, registered iff its MUTEX_WAIT was executed
  q1 : ∀ q ∈ s.m.queue, q.depth = 1 ∧ s.m.owner ≠ some q.issuer ∧ s.pend q.issuer = true ∧
        q.waited = s.blocked q.issuer
  fifo : s.enq = s.handoffs ++ s.m.queue.map (·.issuer)
  nodup : (s.m.queue.map (·.issuer)).Nodup
  -- a pending acquisition is the owner's (granted) or queued; a blocked actor is queued
  pq : ∀ a, s.pend a = true → s.m.owner = some a ∨ a ∈ s.m.queue.map (·.issuer)
  bl : ∀ a, s.blocked a = true → a ∈ s.m.queue.map (·.issuer)

theorem sinv_init (r : Bool) : SInv (SSt.init r) := by
  constructor <;> simp [SSt.init]

namespace SInv
variable {s : SSt} {a : Aid}

theorem not_mem (hi : SInv s) (hp : s.pend a = false) : a ∉ s.m.queue.map (·.issuer) := by
  intro hm
  obtain ⟨q, hq, rfl⟩ := List.mem_map.mp hm
  have := (hi.q1 q hq).2.2.1
  rw [hp] at this; cases this

theorem any_false (hi : SInv s) (hp : s.pend a = false) : s.m.queue.any (fun q => decide (q.issuer = a)) = false :=
  List.any_eq_false.mpr fun _ hq e => hi.not_mem hp (of_decide_eq_true e ▸ List.mem_map_of_mem hq)

theorem not_blocked (hi : SInv s) (hp : s.pend a = false) : s.blocked a = false :=
  Bool.eq_false_iff.mpr fun hb => hi.not_mem hp (hi.bl a hb)

theorem owner_iff (hi : SInv s) (hp : s.pend a = true) : a ∉ s.m.queue.map (·.issuer) ↔ s.m.owner = some a := by
  constructor
  · intro hn
    exact (hi.pq a hp).resolve_right hn
  · intro ho hm
    obtain ⟨q, hq, e⟩ := List.mem_map.mp hm
    exact (hi.q1 q hq).2.1 (e ▸ ho)

theorem holder_is_owner (hi : SInv s) (ha : 0 < s.held a) : s.m.owner = some a :=
  Classical.byContradiction fun ho => by have := hi.notOwner a ho; omega

theorem asyncLock (hi : SInv s) (hp : s.pend a = false) (hub : ¬ (s.m.recursive = false ∧ s.m.owner = some a)) :
    SInv { s with m := (s.m.lockAsync a).1, pend := upd s.pend a true,
                  enq := if (s.m.lockAsync a).2 then s.enq else s.enq ++ [a] } := by
  have hpm : ∀ x, s.pend x = true → upd s.pend a true x = true := fun x hx => by
    by_cases e : x = a
    · rw [e, upd_same]
    · rwa [upd_ne _ _ e]
  cases hown : s.m.owner with
  | none =>
    rw [lockAsync_free hown]
    have hqe := hi.free hown
    have hh : s.held a = 0 := hi.notOwner a (by simp [hown])
    refine ⟨nofun, fun b _ => hi.notOwner b (by simp [hown]), ?_, ?_, hi.fifo, hi.nodup, ?_, hi.bl⟩
    all_goals dsimp only
    · intro x hx
      obtain rfl : a = x := Option.some.inj hx
      simp [hh]
    · intro q hq
      rw [hqe] at hq; cases hq
    · intro x hx
      by_cases e : x = a
      · exact .inl (e ▸ rfl)
      · rw [upd_ne _ _ e] at hx
        have := hi.pq x hx
        simp [hown, hqe] at this
  | some ow =>
    by_cases hre : s.m.recursive = true ∧ ow = a
    · obtain ⟨hr, rfl⟩ := hre
      rw [lockAsync_again hown hr]
      refine ⟨hi.free, hi.notOwner, ?_, ?_, hi.fifo, hi.nodup, ?_, hi.bl⟩
      all_goals dsimp only
      · intro x hx
        obtain rfl : ow = x := Option.some.inj (hown.symm.trans hx)
        have := (hi.ownerHeld ow hown).1 hr
        simp only [hp, upd_same] at this ⊢
        exact ⟨fun _ => by simp only [Bool.false_eq_true, if_false, if_true] at this ⊢; omega, by simp [hr]⟩
      · intro q hq
        have := hi.q1 q hq
        exact ⟨this.1, this.2.1, hpm _ this.2.2.1, this.2.2.2⟩
      · intro x hx
        by_cases e : x = ow
        · exact .inl (e ▸ hown)
        · exact hi.pq x (by rwa [upd_ne _ _ e] at hx)
    · have hoa : ow ≠ a := fun e => by
        cases hr : s.m.recursive
        · exact hub ⟨hr, e ▸ hown⟩
        · exact hre ⟨hr, e⟩
      rw [lockAsync_queue hown hre (hi.any_false hp)]
      refine ⟨by simp [hown], hi.notOwner, ?_, ?_, by simp [hi.fifo], ?_, ?_, ?_⟩
      all_goals dsimp only
      · intro x hx
        have hxa : x ≠ a := fun e => hoa (Option.some.inj (hown.symm.trans (e ▸ hx)))
        simpa only [upd_ne _ _ hxa] using hi.ownerHeld x hx
      · intro q hq
        rcases List.mem_append.mp hq with hq | hq
        · have := hi.q1 q hq
          exact ⟨this.1, this.2.1, hpm _ this.2.2.1, this.2.2.2⟩
        · obtain rfl := List.mem_singleton.mp hq
          exact ⟨rfl, by simpa [hown] using hoa, upd_same .., (hi.not_blocked hp).symm⟩
      · simp only [List.map_append, List.map_cons, List.map_nil]
        exact nodup_concat hi.nodup (hi.not_mem hp)
      · intro x hx
        by_cases e : x = a
        · exact .inr (by simp [e])
        · exact (hi.pq x (by rwa [upd_ne _ _ e] at hx)).imp_right (by simp +contextual)
      · intro x hx
        simp [hi.bl x hx]

theorem waitGranted (hi : SInv s) (hp : s.pend a = true) (ho : s.m.owner = some a) :
    SInv { s with held := upd s.held a (s.held a + 1), pend := upd s.pend a false } := by
  have hnq : ∀ q ∈ s.m.queue, q.issuer ≠ a := fun q hq e => (hi.q1 q hq).2.1 (e ▸ ho)
  refine ⟨hi.free, ?_, ?_, ?_, hi.fifo, hi.nodup, ?_, hi.bl⟩
  all_goals dsimp only
  · intro b hb
    have hba : b ≠ a := fun e => hb (e ▸ ho)
    rw [upd_ne _ _ hba]; exact hi.notOwner b hb
  · intro x hx
    obtain rfl : a = x := Option.some.inj (ho.symm.trans hx)
    have := hi.ownerHeld a ho
    simp only [hp, upd_same, if_true, Bool.false_eq_true, if_false] at this ⊢
    exact this
  · intro q hq
    have := hi.q1 q hq
    exact ⟨this.1, this.2.1, by rw [upd_ne _ _ (hnq q hq)]; exact this.2.2.1, this.2.2.2⟩
  · intro x hx
    by_cases e : x = a
    · rw [e, upd_same] at hx; cases hx
    · exact hi.pq x (by rwa [upd_ne _ _ e] at hx)

theorem waitQueued (hi : SInv s) (hp : s.pend a = true) (ho : s.m.owner ≠ some a) :
    SInv { s with m := { s.m with queue := markLast a .unit s.m.queue }, blocked := upd s.blocked a true } := by
  have hiss := markLast_issuers a .unit s.m.queue
  refine ⟨?_, hi.notOwner, hi.ownerHeld, ?_, hiss ▸ hi.fifo, hiss ▸ hi.nodup, hiss ▸ hi.pq, ?_⟩
  all_goals dsimp only
  · intro h0
    rw [hi.free h0]; rfl
  · intro q' hq'
    rw [markLast_nodup a .unit s.m.queue hi.nodup] at hq'
    obtain ⟨q, hq, rfl⟩ := List.mem_map.mp hq'
    have := hi.q1 q hq
    by_cases e : q.issuer = a
    · simp only [e, if_true, upd_same]
      exact ⟨this.1, ho, hp, trivial⟩
    · simpa only [e, if_false, upd_ne _ _ e] using this
  · intro x hx
    rw [hiss]
    by_cases e : x = a
    · exact e ▸ (hi.pq a hp).resolve_left ho
    · exact hi.bl x (by rwa [upd_ne _ _ e] at hx)

/-- the hand-off of a fully released mutex to the head of the FIFO; a new owner whose MUTEX_WAIT is registered is not
blocked any more.  (`sstep` records the hand-off as the prefix the queue lost, by lengths: `unlock` returns the new owner
only when it is registered.) -/
theorem handoff {acq : MAcq} {rest : List MAcq} (hi : SInv s) (hown : s.m.owner = some a) (hp : s.pend a = false)
    (hz : ∀ x, upd s.held a (s.held a - 1) x = 0) (hqq : s.m.queue = acq :: rest) :
    SInv { s with
      m := { s.m with owner := some acq.issuer, depth := acq.depth, queue := rest },
      held := upd s.held a (s.held a - 1),
      blocked := upd s.blocked acq.issuer false,
      handoffs := s.handoffs ++ (s.m.queue.take (s.m.queue.length - rest.length)).map (·.issuer) } := by
  have hacq := hi.q1 acq (by simp [hqq])
  have hnd := hi.nodup
  rw [hqq, List.map_cons, List.nodup_cons] at hnd
  have hrest : ∀ q ∈ rest, q.depth = 1 ∧ some acq.issuer ≠ some q.issuer ∧ s.pend q.issuer = true ∧
      q.waited = s.blocked q.issuer := fun q hq =>
    have := hi.q1 q (by simp [hqq, hq])
    ⟨this.1, fun e => hnd.1 (Option.some.inj e ▸ List.mem_map_of_mem hq), this.2.2⟩
  have hne : ∀ q ∈ rest, q.issuer ≠ acq.issuer := fun q hq e => (hrest q hq).2.1 (e ▸ rfl)
  have hmem : ∀ x, x ≠ acq.issuer → x ∈ s.m.queue.map (·.issuer) → x ∈ rest.map (·.issuer) := by
    intro x hx hm
    rw [hqq, List.map_cons, List.mem_cons] at hm
    exact hm.resolve_left hx
  have hpq : ∀ x, x ≠ acq.issuer → s.pend x = true → x ∈ rest.map (·.issuer) := by
    intro x hx hpx
    refine hmem x hx ((hi.pq x hpx).resolve_left fun e => ?_)
    rw [← Option.some.inj (hown.symm.trans e), hp] at hpx; cases hpx
  have hfifo : s.enq = s.handoffs ++ List.map (·.issuer) (List.take (s.m.queue.length - rest.length)
      s.m.queue) ++ rest.map (·.issuer) := by
    simp [hi.fifo, hqq]
  refine ⟨nofun, fun x _ => hz x, ?_, ?_, hfifo, hnd.2, ?_, ?_⟩
  all_goals dsimp only
  · intro x hx
    obtain rfl := Option.some.inj hx
    simp [hz, hacq.1, hacq.2.2.1]
  · intro q hq
    rw [upd_ne _ _ (hne q hq)]
    exact hrest q hq
  · intro x hx
    by_cases e : x = acq.issuer
    · exact .inl (e ▸ rfl)
    · exact .inr (hpq x e hx)
  · intro x hx
    have e : x ≠ acq.issuer := fun e => by rw [e, upd_same] at hx; cases hx
    exact hmem x e (hi.bl x (by rwa [upd_ne _ _ e] at hx))

theorem unlock {s' : SSt} {o : Outs} (hi : SInv s) (h : sstep s (.unlock a) = .ok (s', o)) : SInv s' := by
  simp only [sstep] at h
  split at h
  · cases h
  rename_i hp
  have hp : s.pend a = false := by simpa using hp
  have hown : s.m.owner = some a := Classical.byContradiction fun hn => by
    rw [unlock_notOwner hn] at h; cases h
  have hoa := hi.ownerHeld a hown
  simp only [hp, Bool.false_eq_true, if_false, Nat.add_zero] at hoa
  have hnotA : ∀ b, b ≠ a → s.held b = 0 := fun b hb =>
    hi.notOwner b (by rw [hown]; exact fun e => hb (Option.some.inj e).symm)
  by_cases hd : s.m.recursive = true ∧ 1 < s.m.depth
  · rw [unlock_keep hown hd.1 hd.2] at h
    obtain ⟨rfl, -⟩ := Prod.mk.inj (Except.ok.inj h)
    refine ⟨hi.free, ?_, ?_, hi.q1, by simp [hi.fifo], hi.nodup, hi.pq, hi.bl⟩
    all_goals dsimp only
    · intro b hb
      have hba : b ≠ a := fun e => hb (e ▸ hown)
      rw [upd_ne _ _ hba]; exact hnotA b hba
    · intro x hx
      obtain rfl : a = x := Option.some.inj (hown.symm.trans hx)
      have := hoa.1 hd.1
      simp only [hp, upd_same, Bool.false_eq_true, if_false, Nat.add_zero]
      exact ⟨fun _ => by omega, fun hr => by simp [hd.1] at hr⟩
  · -- the last level is released: nobody holds the mutex any more
    have hz : ∀ x, upd s.held a (s.held a - 1) x = 0 := by
      intro x
      by_cases e : x = a
      · rw [e, upd_same]
        cases hr : s.m.recursive
        · have := hoa.2 hr; omega
        · have := hoa.1 hr; have : ¬ 1 < s.m.depth := fun h => hd ⟨hr, h⟩; omega
      · rw [upd_ne _ _ e]; exact hnotA x e
    cases hqq : s.m.queue with
    | nil =>
      rw [unlock_free hown hd hqq] at h
      obtain ⟨rfl, -⟩ := Prod.mk.inj (Except.ok.inj h)
      refine ⟨fun _ => hqq, fun b _ => hz b, nofun, by simp [hqq], by simp [hqq, hi.fifo], by simp [hqq], ?_, ?_⟩
      all_goals dsimp only
      · intro x hx
        have := hi.pq x hx
        rw [hqq, hown] at this
        rcases this with e | e
        · rw [← Option.some.inj e, hp] at hx; cases hx
        · cases e
      · intro x hx
        have := hi.bl x hx
        rw [hqq] at this; cases this
    | cons acq rest =>
      rw [unlock_handoff hown hd hqq] at h
      have hacq := hi.q1 acq (by simp [hqq])
      have hoff := hi.handoff hown hp hz hqq
      cases hw : acq.waited with
      | true =>
        -- … and the hand-off is the return of that MUTEX_WAIT
        simp only [hw, if_true] at h
        obtain ⟨rfl, -⟩ := Prod.mk.inj (Except.ok.inj h)
        exact hoff.waitGranted hacq.2.2.1 rfl
      | false =>
        simp only [hw, Bool.false_eq_true, if_false] at h
        obtain ⟨rfl, -⟩ := Prod.mk.inj (Except.ok.inj h)
        have hb : s.blocked acq.issuer = false := hacq.2.2.2 ▸ hw
        rwa [upd_eq_self hb] at hoff

end SInv

theorem sinv_step {s s' : SSt} {e : SEv} {o : Outs} (hi : SInv s) (h : sstep s e = .ok (s', o)) : SInv s' := by
  cases e with
  | asyncLock a =>
    simp only [sstep] at h
    split at h
    · cases h
    rename_i hp
    split at h
    · cases h
    rename_i hub
    obtain ⟨rfl, -⟩ := Prod.mk.inj (Except.ok.inj h)
    exact hi.asyncLock (by simpa using hp) hub
  | wait a =>
    simp only [sstep] at h
    split at h
    · cases h
    rename_i hg
    have hp : s.pend a = true := by simpa using fun h => hg (.inl h)
    obtain ⟨rfl, -⟩ := Prod.mk.inj (Except.ok.inj h)
    have hg := (isGranted_iff s.m a).trans (hi.owner_iff hp)
    by_cases ho : s.m.owner = some a
    · rw [hg.mpr ho]
      exact hi.waitGranted hp ho
    · rw [Bool.eq_false_iff.mpr (mt hg.mp ho)]
      exact hi.waitQueued hp ho
  | tryLock a =>
    -- a successful try_lock is MUTEX_ASYNC_LOCK, granted, and its MUTEX_WAIT in one event
    simp only [sstep] at h
    split at h
    · cases h
    rename_i hp
    have hp : s.pend a = false := by simpa using hp
    obtain ⟨rfl, -⟩ := Prod.mk.inj (Except.ok.inj h)
    have e := tryLock_eq s.m a
    cases hb : (s.m.tryLock a).2 with
    | false =>
      rw [hb, if_neg Bool.false_ne_true] at e
      rw [e]; exact hi
    | true =>
      rw [hb, if_pos rfl] at e
      have hg : (s.m.lockAsync a).2 = true := e ▸ hb
      have hub : ¬ (s.m.recursive = false ∧ s.m.owner = some a) := fun hc => by
        rw [(lockAsync_busy hc.2 (by simp [hc.1])).1] at hg; cases hg
      have := (hi.asyncLock hp hub).waitGranted (upd_same ..) (lockAsync_granted_owner _ _ hg)
      rw [e]
      simpa only [hg, if_true, upd_upd, upd_eq_self hp] using this
  | unlock a => exact hi.unlock h

theorem sinv_run {s s' : SSt} (evs : List SEv) (hi : SInv s) (h : srun s evs = .ok s') : SInv s' := by
  induction evs generalizing s with
  | nil => cases h; exact hi
  | cons e es ih =>
    simp only [srun] at h
    split at h
    · cases h
    · exact ih (sinv_step hi ‹_›) h

abbrev SSt.toSt (s : SSt) : St := { m := s.m, held := s.held, enq := s.enq, handoffs := s.handoffs }

/-- the kernel events of one call of `s4u::Mutex` when MUTEX_ASYNC_LOCK and MUTEX_WAIT are separate events -/
def MEv.split : MEv → List SEv
  | .lock a => [.asyncLock a, .wait a]
  | .tryLock a => [.tryLock a]
  | .unlock a => [.unlock a]

theorem step_is_split {s : SSt} {t' : St} {e : MEv} {o : Outs} (hi : SInv s) (hw : ∀ a, s.pend a = s.blocked a)
    (h : step s.toSt e = .ok (t', o)) :
    ∃ s', srun s e.split = .ok s' ∧ (∀ a, s'.pend a = s'.blocked a) ∧ s'.toSt = t' := by
  have hnb : ∀ a, ¬ blockedIn s.m a = true → s.pend a = false := by
    intro a hb
    rw [hw]
    refine Bool.eq_false_iff.mpr fun hb' => ?_
    obtain ⟨q, hq, e⟩ := List.mem_map.mp (hi.bl a hb')
    exact hb (List.any_eq_true.mpr ⟨q, hq, by simpa using e⟩)
  cases e with
  | lock a =>
    simp only [step] at h
    split at h
    · cases h
    rename_i hb
    split at h
    · cases h
    rename_i hub
    obtain ⟨rfl, -⟩ := Prod.mk.inj (Except.ok.inj h)
    have hp := hnb a hb
    have hb : blockedIn s.m a = false := by simpa using hb
    have hbl : s.blocked a = false := hw a ▸ hp
    simp only [MEv.split, srun, sstep, hp, hub, Bool.false_eq_true, Bool.true_eq_false, or_self, if_false, upd_same,
      hbl, isGranted_lockAsync hb]
    generalize (s.m.lockAsync a).fst.waitFor a .unit (s.m.lockAsync a).snd = w
    obtain ⟨m2, _ | r⟩ := w
    · exact ⟨_, rfl, fun x => by simp only [upd, hw x], rfl⟩
    · exact ⟨_, rfl, fun x => by rw [upd_upd, upd_eq_self hp]; exact hw x, rfl⟩
  | tryLock a =>
    simp only [step] at h
    split at h
    · cases h
    rename_i hb
    obtain ⟨rfl, -⟩ := Prod.mk.inj (Except.ok.inj h)
    simp only [MEv.split, srun, sstep, hnb a hb, Bool.false_eq_true, if_false]
    exact ⟨_, rfl, hw, rfl⟩
  | unlock a =>
    simp only [step] at h
    split at h
    · cases h
    rename_i hb
    simp only [MEv.split, srun, sstep, hnb a hb, Bool.false_eq_true, if_false]
    cases hu : s.m.unlock a with
    | error => rw [hu] at h; cases h
    | ok r =>
      rw [hu] at h
      obtain ⟨rfl, -⟩ := Prod.mk.inj (Except.ok.inj h)
      refine ⟨_, rfl, fun x => ?_, rfl⟩
      rcases r.2 with _ | ⟨b, _⟩
      · exact hw x
      · simp only [upd, hw x]

/-- what holds of the states of the one-simcall run: each is a state of the split run in which every acquisition still
held has been waited on -/
def Inv (t : St) : Prop := ∃ s : SSt, SInv s ∧ (∀ a, s.pend a = s.blocked a) ∧ s.toSt = t

theorem inv_init (r : Bool) : Inv (St.init r) := ⟨SSt.init r, sinv_init r, fun _ => rfl, rfl⟩

theorem inv_step {t t' : St} {e : MEv} {o : Outs} (hi : Inv t) (h : step t e = .ok (t', o)) : Inv t' := by
  obtain ⟨s, hs, hw, rfl⟩ := hi
  obtain ⟨s', hr, hw', ht⟩ := step_is_split hs hw h
  exact ⟨s', sinv_run _ hs hr, hw', ht⟩

theorem inv_run {t t' : St} (evs : List MEv) (hi : Inv t) (h : run t evs = .ok t') : Inv t' := by
  induction evs generalizing t with
  | nil => cases h; exact hi
  | cons e es ih =>
    simp only [run] at h
    split at h
    · cases h
    · exact ih (inv_step hi ‹_›) h

end SgVerif.C04
