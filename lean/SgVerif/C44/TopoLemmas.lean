import SgVerif.C44.Lemmas
import SgVerif.Common.List
import SgVerif.Common.Snoc
/-
C44 — `EventSet::get_topological_ordering` (Model.lean: `topoInner`, `topoOuter`): invariant of the coloured depth-first
search with an explicit stack, termination within the fuel of the model, no `cycle` exception on acyclic structures.
Core-only.
-/
namespace SgVerif.C44

theorem split_skip {P r above below : List Nat} {t : Nat} (h : P ++ r = above ++ t :: below) (htP : t ∉ P) :
    ∃ above', above = P ++ above' ∧ r = above' ++ t :: below := by
  rcases List.append_eq_append_iff.mp h with ⟨a', h1, h2⟩ | ⟨c', h1, h2⟩
  · exact ⟨a', h1, h2⟩
  · cases c' with
    | nil => exact ⟨[], by simpa using h1.symm, by simpa using h2.symm⟩
    | cons x c'' =>
      -- `P` would reach beyond `above`, and contain `t`
      injection h2 with hx _
      exact absurd (by simp [h1, hx]) htP

/-- `if (this->contains(evt)) topological_ordering.push_back(evt)` -/
theorem mem_emit {b : Bool} {o : List Nat} {e x : Nat} : x ∈ (if b then o ++ [e] else o) ↔ x ∈ o ∨ (b = true ∧ x = e) := by
  cases b <;> simp

theorem pairwise_emit {R : Nat → Nat → Prop} {b : Bool} {o : List Nat} {e : Nat} (h : o.Pairwise R)
    (he : ∀ a ∈ o, R a e) : (if b then o ++ [e] else o).Pairwise R := by
  cases b
  · exact h
  · exact pairwise_snoc h he

theorem causesOf_length_le (es : ES) (e : Nat) : (es.causesOf e).length ≤ es.maxCauses := by
  unfold ES.causesOf ES.maxCauses
  cases h : es.causes[e]? with
  | none => simp
  | some l =>
    exact ((foldl_max_le _ 0 _).mp (Nat.le_refl _)).2 _ (List.mem_map.mpr ⟨l, List.mem_of_getElem? h, rfl⟩)

/-- invariant of the coloured search.  `K`: the events the current run of the inner loop owes, each still on the stack or already
permanently marked (`start`; `[]` between two runs).  `tempAbove`: what lies above a temporarily marked event on the stack is
strictly below it and holds its causes that are not permanently marked yet -/
structure TInv (es : ES) (s : EventSet) (K : List Nat) (st : TopoState) : Prop where
  bounded : ∀ x ∈ st.stack, x < es.n
  permClosed : ∀ x ∈ st.perm, ∀ c ∈ es.causesOf x, c ∈ st.perm
  outNodup : st.out.Nodup
  outMem : ∀ x, x ∈ st.out ↔ x ∈ s ∧ x ∈ st.perm
  outOrd : st.out.Pairwise (fun a b => ¬ Lt es b a)
  unk : st.unknown = s.filter (fun x => !st.perm.elem x)
  tempStack : ∀ t ∈ st.temp, t ∈ st.stack ∧ t ∉ st.perm
  tempAbove : ∀ above t below, st.stack = above ++ t :: below → t ∈ st.temp → t ∉ above →
      (∀ x ∈ above, Lt es x t) ∧ (∀ c ∈ es.causesOf t, c ∈ st.perm ∨ c ∈ above)
  disc : ∀ x ∈ st.disc, x ∈ st.temp ∨ x ∈ st.perm
  tempDisc : ∀ t ∈ st.temp, t ∈ st.disc
  start : ∀ u ∈ K, u ∈ st.stack ∨ u ∈ st.perm

/-- the number of events carrying no mark -/
def fresh (es : ES) (st : TopoState) : Nat :=
  ((List.range es.n).filter (fun x => !(st.temp ++ st.perm).elem x)).length

/-- the termination measure of the inner loop -/
def tmu (es : ES) (st : TopoState) : Nat := st.stack.length + (es.maxCauses + 1) * fresh es st

section
variable {es : ES} {s : EventSet} {K : List Nat}

/-- the three successor states of the inner loop, as `topoInner` writes them inline (`topoInner_done` meets them by unfolding) -/
def stSkip (st : TopoState) (rest : List Nat) : TopoState := { st with stack := rest }
def stSecond (s : EventSet) (st : TopoState) (evt : Nat) (rest : List Nat) : TopoState :=
  { stack := rest, out := if s.elem evt then st.out ++ [evt] else st.out,
    unknown := EventSet.remove st.unknown evt, temp := EventSet.remove st.temp evt,
    perm := EventSet.insert st.perm evt, disc := EventSet.insert st.disc evt }
def stFirst (st : TopoState) (evt : Nat) (pushed : List Nat) : TopoState :=
  { st with disc := EventSet.insert st.disc evt, temp := EventSet.insert st.temp evt, stack := pushed ++ st.stack }

/-- popping the top `evt` of the stack when afterwards it is permanently marked and not temporarily: the fields of the
invariant that speak of the stack -/
theorem TInv.pop {st : TopoState} {evt : Nat} {rest : List Nat} (h : TInv es s K st) (hst : st.stack = evt :: rest)
    {perm' temp' : EventSet} (hperm : ∀ x, x ∈ perm' ↔ x ∈ st.perm ∨ x = evt)
    (htemp : ∀ x, x ∈ temp' ↔ x ∈ st.temp ∧ x ≠ evt) :
    (∀ x ∈ rest, x < es.n) ∧ (∀ t ∈ temp', t ∈ rest ∧ t ∉ perm') ∧
    (∀ above t below, rest = above ++ t :: below → t ∈ temp' → t ∉ above →
      (∀ x ∈ above, Lt es x t) ∧ ∀ c ∈ es.causesOf t, c ∈ perm' ∨ c ∈ above) ∧
    (∀ u ∈ K, u ∈ rest ∨ u ∈ perm') := by
  refine ⟨fun x hx => h.bounded x (hst ▸ List.mem_cons_of_mem _ hx), ?_, ?_, ?_⟩
  · intro t ht
    obtain ⟨ht, hne⟩ := (htemp t).mp ht
    obtain ⟨h1, h2⟩ := h.tempStack t ht
    rw [hst] at h1
    exact ⟨(List.mem_cons.mp h1).resolve_left hne, fun hm => ((hperm t).mp hm).elim h2 hne⟩
  · intro above t below hr ht hta
    obtain ⟨ht, hne⟩ := (htemp t).mp ht
    obtain ⟨g1, g2⟩ := h.tempAbove (evt :: above) t below (by rw [hst, hr]; rfl) ht
      (fun hm => (List.mem_cons.mp hm).elim hne hta)
    refine ⟨fun x hx => g1 x (List.mem_cons_of_mem _ hx), fun c hc => ?_⟩
    rcases g2 c hc with g | g
    · exact Or.inl ((hperm c).mpr (Or.inl g))
    · rcases List.mem_cons.mp g with g | g
      · exact Or.inl ((hperm c).mpr (Or.inr g))
      · exact Or.inr g
  · intro u hu
    rcases h.start u hu with hs | hs
    · rw [hst] at hs
      rcases List.mem_cons.mp hs with hs | hs
      · exact Or.inr ((hperm u).mpr (Or.inr hs))
      · exact Or.inl hs
    · exact Or.inr ((hperm u).mpr (Or.inl hs))

/-- an event already emitted comes back on top: popped -/
theorem tinv_skip {st : TopoState} {evt : Nat} {rest : List Nat} (h : TInv es s K st) (hst : st.stack = evt :: rest)
    (hp : evt ∈ st.perm) : TInv es s K (stSkip st rest) := by
  obtain ⟨p1, p2, p3, p4⟩ := h.pop hst (perm' := st.perm) (temp' := st.temp)
    (fun x => ⟨Or.inl, fun hx => hx.elim id (· ▸ hp)⟩)
    (fun x => ⟨fun hx => ⟨hx, fun e => (h.tempStack x hx).2 (e ▸ hp)⟩, And.left⟩)
  exact ⟨p1, h.permClosed, h.outNodup, h.outMem, h.outOrd, h.unk, p2, p3, h.disc, h.tempDisc, p4⟩

/-- second visit: the event is emitted and permanently marked -/
theorem tinv_second {st : TopoState} {evt : Nat} {rest : List Nat} (h : TInv es s K st) (hst : st.stack = evt :: rest)
    (hp : evt ∉ st.perm) (ht : evt ∈ st.temp) :
    TInv es s K (stSecond s st evt rest) := by
  have hcauses : ∀ c ∈ es.causesOf evt, c ∈ st.perm := fun c hc =>
    ((h.tempAbove [] evt rest (by simpa using hst) ht (by simp)).2 c hc).resolve_right nofun
  obtain ⟨p1, p2, p3, p4⟩ := h.pop hst (perm' := EventSet.insert st.perm evt) (temp' := EventSet.remove st.temp evt)
    (fun _ => EventSet.mem_insert) (fun _ => EventSet.mem_remove)
  refine ⟨p1, ?_, ?_, ?_, ?_, ?_, p2, p3, ?_, ?_, p4⟩ <;>
    simp only [stSecond, EventSet.mem_insert, EventSet.mem_remove]
  · rintro x (hx | rfl) c hc
    · exact Or.inl (h.permClosed x hx c hc)
    · exact Or.inl (hcauses c hc)
  · exact pairwise_emit h.outNodup fun a ha heq => hp (heq ▸ ((h.outMem a).mp ha).2)
  · intro x
    rw [mem_emit, h.outMem x, List.elem_eq_mem, decide_eq_true_eq, and_or_left]
    exact or_congr_right ⟨fun ⟨h1, h2⟩ => ⟨h2 ▸ h1, h2⟩, fun ⟨h1, h2⟩ => ⟨h2 ▸ h1, h2⟩⟩
  · refine pairwise_emit h.outOrd fun a ha hlt => ?_
    obtain ⟨c, hc, hle⟩ := hlt
    exact hp (hle.mem_closed h.permClosed (h.permClosed a ((h.outMem a).mp ha).2 c hc))
  · rw [h.unk]
    unfold EventSet.remove
    rw [List.filter_filter]
    apply List.filter_congr
    intro x _
    rw [Bool.eq_iff_iff]
    simp only [Bool.and_eq_true, Bool.not_eq_true', bne_iff_ne, List.elem_eq_mem, decide_eq_false_iff_not,
      EventSet.mem_insert, not_or]
    exact and_comm
  · rintro x (hx | rfl)
    · by_cases hxe : x = evt
      · exact Or.inr (Or.inr hxe)
      · exact (h.disc x hx).imp (⟨·, hxe⟩) Or.inl
    · exact Or.inr (Or.inr rfl)
  · exact fun t ht => Or.inl (h.tempDisc t ht.1)

/-- on an acyclic structure an immediate cause of the top of the stack is not temporarily marked: the cycle exception is
not raised, and on a first visit every cause is already emitted or is pushed -/
theorem first_causes (hac : ∀ x, ¬ Lt es x x) {st : TopoState} {evt : Nat} {rest : List Nat} (h : TInv es s K st)
    (hst : st.stack = evt :: rest) (c : Nat) (hc : c ∈ es.causesOf evt) :
    c ≠ evt ∧ c ∉ st.temp := by
  have hne : c ≠ evt := by
    intro e; subst e; exact hac c (lt_of_cause hc)
  refine ⟨hne, ?_⟩
  intro hct
  have hcs := (h.tempStack c hct).1
  rw [hst] at hcs
  rcases List.mem_cons.mp hcs with hcs | hcs
  · exact hne hcs
  · obtain ⟨a, b, hab, hca⟩ := List.eq_append_cons_of_mem hcs
    have := (h.tempAbove (evt :: a) c b (by rw [hst, hab]; simp) hct
      (by intro hm; rcases List.mem_cons.mp hm with hm | hm; exact hne hm; exact hca hm)).1 evt (by simp)
    exact hac evt (this.trans (lt_of_cause hc))

theorem tinv_first (hv : es.Valid) (hac : ∀ x, ¬ Lt es x x) {st : TopoState} {evt : Nat} {rest : List Nat}
    (h : TInv es s K st) (hst : st.stack = evt :: rest) (hp : evt ∉ st.perm) (pushed : List Nat)
    (hpushed : ∀ x, x ∈ pushed ↔ x ∈ es.causesOf evt ∧ x ∉ EventSet.insert st.disc evt ∧ x ∉ st.perm) :
    TInv es s K (stFirst st evt pushed) := by
  have hevtP : evt ∉ pushed := fun hm => hac evt (lt_of_cause ((hpushed evt).mp hm).1)
  refine ⟨?_, h.permClosed, h.outNodup, h.outMem, h.outOrd, h.unk, ?_, ?_, ?_, ?_, ?_⟩ <;>
    simp only [stFirst, EventSet.mem_insert, List.mem_append]
  · rintro x (hx | hx)
    · exact hv evt x ((hpushed x).mp hx).1
    · exact h.bounded x hx
  · rintro t (htm | rfl)
    · exact ⟨Or.inr (h.tempStack t htm).1, (h.tempStack t htm).2⟩
    · exact ⟨Or.inr (by rw [hst]; exact List.mem_cons_self), hp⟩
  · intro above t below hr htm hta
    have htP : t ∉ pushed := fun hm => htm.elim
      (fun htt => ((hpushed t).mp hm).2.1 (EventSet.mem_insert.mpr (Or.inl (h.tempDisc t htt))))
      (fun e => hevtP (e ▸ hm))
    obtain ⟨a', rfl, h2⟩ := split_skip hr htP
    rw [hst] at h2
    cases a' with
    | nil =>
      -- `t` is the new top: above it are its causes that are neither emitted nor discovered
      injection h2 with hte _
      subst hte
      rw [List.append_nil]
      refine ⟨fun x hx => lt_of_cause ((hpushed x).mp hx).1, fun c hc => ?_⟩
      by_cases hcp : c ∈ st.perm
      · exact Or.inl hcp
      · obtain ⟨hne, hnt⟩ := first_causes hac h hst c hc
        refine Or.inr ((hpushed c).mpr ⟨hc, fun hd => ?_, hcp⟩)
        rcases EventSet.mem_insert.mp hd with hd | hd
        · exact (h.disc c hd).elim hnt hcp
        · exact hne hd
    | cons y a'' =>
      injection h2 with hy h2
      subst hy
      have hta' : t ∉ evt :: a'' := fun hm => hta (List.mem_append_right _ hm)
      obtain ⟨g1, g2⟩ := h.tempAbove (evt :: a'') t below (by rw [hst, h2]; rfl)
        (htm.resolve_right fun e => hta' (e ▸ List.mem_cons_self)) hta'
      refine ⟨fun x hx => ?_, fun c hc => (g2 c hc).imp_right (List.mem_append_right _)⟩
      rcases List.mem_append.mp hx with hx | hx
      · exact (lt_of_cause ((hpushed x).mp hx).1).trans (g1 evt List.mem_cons_self)
      · exact g1 x hx
  · rintro x (hx | rfl)
    · exact (h.disc x hx).imp Or.inl id
    · exact Or.inl (Or.inr rfl)
  · exact fun t ht => ht.imp (h.tempDisc t) id
  · exact fun u hu => (h.start u hu).imp Or.inr id

end

theorem topoInner_nil (order : Nat → List Nat → List Nat) (es : ES) (s : EventSet) (fuel : Nat) (st : TopoState)
    (h : st.stack = []) : topoInner true order es s fuel st = .done st := by
  cases fuel <;> simp [topoInner, h]

theorem tmu_skip (es : ES) {st : TopoState} {evt : Nat} {rest : List Nat} (hst : st.stack = evt :: rest) :
    tmu es (stSkip st rest) + 1 ≤ tmu es st := by
  have : fresh es (stSkip st rest) = fresh es st := rfl
  unfold tmu
  rw [this]
  simp only [hst, stSkip, List.length_cons]
  omega

theorem tmu_second (es : ES) (s : EventSet) {st : TopoState} {evt : Nat} {rest : List Nat}
    (hst : st.stack = evt :: rest) : tmu es (stSecond s st evt rest) + 1 ≤ tmu es st := by
  have hf : fresh es (stSecond s st evt rest) ≤ fresh es st := by
    refine length_notin_le _ fun x hx => ?_
    simp only [stSecond, List.mem_append, EventSet.mem_remove, EventSet.mem_insert] at hx ⊢
    by_cases hxe : x = evt
    · exact Or.inr (Or.inr hxe)
    · exact hx.imp (⟨·, hxe⟩) Or.inl
  have := Nat.mul_le_mul_left (es.maxCauses + 1) hf
  unfold tmu
  simp only [hst, List.length_cons]
  have hl : (stSecond s st evt rest).stack.length = rest.length := rfl
  omega

theorem tmu_first (es : ES) {st : TopoState} {evt : Nat} (hevt : evt < es.n) (hp : evt ∉ st.perm) (ht : evt ∉ st.temp)
    (pushed : List Nat) (hlen : pushed.length ≤ es.maxCauses) : tmu es (stFirst st evt pushed) + 1 ≤ tmu es st := by
  have hf : fresh es (stFirst st evt pushed) < fresh es st := by
    refine length_notin_lt _ (fun x hx => ?_) (List.mem_range.mpr hevt) (by simp [hp, ht])
      (List.mem_append_left _ (EventSet.mem_insert.mpr (Or.inr rfl)))
    simp only [stFirst, List.mem_append, EventSet.mem_insert] at hx ⊢
    exact hx.imp_left Or.inl
  have hl : (stFirst st evt pushed).stack.length = pushed.length + st.stack.length := by simp [stFirst]
  unfold tmu
  rw [hl]
  generalize fresh es st = f0 at hf
  generalize fresh es (stFirst st evt pushed) = f1 at hf
  have : (es.maxCauses + 1) * (f1 + 1) ≤ (es.maxCauses + 1) * f0 := Nat.mul_le_mul_left _ hf
  rw [Nat.mul_add] at this
  omega

section
variable {order : Nat → List Nat → List Nat} (hord : ∀ e l, (order e l).Perm l) (e : Nat) (a b c : EventSet)
include hord

/-- what a first visit pushes: the causes `a` that are neither discovered (`b`) nor emitted (`c`), in some order -/
theorem mem_pushed (x : Nat) : x ∈ (order e ((a.subtract b).subtract c)).reverse ↔ x ∈ a ∧ x ∉ b ∧ x ∉ c := by
  rw [List.mem_reverse, (hord _ _).mem_iff, EventSet.mem_subtract, EventSet.mem_subtract]
  exact and_assoc

theorem length_pushed_le : (order e ((a.subtract b).subtract c)).reverse.length ≤ a.length := by
  rw [List.length_reverse, (hord _ _).length_eq]
  exact Nat.le_trans (List.length_filter_le _ _) (List.length_filter_le _ _)

end

theorem topoInner_done {order : Nat → List Nat → List Nat} (hord : ∀ e l, (order e l).Perm l)
    {es : ES} (hv : es.Valid) (hac : ∀ x, ¬ Lt es x x) {s : EventSet} {K : List Nat} :
    ∀ (fuel : Nat) (st : TopoState), TInv es s K st → tmu es st ≤ fuel →
      ∃ st', topoInner true order es s fuel st = .done st' ∧ TInv es s K st' ∧ st'.stack = [] := by
  intro fuel
  induction fuel with
  | zero =>
    intro st h hm
    have : st.stack = [] := List.length_eq_zero_iff.mp (by unfold tmu at hm; omega)
    exact ⟨st, topoInner_nil _ _ _ _ _ this, h, this⟩
  | succ fuel ih =>
    intro st h hm
    cases hst : st.stack with
    | nil => exact ⟨st, topoInner_nil _ _ _ _ _ hst, h, hst⟩
    | cons evt rest =>
      have hevt : evt < es.n := h.bounded evt (by rw [hst]; simp)
      rw [topoInner]
      simp only [hst, Bool.true_and]
      by_cases hp : evt ∈ st.perm
      · have hpe : st.perm.elem evt = true := by simpa using hp
        simp only [hpe, if_true]
        exact ih (stSkip st rest) (tinv_skip h hst hp) (Nat.le_of_succ_le_succ (Nat.le_trans (tmu_skip es hst) hm))
      · have hpe : st.perm.elem evt = false := by simpa using hp
        simp only [hpe, Bool.false_eq_true, if_false]
        by_cases ht : evt ∈ st.temp
        · have hte : st.temp.elem evt = true := by simpa using ht
          simp only [hte, Bool.not_true, Bool.false_eq_true, if_false]
          exact ih (stSecond s st evt rest) (tinv_second h hst hp ht) (Nat.le_of_succ_le_succ (Nat.le_trans (tmu_second es s hst) hm))
        · have hte : st.temp.elem evt = false := by simpa using ht
          simp only [hte, Bool.not_false, if_true]
          -- no cycle exception
          have hnocyc : (!(es.causesOf evt).isEmpty &&
              EventSet.isSubsetOf (es.causesOf evt) (EventSet.insert st.temp evt)) = false := by
            rw [Bool.eq_false_iff]
            intro hcy
            simp only [Bool.and_eq_true, Bool.not_eq_true', EventSet.isSubsetOf_iff] at hcy
            obtain ⟨c, hc⟩ := List.isEmpty_eq_false_iff_exists_mem.mp hcy.1
            obtain ⟨g1, g2⟩ := first_causes hac h hst c hc
            exact (EventSet.mem_insert.mp (hcy.2 c hc)).elim g2 g1
          simp only [hnocyc, Bool.false_eq_true, if_false]
          rw [← hst]
          exact ih (stFirst st evt _) (tinv_first hv hac h hst hp _ (mem_pushed hord evt _ _ _))
            (Nat.le_of_succ_le_succ (Nat.le_trans (tmu_first es hevt hp ht _
              (Nat.le_trans (length_pushed_le hord evt _ _ _) (causesOf_length_le es evt))) hm))

theorem TInv.out_complete {es : ES} {s : EventSet} {K : List Nat} {st : TopoState} (h : TInv es s K st)
    (hu : st.unknown = []) (x : Nat) : x ∈ st.out ↔ x ∈ s := by
  rw [h.outMem x]
  refine ⟨fun g => g.1, fun hx => ⟨hx, Classical.byContradiction fun hnp => ?_⟩⟩
  have : x ∈ st.unknown := by rw [h.unk, List.mem_filter]; exact ⟨hx, by simpa using hnp⟩
  rw [hu] at this; cases this

theorem tmu_start (es : ES) (st : TopoState) (u : Nat) :
    tmu es { st with disc := [], stack := [u] } ≤ es.innerFuel := by
  unfold tmu ES.innerFuel fresh
  have := List.length_filter_le (fun x => !(st.temp ++ st.perm).elem x) (List.range es.n)
  rw [List.length_range] at this
  have := Nat.mul_le_mul_left (es.maxCauses + 1) this
  simp only [List.length_cons, List.length_nil]
  omega

/-- between two runs of the inner loop the invariant holds on an empty stack, with no event owed (`K = []`) -/
theorem topoOuter_ok {pick : List Nat → Option Nat} (hp : PickOk pick) {order : Nat → List Nat → List Nat}
    (hord : ∀ e l, (order e l).Perm l) {es : ES} (hv : es.Valid) (hac : ∀ x, ¬ Lt es x x) {s : EventSet}
    (hs : ∀ x ∈ s, x < es.n) :
    ∀ (fuel : Nat) (st : TopoState), TInv es s [] st → st.stack = [] → st.unknown.length ≤ fuel →
      ∃ out, topoOuter true pick order es s fuel st = .ok out ∧ out.Nodup ∧ (∀ x, x ∈ out ↔ x ∈ s) ∧
        out.Pairwise (fun a b => ¬ Lt es b a) := by
  have hdone : ∀ st, TInv es s [] st → pick st.unknown = none →
      st.out.Nodup ∧ (∀ x, x ∈ st.out ↔ x ∈ s) ∧ st.out.Pairwise (fun a b => ¬ Lt es b a) := by
    intro st h hpk
    refine ⟨h.outNodup, h.out_complete (Classical.byContradiction fun hne => ?_), h.outOrd⟩
    obtain ⟨x, hx⟩ := hp.some _ hne
    rw [hpk] at hx; cases hx
  intro fuel
  induction fuel with
  | zero =>
    intro st h _ hf
    have hpk : pick st.unknown = none := by
      cases hpk : pick st.unknown with
      | none => rfl
      | some x => have := hp.mem _ _ hpk; rw [List.length_eq_zero_iff.mp (Nat.le_zero.mp hf)] at this; cases this
    exact ⟨st.out, by rw [topoOuter]; simp [hpk], hdone st h hpk⟩
  | succ fuel ih =>
    intro st h hstk hf
    rw [topoOuter]
    cases hpk : pick st.unknown with
    | none => exact ⟨st.out, rfl, hdone st h hpk⟩
    | some u =>
      simp only []
      have hum : u ∈ st.unknown := hp.mem _ _ hpk
      have hus : u ∈ s ∧ u ∉ st.perm := by
        rw [h.unk, List.mem_filter] at hum
        exact ⟨hum.1, by simpa using hum.2⟩
      have hT : ∀ t, t ∉ st.temp := fun t ht => by
        have := (h.tempStack t ht).1
        rw [hstk] at this; cases this
      have h0 : TInv es s (u :: st.perm) { st with disc := [], stack := [u] } :=
        { h with
          bounded := fun x hx => List.mem_singleton.mp hx ▸ hs u hus.1
          tempStack := fun t ht => (hT t ht).elim
          tempAbove := fun _ t _ _ ht => (hT t ht).elim
          disc := nofun
          tempDisc := fun t ht => (hT t ht).elim
          start := fun x hx => (List.mem_cons.mp hx).imp List.mem_singleton.mpr id }
      obtain ⟨st', hrun, hinv, hstk'⟩ := topoInner_done hord hv hac es.innerFuel _ h0 (tmu_start es st u)
      rw [hrun]
      simp only []
      have hkeep : ∀ x ∈ u :: st.perm, x ∈ st'.perm := fun x hx =>
        (hinv.start x hx).resolve_left (by rw [hstk']; exact List.not_mem_nil)
      apply ih st' { hinv with start := nofun } hstk'
      -- `u` left `unknown_events`
      have hlt : st'.unknown.length < st.unknown.length := by
        rw [hinv.unk, h.unk]
        exact length_notin_lt _ (fun x hx => hkeep x (List.mem_cons_of_mem _ hx)) hus.1 hus.2 (hkeep u List.mem_cons_self)
      omega

theorem acyclic_of_decreasing {es : ES} (h : ∀ e c, c ∈ es.causesOf e → c < e) : ∀ x, ¬ Lt es x x := by
  have hle : ∀ {x y}, Le es x y → x ≤ y := by
    intro x y hxy
    induction hxy with
    | refl => exact Nat.le_refl _
    | step hc _ ih => have := h _ _ hc; omega
  rintro x ⟨c, hc, hcx⟩
  have := h _ _ hc
  have := hle hcx
  omega

end SgVerif.C44
