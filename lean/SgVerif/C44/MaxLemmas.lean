import SgVerif.C44.Lemmas
import SgVerif.C44.EnumLemmas
import SgVerif.Common.List
import SgVerif.Common.Snoc
/-
C44 — the stack machine of `maximal_subsets_iterator` (Model.lean: `MaxIter.increment`, `continueTraversal`,
`backtrackLoop`, `Bookkeeper` counts) is EQUAL to the recursive depth-first enumeration `dfsL`, for every ordering,
every size limit, every event structure; and `dfsL` is the depth-first list `subs` of the non-empty sub-lists with those
that fail the candidate test or exceed the size limit filtered out (`dfsL_eq_filter`).  Core-only.
-/
namespace SgVerif.C44

theorem insert_nodup (s : EventSet) (e : Nat) (h : s.Nodup) : (EventSet.insert s e).Nodup := by
  unfold EventSet.insert
  split
  · exact h
  · rename_i hne
    exact nodup_concat h (by simpa using hne)

theorem histRun_nodup (pick : List Nat → Option Nat) (es : ES) (fuel : Nat) (st : HistState) (h : st.history.Nodup) :
    (histRun pick es fuel st).history.Nodup := by
  induction fuel generalizing st with
  | zero => exact h
  | succ fuel ih =>
    unfold histRun
    split
    · exact h
    · apply ih
      unfold histStep
      split
      · exact h
      · exact insert_nodup _ _ h

theorem localConfig_nodup (pick : List Nat → Option Nat) (es : ES) (e : Nat) : (localConfig pick es e).Nodup :=
  histRun_nodup pick es _ _ (by simp [HistState.init])

/-- the counts are read with default 0, so the `resize` that pads with zeros is invisible; writing position `h` then
changes the reading at `h` only -/
theorem bump_step_getD (f : Nat → Nat) (c : List Nat) (h e : Nat) :
    (((if h < c.length then c.set h (f ((c[h]?).getD 0)) else c ++ List.replicate (h - c.length) 0 ++ [f 0])[e]?).getD 0)
      = if e = h then f ((c[e]?).getD 0) else (c[e]?).getD 0 := by
  split
  · rename_i hlt
    rw [List.getElem?_set]
    by_cases heh : h = e
    · subst heh; simp [hlt]
    · simp [heh, Ne.symm heh]
  · rename_i hge
    have hpad : ∀ i : Nat, ((c ++ List.replicate (h - c.length) 0)[i]?).getD 0 = (c[i]?).getD 0 := by
      intro i
      rw [List.getElem?_append]
      split
      · rfl
      · rw [List.getElem?_replicate, List.getElem?_eq_none (by omega)]; split <;> rfl
    have hlen : (c ++ List.replicate (h - c.length) 0).length = h := by simp; omega
    rw [List.getElem?_append, hlen]
    split
    · rw [if_neg (by omega)]; exact hpad e
    · by_cases heh : e = h
      · subst heh; rw [if_pos rfl, Nat.sub_self, List.getElem?_eq_none (Nat.le_of_not_lt hge)]; rfl
      · rw [if_neg heh, List.getElem?_eq_none (by simp; omega), List.getElem?_eq_none (by omega)]

theorem bump_getD (f : Nat → Nat) (lc : List Nat) (hnd : lc.Nodup) : ∀ (c : List Nat) (e : Nat),
    ((bump f c lc)[e]?).getD 0 = if e ∈ lc then f ((c[e]?).getD 0) else (c[e]?).getD 0 := by
  induction lc with
  | nil => intro c e; simp [bump]
  | cons h t ih =>
    intro c e
    have hnd' := List.nodup_cons.mp hnd
    unfold bump at ih ⊢
    rw [List.foldl_cons, ih hnd'.2, bump_step_getD]
    by_cases h1 : e = h
    · subst h1; simp [hnd'.1]
    · by_cases h2 : e ∈ t <;> simp [h1, h2]

section
variable (pick : List Nat → Option Nat) (es : ES)

/-- the candidate test of the Bookkeeper as a function of the current set: `e` is in no local configuration of a member -/
def okLC (c : EventSet) (e : Nat) : Bool := c.all (fun x => !(localConfig pick es x).elem e)

/-- the set held by the iterator, from its stack of positions (top first) -/
def curOf (ord : List Nat) (st : List Nat) : EventSet := st.reverse.map (fun p => (ord[p]?).getD 0)

theorem curOf_cons (ord : List Nat) (p : Nat) (st : List Nat) :
    curOf ord (p :: st) = curOf ord st ++ [(ord[p]?).getD 0] := by simp [curOf]

theorem curOf_length (ord st : List Nat) : (curOf ord st).length = st.length := by simp [curOf]

/-- what is still to be yielded once the sub-trees of the elements on the stack are left, bottom-up -/
def remStack (ord : List Nat) (m : Option Nat) : List Nat → List EventSet
  | [] => []
  | p :: st => dfsL (okLC pick es) m (curOf ord st) (ord.drop (p + 1)) ++ remStack ord m st

/-- everything the iterator yields after the set described by the stack -/
def remaining (ord : List Nat) (m : Option Nat) : List Nat → List EventSet
  | [] => []
  | p :: st =>
    (if canGrowLen m (st.length + 1) then dfsL (okLC pick es) m (curOf ord (p :: st)) (ord.drop (p + 1)) else [])
      ++ remStack pick es ord m (p :: st)

/-- the stack holds decreasing valid positions (top = latest = largest) -/
def StackOk (ord : List Nat) (st : List Nat) : Prop := st.Pairwise (· > ·) ∧ ∀ p ∈ st, p < ord.length

/-- `it` is the started iterator whose stack of positions is `st`: it holds the set `curOf ord st`, and the Bookkeeper counts, per
event, the members of that set whose local configuration contains it -/
structure MInv (ord : List Nat) (m : Option Nat) (it : MaxIter) (st : List Nat) : Prop where
  ord_eq : it.ord = ord
  max_eq : it.maxSize = m
  started : it.started = true
  stack : it.backtrack = st
  cur : it.cur = some (curOf ord st)
  cnt : ∀ e, (it.counts[e]?).getD 0 = (curOf ord st).countP (fun x => (localConfig pick es x).elem e)

theorem getD_mem {ord : List Nat} {p : Nat} (h : p < ord.length) : (ord[p]?).getD 0 ∈ ord := by
  rw [List.getElem?_eq_getElem h]; simp

theorem not_mem_curOf {ord : List Nat} (hnd : ord.Nodup) {p : Nat} {st : List Nat} (hs : StackOk ord (p :: st)) :
    (ord[p]?).getD 0 ∉ curOf ord st := by
  intro h
  simp only [curOf, List.mem_map, List.mem_reverse] at h
  obtain ⟨q, hq, heq⟩ := h
  rw [List.getElem?_eq_getElem (hs.2 q (by simp [hq])), List.getElem?_eq_getElem (hs.2 p (by simp))] at heq
  have := (List.getElem_inj hnd).mp heq
  have := (List.pairwise_cons.mp hs.1).1 q hq
  omega

theorem isCandidate_iff {ord : List Nat} {m : Option Nat} {it : MaxIter} {st : List Nat}
    (h : MInv pick es ord m it st) (e : Nat) : it.isCandidate e = okLC pick es (curOf ord st) e := by
  unfold MaxIter.isCandidate okLC
  rw [h.cnt e, Bool.eq_iff_iff]
  simp [List.countP_eq_zero]

theorem findNext_step (it : MaxIter) {q : Nat} (hq : q < it.ord.length) :
    it.findNext q = if it.isCandidate ((it.ord[q]?).getD 0) then some q else it.findNext (q + 1) := by
  have hr : (List.range it.ord.length).drop q = q :: (List.range it.ord.length).drop (q + 1) := by
    rw [List.drop_eq_getElem_cons (by simpa using hq)]; simp
  unfold MaxIter.findNext
  rw [hr]
  by_cases hc : it.isCandidate ((it.ord[q]?).getD 0) = true
  · rw [if_pos hc, List.find?_cons_of_pos]
    simpa [hq] using hc
  · rw [if_neg hc, List.find?_cons_of_neg]
    simpa [hq] using hc

theorem findNext_end (it : MaxIter) : it.findNext it.ord.length = none := by
  unfold MaxIter.findNext
  rw [List.drop_eq_nil_of_le (by simp)]
  rfl

/-- what a search for the next event to add reports about the list `X` of sets it has to account for, of which the end
`T` is the caller's: nothing found, and `T` is all that is left of `X`; or the position `p` of an event that extends the
set of a stack `st'` which the iterator `it` now holds, and `X` is that new set followed by everything after it -/
def Found (ord : List Nat) (m : Option Nat) (X T : List EventSet) (it : MaxIter) : Option Nat → Prop
  | none => X = T
  | some p => ∃ st', MInv pick es ord m it st' ∧ StackOk ord (p :: st') ∧
      X = curOf ord (p :: st') :: remaining pick es ord m (p :: st')

/-- `find_next_candidate_event(first, end)`, from a position above the stack, against the recursive enumeration of the
candidates from `first` on -/
theorem findNext_spec {ord : List Nat} {m : Option Nat} {it : MaxIter} {st : List Nat}
    (h : MInv pick es ord m it st) (hs : StackOk ord st) : ∀ (d q : Nat), ord.length - q = d → q ≤ ord.length →
    (∀ x ∈ st, x < q) →
    Found pick es ord m (dfsL (okLC pick es) m (curOf ord st) (ord.drop q) ++ remStack pick es ord m st)
      (remStack pick es ord m st) it (it.findNext q) := by
  intro d
  induction d with
  | zero =>
    intro q hd hq _
    have hqe : q = it.ord.length := by rw [h.ord_eq]; omega
    rw [hqe, findNext_end, h.ord_eq, List.drop_eq_nil_of_le (Nat.le_refl _)]
    rfl
  | succ d ih =>
    intro q hd hq hst
    have hql : q < ord.length := by omega
    have hdrop : ord.drop q = (ord[q]?).getD 0 :: ord.drop (q + 1) := by
      rw [List.getElem?_eq_getElem hql]; simp
    rw [findNext_step it (h.ord_eq ▸ hql), h.ord_eq, isCandidate_iff pick es h, hdrop, dfsL]
    by_cases hok : okLC pick es (curOf ord st) ((ord[q]?).getD 0) = true
    · rw [if_pos hok, if_pos hok]
      refine ⟨st, h, ⟨List.pairwise_cons.mpr ⟨hst, hs.1⟩, ?_⟩, ?_⟩
      · simp only [List.mem_cons, forall_eq_or_imp]
        exact ⟨hql, hs.2⟩
      · rw [remaining, remStack, curOf_cons, curOf_length, List.cons_append, List.append_assoc]
    · rw [if_neg hok, if_neg hok]
      exact ih (q + 1) (by omega) (by omega) fun x hx => Nat.lt_succ_of_lt (hst x hx)

/-- `add_element_to_current_maximal_set` + push -/
theorem add_inv {ord : List Nat} (hnd : ord.Nodup) {m : Option Nat} {it : MaxIter} {st : List Nat}
    (h : MInv pick es ord m it st) {p : Nat} (hs : StackOk ord (p :: st)) :
    MInv pick es ord m (MaxIter.add pick es it p ((it.ord[p]?).getD 0)) (p :: st) := by
  have hnm := not_mem_curOf hnd hs
  rw [h.ord_eq]
  refine ⟨h.ord_eq, h.max_eq, h.started, by simp [MaxIter.add, h.stack], ?_, ?_⟩
  · simp only [MaxIter.add, h.cur, Option.map_some, curOf_cons]
    congr 1
    unfold EventSet.insert
    have : (curOf ord st).elem ((ord[p]?).getD 0) = false := by simpa using hnm
    rw [this]; simp
  · intro e
    simp only [MaxIter.add]
    rw [bump_getD _ _ (localConfig_nodup pick es _), curOf_cons, List.countP_append, List.countP_singleton, h.cnt e]
    by_cases he : e ∈ localConfig pick es ((ord[p]?).getD 0) <;> simp [he]

/-- `remove_element_from_current_maximal_set` + pop -/
theorem del_inv {ord : List Nat} (hnd : ord.Nodup) {m : Option Nat} {it : MaxIter} {p : Nat} {st : List Nat}
    (h : MInv pick es ord m it (p :: st)) (hs : StackOk ord (p :: st)) :
    MInv pick es ord m { MaxIter.del pick es it ((it.ord[p]?).getD 0) with backtrack := st } st := by
  have hnm := not_mem_curOf hnd hs
  rw [h.ord_eq]
  refine ⟨h.ord_eq, h.max_eq, h.started, rfl, ?_, ?_⟩
  · simp only [MaxIter.del, h.cur, Option.map_some, curOf_cons]
    congr 1
    unfold EventSet.remove
    rw [List.filter_append]
    have h1 : (curOf ord st).filter (fun x => x != (ord[p]?).getD 0) = curOf ord st := by
      apply List.filter_eq_self.mpr
      intro a ha
      have : a ≠ (ord[p]?).getD 0 := fun x => hnm (x ▸ ha)
      simpa using this
    rw [h1]; simp
  · intro e
    simp only [MaxIter.del]
    rw [bump_getD _ _ (localConfig_nodup pick es _)]
    have := h.cnt e
    rw [curOf_cons, List.countP_append, List.countP_singleton] at this
    rw [this]
    by_cases he : e ∈ localConfig pick es ((ord[p]?).getD 0) <;> simp [he]

theorem StackOk.sublist {ord l l' : List Nat} (h : StackOk ord l) (hs : l'.Sublist l) : StackOk ord l' :=
  ⟨h.1.sublist hs, fun p hp => h.2 p (hs.subset hp)⟩

/-- the backtracking `while` loop accounts for what is left once the sub-trees of the stack are left -/
theorem backtrack_spec {ord : List Nat} (hnd : ord.Nodup) {m : Option Nat} :
    ∀ (st : List Nat) (fuel : Nat) (it : MaxIter), MInv pick es ord m it st → StackOk ord st → st.length ≤ fuel →
    Found pick es ord m (remStack pick es ord m st) [] (MaxIter.backtrackLoop pick es fuel it).1
      (MaxIter.backtrackLoop pick es fuel it).2 := by
  intro st
  induction st with
  | nil =>
    intro fuel it h _ _
    have hb : it.backtrack = [] := h.stack
    cases fuel with
    | zero => rfl
    | succ fuel => rw [MaxIter.backtrackLoop]; simp only [hb]; rfl
  | cons p st ih =>
    intro fuel it h hs hf
    cases fuel with
    | zero => simp at hf
    | succ fuel =>
      have hb : it.backtrack = p :: st := h.stack
      have h2 := del_inv pick es hnd h hs
      have hs2 := hs.sublist (List.sublist_cons_self p st)
      have F := findNext_spec pick es h2 hs2 _ (p + 1) rfl (hs.2 p List.mem_cons_self)
        fun x hx => Nat.lt_succ_of_lt ((List.pairwise_cons.mp hs.1).1 x hx)
      rw [MaxIter.backtrackLoop]
      simp only [hb]
      cases hfn : MaxIter.findNext { MaxIter.del pick es it ((it.ord[p]?).getD 0) with backtrack := st } (p + 1) with
      | none =>
        rw [hfn] at F
        rw [remStack, show _ ++ _ = _ from F]
        exact ih fuel _ h2 hs2 (by simpa using hf)
      | some p' =>
        rw [hfn] at F
        exact F

theorem canGrow_eq {ord : List Nat} {m : Option Nat} {it : MaxIter} {st : List Nat}
    (h : MInv pick es ord m it st) : it.canGrow = canGrowLen m st.length := by
  unfold MaxIter.canGrow canGrowLen
  rw [h.cur, h.max_eq]
  cases m <;> simp [curOf_length]

/-- `continue_traversal_of_maximal_events_tree`: first the search above the top of the stack, if the set may grow; then
the backtracking loop.  It accounts for what is left after the set of the whole stack -/
theorem continueTraversal_spec {ord : List Nat} (hnd : ord.Nodup) (hself : ∀ x ∈ ord, x ∈ localConfig pick es x)
    {m : Option Nat} {it : MaxIter} {p : Nat} {st : List Nat}
    (h : MInv pick es ord m it (p :: st)) (hs : StackOk ord (p :: st)) :
    Found pick es ord m (remaining pick es ord m (p :: st)) [] (MaxIter.continueTraversal pick es it).1
      (MaxIter.continueTraversal pick es it).2 := by
  have hpl : p < ord.length := hs.2 p (by simp)
  have hb : it.backtrack = p :: st := h.stack
  -- the search from `latest` never returns `latest` itself: it is in its own local configuration
  have hfnp : it.findNext p = it.findNext (p + 1) := by
    rw [findNext_step it (h.ord_eq ▸ hpl), h.ord_eq, isCandidate_iff pick es h, if_neg]
    intro hall
    have := List.all_eq_true.mp hall ((ord[p]?).getD 0) (by rw [curOf_cons]; simp)
    simp [hself _ (getD_mem hpl)] at this
  have F := findNext_spec pick es h hs _ (p + 1) rfl hpl fun x hx => Nat.lt_succ_of_le
    ((List.mem_cons.mp hx).elim Nat.le_of_eq fun hx => Nat.le_of_lt ((List.pairwise_cons.mp hs.1).1 x hx))
  have B := backtrack_spec pick es hnd (p :: st) _ it h hs (Nat.le_succ _)
  unfold MaxIter.continueTraversal
  simp only [hb]
  rw [canGrow_eq pick es h, hfnp, List.length_cons, remaining]
  by_cases hg : canGrowLen m (st.length + 1) = true
  · rw [if_pos hg, if_pos hg]
    cases hfn : it.findNext (p + 1) with
    | some p' => rw [hfn] at F; exact F
    | none => rw [hfn] at F; rw [show _ ++ _ = _ from F]; exact B
  · rw [if_neg hg, if_neg hg]
    exact B

/-- the iteration from `it` on yields exactly the sets `X`: it is at its end and `X` is empty, or it holds the set of a
stack, which is the first of `X`, and the others are what is left after it -/
def Yields (ord : List Nat) (m : Option Nat) (it : MaxIter) (X : List EventSet) : Prop :=
  (it.cur = none ∧ X = []) ∨
  ∃ p st, MInv pick es ord m it (p :: st) ∧ StackOk ord (p :: st) ∧
    X = curOf ord (p :: st) :: remaining pick es ord m (p :: st)

/-- the end of `increment`: the event found is added, or the iteration ends -/
theorem Found.yields {ord : List Nat} (hnd : ord.Nodup) {m : Option Nat} {X : List EventSet} {it : MaxIter}
    {o : Option Nat} : Found pick es ord m X [] it o →
    Yields pick es ord m (match o with
      | none => { it with cur := none }
      | some p => MaxIter.add pick es it p ((it.ord[p]?).getD 0)) X := by
  cases o with
  | none => exact fun F => Or.inl ⟨rfl, F⟩
  | some p =>
    rintro ⟨st', i1, i2, i3⟩
    exact Or.inr ⟨p, st', add_inv pick es hnd i1 i2, i2, i3⟩

theorem increment_spec {ord : List Nat} (hnd : ord.Nodup) (hself : ∀ x ∈ ord, x ∈ localConfig pick es x)
    {m : Option Nat} {it : MaxIter} {p : Nat} {st : List Nat}
    (h : MInv pick es ord m it (p :: st)) (hs : StackOk ord (p :: st)) :
    Yields pick es ord m (MaxIter.increment pick es it) (remaining pick es ord m (p :: st)) := by
  have hne : it.ord.isEmpty = false := by
    rw [h.ord_eq, List.isEmpty_eq_false_iff_exists_mem]; exact ⟨_, getD_mem (hs.2 p List.mem_cons_self)⟩
  have F := continueTraversal_spec pick es hnd hself h hs
  unfold MaxIter.increment
  rw [h.cur]
  simp only [hne, Bool.false_eq_true, if_false, h.started, Bool.not_true]
  exact F.yields pick es hnd

theorem collect_none (fuel : Nat) (it : MaxIter) (acc : List EventSet) (h : it.cur = none) :
    MaxIter.collect pick es fuel it acc = acc.reverse := by
  cases fuel <;> simp [MaxIter.collect, h]

theorem collect_spec {ord : List Nat} (hnd : ord.Nodup) (hself : ∀ x ∈ ord, x ∈ localConfig pick es x)
    {m : Option Nat} : ∀ (fuel : Nat) (it : MaxIter) (X acc : List EventSet),
    Yields pick es ord m it X → X.length ≤ fuel → MaxIter.collect pick es fuel it acc = acc.reverse ++ X := by
  intro fuel
  induction fuel with
  | zero =>
    rintro it X acc (⟨hc, rfl⟩ | ⟨p, st, _, _, rfl⟩) hf
    · rw [collect_none pick es _ _ _ hc, List.append_nil]
    · simp at hf
  | succ fuel ih =>
    rintro it X acc (⟨hc, rfl⟩ | ⟨p, st, h, hs, rfl⟩) hf
    · rw [collect_none pick es _ _ _ hc, List.append_nil]
    · rw [MaxIter.collect, h.cur]
      simp only []
      rw [ih _ _ _ (increment_spec pick es hnd hself h hs) (by simpa using hf)]
      simp

theorem maximalSubsets_eq_dfsL {ord : List Nat} (hnd : ord.Nodup) (hself : ∀ x ∈ ord, x ∈ localConfig pick es x)
    (m : Option Nat) (fuel : Nat) (hf : (dfsL (okLC pick es) m [] ord).length + 1 ≤ fuel) :
    maximalSubsets pick es ord m fuel = [] :: dfsL (okLC pick es) m [] ord := by
  -- the first `increment`: `has_started_searching` is set and the search starts at the first position
  have hfirst : Yields pick es ord m (MaxIter.increment pick es ⟨ord, false, m, some [], [], []⟩)
      (dfsL (okLC pick es) m [] ord) := by
    by_cases hemp : ord = []
    · subst hemp
      exact Or.inl ⟨rfl, rfl⟩
    · have hne : ord.isEmpty = false := by cases ord <;> simp_all
      have h0 : MInv pick es ord m ⟨ord, true, m, some [], [], []⟩ [] :=
        ⟨rfl, rfl, rfl, rfl, rfl, fun _ => rfl⟩
      have F := findNext_spec pick es h0 ⟨List.Pairwise.nil, nofun⟩ _ 0 rfl (Nat.zero_le _) nofun
      simp only [show curOf ord [] = [] from rfl, List.drop_zero, remStack, List.append_nil] at F
      simp only [MaxIter.increment, hne, Bool.false_eq_true, if_false, Bool.not_false, if_true]
      exact F.yields pick es hnd
  unfold maximalSubsets
  cases fuel with
  | zero => simp at hf
  | succ fuel =>
    rw [MaxIter.collect]
    simp only []
    rw [collect_spec pick es hnd hself fuel _ _ _ hfirst (Nat.le_of_succ_le_succ hf)]
    rfl

end

/-- the non-empty sub-lists of `r`, depth first: those that start with the head, the shortest first, before the others -/
def subs : List Nat → List (List Nat)
  | [] => []
  | e :: r => [e] :: ((subs r).map (e :: ·) ++ subs r)

theorem mem_subs : ∀ (r s : List Nat), s ∈ subs r ↔ s ≠ [] ∧ s.Sublist r
  | [], s => by simp only [subs, List.not_mem_nil, List.sublist_nil, false_iff]; exact fun h => h.1 h.2
  | e :: r, s => by
    simp only [subs, List.mem_cons, List.mem_append, List.mem_map, mem_subs r, List.sublist_cons_iff]
    constructor
    · rintro (rfl | ⟨s', ⟨_, h⟩, rfl⟩ | ⟨h1, h2⟩)
      · exact ⟨by simp, Or.inr ⟨[], rfl, List.nil_sublist r⟩⟩
      · exact ⟨by simp, Or.inr ⟨s', rfl, h⟩⟩
      · exact ⟨h1, Or.inl h2⟩
    · rintro ⟨h1, h2 | ⟨s', rfl, h2⟩⟩
      · exact Or.inr (Or.inr ⟨h1, h2⟩)
      · by_cases hs : s' = []
        · exact Or.inl (by rw [hs])
        · exact Or.inr (Or.inl ⟨s', ⟨hs, h2⟩, rfl⟩)

theorem subs_length : ∀ r : List Nat, (subs r).length + 1 = 2 ^ r.length
  | [] => rfl
  | e :: r => by
    have := subs_length r
    simp only [subs, List.length_cons, List.length_append, List.length_map, Nat.pow_succ]
    omega

theorem subs_nodup : ∀ r : List Nat, r.Nodup → (subs r).Nodup
  | [], _ => List.nodup_nil
  | e :: r, h => by
    obtain ⟨he, hr⟩ := List.nodup_cons.mp h
    have ih := subs_nodup r hr
    have hne : ∀ s ∈ subs r, e ∉ s := fun s hs hes => he (((mem_subs r s).mp hs).2.subset hes)
    rw [subs, List.nodup_cons, List.nodup_append]
    refine ⟨?_, nodup_map_cons e ih, ih, ?_⟩
    · intro hm
      rcases List.mem_append.mp hm with hm | hm
      · obtain ⟨s', hs', heq⟩ := List.mem_map.mp hm
        exact ((mem_subs r s').mp hs').1 (List.cons.inj heq).2
      · exact hne _ hm List.mem_cons_self
    · rintro a ha b hb rfl
      obtain ⟨s', _, rfl⟩ := List.mem_map.mp ha
      exact hne _ hb List.mem_cons_self

section
variable (ok : EventSet → Nat → Bool)

/-- every element passes the test against the set built before it -/
def good : EventSet → List Nat → Bool
  | _, [] => true
  | c, e :: s => ok c e && good (c ++ [e]) s

/-- the size limit as the iterator applies it: the first event is added unconditionally, the next ones only while
`can_grow_maximal_set` -/
def fits (m : Option Nat) (c s : List Nat) : Bool :=
  match m with
  | none => true
  | some mm => s.length == 1 || decide (c.length + s.length ≤ mm)

theorem fits_cons (m : Option Nat) (c : List Nat) (e : Nat) {s : List Nat} (hs : s ≠ []) :
    fits m c (e :: s) = (canGrowLen m (c.length + 1) && fits m (c ++ [e]) s) := by
  have hl : 0 < s.length := List.length_pos_iff.mpr hs
  cases m with
  | none => rfl
  | some mm =>
    rw [Bool.eq_iff_iff]
    simp only [fits, canGrowLen, List.length_cons, List.length_append, List.length_nil, Bool.or_eq_true, beq_iff_eq,
      Bool.and_eq_true, decide_eq_true_eq]
    omega

/-- **the pruned search is the filtered enumeration**: cutting a branch loses nothing, since an extension of a set that
fails the test or may not grow fails or exceeds the limit as well -/
theorem dfsL_eq_filter (m : Option Nat) : ∀ (r : List Nat) (c : EventSet),
    dfsL ok m c r = ((subs r).filter fun s => good ok c s && fits m c s).map (c ++ ·)
  | [], c => rfl
  | e :: r, c => by
    have hfit1 : fits m c [e] = true := by cases m <;> rfl
    have hsub : ((subs r).map (e :: ·)).filter (fun s => good ok c s && fits m c s) =
        ((subs r).filter fun s => (ok c e && canGrowLen m (c.length + 1)) &&
          (good ok (c ++ [e]) s && fits m (c ++ [e]) s)).map (e :: ·) := by
      rw [List.filter_map]
      refine congrArg _ (List.filter_congr fun s hs => ?_)
      rw [Function.comp, good, fits_cons m c e ((mem_subs r s).mp hs).1]
      cases ok c e <;> cases canGrowLen m (c.length + 1) <;> simp
    rw [dfsL, subs, List.filter_cons, List.filter_append, hsub, dfsL_eq_filter m r c, dfsL_eq_filter m r (c ++ [e])]
    simp only [good, Bool.and_true, hfit1]
    cases ok c e
    · simp
    · cases canGrowLen m (c.length + 1) <;> simp [List.map_map, Function.comp_def]

theorem dfsL_length (m : Option Nat) (r : List Nat) (c : EventSet) : (dfsL ok m c r).length + 1 ≤ 2 ^ r.length := by
  rw [dfsL_eq_filter, List.length_map, ← subs_length]
  exact Nat.succ_le_succ (List.length_filter_le _ _)

theorem dfsL_nodup (m : Option Nat) (r : List Nat) (c : EventSet) (h : r.Nodup) : (dfsL ok m c r).Nodup := by
  rw [dfsL_eq_filter]
  exact ((subs_nodup r h).filter _).map _ fun _ _ hab h => hab (List.append_cancel_left h)

/-- the whole enumeration from the empty set, the empty set included: under a limit other than 0 the unconditional
first event is within the limit as well -/
theorem mem_nil_cons_dfsL (m : Option Nat) (hm : m ≠ some 0) (r t : List Nat) :
    t ∈ [] :: dfsL ok m [] r ↔ t.Sublist r ∧ good ok [] t = true ∧ ∀ mm, m = some mm → t.length ≤ mm := by
  rw [dfsL_eq_filter]
  simp only [List.nil_append, List.map_id', List.mem_cons, List.mem_filter, mem_subs, Bool.and_eq_true]
  constructor
  · rintro (rfl | ⟨⟨_, h2⟩, h4, h5⟩)
    · exact ⟨List.nil_sublist r, rfl, fun _ _ => Nat.zero_le _⟩
    · refine ⟨h2, h4, ?_⟩
      rintro mm rfl
      simp only [fits, Bool.or_eq_true, beq_iff_eq, decide_eq_true_eq, List.length_nil, Nat.zero_add] at h5
      rcases h5 with h5 | h5
      · rw [h5]
        exact Nat.pos_of_ne_zero fun h => hm (h ▸ rfl)
      · exact h5
  · rintro ⟨h1, h2, h3⟩
    by_cases hte : t = []
    · exact Or.inl hte
    · refine Or.inr ⟨⟨hte, h1⟩, h2, ?_⟩
      cases m with
      | none => rfl
      | some mm => simpa [fits] using Or.inr (h3 mm rfl)

end

theorem sublist_eq_filter (l t : List Nat) (hnd : l.Nodup) (h : t.Sublist l) : t = l.filter (fun x => t.elem x) := by
  -- `t` is a sub-list of the filtered list, and as long: both are duplicate-free with the same elements
  have hs : t.Sublist (l.filter fun x => t.elem x) := by
    have := h.filter fun x => t.elem x
    rwa [List.filter_eq_self.mpr fun a ha => by simpa using ha] at this
  refine hs.eq_of_length ((List.perm_ext_iff_of_nodup (h.nodup hnd) (List.Pairwise.filter _ hnd)).mpr fun x => ?_).length_eq
  rw [List.mem_filter, List.elem_eq_mem, decide_eq_true_eq]
  exact ⟨fun hx => ⟨h.subset hx, hx⟩, And.right⟩

theorem sublist_ext {l t1 t2 : List Nat} (hnd : l.Nodup) (h1 : t1.Sublist l) (h2 : t2.Sublist l)
    (h : ∀ x, x ∈ t1 ↔ x ∈ t2) : t1 = t2 := by
  rw [sublist_eq_filter l t1 hnd h1, sublist_eq_filter l t2 hnd h2]
  apply List.filter_congr
  intro x _
  simp [h x]

/-- `B`: the elements for which the test is known to decide `le` (the valid event ids, where `local_config_spec` applies) -/
theorem good_iff (ok : EventSet → Nat → Bool) (le : Nat → Nat → Prop) (B : Nat → Prop)
    (hok : ∀ c e, (∀ x ∈ c, B x) → (ok c e = true ↔ ∀ x ∈ c, ¬ le e x)) :
    ∀ (s c : List Nat), (∀ x ∈ c, B x) → (∀ x ∈ s, B x) →
      (good ok c s = true ↔ (∀ e ∈ s, ∀ x ∈ c, ¬ le e x) ∧ s.Pairwise (fun a b => ¬ le b a)) := by
  intro s
  induction s with
  | nil => intro c _ _; simp [good]
  | cons e s ih =>
    intro c hc hs
    rw [good, Bool.and_eq_true, hok c e hc, ih (c ++ [e]) (forall_mem_snoc hc (hs e List.mem_cons_self))
      (fun x hx => hs x (List.mem_cons_of_mem _ hx)), List.pairwise_cons]
    simp only [List.mem_append, List.mem_cons, List.not_mem_nil, or_false, forall_eq_or_imp]
    exact ⟨fun ⟨h1, h2, h3⟩ => ⟨⟨h1, fun e' he' x hx => h2 e' he' x (Or.inl hx)⟩, fun b hb => h2 b hb e (Or.inr rfl), h3⟩,
      fun ⟨⟨h1, h1'⟩, h2, h3⟩ => ⟨h1, fun e' he' x hx => hx.elim (h1' e' he' x) (· ▸ h2 e' he'), h3⟩⟩

end SgVerif.C44
