import SgVerif.C44.Model
/-
C44 — EventSet algebra at membership level, the causal order `Le` (the SPEC), the invariant of the History work-list
iteration, and its termination within `es.n` steps.  Core-only.
-/
namespace SgVerif.C44

namespace EventSet

theorem mem_insert {s : EventSet} {e x : Nat} : x ∈ insert s e ↔ x ∈ s ∨ x = e := by
  unfold insert
  split
  · rename_i h
    exact ⟨Or.inl, fun h' => h'.elim id fun he => he ▸ by simpa using h⟩
  · simp

theorem mem_remove {s : EventSet} {e x : Nat} : x ∈ remove s e ↔ x ∈ s ∧ x ≠ e := by
  unfold remove; simp

theorem mem_subtract {s o : EventSet} {x : Nat} : x ∈ subtract s o ↔ x ∈ s ∧ x ∉ o := by
  unfold subtract; simp

theorem mem_union {s o : EventSet} {x : Nat} : x ∈ union s o ↔ x ∈ s ∨ x ∈ o := by
  unfold union
  induction o generalizing s with
  | nil => simp
  | cons a r ih => rw [List.foldl_cons, ih, mem_insert, List.mem_cons, or_assoc]

theorem mem_inter {s o : EventSet} {x : Nat} : x ∈ inter s o ↔ x ∈ s ∧ x ∈ o := by
  unfold inter; simp [And.comm]

theorem isSubsetOf_iff {s o : EventSet} : isSubsetOf s o = true ↔ ∀ x ∈ s, x ∈ o := by
  simp [isSubsetOf, subtract, List.isEmpty_iff, List.filter_eq_nil_iff]

theorem eqSet_iff {s o : EventSet} : eqSet s o = true ↔ ∀ x, x ∈ s ↔ x ∈ o := by
  simp only [eqSet, Bool.and_eq_true, isSubsetOf_iff]
  exact ⟨fun ⟨h1, h2⟩ x => ⟨h1 x, h2 x⟩, fun h => ⟨fun x => (h x).mp, fun x => (h x).mpr⟩⟩

theorem intersects_iff {s o : EventSet} : intersects s o = true ↔ ∃ x, x ∈ s ∧ x ∈ o := by
  unfold intersects
  simp only [List.any_eq_true, List.elem_eq_mem, decide_eq_true_eq]
  exact exists_congr fun x => and_comm

end EventSet

/-- `Le es x y`: `x` is `y` or a (transitive) cause of `y` — the reflexive-transitive closure of "immediate cause" -/
inductive Le (es : ES) : Nat → Nat → Prop
  | refl (x : Nat) : Le es x x
  | step {x c y : Nat} : c ∈ es.causesOf y → Le es x c → Le es x y

/-- strict: `x` is below an immediate cause of `y` -/
def Lt (es : ES) (x y : Nat) : Prop := ∃ c, c ∈ es.causesOf y ∧ Le es x c

theorem Le.trans {es : ES} {x y z : Nat} (h1 : Le es x y) (h2 : Le es y z) : Le es x z := by
  induction h2 with
  | refl => exact h1
  | step hc _ ih => exact Le.step hc ih

theorem Lt.le {es : ES} {x y : Nat} (h : Lt es x y) : Le es x y := by
  obtain ⟨c, hc, hle⟩ := h; exact Le.step hc hle

theorem Lt.trans {es : ES} {x y z : Nat} (h1 : Lt es x y) (h2 : Lt es y z) : Lt es x z := by
  obtain ⟨c, hc, hle⟩ := h2
  exact ⟨c, hc, h1.le.trans hle⟩

theorem lt_of_cause {es : ES} {c y : Nat} (h : c ∈ es.causesOf y) : Lt es c y := ⟨c, h, Le.refl c⟩

theorem Le.eq_or_lt {es : ES} {x y : Nat} (h : Le es x y) : x = y ∨ Lt es x y := by
  cases h with
  | refl => exact Or.inl rfl
  | step hc hle => exact Or.inr ⟨_, hc, hle⟩

theorem lt_iff_cause_le {es : ES} {m y : Nat} : Lt es m y ↔ ∃ x, Le es x y ∧ m ∈ es.causesOf x := by
  constructor
  · rintro ⟨c, hc, hle⟩
    induction hle generalizing y with
    | refl => exact ⟨y, Le.refl y, hc⟩
    | step hc2 _ ih =>
      obtain ⟨x, hx, hm⟩ := ih hc2
      exact ⟨x, Le.step hc hx, hm⟩
  · rintro ⟨x, h, hm⟩
    induction h with
    | refl => exact lt_of_cause hm
    | step hc _ ih => exact ih.trans (lt_of_cause hc)

theorem Le.mem_closed {es : ES} {S : EventSet} (h : ∀ x ∈ S, ∀ c ∈ es.causesOf x, c ∈ S) {x y : Nat} (hle : Le es y x)
    (hx : x ∈ S) : y ∈ S := by
  induction hle with
  | refl => exact hx
  | step hc _ ih => exact ih (h _ hx _ hc)

/-- every cause of every event is an event id below `es.n` -/
def ES.Valid (es : ES) : Prop := ∀ e c, c ∈ es.causesOf e → c < es.n

section
variable {pick : List Nat → Option Nat}

/-- what the theorems assume about `*frontier.begin()`: it is an element of the (non-empty) frontier -/
structure PickOk (pick : List Nat → Option Nat) : Prop where
  mem : ∀ l x, pick l = some x → x ∈ l
  some : ∀ l, l ≠ [] → ∃ x, pick l = some x

structure HInv (es : ES) (s : EventSet) (st : HistState) : Prop where
  sound : ∀ x, x ∈ st.history ∨ x ∈ st.frontier → ∃ y, y ∈ s ∧ Le es x y
  cover : ∀ y, y ∈ s → y ∈ st.history ∨ y ∈ st.frontier
  closed : ∀ x, x ∈ st.history → ∀ c, c ∈ es.causesOf x → c ∈ st.history ∨ c ∈ st.frontier
  disjoint : ∀ x, x ∈ st.frontier → x ∉ st.history
  maxi : ∀ m, m ∈ st.maximal ↔ m ∈ s ∧ ∀ x, x ∈ st.history → m ∉ es.causesOf x
  bounded : ∀ x, x ∈ st.frontier → x < es.n

theorem hinv_init (es : ES) (s : EventSet) (hs : ∀ x ∈ s, x < es.n) : HInv es s (HistState.init s) :=
  ⟨fun x hx => hx.elim nofun fun h => ⟨x, h, Le.refl x⟩, fun _ hy => Or.inr hy, nofun, fun _ _ => nofun,
    fun m => by simp [HistState.init], hs⟩

theorem hinv_step (hp : PickOk pick) {es : ES} (hv : es.Valid) {s : EventSet} {st : HistState} (h : HInv es s st)
    {e : Nat} (he : pick st.frontier = some e) : HInv es s (histStep pick es st) := by
  have hef : e ∈ st.frontier := hp.mem _ _ he
  obtain ⟨y0, hy0, hle0⟩ := h.sound e (Or.inr hef)
  unfold histStep
  simp only [he]
  refine ⟨?_, ?_, ?_, ?_, ?_, ?_⟩ <;>
    simp only [EventSet.mem_insert, EventSet.mem_union, EventSet.mem_remove, EventSet.mem_subtract]
  · rintro x ((hx | rfl) | (⟨hx, _⟩ | ⟨hc, _⟩))
    · exact h.sound x (Or.inl hx)
    · exact ⟨y0, hy0, hle0⟩
    · exact h.sound x (Or.inr hx)
    · exact ⟨y0, hy0, (Le.step hc (Le.refl x)).trans hle0⟩
  · intro y hy
    by_cases hye : y = e
    · exact Or.inl (Or.inr hye)
    · exact (h.cover y hy).imp Or.inl fun hf => Or.inl ⟨hf, hye⟩
  · rintro x (hx | rfl) c hc
    · by_cases hce : c = e
      · exact Or.inl (Or.inr hce)
      · exact (h.closed x hx c hc).imp Or.inl fun hf => Or.inl ⟨hf, hce⟩
    · by_cases hch : c ∈ st.history ∨ c = x
      · exact Or.inl hch
      · exact Or.inr (Or.inr ⟨hc, hch⟩)
  · rintro x (⟨h1, h2⟩ | ⟨_, h2⟩) hxh
    · exact hxh.elim (h.disjoint x h1) h2
    · exact h2 hxh
  · intro m
    rw [h.maxi m]
    exact ⟨fun ⟨⟨h1, h2⟩, h3⟩ => ⟨h1, fun x hx => hx.elim (h2 x) (· ▸ h3)⟩,
      fun ⟨h1, h2⟩ => ⟨⟨h1, fun x hx => h2 x (Or.inl hx)⟩, h2 e (Or.inr rfl)⟩⟩
  · rintro x (⟨hx, _⟩ | ⟨hx, _⟩)
    · exact h.bounded x hx
    · exact hv e x hx

/-! termination: the number of events not yet in `current_history` decreases at every step -/

theorem length_notin_le (l : List Nat) {A B : List Nat} (h : ∀ x ∈ A, x ∈ B) :
    (l.filter (fun x => !B.elem x)).length ≤ (l.filter (fun x => !A.elem x)).length := by
  rw [← List.countP_eq_length_filter, ← List.countP_eq_length_filter]
  refine List.countP_mono_left fun x _ hx => ?_
  simp only [Bool.not_eq_true', List.elem_eq_mem, decide_eq_false_iff_not] at hx ⊢
  exact fun hA => hx (h x hA)

theorem length_notin_lt (l : List Nat) {A B : List Nat} (h : ∀ x ∈ A, x ∈ B) {e : Nat} (he : e ∈ l) (heA : e ∉ A)
    (heB : e ∈ B) : (l.filter (fun x => !B.elem x)).length < (l.filter (fun x => !A.elem x)).length := by
  obtain ⟨a, b, rfl⟩ := List.append_of_mem he
  have ha := length_notin_le a h
  have hb := length_notin_le b h
  simp only [List.filter_append, List.filter_cons, List.elem_eq_mem, heA, heB, decide_true, decide_false, Bool.not_true,
    Bool.not_false, if_true, Bool.false_eq_true, if_false, List.length_append, List.length_cons] at ha hb ⊢
  omega

def mu (es : ES) (st : HistState) : Nat := ((List.range es.n).filter (fun x => !st.history.elem x)).length

theorem mu_step (hp : PickOk pick) {es : ES} {s : EventSet} {st : HistState} (h : HInv es s st) {e : Nat}
    (he : pick st.frontier = some e) : mu es (histStep pick es st) < mu es st := by
  have hef : e ∈ st.frontier := hp.mem _ _ he
  unfold mu histStep
  simp only [he]
  exact length_notin_lt _ (fun x hx => EventSet.mem_insert.mpr (Or.inl hx)) (List.mem_range.mpr (h.bounded e hef))
    (h.disjoint e hef) (EventSet.mem_insert.mpr (Or.inr rfl))

theorem histRun_done (hp : PickOk pick) {es : ES} (hv : es.Valid) {s : EventSet} :
    ∀ (fuel : Nat) (st : HistState), HInv es s st → mu es st ≤ fuel →
      (histRun pick es fuel st).frontier = [] ∧ HInv es s (histRun pick es fuel st) := by
  intro fuel
  induction fuel with
  | zero =>
    intro st h hmu
    -- a step would lower a measure that is 0
    refine ⟨Classical.byContradiction fun hne => ?_, h⟩
    obtain ⟨e, he⟩ := hp.some _ hne
    have := mu_step hp h he
    omega
  | succ fuel ih =>
    intro st h hmu
    unfold histRun
    by_cases hem : st.frontier.isEmpty = true
    · simp only [hem, if_true]
      exact ⟨List.isEmpty_iff.mp hem, h⟩
    · simp only [hem, Bool.false_eq_true, if_false]
      have hne : st.frontier ≠ [] := fun e => hem (List.isEmpty_iff.mpr e)
      obtain ⟨e, he⟩ := hp.some _ hne
      have := mu_step hp h he
      exact ih _ (hinv_step hp hv h he) (by omega)

theorem mu_le (es : ES) (st : HistState) : mu es st ≤ es.n := by
  unfold mu
  have := List.length_filter_le (fun x => !st.history.elem x) (List.range es.n)
  simpa using this

theorem histFinal_spec (hp : PickOk pick) {es : ES} (hv : es.Valid) {s : EventSet} (hs : ∀ x ∈ s, x < es.n) :
    (histFinal pick es s).frontier = [] ∧ HInv es s (histFinal pick es s) :=
  histRun_done hp hv es.n _ (hinv_init es s hs) (mu_le es _)

end
end SgVerif.C44
