import SgVerif.C44.Lemmas
import SgVerif.C44.EnumLemmas
import SgVerif.C44.MaxLemmas
import SgVerif.C44.TopoLemmas
/-
C44 — Unfolding set algebra is correct.  Property theorems.

Every theorem is for EVERY finite event structure `es` (any number of events, any immediate-cause lists whose entries
are event ids — no irredundancy needed, and acyclicity only for the three theorems about the topological ordering, which take
`hac`), EVERY dependency relation `dep`, EVERY set of events, and EVERY `pick` (= which element `*frontier.begin()` returns,
i.e. every hash order) — `PickOk` only says that `pick` returns an element of a non-empty list.
-/
namespace SgVerif.C44

section
variable {pick : List Nat → Option Nat} (hp : PickOk pick) {es : ES} (hv : es.Valid)
include hp hv

/-- **history_is_causal_closure**: `History(s).get_all_events()` (the iterator run to its end) is exactly the causal
closure of `s`: the events that are below-or-equal some event of `s`. -/
theorem history_is_causal_closure (s : EventSet) (hs : ∀ x ∈ s, x < es.n) (x : Nat) :
    x ∈ getAllEvents pick es s ↔ ∃ y, y ∈ s ∧ Le es x y := by
  obtain ⟨hdone, hinv⟩ := histFinal_spec hp hv hs
  unfold getAllEvents
  constructor
  · intro hx; exact hinv.sound x (Or.inl hx)
  · rintro ⟨y, hy, hle⟩
    -- at the end the frontier is empty: the history covers `s` and is closed under immediate causes
    have hnf : ∀ x, x ∉ (histFinal pick es s).frontier := fun x hx => by rw [hdone] at hx; cases hx
    exact hle.mem_closed (fun x hx c hc => (hinv.closed x hx c hc).resolve_right (hnf c))
      ((hinv.cover y hy).resolve_right (hnf y))

/-- **maximal_events_spec**: `get_all_maximal_events()` / `get_largest_maximal_subset()` keeps exactly the events of
`s` that are not strictly below another event of `s`. -/
theorem maximal_events_spec (s : EventSet) (hs : ∀ x ∈ s, x < es.n) (m : Nat) :
    m ∈ getAllMaximalEvents pick es s ↔ m ∈ s ∧ ¬ ∃ y, y ∈ s ∧ Lt es m y := by
  obtain ⟨_, hinv⟩ := histFinal_spec hp hv hs
  have hclos := history_is_causal_closure hp hv s hs
  unfold getAllMaximalEvents
  rw [hinv.maxi m]
  unfold getAllEvents at hclos
  constructor
  · rintro ⟨h1, h2⟩
    refine ⟨h1, ?_⟩
    rintro ⟨y, hy, hlt⟩
    obtain ⟨x, hxy, hmx⟩ := lt_iff_cause_le.mp hlt
    exact h2 x ((hclos x).mpr ⟨y, hy, hxy⟩) hmx
  · rintro ⟨h1, h2⟩
    refine ⟨h1, fun x hx hmx => ?_⟩
    obtain ⟨y, hy, hxy⟩ := (hclos x).mp hx
    exact h2 ⟨y, hy, lt_iff_cause_le.mpr ⟨x, hxy, hmx⟩⟩

/-- `get_local_config()` of an event = everything below-or-equal it -/
theorem local_config_spec (e : Nat) (he : e < es.n) (x : Nat) : x ∈ localConfig pick es e ↔ Le es x e := by
  unfold localConfig
  rw [history_is_causal_closure hp hv [e] (by simpa using he)]
  simp

/-- `get_history()` = the strict causal past -/
theorem get_history_spec (e : Nat) (he : e < es.n) (x : Nat) : x ∈ getHistory pick es e ↔ Le es x e ∧ x ≠ e := by
  unfold getHistory
  rw [EventSet.mem_remove, local_config_spec hp hv e he]

/-- `a->in_history_of(b)` is the (reflexive) causal order -/
theorem in_history_of_spec (a b : Nat) (hb : b < es.n) : inHistoryOf pick es a b = true ↔ Le es a b := by
  unfold inHistoryOf historyContains
  rw [List.elem_eq_mem, decide_eq_true_eq, history_is_causal_closure hp hv [b] (by simpa using hb)]
  simp

/-- `s.contains(History(h))`: `s` holds the whole causal past of the events of `h` -/
theorem contains_history_spec (s h : EventSet) (hh : ∀ x ∈ h, x < es.n) :
    containsHistory pick es s h = true ↔ ∀ y, y ∈ h → ∀ x, Le es x y → x ∈ s := by
  unfold containsHistory
  simp only [List.all_eq_true, List.elem_eq_mem, decide_eq_true_eq, history_is_causal_closure hp hv h hh]
  exact ⟨fun H y hy x hle => H x ⟨y, hy, hle⟩, fun H x ⟨y, hy, hle⟩ => H y hy x hle⟩

end

/-- SPEC of `this # other` as `conflicts_with` computes it, in terms of the causal order only: the two events are
causally unrelated and some event in the past of one (and not of the other) is dependent with the other. -/
def Conflict (es : ES) (dep : Nat → Nat → Bool) (a b : Nat) : Prop :=
  ¬ (Le es a b ∨ Le es b a) ∧
  ((∃ e, Le es e a ∧ ¬ Le es e b ∧ dep e b = true) ∨ (∃ e, Le es e b ∧ ¬ Le es e a ∧ dep e a = true))

section
variable {pick : List Nat → Option Nat} (hp : PickOk pick) {es : ES} (hv : es.Valid) (dep : Nat → Nat → Bool)
include hp hv

theorem related_to_spec (a b : Nat) (ha : a < es.n) (hb : b < es.n) :
    relatedTo pick es a b = true ↔ Le es a b ∨ Le es b a := by
  unfold relatedTo
  rw [Bool.or_eq_true, in_history_of_spec hp hv a b hb, in_history_of_spec hp hv b a ha]

theorem conflict_spec (a b : Nat) (ha : a < es.n) (hb : b < es.n) :
    conflictsWith pick dep es a b = true ↔ Conflict es dep a b := by
  have hrs := related_to_spec hp hv a b ha hb
  unfold conflictsWith Conflict
  by_cases hrel : relatedTo pick es a b = true
  · simp only [hrel, if_true]
    constructor
    · intro h; cases h
    · rintro ⟨h, _⟩; exact absurd (hrs.mp hrel) h
  · simp only [hrel, Bool.false_eq_true, if_false]
    rw [Bool.or_eq_true, List.any_eq_true, List.any_eq_true]
    simp only [EventSet.mem_subtract, local_config_spec hp hv a ha, local_config_spec hp hv b hb, and_assoc]
    exact (and_iff_right fun h => hrel (hrs.mpr h)).symm

/-- `e->conflicts_with_any(S)` -/
theorem conflicts_with_any_spec (a : Nat) (s : EventSet) (ha : a < es.n) (hs : ∀ x ∈ s, x < es.n) :
    conflictsWithAny pick dep es a s = true ↔ ∃ e, e ∈ s ∧ Conflict es dep e a := by
  unfold conflictsWithAny
  rw [List.any_eq_true]
  exact exists_congr fun e => and_congr_right fun he => conflict_spec hp hv dep e a (hs e he) ha

/-- `is_conflict_free()` -/
theorem conflict_free_spec (s : EventSet) (hs : ∀ x ∈ s, x < es.n) :
    isConflictFree pick dep es s = true ↔ ∀ a, a ∈ s → ∀ b, b ∈ s → ¬ Conflict es dep a b := by
  unfold isConflictFree
  simp only [Bool.not_eq_true', ← Bool.not_eq_true, List.any_eq_true, not_exists, not_and]
  exact forall₂_congr fun a ha => forall₂_congr fun b hb => not_congr (conflict_spec hp hv dep a b (hs a ha) (hs b hb))

/-- **valid_configuration_iff**: `is_valid_configuration()` ⇔ causally closed ∧ conflict-free -/
theorem valid_configuration_iff (s : EventSet) (hs : ∀ x ∈ s, x < es.n) :
    isValidConfiguration pick dep es s = true ↔
      (∀ y, y ∈ s → ∀ x, Le es x y → x ∈ s) ∧ (∀ a, a ∈ s → ∀ b, b ∈ s → ¬ Conflict es dep a b) := by
  unfold isValidConfiguration
  rw [Bool.and_eq_true, conflict_free_spec hp hv dep s hs, contains_history_spec hp hv s s hs]

/-- `is_maximal()` ⇔ no event of the set is strictly below another one (the "maximal sets" the iterator enumerates) -/
theorem is_maximal_spec (s : EventSet) (hs : ∀ x ∈ s, x < es.n) :
    isMaximal pick es s = true ↔ ∀ a, a ∈ s → ∀ b, b ∈ s → ¬ Lt es a b := by
  unfold isMaximal
  simp only [EventSet.eqSet_iff, maximal_events_spec hp hv s hs, iff_self_and, not_exists, not_and]

/-- `Configuration::add_event(e)` succeeds exactly when its two preconditions hold: `e` conflicts with no event of the
configuration and the whole causal past of `e` is in it -/
theorem add_event_spec (c : EventSet) (e : Nat) (he : e < es.n) (hc : ∀ x ∈ c, x < es.n) :
    addEvent pick dep es c e = AddResult.added ↔
      e ∉ c ∧ (¬ ∃ x, x ∈ c ∧ Conflict es dep x e) ∧ ∀ x, Le es x e → x = e ∨ x ∈ c := by
  have key : addEvent pick dep es c e = AddResult.added ↔
      c.elem e = false ∧ conflictsWithAny pick dep es e c = false ∧
        containsHistory pick es (EventSet.insert c e) [e] = true := by
    unfold addEvent
    cases c.elem e <;> cases conflictsWithAny pick dep es e c <;>
      cases containsHistory pick es (EventSet.insert c e) [e] <;> decide
  rw [key, ← Bool.not_eq_true (conflictsWithAny pick dep es e c), conflicts_with_any_spec hp hv dep e c he hc,
    contains_history_spec hp hv _ [e] (by simpa using he)]
  simp only [List.elem_eq_mem, decide_eq_false_iff_not, List.mem_singleton, forall_eq, EventSet.mem_insert]
  exact ⟨fun ⟨h1, h2, h3⟩ => ⟨h1, h2, fun x hx => (h3 x hx).symm⟩, fun ⟨h1, h2, h3⟩ => ⟨h1, h2, fun x hx => (h3 x hx).symm⟩⟩

end

/-! ### non-vacuity: the corpus unfolding (two lock requests on one mutex, their waits, a join of both branches) -/

def exES : ES := ⟨[[], [], [0], [1], [0, 1]]⟩
/-- dependency matrix printed by the harness for that unfolding -/
def exDep (i j : Nat) : Bool :=
  (([[true, true, true, false, false], [true, true, false, true, false], [true, false, true, false, false],
     [false, true, false, true, false], [false, false, false, false, true]][i]?).getD [])[j]?.getD false
def pickHead (l : List Nat) : Option Nat := l.head?

theorem pickHead_ok : PickOk pickHead :=
  ⟨fun l x h => by cases l <;> simp_all [pickHead], fun l h => by cases l <;> simp_all [pickHead]⟩

theorem exES_causes (e c : Nat) (hc : c ∈ exES.causesOf e) : c < e ∧ e < 5 := by
  have he : e < 5 := by
    apply Classical.byContradiction
    intro h
    rw [ES.causesOf, List.getElem?_eq_none (Nat.le_of_not_lt h)] at hc
    cases hc
  exact ⟨(by decide : ∀ e, e < 5 → ∀ c ∈ exES.causesOf e, c < e) e he c hc, he⟩

theorem exES_valid : exES.Valid := by
  intro e c hc
  have := exES_causes e c hc
  show c < 5
  omega

/-- the closure of {2,3} is {0,1,2,3}; event 2 (wait of the first lock request) conflicts with event 1 (the competing
lock request), so {0,1,2} is causally closed but NOT a valid configuration while {0,2} is one -/
example : getAllEvents pickHead exES [2, 3] = [2, 3, 0, 1] ∧ conflictsWith pickHead exDep exES 2 1 = true ∧
    isValidConfiguration pickHead exDep exES [0, 1, 2] = false ∧
    isValidConfiguration pickHead exDep exES [0, 2] = true ∧
    getAllMaximalEvents pickHead exES [0, 2, 4] = [2, 4] := by decide

example : Conflict exES exDep 2 1 :=
  (conflict_spec pickHead_ok exES_valid exDep 2 1 (by decide) (by decide)).mp (by decide)

/-- **k-subsets**: for every `k ≥ 1` and `n`, `LazyKSubsets` (the `subsets_iterator` machine: positions `P`, backward
search, reset) yields exactly the list `combos k [0, n)` — i.e. every `k`-element subset of the `n` positions (strictly
increasing position lists) exactly once, in lexicographic order. -/
theorem k_subsets_complete_nodup (k n : Nat) (hk : 0 < k) (fuel : Nat) (hf : 2 ^ n ≤ fuel) :
    kSubsets k n fuel = combos k (List.range n) ∧ (kSubsets k n fuel).Nodup ∧
    ∀ l, l ∈ kSubsets k n fuel ↔ l.length = k ∧ l.Pairwise (· < ·) ∧ ∀ x ∈ l, x < n := by
  have hlen := combos_length_le k (List.range n)
  rw [List.length_range] at hlen
  have heq := kSubsets_eq_combos k n hk fuel (by omega)
  rw [heq]
  refine ⟨rfl, combos_nodup k _ List.nodup_range, ?_⟩
  intro l
  rw [mem_combos, sublist_range_iff]
  exact ⟨fun ⟨h, h3⟩ => ⟨h3, h⟩, fun ⟨h1, h⟩ => ⟨h, h1⟩⟩

/-- **powerset**: `powerset_iterator` yields every subset of the `n` positions exactly once (by increasing size). -/
theorem powerset_complete_nodup (n fuel : Nat) (hf : 2 ^ n ≤ fuel) :
    powerset n fuel = (List.range (n + 1)).flatMap (fun k => combos k (List.range n)) ∧ (powerset n fuel).Nodup ∧
    ∀ l, l ∈ powerset n fuel ↔ l.Pairwise (· < ·) ∧ ∀ x ∈ l, x < n := by
  rw [powerset_eq_combos n fuel hf]
  refine ⟨rfl, ?_, ?_⟩
  · show List.Pairwise _ _
    rw [List.pairwise_flatMap]
    refine ⟨fun k _ => combos_nodup k _ List.nodup_range, ?_⟩
    refine List.Pairwise.imp ?_ (List.nodup_range (n := n + 1))
    intro a b hab x hx y hy hxy
    subst hxy
    exact hab (((mem_combos _ _ _).mp hx).2.symm.trans ((mem_combos _ _ _).mp hy).2)
  · intro l
    simp only [List.mem_flatMap, List.mem_range, mem_combos, ← sublist_range_iff]
    constructor
    · rintro ⟨k, _, h, _⟩; exact h
    · intro h
      have := h.length_le
      rw [List.length_range] at this
      exact ⟨l.length, by omega, h, rfl⟩

/-- **variable_for_loop** (odometer): for every non-empty list of collection sizes it yields every tuple of positions
exactly once, in lexicographic order (nothing when a collection is empty). -/
theorem variable_for_loop_complete_nodup (sizes : List Nat) (hne : sizes ≠ []) (fuel : Nat)
    (hf : (product sizes).length ≤ fuel) :
    variableForLoop sizes fuel = product sizes ∧ (variableForLoop sizes fuel).Nodup ∧
    ∀ t, t ∈ variableForLoop sizes fuel ↔
      t.length = sizes.length ∧ ∀ i, i < sizes.length → (t[i]?).getD 0 < (sizes[i]?).getD 0 := by
  rw [variableForLoop_eq_product sizes hne fuel hf]
  exact ⟨rfl, product_nodup sizes, mem_product sizes⟩

/-- **subsets_enumerators_complete_nodup**: the three machines of src/xbt/utils/iter together. -/
theorem subsets_enumerators_complete_nodup :
    (∀ k n fuel, 0 < k → 2 ^ n ≤ fuel → (kSubsets k n fuel).Nodup ∧
      ∀ l, l ∈ kSubsets k n fuel ↔ l.length = k ∧ l.Pairwise (· < ·) ∧ ∀ x ∈ l, x < n) ∧
    (∀ n fuel, 2 ^ n ≤ fuel → (powerset n fuel).Nodup ∧
      ∀ l, l ∈ powerset n fuel ↔ l.Pairwise (· < ·) ∧ ∀ x ∈ l, x < n) ∧
    (∀ sizes fuel, sizes ≠ [] → (product sizes).length ≤ fuel → (variableForLoop sizes fuel).Nodup ∧
      ∀ t, t ∈ variableForLoop sizes fuel ↔
        t.length = sizes.length ∧ ∀ i, i < sizes.length → (t[i]?).getD 0 < (sizes[i]?).getD 0) :=
  ⟨fun k n fuel hk hf => (k_subsets_complete_nodup k n hk fuel hf).2,
   fun n fuel hf => (powerset_complete_nodup n fuel hf).2,
   fun sizes fuel hne hf => (variable_for_loop_complete_nodup sizes hne fuel hf).2⟩

example : kSubsets 2 4 16 = [[0, 1], [0, 2], [0, 3], [1, 2], [1, 3], [2, 3]] ∧
    powerset 3 8 = [[], [0], [1], [2], [0, 1], [0, 2], [1, 2], [0, 1, 2]] ∧
    variableForLoop [2, 1, 3] 6 = [[0, 0, 0], [0, 0, 1], [0, 0, 2], [1, 0, 0], [1, 0, 1], [1, 0, 2]] := by decide

section
variable {pick : List Nat → Option Nat} (hp : PickOk pick) {es : ES} (hv : es.Valid)
include hp hv

/-- **maximal_subsets_complete_nodup**: for EVERY list `ord` of distinct events in which an earlier event is never below a
later one (what `get_topological_ordering_of_reverse_graph` must deliver: effects before causes), EVERY size limit
other than 0 (the C++ `xbt_assert`s on 0) and EVERY hash order, the stack machine of `maximal_subsets_iterator` (backtrack points, `Bookkeeper::event_counts`,
`find_next_candidate_event`, `can_grow_maximal_set`)
  * is equal to the recursive depth-first enumeration `dfsL`, preceded by the empty set;
  * never yields the same list twice, yields only sub-lists of `ord`;
  * yields a sub-list `t` of `ord` iff its events are pairwise causally unrelated and it respects the size limit;
  * two yielded sets with the same elements are the same: every qualifying subset is yielded exactly once. -/
theorem maximal_subsets_complete_nodup (ord : List Nat) (hnd : ord.Nodup) (hb : ∀ x ∈ ord, x < es.n)
    (htopo : ord.Pairwise (fun x y => ¬ Le es x y)) (maxSize : Option Nat) (hm : maxSize ≠ some 0)
    (fuel : Nat) (hf : 2 ^ ord.length ≤ fuel) :
    maximalSubsets pick es ord maxSize fuel = [] :: dfsL (okLC pick es) maxSize [] ord ∧
    (maximalSubsets pick es ord maxSize fuel).Nodup ∧
    (∀ t ∈ maximalSubsets pick es ord maxSize fuel, t.Sublist ord) ∧
    (∀ t, t.Sublist ord → (t ∈ maximalSubsets pick es ord maxSize fuel ↔
        t.Pairwise (fun a b => ¬ Le es a b ∧ ¬ Le es b a) ∧ ∀ mm, maxSize = some mm → t.length ≤ mm)) ∧
    (∀ t1 ∈ maximalSubsets pick es ord maxSize fuel, ∀ t2 ∈ maximalSubsets pick es ord maxSize fuel,
        (∀ x, x ∈ t1 ↔ x ∈ t2) → t1 = t2) := by
  have hself : ∀ x ∈ ord, x ∈ localConfig pick es x :=
    fun x hx => (local_config_spec hp hv x (hb x hx) x).mpr (Le.refl x)
  have hlen := dfsL_length (okLC pick es) maxSize ord []
  have hmem := mem_nil_cons_dfsL (okLC pick es) maxSize hm ord
  have hsub : ∀ t ∈ ([] :: dfsL (okLC pick es) maxSize [] ord : List EventSet), t.Sublist ord :=
    fun t ht => ((hmem t).mp ht).1
  have hok : ∀ c e, (∀ x ∈ c, x < es.n) → (okLC pick es c e = true ↔ ∀ x ∈ c, ¬ Le es e x) := by
    intro c e hc
    unfold okLC
    simp only [List.all_eq_true, Bool.not_eq_true', List.elem_eq_mem, decide_eq_false_iff_not]
    exact forall₂_congr fun x hx => not_congr (local_config_spec hp hv x (hc x hx) e)
  rw [maximalSubsets_eq_dfsL pick es hnd hself maxSize fuel (by omega)]
  refine ⟨rfl, ?_, hsub, ?_, fun t1 h1 t2 h2 => sublist_ext hnd (hsub t1 h1) (hsub t2 h2)⟩
  · rw [List.nodup_cons]
    refine ⟨?_, dfsL_nodup _ _ _ _ hnd⟩
    rw [dfsL_eq_filter]
    intro h
    obtain ⟨s, hs, h3⟩ := List.mem_map.mp h
    exact ((mem_subs ord s).mp (List.mem_filter.mp hs).1).1 h3
  · intro t ht
    have htb : ∀ x ∈ t, x < es.n := fun x hx => hb x (ht.subset hx)
    have htt : t.Pairwise (fun x y => ¬ Le es x y) := List.Pairwise.sublist ht htopo
    rw [hmem, good_iff (okLC pick es) (Le es) (· < es.n) hok t [] (by simp) htb]
    constructor
    · rintro ⟨_, ⟨_, h2⟩, h3⟩
      exact ⟨htt.and h2, h3⟩
    · rintro ⟨h1, h3⟩
      exact ⟨ht, ⟨by simp, h1.imp And.right⟩, h3⟩

end

/-- non-vacuity: on the corpus unfolding, with the events in decreasing id order (effects before causes), the iterator
yields the 13 sets of pairwise unrelated events ({4,3,2}, {3,0}, {2,1}, … but never 2 with its cause 0) -/
example : maximalSubsets pickHead exES [4, 3, 2, 1, 0] none 40 =
    [[], [4], [4, 3], [4, 3, 2], [4, 2], [3], [3, 2], [3, 0], [2], [2, 1], [1], [1, 0], [0]] ∧
    maximalSubsets pickHead exES [4, 3, 2, 1, 0] (some 2) 40 =
    [[], [4], [4, 3], [4, 2], [3], [3, 2], [3, 0], [2], [2, 1], [1], [1, 0], [0]] := by decide +kernel

example : ([4, 3, 2, 1, 0] : List Nat).Pairwise (fun x y => ¬ Le exES x y) := by
  have key : ∀ x y, y < 5 → inHistoryOf pickHead exES x y = false → ¬ Le exES x y := by
    intro x y hy h hle
    rw [(in_history_of_spec pickHead_ok exES_valid x y hy).mpr hle] at h
    cases h
  refine List.Pairwise.imp_of_mem (R := fun x y => inHistoryOf pickHead exES x y = false) ?_ (by decide)
  intro a b _ hb h
  exact key a b (by simp at hb; omega) h

section
variable {pick : List Nat → Option Nat} (hp : PickOk pick) {order : Nat → List Nat → List Nat}
  (hord : ∀ e l, (order e l).Perm l) {es : ES} (hv : es.Valid) (hac : ∀ x, ¬ Lt es x x)
include hp hord hv hac

/-- **topological_ordering_valid**: on every ACYCLIC event structure (no event strictly below itself), for every set `s`,
every choice of `*unknown_events.begin()` and every iteration order of the immediate causes (every hash order),
`EventSet::get_topological_ordering()` — the coloured depth-first search with an explicit stack, as it is since the fix
e7a2e0d8bb — terminates without raising its cycle exception and returns a list that contains each event of `s` exactly
once in which no event comes before one of its (transitive) causes. -/
theorem topological_ordering_valid (s : EventSet) (hs : ∀ x ∈ s, x < es.n) :
    ∃ out, getTopologicalOrdering true pick order es s = .ok out ∧ out.Nodup ∧ (∀ x, x ∈ out ↔ x ∈ s) ∧
      out.Pairwise (fun a b => ¬ Lt es b a) := by
  unfold getTopologicalOrdering
  by_cases hem : s.isEmpty = true
  · have : s = [] := List.isEmpty_iff.mp hem
    subst this
    exact ⟨[], by simp, by simp, by simp, by simp⟩
  · simp only [hem, Bool.false_eq_true, if_false]
    exact topoOuter_ok hp hord hv hac hs s.length ⟨[], [], s, [], [], []⟩
      ⟨nofun, nofun, List.nodup_nil, fun x => by simp, List.Pairwise.nil, (List.filter_eq_self.mpr fun _ _ => rfl).symm,
        nofun, (fun _ _ _ _ ht => nomatch ht), nofun, nofun, nofun⟩ rfl (Nat.le_refl _)

/-- the ordering handed to `maximal_subsets_iterator` (`get_topological_ordering_of_reverse_graph`): each event of `s`
once, and an earlier event is never below-or-equal a later one (effects first) -/
theorem topological_ordering_of_reverse_graph_valid (s : EventSet) (hs : ∀ x ∈ s, x < es.n) :
    ∃ ord, getTopologicalOrderingOfReverseGraph true pick order es s = .ok ord ∧ ord.Nodup ∧ (∀ x, x ∈ ord ↔ x ∈ s) ∧
      ord.Pairwise (fun x y => ¬ Le es x y) := by
  obtain ⟨out, h1, h2, h3, h4⟩ := topological_ordering_valid hp hord hv hac s hs
  refine ⟨out.reverse, by simp [getTopologicalOrderingOfReverseGraph, h1], ?_, by simpa using h3, ?_⟩
  · show List.Pairwise _ _
    rw [List.pairwise_reverse]
    exact List.Pairwise.imp (fun h => Ne.symm h) h2
  · rw [List.pairwise_reverse]
    refine List.Pairwise.imp ?_ (List.Pairwise.and h2 h4)
    rintro a b ⟨hne, hlt⟩ hle
    rcases hle.eq_or_lt with h | h
    · exact hne h.symm
    · exact hlt h

/-- **the iterator as the C++ constructs it** (`maximal_subsets_iterator(events, nullopt, maxSize)`): the ordering computed
by the constructor satisfies the hypotheses of `maximal_subsets_complete_nodup`, hence for every set `s` of an acyclic
structure the iteration yields every subset of pairwise causally unrelated events of `s` (within the size limit) exactly
once — whatever the hash order. -/
theorem maximal_subsets_of_event_set_complete_nodup (s : EventSet) (hs : ∀ x ∈ s, x < es.n) (maxSize : Option Nat)
    (hm : maxSize ≠ some 0) (fuel : Nat) (hf : 2 ^ s.length ≤ fuel) :
    ∃ ord, getTopologicalOrderingOfReverseGraph true pick order es s = .ok ord ∧ (∀ x, x ∈ ord ↔ x ∈ s) ∧
      (maximalSubsets pick es ord maxSize fuel).Nodup ∧
      (∀ t, t.Sublist ord → (t ∈ maximalSubsets pick es ord maxSize fuel ↔
          t.Pairwise (fun a b => ¬ Le es a b ∧ ¬ Le es b a) ∧ ∀ mm, maxSize = some mm → t.length ≤ mm)) ∧
      (∀ t1 ∈ maximalSubsets pick es ord maxSize fuel, ∀ t2 ∈ maximalSubsets pick es ord maxSize fuel,
          (∀ x, x ∈ t1 ↔ x ∈ t2) → t1 = t2) := by
  obtain ⟨ord, h1, h2, h3, h4⟩ := topological_ordering_of_reverse_graph_valid hp hord hv hac s hs
  have hlen : ord.length ≤ s.length := List.Nodup.length_le_of_subset h2 (fun x hx => (h3 x).mp hx)
  have hpow : 2 ^ ord.length ≤ fuel := Nat.le_trans (Nat.pow_le_pow_right (by omega) hlen) hf
  obtain ⟨_, g2, _, g4, g5⟩ := maximal_subsets_complete_nodup hp hv ord h2 (fun x hx => hs x ((h3 x).mp hx)) h4
    maxSize hm fuel hpow
  exact ⟨ord, h1, h3, g2, g4, g5⟩

end

/-- regression (finding `topological-ordering-repeats-events-when-immediate-causes-are-related`, fixed by e7a2e0d8bb):
events 0, 1 (cause 0), 2 (causes 1 AND 0) — the code before the fix (`skipEmitted = false`) emitted event 0 twice, the
second time after its effect 1; the fixed code emits 0 1 2 -/
theorem topological_ordering_prefix_regression :
    getTopologicalOrdering false pickHead (fun _ l => l.reverse) ⟨[[], [0], [1, 0]]⟩ [2, 1, 0] = .ok [0, 1, 0, 2] ∧
    getTopologicalOrdering true pickHead (fun _ l => l.reverse) ⟨[[], [0], [1, 0]]⟩ [2, 1, 0] = .ok [0, 1, 2] := by
  decide

theorem exES_acyclic : ∀ x, ¬ Lt exES x x :=
  acyclic_of_decreasing fun e c hc => (exES_causes e c hc).1

/-- non-vacuity: the corpus unfolding is acyclic; the ordering of {2,3,4,0} computed with "first element / causes in list
order" puts 0 first, and the theorem applies to it -/
example : getTopologicalOrdering true pickHead (fun _ l => l) exES [4, 3, 2, 0] = .ok [0, 4, 3, 2] := by decide
example : ∃ out, getTopologicalOrdering true pickHead (fun _ l => l) exES [4, 3, 2, 0] = .ok out ∧ out.Nodup ∧
    (∀ x, x ∈ out ↔ x ∈ [4, 3, 2, 0]) ∧ out.Pairwise (fun a b => ¬ Lt exES b a) :=
  topological_ordering_valid pickHead_ok (fun _ l => List.Perm.refl l) exES_valid exES_acyclic [4, 3, 2, 0]
    (by decide)

end SgVerif.C44
