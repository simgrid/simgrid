import SgVerif.C44.Model
import SgVerif.Common.Fold
/-
C44 — the enumerators of src/xbt/utils/iter (`variable_for_loop`, `subsets_iterator`/`LazyKSubsets`, `powerset_iterator`)
as modelled in Model.lean are EQUAL to their recursive specifications `product` / `combos`, and what these contain.
Core-only.
-/
namespace SgVerif.C44

/-- `Chain nx s L t`: starting in `s` and applying `nx` repeatedly visits exactly the states `L` (first `s`, last `t`) -/
inductive Chain {σ : Type} (nx : σ → Option σ) : σ → List σ → σ → Prop
  | one (s : σ) : Chain nx s [s] s
  | cons {s s' : σ} {L : List σ} {t : σ} : nx s = some s' → Chain nx s' L t → Chain nx s (s :: L) t

theorem Chain.append {σ : Type} {nx : σ → Option σ} {s t u v : σ} {L1 L2 : List σ}
    (h1 : Chain nx s L1 t) (h : nx t = some u) (h2 : Chain nx u L2 v) : Chain nx s (L1 ++ L2) v := by
  induction h1 with
  | one s => exact Chain.cons h h2
  | cons hs _ ih => exact Chain.cons hs (ih h)

theorem Chain.map {σ τ : Type} {nx1 : σ → Option σ} {nx2 : τ → Option τ} (f : σ → τ)
    (hf : ∀ a b, nx1 a = some b → nx2 (f a) = some (f b)) {s t : σ} {L : List σ}
    (h : Chain nx1 s L t) : Chain nx2 (f s) (L.map f) (f t) := by
  induction h with
  | one s => exact Chain.one _
  | cons hs _ ih => exact Chain.cons (hf _ _ hs) ih

theorem Chain.ne_nil {σ : Type} {nx : σ → Option σ} {s t : σ} {L : List σ} (h : Chain nx s L t) : L ≠ [] := by
  cases h <;> simp

theorem vflGo_nil : vflIncr.go [] [] = ([], true) := by simp [vflIncr.go]

theorem vflGo_cons (s : Nat) (ss : List Nat) (c : Nat) (cs : List Nat) :
    vflIncr.go (s :: ss) (c :: cs) =
      if (vflIncr.go ss cs).2 then
        (if c + 1 == s then (0 :: (vflIncr.go ss cs).1, true) else ((c + 1) :: (vflIncr.go ss cs).1, false))
      else (c :: (vflIncr.go ss cs).1, false) := by
  rw [vflIncr.go]

theorem vflIncr_eq (sizes cur : List Nat) :
    vflIncr sizes cur = if (vflIncr.go sizes cur).2 then none else some (vflIncr.go sizes cur).1 := by
  unfold vflIncr; rfl

/-- the first and the last tuple of the odometer over collections of sizes `ss` -/
def zeros (ss : List Nat) : List Nat := ss.map (fun _ => 0)
def maxes (ss : List Nat) : List Nat := ss.map (· - 1)

theorem vflIncr_lift (s : Nat) (ss : List Nat) (i : Nat) (a b : List Nat) (h : vflIncr ss a = some b) :
    vflIncr (s :: ss) (i :: a) = some (i :: b) := by
  rw [vflIncr_eq] at h ⊢
  rw [vflGo_cons]
  split at h
  · cases h
  · rename_i hc
    simp only [hc]
    simp at h
    simp [h]

theorem vfl_chain (ss : List Nat) (hpos : ∀ s ∈ ss, 0 < s) :
    Chain (vflIncr ss) (zeros ss) (product ss) (maxes ss) ∧ vflIncr.go ss (maxes ss) = (zeros ss, true) := by
  induction ss with
  | nil => exact ⟨Chain.one _, vflGo_nil⟩
  | cons s ss ih =>
    have hs : 0 < s := hpos s (by simp)
    obtain ⟨hch, hgo⟩ := ih (fun x hx => hpos x (by simp [hx]))
    have hblock : ∀ i, Chain (vflIncr (s :: ss)) (i :: zeros ss) ((product ss).map (i :: ·)) (i :: maxes ss) :=
      fun i => Chain.map (i :: ·) (fun a b h => vflIncr_lift s ss i a b h) hch
    have hcarry : ∀ i, i + 1 < s → vflIncr (s :: ss) (i :: maxes ss) = some ((i + 1) :: zeros ss) := by
      intro i hi
      rw [vflIncr_eq, vflGo_cons, hgo]
      have : (i + 1 == s) = false := by simp; omega
      simp [this]
    -- blocks a, a+1, …, s-1
    have hrun : ∀ d a, a + d + 1 = s →
        Chain (vflIncr (s :: ss)) (a :: zeros ss)
          ((List.range' a (d + 1)).flatMap (fun i => (product ss).map (i :: ·))) ((s - 1) :: maxes ss) := by
      intro d
      induction d with
      | zero =>
        intro a ha
        have : s - 1 = a := by omega
        rw [this]
        simpa using hblock a
      | succ d ihd =>
        intro a ha
        rw [List.range'_succ, List.flatMap_cons]
        exact Chain.append (hblock a) (hcarry a (by omega)) (ihd (a + 1) (by omega))
    refine ⟨?_, ?_⟩
    · have := hrun (s - 1) 0 (by omega)
      have h2 : s - 1 + 1 = s := by omega
      rw [h2] at this
      simpa [product, zeros, maxes, List.range_eq_range'] using this
    · show vflIncr.go (s :: ss) ((s - 1) :: maxes ss) = _
      rw [vflGo_cons, hgo]
      have : (s - 1 + 1 == s) = true := by simp; omega
      simp [this, zeros]

theorem vflCollect_chain (sizes : List Nat) {c t : List Nat} {L : List (List Nat)}
    (h : Chain (vflIncr sizes) c L t) (hend : vflIncr sizes t = none) :
    ∀ (fuel : Nat) (acc : List (List Nat)), L.length ≤ fuel → vflCollect sizes fuel (some c) acc = acc.reverse ++ L := by
  induction h with
  | one s =>
    intro fuel acc hf
    cases fuel with
    | zero => simp at hf
    | succ fuel =>
      rw [vflCollect, hend]
      cases fuel <;> simp [vflCollect]
  | cons hs _ ih =>
    intro fuel acc hf
    cases fuel with
    | zero => simp at hf
    | succ fuel =>
      rw [vflCollect, hs, ih hend fuel _ (by simpa using hf)]
      simp

theorem product_nil_of_zero (ss : List Nat) (h : 0 ∈ ss) : product ss = [] := by
  induction ss with
  | nil => cases h
  | cons s ss ih =>
    rcases List.mem_cons.mp h with h | h
    · subst h; simp [product]
    · simp [product, ih h]

theorem variableForLoop_eq_product (sizes : List Nat) (hne : sizes ≠ []) (fuel : Nat)
    (hf : (product sizes).length ≤ fuel) : variableForLoop sizes fuel = product sizes := by
  unfold variableForLoop vflInit
  by_cases h0 : 0 ∈ sizes
  · have : sizes.any (· == 0) = true := by simpa using h0
    rw [product_nil_of_zero sizes h0]
    simp only [this, Bool.or_true, if_true]
    cases fuel <;> simp [vflCollect]
  · have hany : sizes.any (· == 0) = false := by
      rw [Bool.eq_false_iff]; intro h; apply h0; simpa using h
    have hemp : sizes.isEmpty = false := by cases sizes <;> simp_all
    simp only [hany, hemp, Bool.or_false, Bool.false_eq_true, if_false]
    have hpos : ∀ s ∈ sizes, 0 < s := by
      intro s hs
      rcases Nat.eq_zero_or_pos s with h | h
      · subst h; exact absurd hs h0
      · exact h
    obtain ⟨hch, hgo⟩ := vfl_chain sizes hpos
    have hend : vflIncr sizes (maxes sizes) = none := by rw [vflIncr_eq, hgo]; simp
    have := vflCollect_chain sizes hch hend fuel [] hf
    simpa [zeros] using this

theorem mem_product (ss : List Nat) (t : List Nat) :
    t ∈ product ss ↔ t.length = ss.length ∧ ∀ i, i < ss.length → (t[i]?).getD 0 < (ss[i]?).getD 0 := by
  induction ss generalizing t with
  | nil =>
    simp [product]
  | cons s ss ih =>
    simp only [product, List.mem_flatMap, List.mem_range, List.mem_map]
    constructor
    · rintro ⟨i, hi, r, hr, rfl⟩
      obtain ⟨h1, h2⟩ := (ih r).mp hr
      refine ⟨by simp [h1], ?_⟩
      intro j hj
      cases j with
      | zero => simpa using hi
      | succ j => simpa using h2 j (by simpa using hj)
    · rintro ⟨h1, h2⟩
      cases t with
      | nil => simp at h1
      | cons i r =>
        refine ⟨i, by simpa using h2 0 (by simp), r, (ih r).mpr ⟨by simpa using h1, ?_⟩, rfl⟩
        intro j hj
        simpa using h2 (j + 1) (by simpa using hj)

theorem nodup_map_cons {α : Type} (i : α) {l : List (List α)} (h : l.Nodup) : (l.map (i :: ·)).Nodup :=
  List.Pairwise.map _ (fun _ _ hab h => hab (List.cons.inj h).2) h

theorem product_nodup (ss : List Nat) : (product ss).Nodup := by
  induction ss with
  | nil => simp [product]
  | cons s ss ih =>
    simp only [product]
    show List.Pairwise _ _
    rw [List.pairwise_flatMap]
    refine ⟨fun i _ => nodup_map_cons i ih, List.Pairwise.imp ?_ (List.nodup_range (n := s))⟩
    intro a b hab x hx1 y hx2 h
    obtain ⟨r1, _, rfl⟩ := List.mem_map.mp hx1
    obtain ⟨r2, _, rfl⟩ := List.mem_map.mp hx2
    exact hab (List.cons.inj h).1

theorem getD_append (A B : List Nat) (i : Nat) :
    ((A ++ B)[i]?).getD 0 = if i < A.length then (A[i]?).getD 0 else (B[i - A.length]?).getD 0 := by
  rw [List.getElem?_append]
  split <;> rfl

theorem ext_getD {l1 l2 : List Nat} (hl : l1.length = l2.length)
    (h : ∀ i, i < l1.length → (l1[i]?).getD 0 = (l2[i]?).getD 0) : l1 = l2 := by
  apply List.ext_getElem hl
  intro i h1 h2
  have := h i h1
  simpa [List.getElem?_eq_getElem h1, List.getElem?_eq_getElem h2] using this

/-- the backward search of `increment` stops at the last position that is not "as far right as it can be" -/
theorem findL_eq (P : List Nat) (n k a : Nat)
    (hmax : ∀ j, a < j → j ≤ k - 2 → (P[j]?).getD 0 = n - (k - j))
    (hp : a = 0 ∨ (P[a]?).getD 0 ≠ n - (k - a)) : ∀ j, a ≤ j → j ≤ k - 2 → findL P n k j = a := by
  intro j
  induction j with
  | zero => intro h1 _; simp [findL]; omega
  | succ j ih =>
    intro h1 h2
    rw [findL]
    by_cases hj : j + 1 = a
    · rcases hp with h0 | hne
      · omega
      · rw [hj]; simp [hne]
    · have := hmax (j + 1) (by omega) h2
      simp only [this, bne_self_eq_false, Bool.false_eq_true, if_false]
      exact ih (by omega) (by omega)

/-- the successor computed by `increment`, `none` when the iterator reaches its end -/
def nxK (k n : Nat) (P : List Nat) : Option (List Nat) :=
  if (SubsetsIter.increment ⟨k, n, false, P⟩).ended then none else some (SubsetsIter.increment ⟨k, n, false, P⟩).P

theorem nxK_eq {k n : Nat} {P : List Nat} {it : SubsetsIter} (h : SubsetsIter.increment ⟨k, n, false, P⟩ = it) :
    nxK k n P = if it.ended then none else some it.P := by
  rw [nxK, h]

/-! The three ways through `increment` on a non-ended iterator with last position `x`: `x + 1 < n` and it just moves; or
it hits `n` and either it was the only position, or the carry goes to the position `l` found by the backward search
(`P2` = the positions after the carry) and the positions behind `l` are reset. -/

theorem increment_free (Q : List Nat) (x n : Nat) (h : x + 1 ≠ n) :
    SubsetsIter.increment ⟨Q.length + 1, n, false, Q ++ [x]⟩ = ⟨Q.length + 1, n, false, Q ++ [x + 1]⟩ := by
  simp [SubsetsIter.increment, h]

theorem increment_single (n : Nat) (h : 0 < n) :
    SubsetsIter.increment ⟨1, n, false, [n - 1]⟩ = ⟨1, n, true, [n]⟩ := by
  have : n - 1 + 1 = n := by omega
  simp [SubsetsIter.increment, this]

theorem increment_carry {k n l : Nat} {Q P2 : List Nat} (hk : k = Q.length + 1) (hn : 0 < n) (hQ : Q ≠ [])
    (hl : findL (Q ++ [n]) n k (k - 2) = l) (h2 : (Q ++ [n]).set l (((Q ++ [n])[l]?).getD 0 + 1) = P2) :
    SubsetsIter.increment ⟨k, n, false, Q ++ [n - 1]⟩ =
      if (P2[0]?).getD 0 > n - k then ⟨k, n, true, P2⟩
      else ⟨k, n, false, (List.range k).map fun i => if i ≤ l then (P2[i]?).getD 0 else (P2[l]?).getD 0 + (i - l)⟩ := by
  subst hk h2
  have h1 : n - 1 + 1 = n := by omega
  have hk0 : (Q.length + 1 == 0) = false := by simp
  have hk1 : (Q.length + 1 == 1) = false := by simpa using hQ
  simp only [SubsetsIter.increment, Nat.add_sub_cancel, List.getElem?_concat_length, Option.getD_some, h1,
    List.set_append_right _ _ (Nat.le_refl _), Nat.sub_self, List.set_cons_zero, hk0, hk1, hl, Bool.false_or,
    beq_self_eq_true, if_true, Bool.false_eq_true, if_false]

/-- the positions after a carry into position `|A|`: the prefix is kept and the rest follows the new value `q` -/
theorem reset_eq (A T : List Nat) (q : Nat) :
    ((List.range (A.length + 1 + T.length)).map fun i =>
      if i ≤ A.length then ((A ++ q :: T)[i]?).getD 0 else ((A ++ q :: T)[A.length]?).getD 0 + (i - A.length))
      = A ++ List.range' q (T.length + 1) := by
  refine ext_getD (by simp; omega) fun i hi => ?_
  simp only [List.length_map, List.length_range] at hi
  rw [List.getElem?_map, List.getElem?_range hi, Option.map_some, Option.getD_some, getD_append, getD_append,
    getD_append]
  by_cases h1 : i < A.length
  · simp [h1, Nat.le_of_lt h1]
  · by_cases h2 : i = A.length
    · simp [h2]
    · have h3 : ¬ i ≤ A.length := by omega
      have h4 : i - A.length < T.length + 1 := by omega
      simp [h1, h3, h4]

/-- **increment is the lexicographic successor**: with the last `m ≥ 1` positions as far right as possible
(`lo … n-1`) and the position `p` before them not (or first), `p` moves one step and the others follow it; the end is
reported when that pushes the first position beyond `n - k` -/
theorem nxK_carry (A : List Nat) (p m lo n : Nat) (hm : 0 < m) (hn : lo + m = n) (hl : A = [] ∨ p + 1 < lo) :
    nxK (A.length + 1 + m) n (A ++ p :: List.range' lo m) =
      if ((A ++ [p + 1])[0]?).getD 0 > n - (A.length + 1 + m) then none else some (A ++ List.range' (p + 1) (m + 1)) := by
  obtain ⟨m, rfl⟩ : ∃ m', m = m' + 1 := ⟨m - 1, by omega⟩
  generalize hM : List.range' lo m = M
  have hMl : M.length = m := by simp [← hM]
  have hMg : ∀ d, d < m → (M[d]?).getD 0 = lo + d := by intro d hd; simp [← hM, hd]
  have hP : A ++ p :: List.range' lo (m + 1) = (A ++ p :: M) ++ [n - 1] := by
    rw [List.range'_concat, hM, Nat.one_mul, ← hn]; simp
  generalize hk : A.length + 1 + (m + 1) = k
  have hfind : findL ((A ++ p :: M) ++ [n]) n k (k - 2) = A.length := by
    apply findL_eq _ _ _ A.length
    · intro j h1 h2
      clear hl
      obtain ⟨d, rfl⟩ : ∃ d, j = A.length + (d + 1) := ⟨j - A.length - 1, by omega⟩
      have hd : d < m := by omega
      rw [List.append_assoc, getD_append, if_neg (Nat.not_lt.mpr (Nat.le_add_right _ _)), Nat.add_sub_cancel_left,
        List.cons_append, List.getElem?_cons_succ, List.getElem?_append_left (hMl ▸ hd), hMg d hd]
      omega
    · rcases hl with rfl | h
      · exact Or.inl rfl
      · right; simp; omega
    · omega
    · omega
  have hset : ((A ++ p :: M) ++ [n]).set A.length ((((A ++ p :: M) ++ [n])[A.length]?).getD 0 + 1)
      = A ++ (p + 1) :: (M ++ [n]) := by simp
  have h0 : ((A ++ (p + 1) :: (M ++ [n]))[0]?).getD 0 = ((A ++ [p + 1])[0]?).getD 0 := by cases A <;> rfl
  have hr := reset_eq A (M ++ [n]) (p + 1)
  simp only [List.length_append, List.length_cons, List.length_nil, hMl, hk] at hr
  rw [hP, nxK_eq (increment_carry (by simp [hMl, ← hk]; omega) (by omega) (by simp) hfind hset), h0, hr]
  split <;> simp [*]

theorem incr_shape (A : List Nat) (p m hi n : Nat) (hn : hi + m = n) (hp : p + 1 < hi)
    (hA : ((A ++ [p + 1])[0]?).getD 0 + (A.length + 1 + m) ≤ n) :
    nxK (A.length + 1 + m) n (A ++ p :: List.range' hi m) = some (A ++ List.range' (p + 1) (m + 1)) := by
  cases m with
  | zero => exact (nxK_eq (increment_free A p n (by omega))).trans rfl
  | succ m => rw [nxK_carry A p (m + 1) hi n (by omega) hn (Or.inr hp), if_neg (by omega)]

theorem incr_last (k n : Nat) (hk : 0 < k) (hkn : k ≤ n) : nxK k n (List.range' (n - k) k) = none := by
  obtain ⟨m, rfl⟩ : ∃ m, k = m + 1 := ⟨k - 1, by omega⟩
  cases m with
  | zero => exact (nxK_eq (increment_single n hkn)).trans rfl
  | succ m =>
    have h := nxK_carry [] (n - (m + 1 + 1)) (m + 1) (n - (m + 1 + 1) + 1) n (by omega) (by omega) (Or.inl rfl)
    rw [List.length_nil, Nat.zero_add, Nat.add_comm 1, List.nil_append, ← List.range'_succ] at h
    exact h.trans (if_pos (by simp))

theorem mem_combos (k : Nat) (xs l : List Nat) : l ∈ combos k xs ↔ l.Sublist xs ∧ l.length = k := by
  induction xs generalizing k l with
  | nil =>
    cases k with
    | zero => simp [combos]
    | succ k =>
      simp only [combos, List.not_mem_nil, false_iff, List.sublist_nil]
      rintro ⟨rfl, h⟩; simp at h
  | cons x r ih =>
    cases k with
    | zero =>
      simp only [combos, List.mem_singleton]
      constructor
      · rintro rfl; simp
      · rintro ⟨_, h⟩; exact List.length_eq_zero_iff.mp h
    | succ k =>
      simp only [combos, List.mem_append, List.mem_map, ih, List.sublist_cons_iff]
      constructor
      · rintro (⟨l', ⟨h1, h2⟩, rfl⟩ | ⟨h1, h2⟩)
        · exact ⟨Or.inr ⟨l', rfl, h1⟩, by simp [h2]⟩
        · exact ⟨Or.inl h1, h2⟩
      · rintro ⟨h1 | ⟨l', rfl, h1⟩, h2⟩
        · exact Or.inr ⟨h1, h2⟩
        · exact Or.inl ⟨l', ⟨h1, by simpa using h2⟩, rfl⟩

theorem combos_short (k : Nat) (xs : List Nat) (h : xs.length < k) : combos k xs = [] :=
  List.eq_nil_iff_forall_not_mem.mpr fun l hl => by
    obtain ⟨hs, hk⟩ := (mem_combos k xs l).mp hl
    have := hs.length_le
    omega

/-- started on the first `j`-subset of `[lo, n)` behind a fixed prefix `A`, the iterator visits `A ++ c` for every `c` of
`combos j [lo, n)` in order and stops on the last one (`n-j … n-1`, written `lo+e … ` with `j + e = n - lo`) -/
theorem kchain (n : Nat) : ∀ (d j e lo : Nat) (A : List Nat), lo + d = n → j + e = d →
    ((A ++ [lo])[0]?).getD 0 + (A.length + j) ≤ n →
    Chain (nxK (A.length + j) n) (A ++ List.range' lo j) ((combos j (List.range' lo d)).map (A ++ ·))
      (A ++ List.range' (lo + e) j) := by
  intro d
  induction d with
  | zero =>
    intro j e lo A _ hj _
    have : j = 0 := by omega
    subst this
    simpa [combos] using Chain.one (nx := nxK (A.length + 0) n) A
  | succ d ih =>
    intro j e lo A hd hj hA
    cases j with
    | zero => simpa [combos] using Chain.one (nx := nxK (A.length + 0) n) A
    | succ j =>
      rw [List.range'_succ (s := lo) (n := d), combos, List.map_append, List.map_map]
      have hlen : (A ++ [lo]).length + j = A.length + (j + 1) := by simp; omega
      have hA1 : ((A ++ [lo] ++ [lo + 1])[0]?).getD 0 + ((A ++ [lo]).length + j) ≤ n := by
        rw [List.getElem?_append_left (by simp), hlen]
        exact hA
      have h1 := ih j e (lo + 1) (A ++ [lo]) (by omega) (by omega) hA1
      have hs : ∀ s, A ++ [lo] ++ List.range' (s + 1) j = A ++ lo :: List.range' (s + 1) j := by simp
      have hf : ((fun x => A ++ x) ∘ fun x => lo :: x) = fun x => A ++ [lo] ++ x := by
        funext x; simp
      rw [hlen, hs, ← List.range'_succ] at h1
      rw [hf]
      cases e with
      | zero =>
        rw [combos_short (j + 1) (List.range' (lo + 1) d) (by simp; omega)]
        simpa [List.range'_succ] using h1
      | succ e =>
        have hA2 : ((A ++ [lo + 1])[0]?).getD 0 + (A.length + (j + 1)) ≤ n := by
          cases A with
          | nil => simp; omega
          | cons a A => exact hA
        have h2 := ih (j + 1) e (lo + 1) A (by omega) (by omega) hA2
        have hstep := incr_shape A lo j (lo + 1 + (e + 1)) n (by omega) (by omega) (by omega)
        rw [show A.length + 1 + j = A.length + (j + 1) by omega, List.append_cons] at hstep
        rw [show lo + 1 + e = lo + (e + 1) by omega] at h2
        exact Chain.append h1 hstep h2

theorem kcollect_ended (fuel : Nat) (it : SubsetsIter) (acc : List (List Nat)) (h : it.ended = true) :
    SubsetsIter.collect fuel it acc = acc.reverse := by
  cases fuel <;> simp [SubsetsIter.collect, SubsetsIter.atEnd, h]

/-- `increment` touches only `ended` and `P`: every leaf of its tree of `if`s is the iterator with these two updated -/
theorem incr_eta (it : SubsetsIter) : it.increment = ⟨it.k, it.n, it.increment.ended, it.increment.P⟩ := by
  let p (r : SubsetsIter) : Prop := r = ⟨it.k, it.n, r.ended, r.P⟩
  exact ite_pred p rfl (ite_pred p (ite_pred p rfl (ite_pred p rfl rfl)) rfl)

theorem nxK_some {k n : Nat} {P P' : List Nat} (h : nxK k n P = some P') :
    SubsetsIter.increment ⟨k, n, false, P⟩ = ⟨k, n, false, P'⟩ := by
  rw [incr_eta]
  unfold nxK at h
  split at h
  · cases h
  · rename_i hne
    rw [Bool.eq_false_iff.mpr hne, Option.some.inj h]

theorem nxK_none {k n : Nat} {P : List Nat} (h : nxK k n P = none) :
    (SubsetsIter.increment ⟨k, n, false, P⟩).ended = true := by
  unfold nxK at h
  split at h
  · assumption
  · cases h

theorem kcollect_chain (k n : Nat) (hk : k ≠ 0) {P Q : List Nat} {L : List (List Nat)}
    (h : Chain (nxK k n) P L Q) (hend : nxK k n Q = none) :
    ∀ (fuel : Nat) (acc : List (List Nat)), L.length ≤ fuel →
      SubsetsIter.collect fuel ⟨k, n, false, P⟩ acc = acc.reverse ++ L := by
  have hstep : ∀ fuel P acc, SubsetsIter.collect (fuel + 1) ⟨k, n, false, P⟩ acc =
      SubsetsIter.collect fuel (SubsetsIter.increment ⟨k, n, false, P⟩) (P :: acc) := by
    intro fuel P acc
    rw [SubsetsIter.collect, SubsetsIter.atEnd, if_neg (by simpa using hk)]
  induction h with
  | one s =>
    intro fuel acc hf
    cases fuel with
    | zero => simp at hf
    | succ fuel => rw [hstep, kcollect_ended _ _ _ (nxK_none hend)]; simp
  | cons hs _ ih =>
    intro fuel acc hf
    cases fuel with
    | zero => simp at hf
    | succ fuel => rw [hstep, nxK_some hs, ih hend fuel _ (by simpa using hf)]; simp

theorem kSubsets_eq_combos (k n : Nat) (hk : 0 < k) (fuel : Nat) (hf : (combos k (List.range n)).length ≤ fuel) :
    kSubsets k n fuel = combos k (List.range n) := by
  unfold kSubsets SubsetsIter.init
  by_cases hkn : n < k
  · simp only [hkn, if_true]
    rw [kcollect_ended _ _ _ rfl, combos_short k _ (by simpa using hkn)]
    rfl
  · simp only [hkn, if_false]
    have hch := kchain n n k (n - k) 0 [] (by omega) (by omega) (by simp; omega)
    have hend := incr_last k n hk (by omega)
    simp only [List.length_nil, Nat.zero_add, List.nil_append] at hch
    rw [List.map_id'] at hch
    simp only [List.range_eq_range'] at hf ⊢
    have := kcollect_chain k n (by omega) hch hend fuel [] hf
    simpa using this

theorem combos_length_le (k : Nat) (xs : List Nat) : (combos k xs).length ≤ 2 ^ xs.length := by
  induction xs generalizing k with
  | nil => cases k <;> simp [combos]
  | cons x r ih =>
    cases k with
    | zero => simp [combos]; exact Nat.one_le_two_pow
    | succ k =>
      simp only [combos, List.length_append, List.length_map, List.length_cons, Nat.pow_succ]
      have := ih k; have := ih (k + 1); omega

theorem powerset_eq_combos (n fuel : Nat) (hf : 2 ^ n ≤ fuel) :
    powerset n fuel = (List.range (n + 1)).flatMap (fun k => combos k (List.range n)) := by
  unfold powerset
  rw [List.range_succ_eq_map, List.flatMap_cons, List.flatMap_map]
  have h0 : combos 0 (List.range n) = [[]] := by simp [combos]
  rw [h0, List.flatMap_def]
  congr 2
  apply List.map_congr_left
  intro k _
  apply kSubsets_eq_combos _ _ (by omega)
  have := combos_length_le (k + 1) (List.range n)
  simp at this; omega

theorem combos_nodup (k : Nat) (xs : List Nat) (hx : xs.Nodup) : (combos k xs).Nodup := by
  induction xs generalizing k with
  | nil => cases k <;> simp [combos]
  | cons x r ih =>
    cases k with
    | zero => simp [combos]
    | succ k =>
      have hx' := List.nodup_cons.mp hx
      simp only [combos]
      rw [List.nodup_append]
      refine ⟨nodup_map_cons x (ih k hx'.2), ih (k + 1) hx'.2, ?_⟩
      intro a ha b hb hab
      subst hab
      obtain ⟨l', _, rfl⟩ := List.mem_map.mp ha
      have := ((mem_combos _ _ _).mp hb).1
      exact hx'.1 (this.subset (by simp))

theorem sublist_range'_iff (l : List Nat) (lo d : Nat) :
    l.Sublist (List.range' lo d) ↔ l.Pairwise (· < ·) ∧ ∀ x ∈ l, lo ≤ x ∧ x < lo + d := by
  constructor
  · intro h
    exact ⟨List.Pairwise.sublist h List.pairwise_lt_range', fun y hy => List.mem_range'_1.mp (h.subset hy)⟩
  · rintro ⟨hp, hb⟩
    -- `l` and the elements of the range that are in `l` are increasing lists with the same elements: they are equal
    have hperm : ((List.range' lo d).filter (· ∈ l)).Perm l :=
      (List.perm_ext_iff_of_nodup (List.Pairwise.filter _ List.nodup_range') (hp.imp Nat.ne_of_lt)).mpr fun x => by
        rw [List.mem_filter, List.mem_range'_1, decide_eq_true_eq]
        exact ⟨And.right, fun hx => ⟨hb x hx, hx⟩⟩
    rw [← hperm.eq_of_pairwise (le := (· < ·)) (fun a b _ _ h1 h2 => absurd h1 (Nat.lt_asymm h2))
      (List.Pairwise.filter _ List.pairwise_lt_range') hp]
    exact List.filter_sublist

theorem sublist_range_iff (l : List Nat) (n : Nat) :
    l.Sublist (List.range n) ↔ l.Pairwise (· < ·) ∧ ∀ x ∈ l, x < n := by
  rw [List.range_eq_range', sublist_range'_iff]
  exact and_congr_right fun _ => forall₂_congr fun x _ => by omega

end SgVerif.C44
