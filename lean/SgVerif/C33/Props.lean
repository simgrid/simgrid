import SgVerif.C33.Lemmas
/-
C33 — Cartesian topologies follow MPI rules.  Property theorems.
Every theorem is for ANY number of dimensions, ANY sizes ≥ 1, ANY periodicity pattern, any rank / coordinates /
displacement (an unbounded `Int`): no enumeration.  `decide` is used only for the `_counterexample`s and the concrete
instances at the end (one witness each).
-/
namespace SgVerif.C33

/-- the state of the `Topo_Cart` object of process `me` of a Cartesian communicator as `Topo_Cart::Topo_Cart` leaves it
(see `ctor_wf`): sizes ≥ 1, `nnodes_` = their product, `position_` = `coords(me)` -/
structure Cart.WF (t : Cart) (me : Int) : Prop where
  valid : ValidDims t.dims
  plen : t.periodic.length = t.dims.length
  nn : t.nnodes = prod t.dims
  me0 : 0 ≤ me
  me1 : me < t.nnodes
  pos : t.coords me = .ok t.position

theorem ctor_wf (me : Int) (dims : List Int) (periods : List Bool) (hv : ValidDims dims) (hne : dims ≠ [])
    (hp : periods.length = dims.length) (h0 : 0 ≤ me) (h1 : me < prod dims) :
    ∃ t, ctor me dims periods = .ok (t, true) ∧ t.WF me ∧ t.dims = dims ∧ t.periodic = periods := by
  obtain ⟨cs, hcs, _, _⟩ := coordsGo_spec hv h0 h1
  refine ⟨{ nnodes := prod dims, dims := dims, periodic := periods, position := cs }, ?_, ?_, rfl, rfl⟩
  · unfold ctor
    have : dims.length ≠ 0 := by cases dims <;> simp at hne ⊢
    rw [if_pos this]
    simp only
    rw [if_neg (by omega), hcs]
  · exact ⟨hv, hp, rfl, h0, h1, hcs⟩

/-- **Cart_rank ∘ Cart_coords = id**: for every rank of the grid, `coords` succeeds, gives in-range coordinates, and
`rank` maps them back to the rank -/
theorem coords_rank_inverse (t : Cart) (hv : ValidDims t.dims) (hp : t.periodic.length = t.dims.length)
    (hn : t.nnodes = prod t.dims) (r : Int) (h0 : 0 ≤ r) (h1 : r < t.nnodes) :
    ∃ cs, t.coords r = .ok cs ∧ InRange t.dims cs ∧ t.rank cs = .ok r := by
  rw [hn] at h1
  obtain ⟨cs, hcs, hin, hrm⟩ := coordsGo_spec hv h0 h1
  refine ⟨cs, by unfold Cart.coords; rw [hn, hcs], hin, ?_⟩
  unfold Cart.rank
  rw [rankAux_ok hv (coordsOk_of_inRange hp hin), wrap_inRange hin, hrm]

/-- **Cart_coords ∘ Cart_rank = wrap-around**: for every coordinate vector that is in range on the non-periodic
dimensions (anything on the periodic ones, negative included), `rank` succeeds with a rank of the grid whose
coordinates are the given ones reduced modulo the size on each dimension -/
theorem rank_coords_inverse (t : Cart) (hv : ValidDims t.dims) (hn : t.nnodes = prod t.dims) (cs : List Int)
    (hok : coordsOk t.dims t.periodic cs = true) :
    ∃ r, t.rank cs = .ok r ∧ 0 ≤ r ∧ r < t.nnodes ∧ t.coords r = .ok (wrap t.dims cs) := by
  have hin := inRange_wrap hv (coordsOk_length hok)
  obtain ⟨b0, b1⟩ := rowMajor_bounds hv hin
  refine ⟨rowMajor t.dims (wrap t.dims cs), ?_, b0, by rw [hn]; exact b1, ?_⟩
  · unfold Cart.rank; rw [rankAux_ok hv hok]
  · unfold Cart.coords; rw [hn]; exact coordsGo_rowMajor hv hin

/-- out-of-range coordinate on some non-periodic dimension: `MPI_ERR_ARG`, as the code reports -/
theorem rank_rejects_out_of_range (t : Cart) (hv : ValidDims t.dims) (hp : t.periodic.length = t.dims.length)
    (cs : List Int) (hl : cs.length = t.dims.length) (hbad : coordsOk t.dims t.periodic cs = false) :
    t.rank cs = .err .arg := by
  unfold Cart.rank; rw [rankAux_err hv hl hp hbad]

/-- the two maps are inverse bijections between `[0, nnodes)` and the in-range coordinate vectors -/
theorem coords_injective (t : Cart) (hv : ValidDims t.dims) (hp : t.periodic.length = t.dims.length)
    (hn : t.nnodes = prod t.dims) (r r' : Int) (h0 : 0 ≤ r) (h1 : r < t.nnodes) (h0' : 0 ≤ r') (h1' : r' < t.nnodes)
    (h : t.coords r = t.coords r') : r = r' := by
  obtain ⟨cs, e1, _, e2⟩ := coords_rank_inverse t hv hp hn r h0 h1
  obtain ⟨cs', e1', _, e2'⟩ := coords_rank_inverse t hv hp hn r' h0' h1'
  rw [e1, e1'] at h
  injection h with h
  subst h
  rw [e2] at e2'
  injection e2'

theorem Cart.WF.inRange {t : Cart} {me : Int} (h : t.WF me) : InRange t.dims t.position := by
  obtain ⟨cs, hcs, hin, _⟩ := coords_rank_inverse t h.valid h.plen h.nn me h.me0 h.me1
  exact Res.ok.inj (hcs.symm.trans h.pos) ▸ hin

theorem shiftTarget_spec (t : Cart) (hv : ValidDims t.dims) (hp : t.periodic.length = t.dims.length)
    (pos : List Int) (hin : InRange t.dims pos) (dir : Nat) (d : Int) (per : Bool)
    (hd : t.dims[dir]? = some d) (hper : t.periodic[dir]? = some per) (c delta : Int) :
    t.shiftTarget pos dir (c + delta) d per = .ok (shiftSpec t.dims pos dir d per c delta) := by
  have hd1 : 1 ≤ d := hv d (List.mem_of_getElem? hd)
  unfold Cart.shiftTarget shiftSpec
  by_cases hout : c + delta < 0 ∨ c + delta ≥ d
  · rw [if_pos hout]
    cases per with
    | false =>
      have : ¬ (0 ≤ c + delta ∧ c + delta < d) := by omega
      simp [this]
    | true =>
      simp only [if_true]
      rw [if_neg (by omega)]
      unfold Cart.rankVal Cart.rank
      rw [rankAux_set hv hp hin dir d true _ hd hper (Or.inl rfl), tmod_emod]
  · rw [if_neg hout]
    have hr : 0 ≤ c + delta ∧ c + delta < d := by omega
    unfold Cart.rankVal Cart.rank
    rw [rankAux_set hv hp hin dir d per _ hd hper (Or.inr hr), Int.emod_eq_of_lt hr.1 hr.2]
    cases per <;> simp [hr]

/-- **Cart_shift**: for every valid direction and EVERY displacement, the destination is the process whose
coordinate in that direction is `(c + disp) mod d` when the dimension is periodic, `c + disp` when that is inside a
non-periodic dimension, and `MPI_PROC_NULL` off the edge; the source is the same with `−disp`; the other coordinates
are unchanged (`shiftSpec`: row-major rank of `position` with entry `direction` replaced). -/
theorem shift_spec (t : Cart) (me : Int) (h : t.WF me) (dir : Nat) (d : Int) (per : Bool) (c : Int)
    (hd : t.dims[dir]? = some d) (hper : t.periodic[dir]? = some per) (hc : t.position[dir]? = some c)
    (disp : Int) :
    t.shift me dir disp = .ok (shiftSpec t.dims t.position dir d per c (-disp),
                               shiftSpec t.dims t.position dir d per c disp) := by
  obtain ⟨hlen, _⟩ := List.getElem?_eq_some_iff.mp hd
  have hin := h.inRange
  unfold Cart.shift
  rw [if_neg (by omega), if_neg (by omega), hd, hper, hc, h.pos]
  simp only [hc]
  rw [shiftTarget_spec t h.valid h.plen _ hin dir d per hd hper c disp]
  simp only
  rw [Int.sub_eq_add_neg, shiftTarget_spec t h.valid h.plen _ hin dir d per hd hper c (-disp)]

/-- the destination of a shift has the coordinates MPI defines (periodic direction) -/
theorem shift_dest_coords_periodic (t : Cart) (me : Int) (h : t.WF me) (dir : Nat) (d : Int) (c : Int)
    (hd : t.dims[dir]? = some d) (hper : t.periodic[dir]? = some true) (hc : t.position[dir]? = some c)
    (disp : Int) :
    ∃ src dest, t.shift me dir disp = .ok (src, dest) ∧
      t.coords dest = .ok (t.position.set dir ((c + disp) % d)) ∧
      t.coords src = .ok (t.position.set dir ((c - disp) % d)) := by
  have hd1 : 1 ≤ d := h.valid d (List.mem_of_getElem? hd)
  have key : ∀ x : Int, t.coords (rowMajor t.dims (t.position.set dir (x % d))) = .ok (t.position.set dir (x % d)) := by
    intro x
    rw [Cart.coords, h.nn]
    exact coordsGo_rowMajor h.valid
      (inRange_set h.inRange dir d _ hd (Int.emod_nonneg _ (by omega)) (Int.emod_lt_of_pos _ (by omega)))
  refine ⟨_, _, shift_spec t me h dir d true c hd hper hc disp, ?_, ?_⟩
  · simp only [shiftSpec, if_true]; exact key _
  · simp only [shiftSpec, if_true, ← Int.sub_eq_add_neg]; exact key _

/-- **given entries are respected** (unconditionally): the result has the same length and every non-zero entry of
the input is unchanged -/
theorem dims_create_respects_given (nnodes : Int) (dims out : List Int) (h : dimsCreate nnodes dims = .ok out) :
    Respects dims out := by
  obtain ⟨_, fp, _, ht⟩ := dimsCreate_ok h
  exact (dimsCreateTail_spec dims fp out ht).1

/-
FULL STATEMENT (MPI 3.1 §7.5.2; FALSE on the code before /repo 94be97b7b9, which `dimsCreate` models: see
`dims_create_product_counterexample`):
  theorem dims_create_product (nnodes) (dims out) (h : dimsCreate nnodes dims = .ok out) : prod out = nnodes
  theorem dims_create_rejects (nnodes ≥ 1) (dims) (h : ¬ prodGiven dims ∣ nnodes) : dimsCreate nnodes dims = .err .dims
That code tested `nnodes % dims[i]` for each given entry separately, not the product of the given entries.
-/

/-- **product = nnodes**, proved under the exact excluding hypothesis: the product of the given entries divides
`nnodes` (which is what MPI requires of the caller; otherwise the call is erroneous and must be rejected) -/
theorem dims_create_product_partial (nnodes : Int) (dims out : List Int) (hdvd : prodGiven dims ∣ nnodes)
    (h : dimsCreate nnodes dims = .ok out) : prod out = nnodes := by
  obtain ⟨hn, fp, hs, ht⟩ := dimsCreate_ok h
  obtain ⟨e1, e2⟩ := (scanGiven_spec _ _ _ _ _ _ hs).2 hn hdvd
  rw [(dimsCreateTail_spec dims fp out ht).2 e2, Int.mul_comm, e1]

/-- the defect: each given entry divides `nnodes`, their product does not, and the call succeeds with a grid of
8 processes for 12 nodes -/
theorem dims_create_product_counterexample :
    dimsCreate 12 [4, 2, 0] = .ok [4, 2, 1] ∧ prod [4, 2, 1] ≠ 12 ∧ ¬ (prodGiven [4, 2, 0] ∣ 12) := by
  refine ⟨by decide, by decide, ?_⟩
  show ¬ ((8 : Int) ∣ 12)
  omega

/-- with proposed_fix.diff (`freeprocs % dims[i]`) the full statement holds: success ⇒ product = nnodes … -/
theorem dims_create_product_fixed (nnodes : Int) (dims out : List Int)
    (h : dimsCreateFixed nnodes dims = .ok out) : prod out = nnodes ∧ Respects dims out := by
  unfold dimsCreateFixed at h
  split at h
  · cases h
  · rename_i hc
    split at h
    · rename_i fp fd hs
      obtain ⟨e1, e2, hfd⟩ := scanGivenFixed_spec _ _ _ _ _ (by omega) hs
      simp only [Nat.zero_add] at hfd
      subst hfd
      obtain ⟨b, a⟩ := dimsCreateTail_spec dims fp out h
      exact ⟨by rw [a e2, Int.mul_comm, e1], b⟩
    · cases h
    · cases h

theorem scanGiven_negative (n : Int) (ds : List Int) (d : Int) (hd : d ∈ ds) (hneg : d < 0) (fp : Int) (fd : Nat) :
    scanGiven n fp fd ds = .err .dims := by
  induction ds generalizing fp fd with
  | nil => simp at hd
  | cons x xs ih =>
    rw [scanGiven]
    rcases List.mem_cons.mp hd with e | e
    · subst e
      rw [if_neg (by omega), if_pos (Or.inl hneg)]
    · split
      · exact ih e _ _
      · split
        · rfl
        · exact ih e _ _

/-- a negative given entry is always rejected with `MPI_ERR_DIMS` -/
theorem dims_create_rejects_negative (nnodes : Int) (dims : List Int) (d : Int) (hd : d ∈ dims) (hneg : d < 0) :
    dimsCreate nnodes dims = .err .dims := by
  unfold dimsCreate
  split
  · rfl
  · rw [scanGiven_negative nnodes dims d hd hneg]

/-
FULL STATEMENT (FALSE on the code before /repo 5891eea10f, which `Cart.subTopo` models: see `cart_sub_counterexample`):
  theorem cart_sub_keeps_dims (t) (me) (h : t.WF me) (remain) (hlen : remain.length = t.dims.length) (hk : keep remain t.dims ≠ []) :
      ∃ t', t.subTopo me remain = .ok (t', true) ∧ t'.dims = keep remain t.dims ∧ t'.periodic = keep remain t.periodic
            ∧ t'.coords (rank of me in the new communicator) = .ok t'.position
`Topo_Cart::sub` built the new topology object with the PARENT communicator, so `comm_old->rank()` was the rank in the
parent: for parent ranks ≥ the size of the sub-grid the object keeps `dims_ = 0…0`, `nnodes_ = 0`.
-/

theorem validDims_keep (remain : List Bool) (ds : List Int) (hv : ValidDims ds) : ValidDims (keep remain ds) := by
  induction remain generalizing ds with
  | nil => intro d hd; simp [keep] at hd
  | cons r rs ih =>
    cases ds with
    | nil => intro d hd; simp [keep] at hd
    | cons x xs =>
      obtain ⟨hx, hxs⟩ := validDims_cons hv
      rw [keep]
      split
      · exact List.forall_mem_cons.mpr ⟨hx, ih xs hxs⟩
      · exact ih xs hxs

theorem keep_length {α β : Type} (remain : List Bool) (xs : List α) (ys : List β) (h : xs.length = ys.length) :
    (keep remain xs).length = (keep remain ys).length := by
  induction remain generalizing xs ys with
  | nil => rfl
  | cons r rs ih =>
    cases xs with
    | nil => cases ys with
      | nil => rfl
      | cons => cases h
    | cons x xs => cases ys with
      | nil => cases h
      | cons y ys =>
        have := ih xs ys (Nat.succ.inj h)
        cases r
        · exact this
        · exact congrArg Nat.succ this

/-- with proposed_fix.diff (the constructor is given the NEW communicator, so the rank is the one in it, which is
`< Π kept dims` because the new communicator has exactly that many members) the full statement holds -/
theorem cart_sub_keeps_dims_fixed (t : Cart) (me : Int) (h : t.WF me) (remain : List Bool)
    (hk : keep remain t.dims ≠ []) (newRank : Int) (h0 : 0 ≤ newRank) (h1 : newRank < prod (keep remain t.dims)) :
    ∃ t', t.subTopoFixed newRank remain = .ok (t', true) ∧ t'.dims = keep remain t.dims ∧
      t'.periodic = keep remain t.periodic ∧ t'.WF newRank := by
  obtain ⟨t', e, wf, a, b⟩ := ctor_wf newRank (keep remain t.dims) (keep remain t.periodic)
    (validDims_keep remain t.dims h.valid) hk (keep_length remain _ _ h.plen) h0 h1
  exact ⟨t', e, a, b, wf⟩

/-- **Cart_sub keeps the selected dimensions** — proved for the processes whose rank in the parent is smaller than
the size of the sub-grid (`me < Π kept dims`); the sizes and periodicities of the kept dimensions are copied in order -/
theorem cart_sub_keeps_dims_partial (t : Cart) (me : Int) (h : t.WF me) (remain : List Bool)
    (hk : keep remain t.dims ≠ []) (hsmall : me < prod (keep remain t.dims)) :
    ∃ t', t.subTopo me remain = .ok (t', true) ∧ t'.dims = keep remain t.dims ∧
      t'.periodic = keep remain t.periodic ∧ t'.WF me :=
  -- `subTopo` and `subTopoFixed` are the same constructor call; only the meaning of the rank passed differs
  cart_sub_keeps_dims_fixed t me h remain hk me h.me0 hsmall

/-- the defect: 2×3 grid, keep dimension 0 (columns of 2 processes): parent rank 2 gets a topology with `dims = [0]` -/
theorem cart_sub_counterexample :
    ∃ t, ctor 2 [2, 3] [false, true] = .ok (t, true) ∧
      t.subTopo 2 [true, false] = .ok ({ nnodes := 0, dims := [0], periodic := [false], position := [0] }, false) := by
  refine ⟨{ nnodes := 6, dims := [2, 3], periodic := [false, true], position := [0, 2] }, by decide, by decide⟩

def ex3 : Cart := { nnodes := 24, dims := [2, 3, 4], periodic := [true, false, true], position := [1, 1, 3] }

theorem ex3_wf : ex3.WF 19 :=
  ⟨by intro d hd; simp [ex3] at hd; omega, rfl, by decide, by decide, by decide, by decide⟩

example : ex3.coords 19 = .ok [1, 1, 3] ∧ ex3.rank [1, 1, 3] = .ok 19 := by decide
example : coordsOk ex3.dims ex3.periodic [-1, 2, 9] = true ∧ ex3.rank [-1, 2, 9] = .ok 21 ∧
    ex3.coords 21 = .ok [1, 2, 1] := by decide
example : coordsOk ex3.dims ex3.periodic [0, 3, 0] = false ∧ ex3.rank [0, 3, 0] = .err .arg := by decide
-- periodic wrap and non-periodic edge, negative and large displacements
example : ex3.shift 19 2 (-7) = .ok (18, 16) ∧ ex3.shift 19 1 2 = .ok (PROC_NULL, PROC_NULL) ∧
    ex3.shift 19 1 1 = .ok (15, 23) ∧ ex3.shift 19 0 3 = .ok (7, 7) := by decide
example : dimsCreate 12 [0, 6, 2] = .ok [1, 6, 2] ∧ prodGiven [0, 6, 2] ∣ 12 := ⟨by decide, ⟨1, by decide⟩⟩
example : dimsCreateFixed 12 [4, 2, 0] = .err .dims ∧ dimsCreateFixed 12 [0, 6, 2] = .ok [1, 6, 2] := by decide
example : ex3.subTopo 19 [false, true, true] =
    .ok ({ nnodes := 0, dims := [0, 0], periodic := [false, false], position := [0, 0] }, false) := by decide
example : ex3.subTopo 7 [false, true, true] =
    .ok ({ nnodes := 12, dims := [3, 4], periodic := [false, true], position := [1, 3] }, true) := by decide

end SgVerif.C33
