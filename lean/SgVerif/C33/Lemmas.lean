import SgVerif.C33.Model
/-
C33 — helper lemmas (mixed-radix arithmetic, list bookkeeping, the factorisation loops).
-/
namespace SgVerif.C33

/-- every dimension has at least one node -/
def ValidDims (ds : List Int) : Prop := ∀ d ∈ ds, 1 ≤ d

/-- coordinates of the right length, each in `[0, d)` -/
def InRange : List Int → List Int → Prop
  | d :: ds, c :: cs => 0 ≤ c ∧ c < d ∧ InRange ds cs
  | [], [] => True
  | _, _ => False

theorem InRange.ind {motive : (ds cs : List Int) → InRange ds cs → Prop} (nil : motive [] [] trivial)
    (cons : ∀ {d c ds cs} (h0 : 0 ≤ c) (h1 : c < d) (h : InRange ds cs), motive ds cs h →
      motive (d :: ds) (c :: cs) ⟨h0, h1, h⟩) :
    ∀ {ds cs} (h : InRange ds cs), motive ds cs h
  | [], [], _ => nil
  | _ :: _, _ :: _, h => cons h.1 h.2.1 h.2.2 (InRange.ind nil cons h.2.2)
  | [], _ :: _, h => h.elim
  | _ :: _, [], h => h.elim

theorem validDims_cons {d : Int} {ds : List Int} (h : ValidDims (d :: ds)) : 1 ≤ d ∧ ValidDims ds :=
  List.forall_mem_cons.mp h

theorem prod_pos {ds : List Int} (h : ValidDims ds) : 0 < prod ds := by
  induction ds with
  | nil => simp [prod]
  | cons d ds ih =>
    obtain ⟨hd, hds⟩ := validDims_cons h
    have := ih hds
    simp only [prod]
    exact Int.mul_pos (by omega) this

theorem divmod_radix {c P s : Int} (hs0 : 0 ≤ s) (hsP : s < P) :
    (c * P + s) / P = c ∧ (c * P + s) % P = s := by
  have hP : 0 < P := by omega
  rw [Int.ediv_emod_unique hP]
  refine ⟨?_, hs0, hsP⟩
  rw [Int.mul_comm]; omega

theorem rowMajor_bounds {ds cs : List Int} (hv : ValidDims ds) (h : InRange ds cs) :
    0 ≤ rowMajor ds cs ∧ rowMajor ds cs < prod ds := by
  induction h using InRange.ind with
  | nil => exact ⟨Int.le_refl 0, Int.one_pos⟩
  | @cons d c ds cs hc0 hcd _ ih =>
    obtain ⟨hd, hds⟩ := validDims_cons hv
    obtain ⟨h0, h1⟩ := ih hds
    have hP := prod_pos hds
    simp only [rowMajor, prod]
    have e1 : 0 ≤ c * prod ds := Int.mul_nonneg hc0 (by omega)
    have e2 : (c + 1) * prod ds ≤ d * prod ds := Int.mul_le_mul_of_nonneg_right (by omega) (by omega)
    have e3 : (c + 1) * prod ds = c * prod ds + prod ds := by rw [Int.add_mul]; omega
    omega

theorem coordsGo_cons {d : Int} {ds cs : List Int} (hv : ValidDims (d :: ds)) {r : Int} (h0 : 0 ≤ r)
    (h : coordsGo (prod ds) (r % prod ds) ds = .ok cs) :
    coordsGo (prod (d :: ds)) r (d :: ds) = .ok (r / prod ds :: cs) := by
  obtain ⟨hd, hds⟩ := validDims_cons hv
  have hP := prod_pos hds
  have hnn : (prod (d :: ds)).tdiv d = prod ds := by
    rw [prod, Int.mul_tdiv_cancel_left _ (by omega)]
  rw [coordsGo]
  simp only [hnn]
  rw [if_neg (by omega), if_neg (by omega), Int.tmod_eq_emod_of_nonneg h0, Int.tdiv_eq_ediv_of_nonneg h0, h]

/-- `coords` computes the mixed-radix digits of the row-major rank: this direction, and `coordsGo_rowMajor` the other -/
theorem coordsGo_spec {ds : List Int} (hv : ValidDims ds) {r : Int} (h0 : 0 ≤ r) (h1 : r < prod ds) :
    ∃ cs, coordsGo (prod ds) r ds = .ok cs ∧ InRange ds cs ∧ rowMajor ds cs = r := by
  induction ds generalizing r with
  | nil => exact ⟨[], by simp [coordsGo], by simp [InRange], by simp [rowMajor, prod] at *; omega⟩
  | cons d ds ih =>
    obtain ⟨hd, hds⟩ := validDims_cons hv
    have hP := prod_pos hds
    have hm0 : 0 ≤ r % prod ds := Int.emod_nonneg _ (by omega)
    have hm1 : r % prod ds < prod ds := Int.emod_lt_of_pos _ hP
    obtain ⟨cs, hcs, hin, hrm⟩ := ih hds hm0 hm1
    refine ⟨r / prod ds :: cs, coordsGo_cons hv h0 hcs, ?_, ?_⟩
    · refine ⟨Int.ediv_nonneg h0 (by omega), ?_, hin⟩
      apply Int.ediv_lt_of_lt_mul hP
      simpa [prod] using h1
    · simp only [rowMajor, hrm]
      exact Int.ediv_mul_add_emod r (prod ds)

theorem coordsGo_rowMajor {ds cs : List Int} (hv : ValidDims ds) (h : InRange ds cs) :
    coordsGo (prod ds) (rowMajor ds cs) ds = .ok cs := by
  induction h using InRange.ind with
  | nil => rfl
  | @cons d c ds cs hc0 _ hr ih =>
    obtain ⟨_, hds⟩ := validDims_cons hv
    obtain ⟨b0, b1⟩ := rowMajor_bounds hds hr
    obtain ⟨q, m⟩ := divmod_radix (c := c) b0 b1
    have hnon : 0 ≤ c * prod ds + rowMajor ds cs := by
      have := Int.mul_nonneg hc0 (Int.le_of_lt (prod_pos hds))
      omega
    have := coordsGo_cons hv hnon (by rw [m]; exact ih hds)
    rwa [q] at this

theorem normCoord_ok {d : Int} (hd : 1 ≤ d) (p : Bool) (c : Int) (h : p = true ∨ (0 ≤ c ∧ c < d)) :
    normCoord d p c = .ok (c % d) := by
  unfold normCoord
  by_cases h1 : c ≥ d
  · rw [if_pos h1, if_pos (h.resolve_right (by omega)), if_neg (by omega), Int.tmod_eq_emod_of_nonneg (by omega)]
  · rw [if_neg h1]
    by_cases h2 : c < 0
    · rw [if_pos h2, if_pos (h.resolve_right (by omega)), if_neg (by omega)]
      -- `tmod` is `emod` less `d` unless `d ∣ c`; adding `d` back to a nonzero remainder undoes that
      have e := @Int.tmod_eq_emod c d
      simp only [Int.dvd_iff_emod_eq_zero] at e
      have hm1 := Int.emod_lt_of_pos c hd
      refine congrArg Res.ok ?_
      by_cases hz : c % d = 0
      · rw [if_pos (Or.inr hz), Int.natCast_zero] at e
        rw [if_neg (by omega)]
        omega
      · rw [if_neg (by omega)] at e
        rw [if_pos (by omega)]
        omega
    · rw [if_neg h2, Int.emod_eq_of_lt (by omega) (by omega)]

theorem normCoord_err {d : Int} (c : Int) (h : ¬ (0 ≤ c ∧ c < d)) : normCoord d false c = .err .arg := by
  unfold normCoord
  by_cases h1 : c ≥ d
  · simp [h1]
  · have : c < 0 := by omega
    simp [h1, this]

theorem wrap_inRange {ds cs : List Int} (h : InRange ds cs) : wrap ds cs = cs := by
  induction h using InRange.ind with
  | nil => rfl
  | cons h0 h1 _ ih => rw [wrap, ih, Int.emod_eq_of_lt h0 h1]

theorem inRange_wrap {ds cs : List Int} (hv : ValidDims ds) (hl : cs.length = ds.length) :
    InRange ds (wrap ds cs) := by
  induction ds generalizing cs with
  | nil => cases cs <;> simp [InRange, wrap] at *
  | cons d ds ih =>
    cases cs with
    | nil => simp at hl
    | cons c cs =>
      obtain ⟨hd, hds⟩ := validDims_cons hv
      exact ⟨Int.emod_nonneg _ (by omega), Int.emod_lt_of_pos _ (by omega), ih hds (Nat.succ.inj hl)⟩

theorem coordsOk_length {ds : List Int} {ps : List Bool} {cs : List Int} (h : coordsOk ds ps cs = true) :
    cs.length = ds.length := by
  induction ds generalizing ps cs with
  | nil => cases cs <;> simp [coordsOk] at *
  | cons d ds ih =>
    cases ps <;> cases cs <;> simp [coordsOk] at h ⊢
    exact ih h.2

theorem rankAux_cons {d c r : Int} {ds cs : List Int} {p : Bool} {ps : List Bool} (hd : 1 ≤ d)
    (hc : p = true ∨ (0 ≤ c ∧ c < d)) (h : rankAux ds ps cs = .ok (r, prod ds)) :
    rankAux (d :: ds) (p :: ps) (c :: cs) = .ok (c % d * prod ds + r, prod (d :: ds)) := by
  rw [rankAux, h]
  simp only
  rw [normCoord_ok hd p c hc]
  simp only [prod]
  rw [Int.add_comm, Int.mul_comm (prod ds), Int.mul_comm (prod ds)]

theorem coordsOk_of_inRange {ds : List Int} {ps : List Bool} {cs : List Int} (hp : ps.length = ds.length)
    (hr : InRange ds cs) : coordsOk ds ps cs = true := by
  induction hr using InRange.ind generalizing ps with
  | nil => rfl
  | cons a b _ ih =>
    cases ps with
    | nil => cases hp
    | cons p ps =>
      simp only [coordsOk, Bool.and_eq_true, Bool.or_eq_true, decide_eq_true_eq]
      exact ⟨Or.inr ⟨a, b⟩, ih (Nat.succ.inj hp)⟩

theorem rankAux_ok {ds : List Int} {ps : List Bool} {cs : List Int} (hv : ValidDims ds)
    (h : coordsOk ds ps cs = true) : rankAux ds ps cs = .ok (rowMajor ds (wrap ds cs), prod ds) := by
  induction ds generalizing ps cs with
  | nil => cases cs <;> simp [coordsOk, rankAux, rowMajor, prod] at *
  | cons d ds ih =>
    cases ps with
    | nil => simp [coordsOk] at h
    | cons p ps =>
      cases cs with
      | nil => simp [coordsOk] at h
      | cons c cs =>
        obtain ⟨hd, hds⟩ := validDims_cons hv
        simp only [coordsOk, Bool.and_eq_true, Bool.or_eq_true, decide_eq_true_eq] at h
        obtain ⟨hc, hr⟩ := h
        exact rankAux_cons hd hc (ih hds hr)

theorem rankAux_err {ds : List Int} {ps : List Bool} {cs : List Int} (hv : ValidDims ds)
    (hl : cs.length = ds.length) (hp : ps.length = ds.length)
    (h : coordsOk ds ps cs = false) : rankAux ds ps cs = .err .arg := by
  induction ds generalizing ps cs with
  | nil => cases cs <;> simp [coordsOk] at *
  | cons d ds ih =>
    cases ps with
    | nil => simp at hp
    | cons p ps =>
      cases cs with
      | nil => simp at hl
      | cons c cs =>
        obtain ⟨hd, hds⟩ := validDims_cons hv
        rw [rankAux]
        by_cases hr : coordsOk ds ps cs = true
        · rw [rankAux_ok hds hr]
          simp only
          simp only [coordsOk, hr, Bool.and_true, Bool.or_eq_false_iff] at h
          obtain ⟨hpf, hc⟩ := h
          subst hpf
          rw [normCoord_err c (by simpa using hc)]
        · rw [ih hds (Nat.succ.inj hl) (Nat.succ.inj hp) (by simpa using hr)]

/-- what `shift` needs: one coordinate of in-range coordinates replaced, possibly out of range on a periodic dimension -/
theorem rankAux_set {ds : List Int} {ps : List Bool} {pos : List Int} (hv : ValidDims ds)
    (hp : ps.length = ds.length) (hin : InRange ds pos) (dir : Nat) (d : Int) (per : Bool) (x : Int)
    (hd : ds[dir]? = some d) (hper : ps[dir]? = some per) (hx : per = true ∨ (0 ≤ x ∧ x < d)) :
    rankAux ds ps (pos.set dir x) = .ok (rowMajor ds (pos.set dir (x % d)), prod ds) := by
  induction hin using InRange.ind generalizing ps dir with
  | nil => simp at hd
  | @cons d0 c ds cs hc0 hc1 hr ih =>
    cases ps with
    | nil => cases hp
    | cons p ps =>
      obtain ⟨hd0, hds⟩ := validDims_cons hv
      cases dir with
      | zero =>
        simp only [List.getElem?_cons_zero, Option.some.injEq] at hd hper
        subst hd; subst hper
        have hok : coordsOk ds ps cs = true := coordsOk_of_inRange (Nat.succ.inj hp) hr
        have := rankAux_ok hds hok
        rw [wrap_inRange hr] at this
        exact rankAux_cons hd0 hx this
      | succ k =>
        simp only [List.getElem?_cons_succ] at hd hper
        have := rankAux_cons (p := p) hd0 (Or.inr ⟨hc0, hc1⟩) (ih hds (Nat.succ.inj hp) k hd hper)
        rwa [Int.emod_eq_of_lt hc0 hc1] at this

theorem inRange_getElem {ds pos : List Int} (hin : InRange ds pos) (dir : Nat) (d : Int)
    (hd : ds[dir]? = some d) : ∃ c, pos[dir]? = some c ∧ 0 ≤ c ∧ c < d := by
  induction hin using InRange.ind generalizing dir with
  | nil => simp at hd
  | @cons d0 c ds cs h0 h1 _ ih =>
    cases dir with
    | zero => exact ⟨c, rfl, h0, Option.some.inj hd ▸ h1⟩
    | succ k => exact ih k hd

theorem inRange_set {ds cs : List Int} (hin : InRange ds cs) (dir : Nat) (d x : Int)
    (hd : ds[dir]? = some d) (hx0 : 0 ≤ x) (hx1 : x < d) : InRange ds (cs.set dir x) := by
  induction hin using InRange.ind generalizing dir with
  | nil => simp at hd
  | cons a b r ih =>
    cases dir with
    | zero => exact ⟨hx0, Option.some.inj hd ▸ hx1, r⟩
    | succ k => exact ⟨a, b, ih k hd⟩

theorem tmod_emod (v d : Int) : (v.tmod d) % d = v % d := by
  rw [Int.tmod_def, Int.sub_mul_emod_self_left]

theorem divOut_spec (d : Nat) (n : Nat) (hn : 1 ≤ n) :
    (divOut d n).1 * (divOut d n).2.prod = n ∧ 1 ≤ (divOut d n).1 := by
  induction n using Nat.strongRecOn with
  | _ n ih =>
    rw [divOut]
    split
    · rename_i hc
      obtain ⟨h2, _, hm⟩ := hc
      have hdvd : d ∣ n := Nat.dvd_of_mod_eq_zero hm
      obtain ⟨e1, e2⟩ := ih (n / d) (Nat.div_lt_self (by omega) (by omega))
        (Nat.div_pos (Nat.le_of_dvd hn hdvd) (by omega))
      simp only [List.prod_cons]
      exact ⟨by rw [Nat.mul_left_comm, e1, Nat.mul_div_cancel' hdvd], e2⟩
    · simp; omega

theorem oddLoop_prod (d num : Nat) (hn : 1 ≤ num) : (oddLoop d num).prod = num := by
  fun_induction oddLoop d num with
  | case1 d num h r ih =>
    obtain ⟨e1, e2⟩ := divOut_spec d num hn
    rw [List.prod_append_nat, ih e2, Nat.mul_comm]
    exact e1
  | case2 d num h h2 => simp
  | case3 d num h h2 => simp; omega

theorem getfactors_prod (num : Int) (h : 1 ≤ num) : ((getfactors num).prod : Int) = num := by
  unfold getfactors
  split
  · simp; omega
  · obtain ⟨e1, e2⟩ := divOut_spec 2 num.toNat (by omega)
    simp only
    rw [List.prod_append_nat, oddLoop_prod _ _ e2, Nat.mul_comm, e1]
    omega

theorem minOf_eq : ∀ (l : List Nat), l ≠ [] → l.min? = some (minOf l)
  | [], h => absurd rfl h
  | [x], _ => rfl
  | x :: y :: ys, _ => by
    rw [List.min?_cons, minOf_eq (y :: ys) (List.cons_ne_nil _ _)]; rfl

theorem minOf_mem (l : List Nat) (h : l ≠ []) : minOf l ∈ l := List.min?_mem (minOf_eq l h)

theorem mulFirst_spec (m f : Nat) (l : List Nat) (h : m ∈ l) :
    (mulFirst m f l).prod = l.prod * f ∧ (mulFirst m f l).length = l.length := by
  induction l with
  | nil => simp at h
  | cons x xs ih =>
    rw [mulFirst]
    split
    · exact ⟨by simp only [List.prod_cons]; rw [Nat.mul_assoc, Nat.mul_assoc, Nat.mul_comm f], rfl⟩
    · rename_i hne
      obtain ⟨a, b⟩ := ih ((List.mem_cons.mp h).resolve_left (fun e => hne e.symm))
      exact ⟨by simp only [List.prod_cons, a, Nat.mul_assoc], congrArg Nat.succ b⟩

theorem insertDesc_perm (x : Nat) (l : List Nat) : (insertDesc x l).Perm (x :: l) := by
  induction l with
  | nil => exact .refl _
  | cons y ys ih =>
    rw [insertDesc]; split
    · exact .refl _
    · exact (ih.cons y).trans (.swap x y ys)

theorem sortDesc_perm (l : List Nat) : (sortDesc l).Perm l := by
  induction l with
  | nil => exact .refl _
  | cons x xs ih => exact (insertDesc_perm x _).trans (ih.cons x)

theorem foldl_mulMin (fs : List Nat) (bins : List Nat) (hb : bins ≠ []) :
    (fs.foldl (fun bins f => mulMin f bins) bins).prod = bins.prod * fs.prod ∧
    (fs.foldl (fun bins f => mulMin f bins) bins).length = bins.length := by
  induction fs generalizing bins with
  | nil => simp
  | cons f fs ih =>
    obtain ⟨hp, hl⟩ := mulFirst_spec (minOf bins) f bins (minOf_mem bins hb)
    change (mulMin f bins).prod = _ at hp
    change (mulMin f bins).length = _ at hl
    have hne : mulMin f bins ≠ [] := List.ne_nil_of_length_pos (hl ▸ List.length_pos_iff.mpr hb)
    obtain ⟨e1, e2⟩ := ih (mulMin f bins) hne
    simp only [List.foldl_cons]
    refine ⟨?_, by rw [e2, hl]⟩
    rw [e1, hp]
    simp only [List.prod_cons, Nat.mul_assoc]

theorem assignnodes_spec (ndim : Nat) (fs : List Nat) (h : 0 < ndim) :
    ∃ procs, assignnodes ndim fs = .ok procs ∧ procs.prod = fs.prod ∧ procs.length = ndim := by
  unfold assignnodes
  rw [if_neg (by omega)]
  have hne : List.replicate ndim 1 ≠ [] := List.ne_nil_of_length_pos (by rwa [List.length_replicate])
  obtain ⟨e1, e2⟩ := foldl_mulMin fs.reverse (List.replicate ndim 1) hne
  refine ⟨_, rfl, ?_, ?_⟩
  · rw [(sortDesc_perm _).prod_nat, e1, List.prod_replicate_nat, Nat.one_pow, List.prod_reverse_nat, Nat.one_mul]
  · rw [(sortDesc_perm _).length_eq, e2, List.length_replicate]

/-- number of zero ("free") entries -/
def zerosOf : List Int → Nat
  | [] => 0
  | d :: ds => if d = 0 then zerosOf ds + 1 else zerosOf ds

/-- product of the non-zero ("given") entries -/
def prodGiven : List Int → Int
  | [] => 1
  | d :: ds => if d = 0 then prodGiven ds else d * prodGiven ds

/-- entries given by the caller are kept, free ones may change -/
def Respects : List Int → List Int → Prop
  | d :: ds, o :: os => (d ≠ 0 → o = d) ∧ Respects ds os
  | [], [] => True
  | _, _ => False

theorem fillFree_spec (dims : List Int) (procs : List Nat) (h : procs.length = zerosOf dims) :
    prod (fillFree dims procs) = prodGiven dims * (procs.prod : Int) ∧ Respects dims (fillFree dims procs) := by
  induction dims generalizing procs with
  | nil => cases procs <;> simp [fillFree, prod, prodGiven, Respects, zerosOf] at *
  | cons d ds ih =>
    unfold fillFree
    by_cases hd : d = 0
    · subst hd
      simp only [zerosOf, if_true] at h
      cases procs with
      | nil => simp at h
      | cons p ps =>
        obtain ⟨e1, e2⟩ := ih ps (Nat.succ.inj h)
        simp only [if_true, prod, prodGiven, List.prod_cons, Respects, e1]
        refine ⟨?_, by simp, e2⟩
        rw [Int.natCast_mul, Int.mul_left_comm]
    · simp only [zerosOf, if_neg hd] at h
      obtain ⟨e1, e2⟩ := ih procs h
      simp only [if_neg hd, prod, prodGiven, Respects, e1]
      exact ⟨by rw [Int.mul_assoc], by simp, e2⟩

theorem mapOne_spec (dims : List Int) :
    prod (dims.map (fun d => if d = 0 then 1 else d)) = prodGiven dims ∧
    Respects dims (dims.map (fun d => if d = 0 then 1 else d)) := by
  induction dims with
  | nil => simp [prod, prodGiven, Respects]
  | cons d ds ih =>
    by_cases hd : d = 0 <;> simp [hd, prod, prodGiven, Respects, ih.1, ih.2]

theorem respects_refl (dims : List Int) : Respects dims dims := by
  induction dims with
  | nil => simp [Respects]
  | cons d ds ih => simp [Respects, ih]

theorem prod_eq_prodGiven (dims : List Int) (h : zerosOf dims = 0) : prod dims = prodGiven dims := by
  induction dims with
  | nil => rfl
  | cons d ds ih =>
    by_cases hd : d = 0
    · simp [zerosOf, hd] at h
    · simp only [zerosOf, if_neg hd] at h
      simp [prod, prodGiven, hd, ih h]

/-- the tail of `Dims_create`: the given entries are kept whatever `freeprocs` the scan computed, and for
`freeprocs ≥ 1` the free entries are filled with dimensions whose product is `freeprocs` -/
theorem dimsCreateTail_spec (dims : List Int) (fp : Int) (out : List Int)
    (h : dimsCreateTail dims fp (zerosOf dims) = .ok out) :
    Respects dims out ∧ (1 ≤ fp → prod out = prodGiven dims * fp) := by
  unfold dimsCreateTail at h
  split at h
  · rename_i hz
    split at h
    · rename_i h1
      injection h with h; subst h; subst h1
      exact ⟨respects_refl _, fun _ => by rw [prod_eq_prodGiven _ hz, Int.mul_one]⟩
    · cases h
  · split at h
    · rename_i h1
      injection h with h; subst h; subst h1
      exact ⟨(mapOne_spec dims).2, fun _ => by rw [(mapOne_spec dims).1, Int.mul_one]⟩
    · obtain ⟨procs, e1, e2, e3⟩ := assignnodes_spec (zerosOf dims) (getfactors fp) (by omega)
      rw [e1] at h
      injection h with h; subst h
      obtain ⟨a, b⟩ := fillFree_spec dims procs e3
      exact ⟨b, fun hfp => by rw [a, e2, getfactors_prod fp hfp]⟩

theorem tdiv_exact {fp d : Int} (hd : 0 < d) (hfp : 1 ≤ fp) (h : d ∣ fp) : d * fp.tdiv d = fp ∧ 1 ≤ fp.tdiv d :=
  ⟨Int.mul_tdiv_cancel' h, Int.tdiv_pos_of_pos_of_dvd (by omega) (by omega) h⟩

/-- the scan counts the free entries; when the product of the given entries divides what is left, the successive
C divisions are exact -/
theorem scanGiven_spec (n : Int) (fp : Int) (fd : Nat) (ds : List Int) (fp' : Int) (fd' : Nat)
    (h : scanGiven n fp fd ds = .ok (fp', fd')) :
    fd' = fd + zerosOf ds ∧ (1 ≤ fp → prodGiven ds ∣ fp → fp' * prodGiven ds = fp ∧ 1 ≤ fp') := by
  induction ds generalizing fp fd with
  | nil =>
    simp only [scanGiven, Res.ok.injEq, Prod.mk.injEq] at h
    obtain ⟨rfl, rfl⟩ := h
    exact ⟨rfl, fun hfp _ => ⟨Int.mul_one _, hfp⟩⟩
  | cons d ds ih =>
    rw [scanGiven] at h
    split at h
    · rename_i hd
      obtain ⟨a, b⟩ := ih _ _ h
      simp only [prodGiven, zerosOf, hd, if_true]
      exact ⟨by omega, b⟩
    · rename_i hd
      split at h
      · cases h
      · obtain ⟨a, b⟩ := ih _ _ h
        simp only [prodGiven, zerosOf, if_neg hd]
        refine ⟨a, fun hfp hdvd => ?_⟩
        obtain ⟨hmul, hq1⟩ := tdiv_exact (by omega) hfp (Int.dvd_trans (Int.dvd_mul_right d _) hdvd)
        have hdvd' : prodGiven ds ∣ fp.tdiv d := by
          rw [← hmul] at hdvd
          exact Int.dvd_of_mul_dvd_mul_left (by omega) hdvd
        obtain ⟨e1, e2⟩ := b hq1 hdvd'
        exact ⟨by rw [Int.mul_left_comm, e1, hmul], e2⟩

theorem scanGivenFixed_spec (fp : Int) (fd : Nat) (ds : List Int) (fp' : Int) (fd' : Nat) (hfp : 1 ≤ fp)
    (h : scanGivenFixed fp fd ds = .ok (fp', fd')) :
    fp' * prodGiven ds = fp ∧ 1 ≤ fp' ∧ fd' = fd + zerosOf ds := by
  induction ds generalizing fp fd with
  | nil =>
    simp only [scanGivenFixed, Res.ok.injEq, Prod.mk.injEq] at h
    obtain ⟨h1, h2⟩ := h
    subst h1; subst h2
    simp [prodGiven, zerosOf, hfp]
  | cons d ds ih =>
    rw [scanGivenFixed] at h
    split at h
    · rename_i hd
      obtain ⟨a, b, c⟩ := ih _ _ hfp h
      simp only [prodGiven, zerosOf, hd, if_true]
      exact ⟨a, b, by omega⟩
    · rename_i hd
      split at h
      · cases h
      · rename_i hc
        obtain ⟨hmul, hq1⟩ := tdiv_exact (by omega) hfp
          (Int.dvd_of_tmod_eq_zero (Classical.byContradiction fun hne => hc (Or.inr hne)))
        obtain ⟨a, b, c⟩ := ih _ _ hq1 h
        simp only [prodGiven, zerosOf, if_neg hd]
        exact ⟨by rw [Int.mul_left_comm, a, hmul], b, c⟩

theorem dimsCreate_ok {nnodes : Int} {dims out : List Int} (h : dimsCreate nnodes dims = .ok out) :
    1 ≤ nnodes ∧ ∃ fp, scanGiven nnodes nnodes 0 dims = .ok (fp, zerosOf dims) ∧
      dimsCreateTail dims fp (zerosOf dims) = .ok out := by
  unfold dimsCreate at h
  split at h
  · cases h
  · split at h
    · rename_i fp fd hs
      have hfd := (scanGiven_spec _ _ _ _ _ _ hs).1
      rw [Nat.zero_add] at hfd
      subst hfd
      exact ⟨by omega, fp, hs, h⟩
    · cases h
    · cases h

end SgVerif.C33
