import SgVerif.C46.Lemmas
/-
C46 — File system accounting is consistent.  Property theorems.

"For any sequence of file opens, writes (appending, overwriting or in place), seeks, reads, moves and unlinks, the used
size of a disk equals the total size of the files stored on it, a read never returns more than the bytes between the
position and the end of the file, and unlinking a file gives back exactly its size."

All theorems are over ALL histories (`Reach`: any initial content, any capacity, any number of File objects, any
length) of legal operations (`wfOp`: one File object per file at a time, nothing but `close` after `unlink`, no seek
before 0), for any key type `κ`.

FULL-STRENGTH STATEMENT (false on the code as it is today, three independent defect classes):
    theorem used_eq_sum_sizes (s : State κ) (hr : Reach Cfg.current wfOp s) : s.used = total s.content
Proved instead: three concrete legal histories where it fails (each replays on the real plugin), the statement on the
current code for histories that avoid the three classes (`safe Cfg.current`, spelled out in Lemmas.lean), and the
full-strength statement on the repaired variant `Cfg.fixed`.
-/
namespace SgVerif.C46

variable {κ : Type} [DecidableEq κ]

/-- accounting, current code, histories outside the defect classes `truncating-write`, `stale-path-after-move`,
`move-onto-existing-file` -/
theorem used_eq_sum_sizes_partial (s : State κ)
    (hr : Reach Cfg.current (fun s op => wfOp s op ∧ safe Cfg.current s op) s) :
    s.used = (total s.content : Int) :=
  (inv_of_reach Cfg.current s hr).used

/-- accounting at full strength (every legal history) on the repaired code -/
theorem used_eq_sum_sizes_fixed (s : State κ) (hr : Reach Cfg.fixed wfOp s) :
    s.used = (total s.content : Int) :=
  (inv_of_reach Cfg.fixed s (reach_fixed s hr)).used

/-- D12 `truncating-write`: a 10-byte file, `open; write(1)` at position 0 (write_inside = false):
`decr_used_size(10 - 0)`, then `update_position(1)` does nothing because `1 ≤ size_`: used = 0, the file still has 10 bytes. -/
theorem used_eq_sum_sizes_counterexample_truncating_write :
    ∃ s : State Nat, Reach Cfg.current wfOp s ∧ s.used ≠ (total s.content : Int) := by
  refine ⟨run Cfg.current (init 100 [(0, 10)]) [.open 0 0, .write 0 1 false], ?_, by decide⟩
  refine Reach.step _ _ (Reach.step _ _ (Reach.init 100 [(0, 10)] (by simp [WFc, lookup])) ?_) ?_
  · exact ⟨rfl, by intro h' f' hf; simp [init] at hf⟩
  · exact ⟨_, rfl, by decide⟩

/-- `stale-path-after-move`: `open a(10); move a→b; seek(20)`: the File still has `path_ = a`, so growing it re-creates
`a` with 20 bytes next to `b` (10 bytes) while used = 20. -/
theorem used_eq_sum_sizes_counterexample_stale_path_after_move :
    ∃ s : State Nat, Reach Cfg.current wfOp s ∧ s.used ≠ (total s.content : Int) := by
  refine ⟨run Cfg.current (init 100 [(0, 10)]) [.open 0 0, .move 0 (some 1), .seek 0 20 .set], ?_, by decide⟩
  refine Reach.step _ _ (Reach.step _ _ (Reach.step _ _ (Reach.init 100 [(0, 10)] (by simp [WFc, lookup])) ?_) ?_) ?_
  · exact ⟨rfl, by intro h' f' hf; simp [init] at hf⟩
  · refine ⟨_, rfl, by decide, ?_⟩
    intro p' _ h' f' hne hf
    simp [step, init, lookup, upd, hne] at hf
  · exact ⟨_, rfl, by decide, by decide⟩

/-- `move-onto-existing-file`: files a(10) and b(5); `open a; move a→b`: `content->insert` does not replace `b`, the 10
bytes of `a` vanish from the content while used stays 15. -/
theorem used_eq_sum_sizes_counterexample_move_onto_existing_file :
    ∃ s : State Nat, Reach Cfg.current wfOp s ∧ s.used ≠ (total s.content : Int) := by
  refine ⟨run Cfg.current (init 100 [(0, 10), (1, 5)]) [.open 0 0, .move 0 (some 1)], ?_, by decide⟩
  refine Reach.step _ _ (Reach.step _ _ (Reach.init 100 [(0, 10), (1, 5)] (by simp [WFc, lookup])) ?_) ?_
  · exact ⟨rfl, by intro h' f' hf; simp [init] at hf⟩
  · refine ⟨_, rfl, by decide, ?_⟩
    intro p' _ h' f' hne hf
    simp [step, init, lookup, upd, hne] at hf

/-- **a read never returns more than the bytes between the position and the end of the file** — full strength:
every history of the current code (legal or not, defect classes included: `ok` is arbitrary), every File, every size. -/
theorem read_le_remaining (cfg : Cfg) (ok : State κ → Op κ → Prop) (s : State κ) (hr : Reach cfg ok s)
    (h n : Nat) (f : File κ) (hf : s.files h = some f) :
    f.pos ≤ f.size ∧
    ∃ r : Nat, (step cfg s (.read h n)).2 = .val r ∧ r ≤ n ∧ f.pos + r ≤ f.size ∧
      (∀ f', (step cfg s (.read h n)).1.files h = some f' → f'.pos = f.pos + r ∧ f'.size = f.size) := by
  have hp := posle_of_reach cfg ok s hr h f hf
  refine ⟨hp, ?_⟩
  simp only [step, hf]
  split
  · exact ⟨0, rfl, Nat.zero_le _, hp, by intro f' hf'; rw [hf] at hf'; cases hf'; exact ⟨rfl, rfl⟩⟩
  · refine ⟨min n (f.size - f.pos), rfl, Nat.min_le_left _ _, ?_, ?_⟩
    · have := Nat.min_le_right n (f.size - f.pos); omega
    · intro f' hf'; simp at hf'; subst hf'; exact ⟨rfl, rfl⟩

/-- **unlinking a file gives back exactly its size**: in every state satisfying the invariant (i.e. every reachable state
of `used_eq_sum_sizes_partial` / `_fixed`), `unlink` on a File that is legal to use returns 0, lowers the used size by
the file's size, removes exactly that many bytes from the stored files, and the name is gone. -/
theorem unlink_gives_back_size (cfg : Cfg) (s : State κ) (hI : Inv cfg s) (h : Nat) (f : File κ)
    (hf : s.files h = some f) (hwf : wfOp s (.unlink h)) (hs : safe cfg s (.unlink h)) :
    (step cfg s (.unlink h)).2 = .val 0 ∧
    (step cfg s (.unlink h)).1.used = s.used - (f.size : Int) ∧
    total (step cfg s (.unlink h)).1.content + f.size = total s.content ∧
    lookup (step cfg s (.unlink h)).1.content f.path = none ∧
    (step cfg s (.unlink h)).1.used = (total (step cfg s (.unlink h)).1.content : Int) := by
  obtain ⟨f0, hf0, hu⟩ := hwf
  rw [hf] at hf0; cases hf0
  have hl := live_of cfg s hI.toInvS h f hf hu hs
  have hag := hI.agree h f hf hl
  have hnext := (step_inv cfg s (.unlink h) hI ⟨f, hf, hu⟩ hs).used
  have ht := total_erase s.content f.path f.size hI.wfc hag
  simp only [step, hf, hag] at hnext ⊢
  exact ⟨trivial, trivial, by omega, lookup_erase_self _ _, hnext⟩

/-- the size recorded in `content_` for a file is the `size_` of the File object that designates it -/
theorem content_map_agrees_with_file_size_partial (s : State κ)
    (hr : Reach Cfg.current (fun s op => wfOp s op ∧ safe Cfg.current s op) s)
    (h : Nat) (f : File κ) (hf : s.files h = some f) (hl : f.st = .live) :
    lookup s.content f.path = some f.size :=
  (inv_of_reach Cfg.current s hr).agree h f hf hl

theorem content_map_agrees_with_file_size_fixed (s : State κ) (hr : Reach Cfg.fixed wfOp s)
    (h : Nat) (f : File κ) (hf : s.files h = some f) (hu : f.st ≠ .unlinked) :
    lookup s.content f.path = some f.size := by
  have hI := inv_of_reach Cfg.fixed s (reach_fixed s hr)
  exact hI.agree h f hf (live_of Cfg.fixed s hI.toInvS h f hf hu (Or.inl rfl))

/-- the 64-bit `used_size_` never wraps in those states: what `sg_disk_get_size_used` returns IS the sum -/
theorem used_observed_is_sum (cfg : Cfg) (s : State κ) (hI : Inv cfg s) (hlt : (total s.content : Int) < W) :
    wrap s.used = total s.content := by
  unfold wrap
  rw [hI.used, Int.emod_eq_of_lt (by omega) hlt]
  simp

/-! ### non-vacuity: a history inside the hypotheses of `_partial` that exercises every operation -/

example : ∃ s : State Nat, Reach Cfg.current (fun s op => wfOp s op ∧ safe Cfg.current s op) s ∧
    s.used = 23 ∧ total s.content = 23 := by
  -- disk with a(10) b(5); open a; seek to 4; in-place write of 3; append-extend: seek END, write 8; seek back; read; close
  refine ⟨run Cfg.current (init 100 [(0, 10), (1, 5)])
    [.open 0 0, .seek 0 4 .set, .write 0 3 true, .seek 0 0 .end_, .write 0 8 false, .seek 0 (-5) .cur, .read 0 100,
     .close 0], ?_, by decide, by decide⟩
  refine Reach.step _ _ (Reach.step _ _ (Reach.step _ _ (Reach.step _ _ (Reach.step _ _ (Reach.step _ _ (Reach.step _ _
    (Reach.step _ _ (Reach.init 100 [(0, 10), (1, 5)] (by simp [WFc, lookup])) ?_) ?_) ?_) ?_) ?_) ?_) ?_) ?_
  · exact ⟨⟨rfl, by intro h' f' hf; simp [init] at hf⟩, trivial⟩
  · exact ⟨⟨_, rfl, by decide, by decide⟩, Or.inr (by intro f hf; cases hf; decide)⟩
  · exact ⟨⟨_, rfl, by decide⟩, Or.inr (by intro f hf; cases hf; decide), Or.inr (Or.inl rfl)⟩
  · exact ⟨⟨_, rfl, by decide, by decide⟩, Or.inr (by intro f hf; cases hf; decide)⟩
  · exact ⟨⟨_, rfl, by decide⟩, Or.inr (by intro f hf; cases hf; decide),
      Or.inr (Or.inr (by intro f hf; cases hf; decide))⟩
  · exact ⟨⟨_, rfl, by decide, by decide⟩, Or.inr (by intro f hf; cases hf; decide)⟩
  · exact ⟨⟨_, rfl, by decide⟩, Or.inr (by intro f hf; cases hf; decide)⟩
  · exact ⟨⟨_, rfl⟩, trivial⟩

/-- a legal, safe `move` to a fresh name followed by `close`; the entry is renamed, the accounting is unchanged -/
example : ∃ s : State Nat, Reach Cfg.current (fun s op => wfOp s op ∧ safe Cfg.current s op) s ∧
    s.used = 15 ∧ lookup s.content 2 = some 10 ∧ lookup s.content 0 = none := by
  refine ⟨run Cfg.current (init 100 [(0, 10), (1, 5)]) [.open 0 0, .move 0 (some 2), .close 0], ?_,
    by decide, by decide, by decide⟩
  refine Reach.step _ _ (Reach.step _ _ (Reach.step _ _
    (Reach.init 100 [(0, 10), (1, 5)] (by simp [WFc, lookup])) ?_) ?_) ?_
  · exact ⟨⟨rfl, by intro h' f' hf; simp [init] at hf⟩, trivial⟩
  · refine ⟨⟨_, rfl, by decide, ?_⟩, Or.inr (by intro f hf; cases hf; decide), Or.inr ?_⟩
    · intro p' _ h' f' hne hf
      simp [step, init, lookup, upd, hne] at hf
    · intro f p' hf hp; cases hf; cases hp; right; decide
  · exact ⟨⟨_, rfl⟩, trivial⟩

/-- non-vacuity of `unlink_gives_back_size`: unlinking the 10-byte file of a 15-byte disk leaves 5 -/
example : (step Cfg.current (step Cfg.current (init 100 [(0, 10), (1, 5)]) (.open 0 0)).1 (.unlink (κ := Nat) 0)).1.used = 5 := by
  decide

end SgVerif.C46
