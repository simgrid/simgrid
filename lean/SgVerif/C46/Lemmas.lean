import SgVerif.C46.Model
/-
C46 — helper lemmas: association-list facts, the invariant `Inv`, and its preservation by every operation.
-/
namespace SgVerif.C46

variable {κ : Type} [DecidableEq κ]

/-- keys of `content_` are unique (it is a `std::map`) -/
def WFc : Content κ → Prop
  | [] => True
  | (k, _) :: t => lookup t k = none ∧ WFc t

theorem lookup_erase (c : Content κ) (p q : κ) : lookup (erase c p) q = if q = p then none else lookup c q := by
  induction c with
  | nil => split <;> rfl
  | cons a t ih =>
    obtain ⟨k, v⟩ := a
    by_cases hk : k = p <;> by_cases hq : q = p <;> by_cases hkq : k = q <;> simp_all [erase, lookup]

theorem lookup_erase_self (c : Content κ) (p : κ) : lookup (erase c p) p = none := by
  rw [lookup_erase, if_pos rfl]

theorem lookup_erase_ne (c : Content κ) (p q : κ) (h : q ≠ p) : lookup (erase c p) q = lookup c q := by
  rw [lookup_erase, if_neg h]

theorem wfc_erase (c : Content κ) (p : κ) (h : WFc c) : WFc (erase c p) := by
  induction c with
  | nil => trivial
  | cons a t ih =>
    obtain ⟨k, v⟩ := a
    obtain ⟨h1, h2⟩ := h
    by_cases hk : k = p
    · simp [erase, hk]; exact ih h2
    · simp only [erase, hk, if_false]
      exact ⟨by rw [lookup_erase, h1]; split <;> rfl, ih h2⟩

theorem erase_of_none (c : Content κ) (p : κ) (h : lookup c p = none) : erase c p = c := by
  induction c with
  | nil => rfl
  | cons a t ih =>
    obtain ⟨k, v⟩ := a
    by_cases hk : k = p
    · simp [lookup, hk] at h
    · simp only [lookup, hk, if_false] at h
      simp [erase, hk, ih h]

theorem total_erase (c : Content κ) (p : κ) (n : Nat) (hw : WFc c) (h : lookup c p = some n) :
    total c = total (erase c p) + n := by
  induction c with
  | nil => simp [lookup] at h
  | cons a t ih =>
    obtain ⟨k, v⟩ := a
    obtain ⟨h1, h2⟩ := hw
    by_cases hk : k = p
    · subst hk
      simp only [lookup, if_true, Option.some.injEq] at h
      subst h
      simp only [erase, if_true, total]
      rw [erase_of_none t k h1]; omega
    · simp only [lookup, hk, if_false] at h
      simp only [erase, hk, if_false, total]
      have := ih h2 h; omega

theorem insertNew_of_some (c : Content κ) (p : κ) (n v : Nat) (h : lookup c p = some v) : insertNew c p n = c := by
  simp [insertNew, h]

theorem insertNew_of_none (c : Content κ) (p : κ) (n : Nat) (h : lookup c p = none) : insertNew c p n = (p, n) :: c := by
  simp [insertNew, h]

theorem lookup_insertNew_ne (c : Content κ) (p q : κ) (n : Nat) (h : q ≠ p) :
    lookup (insertNew c p n) q = lookup c q := by
  unfold insertNew
  split
  · rfl
  · simp [lookup, Ne.symm h]

theorem wfc_insertNew (c : Content κ) (p : κ) (n : Nat) (h : WFc c) : WFc (insertNew c p n) := by
  unfold insertNew
  split
  · exact h
  · rename_i hn; exact ⟨hn, h⟩

/-- erase + insert of the same key (what `update_position` does): the entry is replaced -/
theorem lookup_reinsert (c : Content κ) (p q : κ) (n : Nat) :
    lookup (insertNew (erase c p) p n) q = if q = p then some n else lookup c q := by
  by_cases e : q = p
  · subst e
    rw [insertNew_of_none _ _ _ (lookup_erase_self c q)]; simp [lookup]
  · rw [lookup_insertNew_ne _ _ _ _ e, lookup_erase_ne _ _ _ e]; simp [e]

theorem wfc_reinsert (c : Content κ) (p : κ) (n : Nat) (h : WFc c) : WFc (insertNew (erase c p) p n) :=
  wfc_insertNew _ _ _ (wfc_erase _ _ h)

theorem total_reinsert (c : Content κ) (p : κ) (n old : Nat) (hw : WFc c) (h : lookup c p = some old) :
    total (insertNew (erase c p) p n) + old = total c + n := by
  rw [insertNew_of_none _ _ _ (lookup_erase_self c p)]
  have := total_erase c p old hw h
  simp only [total]; omega

theorem total_insert_fresh (c : Content κ) (p : κ) (n : Nat) (h : lookup c p = none) :
    total (insertNew c p n) = total c + n := by
  rw [insertNew_of_none _ _ _ h]; simp only [total]; omega

omit [DecidableEq κ] in
@[simp] theorem upd_same (f : Nat → Option (File κ)) (h : Nat) (v : Option (File κ)) : upd f h v h = v := by
  simp [upd]

omit [DecidableEq κ] in
theorem upd_ne (f : Nat → Option (File κ)) (h i : Nat) (v : Option (File κ)) (e : i ≠ h) : upd f h v i = f i := by
  simp [upd, e]

omit [DecidableEq κ] in
theorem upd_some {f : Nat → Option (File κ)} {h i : Nat} {v : Option (File κ)} {g : File κ} (hi : upd f h v i = some g) :
    (i = h ∧ v = some g) ∨ (i ≠ h ∧ f i = some g) := by
  unfold upd at hi
  split at hi
  next e => exact .inl ⟨e, hi⟩
  next e => exact .inr ⟨e, hi⟩

/-- the structural part of the invariant (does not mention `used_size_`) -/
structure InvS (cfg : Cfg) (s : State κ) : Prop where
  wfc : WFc s.content
  /-- `content_map_agrees_with_file_size` -/
  agree : ∀ h f, s.files h = some f → f.st = .live → lookup s.content f.path = some f.size
  distinct : ∀ h1 h2 f1 f2, s.files h1 = some f1 → s.files h2 = some f2 → f1.st = .live → f2.st = .live →
      f1.path = f2.path → h1 = h2
  posle : ∀ h f, s.files h = some f → f.pos ≤ f.size
  nostale : cfg.fixMovePath = true → ∀ h f, s.files h = some f → f.st ≠ .stale

structure Inv (cfg : Cfg) (s : State κ) : Prop extends InvS cfg s where
  used : s.used = (total s.content : Int)

/-- legal use of the API (independent of the variant of the code):
 * one File object per slot; a slot is used only while its object exists and was not unlinked
   (after `unlink()` the only legal operation is `close()` — "Unlinking the file on disk does not close the file");
 * no two File objects designate the same file at the same time (each object caches `size_`);
 * no seek before the start of the file (the code aborts). -/
def wfOp (s : State κ) : Op κ → Prop
  | .open h p => s.files h = none ∧ ∀ h' f', s.files h' = some f' → f'.st = .live → f'.path ≠ p
  | .close h => ∃ f, s.files h = some f
  | .read h _ => ∃ f, s.files h = some f ∧ f.st ≠ .unlinked
  | .write h _ _ => ∃ f, s.files h = some f ∧ f.st ≠ .unlinked
  | .seek h off o => ∃ f, s.files h = some f ∧ f.st ≠ .unlinked ∧
      0 ≤ seekTarget f off o
  | .move h t => ∃ f, s.files h = some f ∧ f.st ≠ .unlinked ∧
      ∀ p', t = some p' → ∀ h' f', h' ≠ h → s.files h' = some f' → f'.st = .live → f'.path ≠ p'
  | .unlink h => ∃ f, s.files h = some f ∧ f.st ≠ .unlinked

/-- the operation is outside the three defect classes of the current code (trivially true for `Cfg.fixed`):
 * D12 `truncating-write`: `write(n, write_inside=false)` strictly before the end of the file;
 * `stale-path-after-move`: any use other than `close` of a File after `move` renamed it;
 * `move-onto-existing-file`: `move` to a name that already exists (other than its own). -/
def safe (cfg : Cfg) (s : State κ) : Op κ → Prop
  | .open _ _ => True
  | .close _ => True
  | .read h _ => cfg.fixMovePath = true ∨ ∀ f, s.files h = some f → f.st ≠ .stale
  | .write h _ inside => (cfg.fixMovePath = true ∨ ∀ f, s.files h = some f → f.st ≠ .stale) ∧
      (cfg.fixTrunc = true ∨ inside = true ∨ ∀ f, s.files h = some f → f.pos = f.size)
  | .seek h _ _ => cfg.fixMovePath = true ∨ ∀ f, s.files h = some f → f.st ≠ .stale
  | .move h t => (cfg.fixMovePath = true ∨ ∀ f, s.files h = some f → f.st ≠ .stale) ∧
      (cfg.fixMoveOver = true ∨ ∀ f p', s.files h = some f → t = some p' → p' = f.path ∨ lookup s.content p' = none)
  | .unlink h => cfg.fixMovePath = true ∨ ∀ f, s.files h = some f → f.st ≠ .stale

theorem safe_fixed (s : State κ) (op : Op κ) : safe Cfg.fixed s op := by
  cases op with
  | «open» | close => trivial
  | read | seek | unlink => exact .inl rfl
  | write | move => exact ⟨.inl rfl, .inl rfl⟩

theorem live_of (cfg : Cfg) (s : State κ) (hI : InvS cfg s) (h : Nat) (f : File κ) (hf : s.files h = some f)
    (hu : f.st ≠ .unlinked) (hs : cfg.fixMovePath = true ∨ ∀ f, s.files h = some f → f.st ≠ .stale) : f.st = .live := by
  have : f.st ≠ .stale := by
    rcases hs with hs | hs
    · exact hI.nostale hs h f hf
    · exact hs f hf
  cases hst : f.st <;> simp_all

omit [DecidableEq κ] in
theorem fst_ite {β : Type} {P : State κ → Prop} {c : Prop} [Decidable c] {a b : State κ × β} (ha : c → P a.1)
    (hb : ¬ c → P b.1) : P (if c then a else b).1 := by
  split
  · exact ha ‹_›
  · exact hb ‹_›

theorem inv_init (cfg : Cfg) (cap : Nat) (c : Content κ) (hw : WFc c) : Inv cfg (init cap c) :=
  { used := rfl, wfc := hw,
    agree := by intro h f hf; simp [init] at hf,
    distinct := by intro h1 h2 f1 f2 hf; simp [init] at hf,
    posle := by intro h f hf; simp [init] at hf,
    nostale := by intro _ h f hf; simp [init] at hf }

/-- slot `h` gets `v`, the content becomes `c'`: a live `v` finds its size in `c'` under a path no other live File has,
and the entries of the other live Files are untouched -/
theorem invS_replace (cfg : Cfg) (s : State κ) (h : Nat) (c' : Content κ) (v : Option (File κ)) (hI : InvS cfg s)
    (hw : WFc c')
    (hv : ∀ f, v = some f → f.pos ≤ f.size ∧ (cfg.fixMovePath = true → f.st ≠ .stale) ∧
      (f.st = .live → lookup c' f.path = some f.size ∧
        ∀ h' f', h' ≠ h → s.files h' = some f' → f'.st = .live → f'.path ≠ f.path))
    (hc : ∀ h' f', h' ≠ h → s.files h' = some f' → f'.st = .live → lookup c' f'.path = lookup s.content f'.path) :
    InvS cfg { s with content := c', files := upd s.files h v } := by
  refine ⟨hw, ?_, ?_, ?_, ?_⟩
  · intro h' f' hf' hl'
    rcases upd_some hf' with ⟨_, e⟩ | ⟨e, hf'⟩
    · exact ((hv f' e).2.2 hl').1
    · exact (hc h' f' e hf' hl').trans (hI.agree h' f' hf' hl')
  · intro h1 h2 f1 f2 hf1 hf2 hl1 hl2 hpe
    rcases upd_some hf1 with ⟨e1, v1⟩ | ⟨e1, hf1⟩ <;> rcases upd_some hf2 with ⟨e2, v2⟩ | ⟨e2, hf2⟩
    · rw [e1, e2]
    · exact absurd hpe.symm (((hv f1 v1).2.2 hl1).2 h2 f2 e2 hf2 hl2)
    · exact absurd hpe (((hv f2 v2).2.2 hl2).2 h1 f1 e1 hf1 hl1)
    · exact hI.distinct h1 h2 f1 f2 hf1 hf2 hl1 hl2 hpe
  · intro h' f' hf'
    rcases upd_some hf' with ⟨_, e⟩ | ⟨_, hf'⟩
    · exact (hv f' e).1
    · exact hI.posle h' f' hf'
  · intro hcf h' f' hf'
    rcases upd_some hf' with ⟨_, e⟩ | ⟨_, hf'⟩
    · exact (hv f' e).2.1 hcf
    · exact hI.nostale hcf h' f' hf'

theorem invS_upd_same (cfg : Cfg) (s : State κ) (h : Nat) (f0 f : File κ) (hI : InvS cfg s) (hf0 : s.files h = some f0)
    (hpath : f.path = f0.path) (hst : f.st = f0.st) (hsz : f.size = f0.size) (hp : f.pos ≤ f.size) :
    InvS cfg { s with files := upd s.files h (some f) } :=
  invS_replace cfg s h s.content (some f) hI hI.wfc
    (fun g e => by
      cases e
      exact ⟨hp, fun hc => hst ▸ hI.nostale hc h f0 hf0, fun hl => ⟨hpath ▸ hsz ▸ hI.agree h f0 hf0 (hst ▸ hl),
        fun h' f' e hf' hl' e2 => e (hI.distinct h' h f' f0 hf' hf0 hl' (hst ▸ hl) (e2.trans hpath))⟩⟩)
    (fun _ _ _ _ _ => rfl)

theorem invS_used (cfg : Cfg) (s : State κ) (u : Int) (hI : InvS cfg s) : InvS cfg { s with used := u } :=
  ⟨hI.wfc, hI.agree, hI.distinct, hI.posle, hI.nostale⟩

/-- `update_position` on a live file keeps the invariant (the caller may have lowered `used`/`size` consistently:
`hused` is the accounting equation *before* the call, in terms of the size recorded in `content_`). -/
theorem inv_updPos (cfg : Cfg) (s : State κ) (h : Nat) (f f0 : File κ) (p : Nat)
    (hI : InvS cfg s) (hf0 : s.files h = some f0) (hl : f0.st = .live)
    (hpath : f.path = f0.path) (hst : f.st = f0.st) (hsz : f.size ≤ f0.size)
    (hused : s.used + ((f0.size - f.size : Nat) : Int) = (total s.content : Int))
    (hp : f.size < p ∨ (f.size = f0.size ∧ p ≤ f.size)) :
    Inv cfg (updPos s h f p) := by
  have hag := hI.agree h f0 hf0 hl
  have hothers : ∀ h' f', h' ≠ h → s.files h' = some f' → f'.st = .live → f'.path ≠ f.path :=
    fun h' f' e hf' hl' e2 => e (hI.distinct h' h f' f0 hf' hf0 hl' hl (e2.trans hpath))
  unfold updPos
  split
  · refine ⟨invS_used cfg _ _ (invS_replace cfg s h _ (some { f with pos := p, size := p }) hI
      (wfc_reinsert _ _ _ hI.wfc) ?_ ?_), ?_⟩
    · intro g e
      cases e
      exact ⟨Nat.le_refl p, fun _ => by rw [hst, hl]; nofun, fun _ => ⟨by rw [lookup_reinsert, if_pos rfl], hothers⟩⟩
    · intro h' f' e hf' hl'
      rw [lookup_reinsert, if_neg (hothers h' f' e hf' hl')]
    · have := total_reinsert s.content f.path p f0.size hI.wfc (hpath ▸ hag)
      simp only; omega
  · have hp2 : f.size = f0.size ∧ p ≤ f.size := by omega
    exact ⟨invS_upd_same cfg s h f0 { f with pos := p } hI hf0 hpath hst hp2.1 hp2.2, by simp only; omega⟩

theorem step_inv_open (cfg : Cfg) (s : State κ) (h : Nat) (p : κ) (hI : Inv cfg s) (hwf : wfOp s (.open h p)) :
    Inv cfg (step cfg s (.open h p)).1 := by
  obtain ⟨hnone, hfresh⟩ := hwf
  have hothers : ∀ h' f', h' ≠ h → s.files h' = some f' → f'.st = .live → f'.path ≠ p :=
    fun h' f' _ hf' hl' => hfresh h' f' hf' hl'
  simp only [step]
  split
  · next sz hsz =>
    exact ⟨invS_replace cfg s h s.content _ hI.toInvS hI.wfc
      (fun f hf => by cases hf; exact ⟨Nat.zero_le _, fun _ => nofun, fun _ => ⟨hsz, hothers⟩⟩)
      (fun _ _ _ _ _ => rfl), hI.used⟩
  · next hn =>
    refine ⟨invS_replace cfg s h _ _ hI.toInvS (wfc_insertNew _ _ _ hI.wfc)
      (fun f hf => by
        cases hf
        exact ⟨Nat.le_refl 0, fun _ => nofun, fun _ => ⟨by rw [insertNew_of_none _ _ _ hn]; simp [lookup], hothers⟩⟩)
      (fun h' f' e hf' hl' => lookup_insertNew_ne _ _ _ _ (hothers h' f' e hf' hl')), ?_⟩
    simp only
    rw [total_insert_fresh _ _ _ hn, hI.used]
    simp

theorem step_inv_close (cfg : Cfg) (s : State κ) (h : Nat) (hI : Inv cfg s) :
    Inv cfg (step cfg s (.close h)).1 := by
  simp only [step]
  split
  · exact hI
  · exact ⟨invS_replace cfg s h s.content none hI.toInvS hI.wfc nofun (fun _ _ _ _ _ => rfl), hI.used⟩

theorem step_inv_read (cfg : Cfg) (s : State κ) (h n : Nat) (hI : Inv cfg s) :
    Inv cfg (step cfg s (.read h n)).1 := by
  simp only [step]
  split
  · exact hI
  · rename_i f hf
    split
    · exact hI
    · have hp := hI.posle h f hf
      exact ⟨invS_upd_same cfg s h f _ hI.toInvS hf rfl rfl rfl (by simp only; omega), hI.used⟩

theorem step_inv_write (cfg : Cfg) (s : State κ) (h n : Nat) (inside : Bool) (hI : Inv cfg s)
    (hwf : wfOp s (.write h n inside)) (hs : safe cfg s (.write h n inside)) :
    Inv cfg (step cfg s (.write h n inside)).1 := by
  obtain ⟨f, hf, hu⟩ := hwf
  have hl := live_of cfg s hI.toInvS h f hf hu hs.1
  have hp := hI.posle h f hf
  simp only [step, hf]
  refine fst_ite (fun _ => hI) fun hn => fst_ite (fun _ => hI) fun _ => ?_
  have hU := hI.used
  have hpn : f.size < f.pos + n ∨ f.size = f.size ∧ f.pos + n ≤ f.size := (Nat.lt_or_ge _ _).imp_right fun h => ⟨rfl, h⟩
  cases inside
  · cases hc : cfg.fixTrunc
    · have hps : f.pos = f.size := by
        rcases hs.2 with h1 | h1 | h1
        · rw [hc] at h1; cases h1
        · cases h1
        · exact h1 f hf
      exact inv_updPos cfg { s with used := s.used - ((f.size - f.pos : Nat) : Int) } h f f _
        (invS_used cfg s _ hI.toInvS) hf hl rfl rfl (Nat.le_refl _) (by simp only; omega) hpn
    · exact inv_updPos cfg { s with used := s.used - ((f.size - f.pos : Nat) : Int) } h { f with size := f.pos } f _
        (invS_used cfg s _ hI.toInvS) hf hl rfl rfl hp ((Int.sub_add_cancel _ _).trans hU)
        (.inl (Nat.lt_add_of_pos_right (Nat.pos_of_ne_zero hn)))
  · exact inv_updPos cfg s h f f _ hI.toInvS hf hl rfl rfl (Nat.le_refl _) (by omega) hpn

theorem step_inv_seek (cfg : Cfg) (s : State κ) (h : Nat) (off : Int) (o : Origin) (hI : Inv cfg s)
    (hwf : wfOp s (.seek h off o)) (hs : safe cfg s (.seek h off o)) :
    Inv cfg (step cfg s (.seek h off o)).1 := by
  obtain ⟨f, hf, hu, hpos⟩ := hwf
  have hl := live_of cfg s hI.toInvS h f hf hu hs
  simp only [step, hf]
  split
  · exact hI
  · apply inv_updPos cfg s h f f _ hI.toInvS hf hl rfl rfl (Nat.le_refl _)
    · simpa using hI.used
    · omega

theorem step_inv_unlink (cfg : Cfg) (s : State κ) (h : Nat) (hI : Inv cfg s)
    (hwf : wfOp s (.unlink h)) (hs : safe cfg s (.unlink h)) :
    Inv cfg (step cfg s (.unlink h)).1 := by
  obtain ⟨f, hf, hu⟩ := hwf
  have hl := live_of cfg s hI.toInvS h f hf hu hs
  have hag := hI.agree h f hf hl
  simp only [step, hf, hag]
  refine ⟨?_, ?_⟩
  · refine invS_used cfg _ _ (invS_replace cfg s h (erase s.content f.path) (some { f with st := .unlinked }) hI.toInvS
      (wfc_erase _ f.path hI.wfc) ?_ ?_)
    · intro g e
      cases e
      exact ⟨hI.posle h f hf, fun _ => nofun, nofun⟩
    · intro h' f' e hf' hl'
      exact lookup_erase_ne _ _ _ fun e2 => e (hI.distinct h' h f' f hf' hf hl' hl e2)
  · simp only
    have := total_erase s.content f.path f.size hI.wfc hag
    have := hI.used
    omega

theorem moveDst_spec (b : Bool) (c1 : Content κ) (u : Int) (p' : κ) (hw : WFc c1) :
    WFc (moveDst b c1 u p').1 ∧ (∀ q, q ≠ p' → lookup (moveDst b c1 u p').1 q = lookup c1 q) ∧
    ((lookup c1 p' = none ∨ b = true) →
      lookup (moveDst b c1 u p').1 p' = none ∧
      (moveDst b c1 u p').2 - (total (moveDst b c1 u p').1 : Int) = u - (total c1 : Int)) := by
  unfold moveDst
  split
  · rename_i dsz hd
    refine ⟨wfc_erase _ _ hw, fun q hq => lookup_erase_ne _ _ _ hq, fun _ => ⟨lookup_erase_self _ _, ?_⟩⟩
    have := total_erase c1 p' dsz hw hd
    simp only; omega
  · rename_i hno
    refine ⟨hw, fun _ _ => rfl, fun h => ⟨?_, rfl⟩⟩
    rcases h with h | h
    · exact h
    · subst h
      cases hl : lookup c1 p' with
      | none => rfl
      | some d => exact absurd hl (hno d rfl)

theorem moveFile_spec (b : Bool) (f : File κ) (p' : κ) (hl : f.st = .live) :
    (moveFile b f p').pos = f.pos ∧ (moveFile b f p').size = f.size ∧ (b = true → (moveFile b f p').st ≠ .stale) ∧
      ((moveFile b f p').st = .live → (moveFile b f p').path = p') := by
  unfold moveFile
  cases b
  · by_cases e : p' = f.path <;> simp [e, hl]
  · simp [hl]

theorem step_inv_move (cfg : Cfg) (s : State κ) (h : Nat) (t : Option κ) (hI : Inv cfg s)
    (hwf : wfOp s (.move h t)) (hs : safe cfg s (.move h t)) :
    Inv cfg (step cfg s (.move h t)).1 := by
  obtain ⟨f, hf, hu, hothers⟩ := hwf
  obtain ⟨hs1, hs2⟩ := hs
  have hl := live_of cfg s hI.toInvS h f hf hu hs1
  have hag := hI.agree h f hf hl
  have hU := hI.used
  cases t with
  | none => simp only [step, hf]; exact hI
  | some p' =>
    simp only [step, hf, hag]
    have hw1 : WFc (erase s.content f.path) := wfc_erase _ _ hI.wfc
    have ht1 := total_erase s.content f.path f.size hI.wfc hag
    obtain ⟨hd1, hd2, hd3⟩ := moveDst_spec cfg.fixMoveOver (erase s.content f.path) s.used p' hw1
    have hcond : lookup (erase s.content f.path) p' = none ∨ cfg.fixMoveOver = true := by
      by_cases e : p' = f.path
      · left; rw [e]; exact lookup_erase_self _ _
      · rcases hs2 with h1 | h1
        · right; exact h1
        · rcases h1 f p' hf rfl with h2 | h2
          · exact absurd h2 e
          · left; rw [lookup_erase_ne _ _ _ e]; exact h2
    obtain ⟨hn, hacc⟩ := hd3 hcond
    refine ⟨?_, ?_⟩
    · refine invS_used cfg _ _ (invS_replace cfg s h
        (insertNew (moveDst cfg.fixMoveOver (erase s.content f.path) s.used p').fst p' f.size)
        (some (moveFile cfg.fixMovePath f p')) hI.toInvS (wfc_insertNew _ _ _ hd1) ?_ ?_)
      · intro g e
        cases e
        obtain ⟨m1, m2, m3, m4⟩ := moveFile_spec cfg.fixMovePath f p' hl
        refine ⟨m1 ▸ m2 ▸ hI.posle h f hf, m3, fun hlv => ?_⟩
        rw [m4 hlv, m2, insertNew_of_none _ _ _ hn]
        exact ⟨by simp [lookup], hothers p' rfl⟩
      · intro h' f'' e' hf'' hl''
        have hne1 : f''.path ≠ f.path := fun e2 => e' (hI.distinct h' h f'' f hf'' hf hl'' hl e2)
        have hne2 : f''.path ≠ p' := hothers p' rfl h' f'' e' hf'' hl''
        rw [lookup_insertNew_ne _ _ _ _ hne2, hd2 _ hne2, lookup_erase_ne _ _ _ hne1]
    · simp only
      rw [total_insert_fresh _ _ _ hn]
      omega

theorem step_inv (cfg : Cfg) (s : State κ) (op : Op κ) (hI : Inv cfg s) (hwf : wfOp s op) (hs : safe cfg s op) :
    Inv cfg (step cfg s op).1 := by
  cases op with
  | «open» h p => exact step_inv_open cfg s h p hI hwf
  | close h => exact step_inv_close cfg s h hI
  | read h n => exact step_inv_read cfg s h n hI
  | write h n i => exact step_inv_write cfg s h n i hI hwf hs
  | seek h off o => exact step_inv_seek cfg s h off o hI hwf hs
  | move h t => exact step_inv_move cfg s h t hI hwf hs
  | unlink h => exact step_inv_unlink cfg s h hI hwf hs

/-- states reachable from a freshly created disk by histories whose every operation satisfies `ok` -/
inductive Reach (cfg : Cfg) (ok : State κ → Op κ → Prop) : State κ → Prop where
  | init (cap : Nat) (c : Content κ) (hw : WFc c) : Reach cfg ok (init cap c)
  | step (s : State κ) (op : Op κ) : Reach cfg ok s → ok s op → Reach cfg ok (step cfg s op).1

theorem inv_of_reach (cfg : Cfg) (s : State κ) (hr : Reach cfg (fun s op => wfOp s op ∧ safe cfg s op) s) :
    Inv cfg s := by
  induction hr with
  | init cap c hw => exact inv_init cfg cap c hw
  | step s op _ hok ih => exact step_inv cfg s op ih hok.1 hok.2

theorem reach_fixed (s : State κ) (hr : Reach Cfg.fixed wfOp s) :
    Reach Cfg.fixed (fun s op => wfOp s op ∧ safe Cfg.fixed s op) s := by
  induction hr with
  | init cap c hw => exact Reach.init cap c hw
  | step s op _ hok ih => exact Reach.step s op ih ⟨hok, safe_fixed s op⟩

/-- `current_position_ ≤ size_` for every File object.  The same clause is `InvS.posle`, kept there under legal use with
the rest of the invariant; on its own it is kept by every operation whatever (`posle_step`), which is what
`read_le_remaining` needs: every history, legal or not. -/
def PosLe (s : State κ) : Prop := ∀ h f, s.files h = some f → f.pos ≤ f.size

omit [DecidableEq κ] in
theorem posle_upd (s : State κ) (h : Nat) (v : Option (File κ)) (hp : PosLe s) (hv : ∀ f, v = some f → f.pos ≤ f.size)
    (u : Int) (c : Content κ) : PosLe { s with used := u, content := c, files := upd s.files h v } := by
  intro h' f' hf'
  rcases upd_some hf' with ⟨_, e⟩ | ⟨_, hf'⟩
  · exact hv f' e
  · exact hp h' f' hf'

theorem posle_updPos (s : State κ) (h : Nat) (f : File κ) (p : Nat) (hp : PosLe s) : PosLe (updPos s h f p) := by
  unfold updPos
  split
  · exact posle_upd s h _ hp (by intro f' hf'; simp at hf'; subst hf'; simp) _ _
  · exact posle_upd s h _ hp (by intro f' hf'; simp at hf'; subst hf'; simp; omega) s.used s.content

theorem posle_step (cfg : Cfg) (s : State κ) (op : Op κ) (hp : PosLe s) : PosLe (step cfg s op).1 := by
  cases op with
  | «open» h p =>
    simp only [step]
    cases lookup s.content p <;> exact posle_upd s h _ hp (fun _ e => by cases e; exact Nat.zero_le _) _ _
  | close h =>
    simp only [step]
    cases s.files h with
    | none => exact hp
    | some f => exact posle_upd s h none hp nofun s.used s.content
  | read h n =>
    simp only [step]
    cases hf : s.files h with
    | none => exact hp
    | some f =>
      have := hp h f hf
      exact fst_ite (fun _ => hp) fun _ =>
        posle_upd s h _ hp (fun _ e => by cases e; simp only; omega) s.used s.content
  | write h n i =>
    simp only [step]
    cases s.files h with
    | none => exact hp
    | some f =>
      refine fst_ite (fun _ => hp) fun _ => fst_ite (fun _ => hp) fun _ => posle_updPos _ _ _ _ ?_
      cases i
      · exact fun h' f' hf' => hp h' f' hf'
      · exact hp
  | seek h off o =>
    simp only [step]
    cases s.files h with
    | none => exact hp
    | some f => exact fst_ite (fun _ => hp) fun _ => posle_updPos _ _ _ _ hp
  | move h t =>
    simp only [step]
    cases hf : s.files h with
    | none => exact hp
    | some f =>
      cases t with
      | none => exact hp
      | some p' =>
        dsimp only
        cases lookup s.content f.path with
        | none => exact hp
        | some sz =>
          have := hp h f hf
          exact posle_upd s h _ hp (by
            intro f' hf'; cases hf'; unfold moveFile; split <;> exact this) _ _
  | unlink h =>
    simp only [step]
    cases hf : s.files h with
    | none => exact hp
    | some f =>
      dsimp only
      cases lookup s.content f.path with
      | none => exact hp
      | some sz => exact posle_upd s h _ hp (fun _ e => by cases e; exact hp h f hf) _ _

theorem posle_of_reach (cfg : Cfg) (ok : State κ → Op κ → Prop) (s : State κ) (hr : Reach cfg ok s) : PosLe s := by
  induction hr with
  | init cap c hw => intro h f hf; simp [init] at hf
  | step s op _ _ ih => exact posle_step cfg s op ih

end SgVerif.C46
