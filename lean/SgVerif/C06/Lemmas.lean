/-
C06 — the invariant of the abstract condition-variable machine (C06/Spec.lean) over every history: an actor sits in at
most one queue (that of the object `blk` says), queues are duplicate-free, a condition-variable waiter does not own the
mutex it waits with, a free mutex has no blocked locker.  Core only.
-/
import SgVerif.C06.Spec
import SgVerif.Sync.Lemmas
import SgVerif.Common.Fold
import SgVerif.Common.List
namespace SgVerif.C06
open SgVerif.Sync

/-- actor `a` is in no queue -/
structure Out (s : ASt) (a : Aid) : Prop where
  cv : ∀ c x, x ∈ s.cv c → x.issuer ≠ a
  mx : ∀ m x, x ∈ (s.mx m).queue → x.1 ≠ a

structure AInv (s : ASt) : Prop where
  cvLoc : ∀ c x, x ∈ s.cv c → s.blk x.issuer = some (.cv c)
  mxLoc : ∀ m x, x ∈ (s.mx m).queue → s.blk x.1 = some (.mx m)
  cvNd : ∀ c, ((s.cv c).map (·.issuer)).Nodup
  mxNd : ∀ m, ((s.mx m).queue.map (·.1)).Nodup
  own : ∀ c x, x ∈ s.cv c → (s.mx x.mutex).owner ≠ some x.issuer
  free : ∀ m, (s.mx m).owner = none → (s.mx m).queue = []

theorem ainv_init : AInv ASt.init := by
  constructor <;> simp [ASt.init]

theorem out_of_unblocked {s : ASt} {a : Aid} (hi : AInv s) (hb : s.blk a = none) : Out s a := by
  constructor
  · intro c x hx e
    have := hi.cvLoc c x hx
    rw [e, hb] at this; cases this
  · intro m x hx e
    have := hi.mxLoc m x hx
    rw [e, hb] at this; cases this

theorem acquire_free (s : ASt) (a : Aid) (m : Nat) (r : Res) (h : (s.mx m).owner = none) :
    s.acquire a m r =
      ({ s with mx := upd s.mx m { (s.mx m) with owner := some a }, blk := upd s.blk a none }, [(a, r)]) := by
  unfold ASt.acquire; simp only [h]

theorem acquire_queued (s : ASt) (a : Aid) (m : Nat) (r : Res) {o : Aid} (h : (s.mx m).owner = some o) :
    s.acquire a m r =
      ({ s with mx := upd s.mx m { (s.mx m) with queue := (s.mx m).queue ++ [(a, r)] },
                blk := upd s.blk a (some (.mx m)) }, []) := by
  unfold ASt.acquire; simp only [h]

theorem acquire_cv (s : ASt) (a : Aid) (m : Nat) (r : Res) : (s.acquire a m r).1.cv = s.cv := by
  unfold ASt.acquire; split <;> rfl

theorem acquire_mx_other (s : ASt) (a : Aid) (m : Nat) (r : Res) (m' : Nat) (h : m' ≠ m) :
    (s.acquire a m r).1.mx m' = s.mx m' := by
  unfold ASt.acquire
  split <;> simp [upd_ne _ _ h]

theorem AInv.set_mx {s : ASt} (hi : AInv s) (m : Nat) (am : AMutex) (blk' : Aid → Option Loc)
    (hcv : ∀ c x, x ∈ s.cv c → blk' x.issuer = s.blk x.issuer)
    (hmx : ∀ m' x, m' ≠ m → x ∈ (s.mx m').queue → blk' x.1 = s.blk x.1)
    (hq : ∀ x ∈ am.queue, blk' x.1 = some (.mx m)) (hnd : (am.queue.map (·.1)).Nodup)
    (hown : ∀ c x, x ∈ s.cv c → x.mutex = m → am.owner ≠ some x.issuer) (hfree : am.owner = none → am.queue = []) :
    AInv { s with mx := upd s.mx m am, blk := blk' } := by
  refine ⟨fun c x hx => (hcv c x hx).trans (hi.cvLoc c x hx), ?_, hi.cvNd, ?_, ?_, ?_⟩
  all_goals dsimp only
  · intro m' x hx
    by_cases e : m' = m
    · subst e; rw [upd_same] at hx; exact hq x hx
    · rw [upd_ne _ _ e] at hx; exact (hmx m' x e hx).trans (hi.mxLoc m' x hx)
  · intro m'
    by_cases e : m' = m
    · subst e; rw [upd_same]; exact hnd
    · rw [upd_ne _ _ e]; exact hi.mxNd m'
  · intro c x hx
    by_cases e : x.mutex = m
    · rw [e, upd_same]; exact hown c x hx e
    · rw [upd_ne _ _ e]; exact hi.own c x hx
  · intro m'
    by_cases e : m' = m
    · subst e; rw [upd_same]; exact hfree
    · rw [upd_ne _ _ e]; exact hi.free m'

theorem ainv_acquire {s : ASt} {a : Aid} (m : Nat) (r : Res) (hi : AInv s) (ho : Out s a) :
    AInv (s.acquire a m r).1 := by
  have hcv : ∀ v c x, x ∈ s.cv c → upd s.blk a v x.issuer = s.blk x.issuer := fun v c x hx => upd_ne _ _ (ho.cv c x hx)
  have hmx : ∀ v m' x, x ∈ (s.mx m').queue → upd s.blk a v x.1 = s.blk x.1 := fun v m' x hx => upd_ne _ _ (ho.mx m' x hx)
  cases hown : (s.mx m).owner with
  | none =>
    rw [acquire_free s a m r hown]
    refine hi.set_mx m _ _ (hcv _) (fun m' x _ => hmx _ m' x) ?_ (hi.mxNd m) ?_ nofun
    · intro x hx
      exact (hmx _ m x hx).trans (hi.mxLoc m x hx)
    · intro c x hx _ h
      exact ho.cv c x hx (Option.some.inj h).symm
  | some o =>
    rw [acquire_queued s a m r hown]
    refine hi.set_mx m _ _ (hcv _) (fun m' x _ => hmx _ m' x) ?_ ?_ ?_ (fun h => by rw [hown] at h; cases h)
    · intro x hx
      rcases List.mem_append.mp hx with hx | hx
      · exact (hmx _ m x hx).trans (hi.mxLoc m x hx)
      · rw [List.mem_singleton.mp hx]; exact upd_same ..
    · rw [List.map_append]
      refine nodup_concat (hi.mxNd m) fun hy => ?_
      obtain ⟨x, hx, e⟩ := List.mem_map.mp hy
      exact ho.mx m x hx e
    · intro c x hx e
      exact e ▸ hi.own c x hx

theorem acquire_owner_keep (s : ASt) (a : Aid) (m : Nat) (r : Res) (m' : Nat) (b : Aid)
    (h : (s.mx m').owner = some b) : ((s.acquire a m r).1.mx m').owner = some b := by
  by_cases e : m' = m
  · subst e; rw [acquire_queued s a m' r h]; simpa using h
  · rw [acquire_mx_other s a m r m' e]; exact h

/-- only an acquire of a free mutex answers, and it answers the caller, who then owns the mutex -/
theorem acquire_out (s : ASt) (a : Aid) (m : Nat) (r : Res) :
    ∀ x ∈ (s.acquire a m r).2, x = (a, r) ∧ ((s.acquire a m r).1.mx m).owner = some a := by
  intro x hx
  cases h : (s.mx m).owner with
  | none =>
    rw [acquire_free s a m r h] at hx ⊢
    exact ⟨List.mem_singleton.mp hx, by simp⟩
  | some o => rw [acquire_queued s a m r h] at hx; cases hx

theorem release_cv (s : ASt) (m : Nat) : (s.release m).1.cv = s.cv := by
  unfold ASt.release; split <;> rfl

theorem ainv_release {s : ASt} (m : Nat) (hi : AInv s) : AInv (s.release m).1 := by
  unfold ASt.release
  split
  · exact hi.set_mx m _ _ (fun _ _ _ => rfl) (fun _ _ _ _ => rfl) nofun List.nodup_nil (fun _ _ _ _ => nofun) (fun _ => rfl)
  · rename_i x rest hq
    have hbx := hi.mxLoc m x (hq ▸ List.mem_cons_self)
    have hnd := hi.mxNd m
    rw [hq, List.map_cons, List.nodup_cons] at hnd
    -- `x` sits in the queue of `m` and nowhere else
    have hcv : ∀ c y, y ∈ s.cv c → y.issuer ≠ x.1 := fun c y hy e => by
      have := hi.cvLoc c y hy
      rw [e, hbx] at this; cases this
    refine hi.set_mx m _ _ (fun c y hy => upd_ne _ _ (hcv c y hy)) ?_ ?_ hnd.2 ?_ nofun
    · intro m' y e hy
      refine upd_ne _ _ fun e' => ?_
      have := hi.mxLoc m' y hy
      rw [e', hbx] at this
      exact e (Loc.mx.inj (Option.some.inj this)).symm
    · intro y hy
      rw [upd_ne _ _ fun (e : y.1 = x.1) => hnd.1 (e ▸ List.mem_map_of_mem hy)]
      exact hi.mxLoc m y (hq ▸ List.mem_cons_of_mem _ hy)
    · intro c y hy _ h
      exact hcv c y hy (Option.some.inj h).symm

theorem out_release {s : ASt} {a : Aid} (m : Nat) (ho : Out s a) : Out (s.release m).1 a := by
  constructor
  · intro c x hx; rw [release_cv] at hx; exact ho.cv c x hx
  · intro m' x hx
    unfold ASt.release at hx
    split at hx
    · by_cases e : m' = m
      · subst e; simp at hx
      · simp only [upd_ne _ _ e] at hx; exact ho.mx m' x hx
    · rename_i y rest hq
      by_cases e : m' = m
      · subst e
        simp only [upd_same] at hx
        exact ho.mx m' x (by rw [hq]; exact List.mem_cons_of_mem _ hx)
      · simp only [upd_ne _ _ e] at hx; exact ho.mx m' x hx

theorem release_owner {s : ASt} {a : Aid} (m : Nat) (ho : Out s a) : ((s.release m).1.mx m).owner ≠ some a := by
  unfold ASt.release
  split
  · simp
  · rename_i x rest hq
    simp only [upd_same]
    intro h; injection h with h
    exact ho.mx m x (by rw [hq]; simp) h

theorem release_out (s : ASt) (m : Nat) : ∀ x ∈ (s.release m).2,
    (∃ rest, (s.mx m).queue = x :: rest) ∧ ((s.release m).1.mx m).owner = some x.1 := by
  intro x hx
  unfold ASt.release at hx ⊢
  split at hx
  · simp at hx
  · rename_i y rest hq
    simp only [List.mem_singleton] at hx
    subst hx
    simp [hq]

theorem AInv.set_cv {s : ASt} (hi : AInv s) (c : Nat) (q : List AWaiter) (blk' : Aid → Option Loc)
    (hcv : ∀ c' x, c' ≠ c → x ∈ s.cv c' → blk' x.issuer = s.blk x.issuer)
    (hmx : ∀ m x, x ∈ (s.mx m).queue → blk' x.1 = s.blk x.1)
    (hq : ∀ x ∈ q, blk' x.issuer = some (.cv c)) (hnd : (q.map (·.issuer)).Nodup)
    (hown : ∀ x ∈ q, (s.mx x.mutex).owner ≠ some x.issuer) :
    AInv { s with cv := upd s.cv c q, blk := blk' } := by
  refine ⟨?_, fun m x hx => (hmx m x hx).trans (hi.mxLoc m x hx), ?_, hi.mxNd, ?_, hi.free⟩
  all_goals dsimp only
  · intro c' x hx
    by_cases e : c' = c
    · subst e; rw [upd_same] at hx; exact hq x hx
    · rw [upd_ne _ _ e] at hx; exact (hcv c' x e hx).trans (hi.cvLoc c' x hx)
  · intro c'
    by_cases e : c' = c
    · subst e; rw [upd_same]; exact hnd
    · rw [upd_ne _ _ e]; exact hi.cvNd c'
  · intro c' x hx
    by_cases e : c' = c
    · subst e; rw [upd_same] at hx; exact hown x hx
    · rw [upd_ne _ _ e] at hx; exact hi.own c' x hx

theorem ainv_cvpush {s : ASt} {a : Aid} (c m : Nat) (t : Bool) (hi : AInv s) (ho : Out s a)
    (hown : (s.mx m).owner ≠ some a) :
    AInv { s with cv := upd s.cv c (s.cv c ++ [{ issuer := a, mutex := m, timed := t }]),
                  blk := upd s.blk a (some (.cv c)) } := by
  refine hi.set_cv c _ _ (fun c' x _ hx => upd_ne _ _ (ho.cv c' x hx)) (fun m' x hx => upd_ne _ _ (ho.mx m' x hx))
    ?_ ?_ ?_
  · intro x hx
    rcases List.mem_append.mp hx with hx | hx
    · exact (upd_ne _ _ (ho.cv c x hx)).trans (hi.cvLoc c x hx)
    · rw [List.mem_singleton.mp hx]; exact upd_same ..
  · rw [List.map_append]
    refine nodup_concat (hi.cvNd c) fun hy => ?_
    obtain ⟨x, hx, e⟩ := List.mem_map.mp hy
    exact ho.cv c x hx e
  · intro x hx
    rcases List.mem_append.mp hx with hx | hx
    · exact hi.own c x hx
    · rw [List.mem_singleton.mp hx]; exact hown

/-- `blk` may keep what it says of the waiters that leave: the invariant is one-directional -/
theorem ainv_cvshrink {s : ASt} (c : Nat) (q : List AWaiter) (hi : AInv s) (hsub : ∀ y ∈ q, y ∈ s.cv c)
    (hnd : (q.map (·.issuer)).Nodup) : AInv { s with cv := upd s.cv c q } :=
  hi.set_cv c q s.blk (fun _ _ _ _ => rfl) (fun _ _ _ => rfl) (fun x hx => hi.cvLoc c x (hsub x hx)) hnd
    fun x hx => hi.own c x (hsub x hx)

theorem out_removed {s : ASt} {c : Nat} {x : AWaiter} (q : List AWaiter) (hi : AInv s) (hx : x ∈ s.cv c)
    (hq : ∀ y ∈ q, y ∈ s.cv c ∧ y.issuer ≠ x.issuer) : Out { s with cv := upd s.cv c q } x.issuer := by
  have hbx := hi.cvLoc c x hx
  constructor
  · intro c' y hy
    by_cases e : c' = c
    · subst e; simp only [upd_same] at hy; exact (hq y hy).2
    · simp only [upd_ne _ _ e] at hy
      intro e'
      have := hi.cvLoc c' y hy
      rw [e', hbx] at this
      injection this with this; injection this with this; exact e this.symm
  · intro m y hy e'
    have := hi.mxLoc m y hy
    rw [e', hbx] at this; cases this

theorem eraseW_eq (a : Aid) : ∀ q : List AWaiter, eraseW a q = q.eraseP (a == ·.issuer)
  | [] => rfl
  | x :: xs => by
    rw [eraseW, eraseW_eq a xs, List.eraseP_cons]
    by_cases h : a = x.issuer
    · simp [h]
    · simp [Ne.symm h, beq_false_of_ne h]

theorem eraseW_issuers (a : Aid) (q : List AWaiter) : (eraseW a q).map (·.issuer) = (q.map (·.issuer)).erase a := by
  rw [eraseW_eq, List.erase_eq_eraseP, List.eraseP_map]; rfl

theorem eraseW_mem {a : Aid} {q : List AWaiter} {x : AWaiter} (h : x ∈ eraseW a q) : x ∈ q :=
  List.mem_of_mem_eraseP (eraseW_eq a q ▸ h)

theorem eraseW_nodup {a : Aid} {q : List AWaiter} (hnd : (q.map (·.issuer)).Nodup) :
    ((eraseW a q).map (·.issuer)).Nodup ∧ ∀ y ∈ eraseW a q, y.issuer ≠ a :=
  ⟨eraseW_issuers a q ▸ hnd.erase a, fun _ hy =>
    (hnd.mem_erase_iff.mp (eraseW_issuers a q ▸ List.mem_map_of_mem hy)).1⟩

/-- the conditions under which `astep` accepts an event, with the state and answers it produces -/
inductive AStep (s : ASt) : CEv → ASt → Outs → Prop
  | lock {a m} (hb : s.blk a = none) (ho : (s.mx m).owner ≠ some a) :
      AStep s (.lock a m) (s.acquire a m .unit).1 (s.acquire a m .unit).2
  | tryFree {a m} (hb : s.blk a = none) (ho : (s.mx m).owner = none) :
      AStep s (.tryLock a m) { s with mx := upd s.mx m { (s.mx m) with owner := some a } } [(a, .flag true)]
  | tryBusy {a m x} (hb : s.blk a = none) (ho : (s.mx m).owner = some x) : AStep s (.tryLock a m) s [(a, .flag false)]
  | unlock {a m} (hb : s.blk a = none) (ho : (s.mx m).owner = some a) :
      AStep s (.unlock a m) (s.release m).1 ((s.release m).2 ++ [(a, .unit)])
  | wait {a c m timed} (hb : s.blk a = none) (ho : (s.mx m).owner = some a) :
      AStep s (.wait a c m timed)
        { (s.release m).1 with
          cv := upd (s.release m).1.cv c ((s.release m).1.cv c ++ [{ issuer := a, mutex := m, timed := timed }]),
          blk := upd (s.release m).1.blk a (some (.cv c)) } (s.release m).2
  | notifyNone {a c} (hb : s.blk a = none) (hq : s.cv c = []) : AStep s (.notifyOne a c) s [(a, .unit)]
  | notifyOne {a c x rest} (hb : s.blk a = none) (hq : s.cv c = x :: rest) :
      AStep s (.notifyOne a c) (({ s with cv := upd s.cv c rest } : ASt).acquire x.issuer x.mutex (.flag false)).1
        ((({ s with cv := upd s.cv c rest } : ASt).acquire x.issuer x.mutex (.flag false)).2 ++ [(a, .unit)])
  | notifyAll {a c} (hb : s.blk a = none) :
      AStep s (.notifyAll a c) (s.wakeList c (s.cv c)).1 ((s.wakeList c (s.cv c)).2 ++ [(a, .unit)])
  | timeout {c x} (hx : x ∈ s.cv c) (hf : (s.cv c).find? (fun y => y.issuer = x.issuer ∧ y.timed) = some x) :
      AStep s (.timeout x.issuer c)
        (({ s with cv := upd s.cv c (eraseW x.issuer (s.cv c)) } : ASt).acquire x.issuer x.mutex (.flag true)).1
        (({ s with cv := upd s.cv c (eraseW x.issuer (s.cv c)) } : ASt).acquire x.issuer x.mutex (.flag true)).2

theorem astep_ok {s s' : ASt} {e : CEv} {o : Outs} (h : astep s e = .ok (s', o)) : AStep s e s' o := by
  cases e <;> simp only [astep, ite_error_eq_ok, Option.not_isSome_iff_eq_none, Decidable.not_not, Except.ok.injEq,
    Prod.mk.injEq] at h
  · obtain ⟨hb, ho, he⟩ := h
    obtain ⟨rfl, rfl⟩ := Prod.mk.inj he
    exact .lock hb ho
  · obtain ⟨hb, h⟩ := h
    split at h <;> obtain ⟨rfl, rfl⟩ := Prod.mk.inj (Except.ok.inj h)
    · exact .tryFree hb ‹_›
    · exact .tryBusy hb ‹_›
  · obtain ⟨hb, ho, rfl, rfl⟩ := h
    exact .unlock hb ho
  · obtain ⟨hb, ho, rfl, rfl⟩ := h
    exact .wait hb ho
  · obtain ⟨hb, h⟩ := h
    split at h <;> obtain ⟨rfl, rfl⟩ := Prod.mk.inj (Except.ok.inj h)
    · exact .notifyNone hb ‹_›
    · exact .notifyOne hb ‹_›
  · obtain ⟨hb, rfl, rfl⟩ := h
    exact .notifyAll hb
  · split at h
    · cases h
    · rename_i x hf
      obtain ⟨rfl, rfl⟩ := Prod.mk.inj (Except.ok.inj h)
      have := List.find?_some hf
      simp only [decide_eq_true_eq] at this
      obtain rfl := this.1
      exact .timeout (List.mem_of_find?_eq_some hf) hf

theorem ainv_pop_acquire {s : ASt} {c : Nat} {x : AWaiter} {rest : List AWaiter} (r : Res) (hi : AInv s)
    (hq : s.cv c = x :: rest) :
    AInv (({ s with cv := upd s.cv c rest } : ASt).acquire x.issuer x.mutex r).1 := by
  have hxm : x ∈ s.cv c := by rw [hq]; simp
  have hnd := hi.cvNd c
  rw [hq] at hnd
  simp only [List.map_cons, List.nodup_cons] at hnd
  have hsub : ∀ y ∈ rest, y ∈ s.cv c := fun y hy => by rw [hq]; exact List.mem_cons_of_mem _ hy
  have h1 := ainv_cvshrink c rest hi hsub hnd.2
  have ho := out_removed rest hi hxm (fun y hy => ⟨hsub y hy, fun e => hnd.1 (e ▸ List.mem_map_of_mem hy)⟩)
  exact ainv_acquire x.mutex r h1 ho

theorem ainv_wakeList {c : Nat} : ∀ (ws : List AWaiter) {s : ASt}, AInv s → s.cv c = ws → AInv (s.wakeList c ws).1
  | [], _, hi, _ => hi
  | x :: rest, s, hi, hq => by
    simp only [ASt.wakeList]
    exact ainv_wakeList rest (ainv_pop_acquire (.flag false) hi hq) (by rw [acquire_cv]; simp)

theorem ainv_step {s s' : ASt} {e : CEv} {o : Outs} (hi : AInv s) (h : astep s e = .ok (s', o)) : AInv s' := by
  cases astep_ok h with
  | lock hb _ => exact ainv_acquire _ .unit hi (out_of_unblocked hi hb)
  | @tryFree _ m hb hown =>
    -- a successful try_lock is the acquire of a free mutex by an actor that is not blocked
    have := ainv_acquire m (.flag true) hi (out_of_unblocked hi hb)
    rwa [acquire_free s _ m _ hown, upd_eq_self hb] at this
  | tryBusy | notifyNone => exact hi
  | unlock => exact ainv_release _ hi
  | wait hb _ =>
    have ho := out_of_unblocked hi hb
    exact ainv_cvpush _ _ _ (ainv_release _ hi) (out_release _ ho) (release_owner _ ho)
  | notifyOne _ hq => exact ainv_pop_acquire (.flag false) hi hq
  | notifyAll => exact ainv_wakeList _ hi rfl
  | @timeout c x hxm _ =>
    obtain ⟨n1, n2⟩ := eraseW_nodup (a := x.issuer) (hi.cvNd c)
    have h1 := ainv_cvshrink c (eraseW x.issuer (s.cv c)) hi (fun y hy => eraseW_mem hy) n1
    have ho := out_removed (eraseW x.issuer (s.cv c)) hi hxm (fun y hy => ⟨eraseW_mem hy, n2 y hy⟩)
    exact ainv_acquire x.mutex (.flag true) h1 ho

theorem ainv_run (es : List CEv) : ∀ {s s' : ASt} {o : Outs}, AInv s → arun s es = .ok (s', o) → AInv s' := by
  induction es with
  | nil => intro s s' o hi h; simp [arun] at h; obtain ⟨rfl, -⟩ := h; exact hi
  | cons e es ih =>
    intro s s' o hi h
    simp only [arun] at h
    split at h
    · simp at h
    · rename_i s1 o1 he
      split at h
      · simp at h
      · rename_i s2 o2 hr
        simp only [Except.ok.injEq, Prod.mk.injEq] at h
        obtain ⟨rfl, -⟩ := h
        exact ih (ainv_step hi he) hr

theorem find_unique {l : List AWaiter} {x : AWaiter} (hnd : (l.map (·.issuer)).Nodup) (hx : x ∈ l) :
    l.find? (fun y => decide (y.issuer = x.issuer)) = some x := by
  induction l with
  | nil => simp at hx
  | cons y ys ih =>
    simp only [List.map_cons, List.nodup_cons] at hnd
    simp only [List.find?_cons]
    rcases List.mem_cons.mp hx with rfl | hx
    · simp
    · have : y.issuer ≠ x.issuer := fun e => hnd.1 (e ▸ List.mem_map_of_mem hx)
      simp [this, ih hnd.2 hx]

theorem waitsFor_cv {s : ASt} (hi : AInv s) {c : Nat} {x : AWaiter} (hx : x ∈ s.cv c) :
    s.waitsFor x.issuer = some x.mutex := by
  unfold ASt.waitsFor
  rw [hi.cvLoc c x hx]
  simp [find_unique (hi.cvNd c) hx]

theorem waitsFor_mx {s : ASt} (hi : AInv s) {m : Nat} {x : Aid × Res} (hx : x ∈ (s.mx m).queue) :
    s.waitsFor x.1 = some m := by
  unfold ASt.waitsFor
  rw [hi.mxLoc m x hx]

theorem waitsFor_none {s : ASt} {a : Aid} (hb : s.blk a = none) : s.waitsFor a = none := by
  unfold ASt.waitsFor
  rw [hb]

/-- the `drop`: when `m` was free, the first woken waiter that waits with `m` takes it and returns instead of queueing -/
theorem wakeList_queue (c m : Nat) : ∀ (ws : List AWaiter) (s : ASt),
    ((s.wakeList c ws).1.mx m).queue =
      (s.mx m).queue ++ (((ws.filter (fun x => decide (x.mutex = m))).map (fun x => (x.issuer, Res.flag false))).drop
        (if (s.mx m).owner = none then 1 else 0))
  | [], s => by simp [ASt.wakeList]
  | x :: rest, s => by
    simp only [ASt.wakeList]
    rw [wakeList_queue c m rest]
    by_cases hxm : x.mutex = m
    · subst hxm
      cases hown : (s.mx x.mutex).owner with
      | none =>
        have hf : (({ s with cv := upd s.cv c rest } : ASt).mx x.mutex).owner = none := hown
        rw [acquire_free _ x.issuer x.mutex (.flag false) hf]
        simp
      | some o =>
        have hf : (({ s with cv := upd s.cv c rest } : ASt).mx x.mutex).owner = some o := hown
        rw [acquire_queued _ x.issuer x.mutex (.flag false) hf]
        simp [hown]
    · have hne : m ≠ x.mutex := fun e => hxm e.symm
      rw [acquire_mx_other _ x.issuer x.mutex (.flag false) m hne]
      simp [hxm]

theorem wakeList_owner_keep (c m' : Nat) (b : Aid) : ∀ (ws : List AWaiter) (s : ASt), (s.mx m').owner = some b →
    ((s.wakeList c ws).1.mx m').owner = some b
  | [], _, h => h
  | x :: rest, s, h => by
    simp only [ASt.wakeList]
    exact wakeList_owner_keep c m' b rest _ (acquire_owner_keep _ x.issuer x.mutex (.flag false) m' b h)

theorem wakeList_cv (c : Nat) : ∀ (ws : List AWaiter) (s : ASt), s.cv c = ws →
    (s.wakeList c ws).1.cv c = [] ∧ ∀ c', c' ≠ c → (s.wakeList c ws).1.cv c' = s.cv c'
  | [], _, h => ⟨h, fun _ _ => rfl⟩
  | x :: rest, s, _ => by
    simp only [ASt.wakeList]
    obtain ⟨h1, h2⟩ := wakeList_cv c rest
      (({ s with cv := upd s.cv c rest } : ASt).acquire x.issuer x.mutex (.flag false)).1 (by rw [acquire_cv]; simp)
    refine ⟨h1, ?_⟩
    intro c' hc
    rw [h2 c' hc, acquire_cv]
    simp [upd_ne _ _ hc]

theorem wakeList_outs (c : Nat) : ∀ (ws : List AWaiter) (s : ASt),
    ∀ y ∈ (s.wakeList c ws).2, ∃ x ∈ ws, y = (x.issuer, .flag false) ∧
      ((s.wakeList c ws).1.mx x.mutex).owner = some x.issuer
  | [], _ => by intro y hy; simp [ASt.wakeList] at hy
  | x :: rest, s => by
    intro y hy
    simp only [ASt.wakeList, List.mem_append] at hy ⊢
    rcases hy with hy | hy
    · obtain ⟨h1, h3⟩ := acquire_out _ x.issuer x.mutex (.flag false) y hy
      exact ⟨x, by simp, h1, wakeList_owner_keep c x.mutex x.issuer rest _ h3⟩
    · obtain ⟨x', hx', h1, h2⟩ := wakeList_outs c rest _ y hy
      exact ⟨x', List.mem_cons_of_mem _ hx', h1, h2⟩

theorem wakeList_all (c : Nat) : ∀ (ws : List AWaiter) (s : ASt),
    ∀ x ∈ ws, ((x.issuer, Res.flag false) ∈ (s.wakeList c ws).2 ∧
        ((s.wakeList c ws).1.mx x.mutex).owner = some x.issuer) ∨
      (x.issuer, Res.flag false) ∈ ((s.wakeList c ws).1.mx x.mutex).queue
  | [], _ => by intro x hx; simp at hx
  | x0 :: rest, s => by
    intro x hx
    simp only [ASt.wakeList, List.mem_append]
    rcases List.mem_cons.mp hx with rfl | hx
    · cases hown : (({ s with cv := upd s.cv c rest } : ASt).mx x.mutex).owner with
      | none =>
        rw [acquire_free _ x.issuer x.mutex (.flag false) hown]
        exact .inl ⟨.inl List.mem_cons_self, wakeList_owner_keep c x.mutex x.issuer rest _ (by simp)⟩
      | some o =>
        rw [wakeList_queue, acquire_queued _ x.issuer x.mutex (.flag false) hown]
        exact .inr (List.mem_append_left _ (by simp))
    · rcases wakeList_all c rest _ x hx with h | h
      · exact Or.inl ⟨Or.inr h.1, h.2⟩
      · exact Or.inr h

/-- The mutex of its `lock`, or of its condition-variable wait: taken at once when it is free (then nobody is queued on it,
`AInv.free`), else by the hand-off of an unlock, after having queued at the tail of the mutex FIFO. -/
theorem awake_owner {s s' : ASt} {e : CEv} {o : Outs} (hi : AInv s) (hs : astep s e = .ok (s', o)) :
    ∀ y ∈ o, ∀ m, s.waitsFor y.1 = some m → (s'.mx m).owner = some y.1 := by
  intro y hy m hm
  have hself : ∀ {a : Aid} {r : Res}, s.blk a = none → y ∈ [(a, r)] → False := fun hb hy => by
    rw [List.mem_singleton.mp hy, waitsFor_none hb] at hm; cases hm
  have hcv : ∀ {c : Nat} {x : AWaiter} {t : ASt} {r : Res}, x ∈ s.cv c → y ∈ (t.acquire x.issuer x.mutex r).2 →
      ((t.acquire x.issuer x.mutex r).1.mx m).owner = some y.1 := fun hx hy => by
    obtain ⟨h1, h3⟩ := acquire_out _ _ _ _ y hy
    rw [h1, waitsFor_cv hi hx] at hm
    rw [h1, ← Option.some.inj hm]; exact h3
  have hrel : ∀ {m0 : Nat}, y ∈ (s.release m0).2 → ((s.release m0).1.mx m).owner = some y.1 := fun hy => by
    obtain ⟨⟨rest, hq⟩, h2⟩ := release_out s _ y hy
    rw [waitsFor_mx hi (x := y) (by rw [hq]; exact List.mem_cons_self)] at hm
    rw [← Option.some.inj hm]; exact h2
  cases astep_ok hs with
  | lock hb _ =>
    obtain ⟨h1, -⟩ := acquire_out _ _ _ _ y hy
    exact (hself hb (List.mem_singleton.mpr h1)).elim
  | tryFree hb _ | tryBusy hb _ | notifyNone hb _ => exact (hself hb hy).elim
  | unlock hb _ => exact (List.mem_append.mp hy).elim hrel fun hy => (hself hb hy).elim
  | wait => exact hrel hy
  | notifyOne hb hq =>
    exact (List.mem_append.mp hy).elim (hcv (hq ▸ List.mem_cons_self)) fun hy => (hself hb hy).elim
  | @notifyAll _ c hb =>
    rcases List.mem_append.mp hy with hy | hy
    · obtain ⟨x, hx, h1, h2⟩ := wakeList_outs c (s.cv c) s y hy
      rw [h1, waitsFor_cv hi hx] at hm
      rw [h1, ← Option.some.inj hm]; exact h2
    · exact (hself hb hy).elim
  | timeout hxm _ => exact hcv hxm hy

end SgVerif.C06
