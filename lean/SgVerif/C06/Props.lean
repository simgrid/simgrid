/-
C06 — Condition variable semantics.  First the transliterated kernel functions at an ARBITRARY world state (notify_one/notify_all
are single simcalls, so "the waiters at that moment" is the queue in the state they run in); from `cond_refines_spec` on, whole
histories through the refinement to the abstract condition variable of C06/Spec.lean.
Timeouts: "the timeout action of a's wait finishes" is the explicit input event `condTimeout` (the clock is not in the
model; the correspondence driver feeds the event at call + t exactly).  MC split path: CONDVAR_ASYNC_LOCK /
CONDVAR_WAIT / MUTEX_WAIT are modelled and checked by correspondence (no timeout under MC: `mc_timeout_` not modelled).
Domain of the refinement: non-recursive mutexes (world `w0`); events of blocked actors and the re-lock of a mutex by its
owner are outside (`illFormed` in the abstract machine).
-/
import SgVerif.C06.Refine
namespace SgVerif.C06
open SgVerif.Sync

theorem waitFor_some {m : Mutex} {a : Aid} {r r' : Res} {g : Bool} (h : (m.waitFor a r g).2 = some r') :
    r' = r ∧ g = true ∧ (m.waitFor a r g).1 = m := by
  unfold Mutex.waitFor at h ⊢
  split at h
  · rename_i hg
    simp only [Option.some.injEq] at h
    simp [h, hg]
  · simp at h

/-- notify_one with nobody waiting is lost: no state change at all, nobody answered -/
theorem notify_one_lost_if_none (w : World) (c : Nat) (h : (w.conds c).queue = []) : condSignal w c = (w, []) := by
  simp [condSignal, h]

/-- notify_one removes exactly the head of the queue — the longest waiter, since waits are appended at the tail
(`wait_enqueues_at_tail`) — and leaves the others in order. -/
theorem notify_one_wakes_longest_waiter (w : World) (c : Nat) (acq : CAcq) (rest : List CAcq)
    (h : (w.conds c).queue = acq :: rest) : ((condSignal w c).1.conds c).queue = rest :=
  condSignal_queue h

theorem wait_enqueues_at_tail (w w' : World) (a : Aid) (c m : Nat) (o : Outs)
    (h : condAcquireAsync w a c m = .ok (w', o)) :
    (w'.conds c).queue = (w.conds c).queue ++ [{ issuer := a, mutex := m }] := by
  unfold condAcquireAsync at h
  split at h
  · simp at h
  · simp only [Except.ok.injEq, Prod.mk.injEq] at h
    obtain ⟨rfl, -⟩ := h
    simp

/-- a wait on a mutex the caller does not own is the assertion failure -/
theorem wait_requires_ownership (w : World) (a : Aid) (c m : Nat) (h : (w.mutexes m).owner ≠ some a) :
    condAcquireAsync w a c m = .error .assertNotOwner := by
  simp [condAcquireAsync, unlock_notOwner h]

/-- notify_all wakes every actor waiting at that moment: afterwards the queue is empty -/
theorem notify_all_empties_queue (w : World) (c : Nat) : ((condBroadcast w c).1.conds c).queue = [] :=
  condBroadcast_ind (P := fun _ r => ((r.1.conds c).queue = [])) (fun _ h => h) (fun _ _ _ _ _ ih => ih) w

/-- A woken or timed-out waiter returns only after re-acquiring its mutex: whenever the re-lock at the end of
finish() answers the waiter, the waiter is the owner of its mutex in the resulting state. -/
theorem wait_returns_holding_mutex (w : World) (a : Aid) (m : Nat) (t : Bool) :
    ∀ x ∈ (condRelock w a m t).2, x = (a, .flag t) ∧ ((condRelock w a m t).1.mutexes m).owner = some a := by
  intro x hx
  simp only [condRelock, optOut] at hx ⊢
  split at hx
  · rename_i r hr
    have h3 := waitFor_some (by simpa [Mutex.lock] using hr)
    simp only [List.mem_singleton] at hx
    refine ⟨by rw [hx, h3.1], ?_⟩
    simp only [upd_same, Mutex.lock]
    rw [h3.2.2]
    exact lockAsync_granted_owner _ _ h3.2.1
  · simp at hx

/-- ... and when it is not answered now it is queued FIFO behind the current lockers of a busy mutex, registered, and
will be answered (with its timeout flag) by the hand-off of MutexImpl::unlock (C04 `handoff_to_head`). -/
theorem relock_queues_behind_lockers (w : World) (a o : Aid) (m : Nat) (t : Bool)
    (ho : (w.mutexes m).owner = some o) (hne : o ≠ a)
    (hq : (w.mutexes m).queue.any (fun q => decide (q.issuer = a)) = false) :
    (condRelock w a m t).2 = [] ∧
    ((condRelock w a m t).1.mutexes m).queue =
      (w.mutexes m).queue ++ [{ issuer := a, depth := 1, waited := true, res := .flag t }] := by
  have hl := lockAsync_queue ho (fun h => hne h.2) hq
  have hne' : ¬ (some o = some a) := by simpa using hne
  have hm := markLast_append a (.flag t) (w.mutexes m).queue 1 false .unit
  unfold condRelock Mutex.lock
  rw [hl]
  simp only [Mutex.waitFor, Bool.false_eq_true, if_false, optOut, upd_same, hm, and_self]

theorem condSignal_outs_from_queue (w : World) (c : Nat) :
    ∀ x ∈ (condSignal w c).2, x.1 ∈ (w.conds c).queue.map (·.issuer) ∧ x.2 = .flag false := by
  intro x hx
  unfold condSignal at hx
  split at hx
  · cases hx
  · rename_i acq rest hq
    split at hx
    · rw [(wait_returns_holding_mutex _ _ _ _ x hx).1, hq]
      exact ⟨List.mem_cons_self, rfl⟩
    · cases hx

/-- notify_all wakes ONLY actors waiting at that moment (and none of them reports a timeout) -/
theorem notify_all_wakes_only_current_waiters (w : World) (c : Nat) :
    ∀ x ∈ (condBroadcast w c).2, x.1 ∈ (w.conds c).queue.map (·.issuer) ∧ x.2 = .flag false := by
  refine condBroadcast_ind (c := c)
    (P := fun w r => ∀ x ∈ r.2, x.1 ∈ (w.conds c).queue.map (·.issuer) ∧ x.2 = .flag false) (fun _ _ _ h => nomatch h) ?_ w
  intro w acq rest r hq ih x hx
  rcases List.mem_append.mp hx with hx | hx
  · exact condSignal_outs_from_queue w c x hx
  · have := ih x hx
    rw [condSignal_queue hq] at this
    rw [hq]
    exact ⟨List.mem_cons_of_mem _ this.1, this.2⟩

/-- wait_for reports a timeout iff its timer fired before a notification: the timer event answers with `true` and
removes the waiter from the queue (a later notify cannot reach it); notifications answer with `false`
(`notify_all_wakes_only_current_waiters`, `condSignal_outs_from_queue`); the timer event exists only for an
acquisition that is still in the queue, i.e. not notified. -/
theorem wait_for_timeout_iff (w w' : World) (a : Aid) (c : Nat) (o : Outs)
    (h : condTimeoutStep w a c = .ok (w', o)) :
    (∃ q ∈ (w.conds c).queue, q.issuer = a ∧ q.waited = true ∧ q.timed = true) ∧
    (w'.conds c).queue = eraseC a (w.conds c).queue ∧ (∀ x ∈ o, x.2 = .flag true) := by
  unfold condTimeoutStep at h
  split at h
  · simp at h
  · rename_i acq hf
    simp only [Except.ok.injEq] at h
    have hmem := List.mem_of_find?_eq_some hf
    have hp := List.find?_some hf
    simp only [decide_eq_true_eq] at hp
    have hw : w' = (condRelock { w with conds := upd w.conds c { queue := eraseC a (w.conds c).queue } } a acq.mutex true).1 := by
      rw [h]
    have ho : o = (condRelock { w with conds := upd w.conds c { queue := eraseC a (w.conds c).queue } } a acq.mutex true).2 := by
      rw [h]
    refine ⟨⟨acq, hmem, hp.1, hp.2.1, hp.2.2⟩, ?_, ?_⟩
    · rw [hw, condRelock_conds]; simp
    · intro x hx
      rw [ho] at hx
      have := wait_returns_holding_mutex _ a acq.mutex true x hx
      rw [this.1]

theorem step_condTimeout (w : World) (a : Aid) (c : Nat) : w.step (.condTimeout a c) = condTimeoutStep w a c := rfl

/-- signal with no waiter is lost; then 1 and 2 wait; notify_one wakes 1 (the longest waiter), who re-acquires the
free mutex; 2 still waits -/
example : observe [.signal 0 0, .lock 1 0, .condWait 1 0 0 false, .lock 2 0, .condWait 2 0 0 false, .signal 0 0] 0 0 =
    some ([2], some 1, [], [(0, .unit), (1, .unit), (2, .unit), (1, .flag false), (0, .unit)]) := by decide

/-- broadcast with two waiters while a third actor (3) holds the mutex: both queue behind it in waiting order and
return only at the hand-offs -/
example : observe [.lock 1 0, .condWait 1 0 0 false, .lock 2 0, .condWait 2 0 0 true, .lock 3 0, .broadcast 0 0,
                   .unlock 3 0] 0 0 =
    some ([], some 1, [2], [(1, .unit), (2, .unit), (3, .unit), (0, .unit), (1, .flag false), (3, .unit)]) := by decide

/-- a timed wait whose timer fires: timeout reported, after re-acquiring the mutex -/
example : observe [.lock 1 0, .condWait 1 0 0 true, .condTimeout 1 0, .signal 0 0] 0 0 =
    some ([], some 1, [], [(1, .unit), (1, .flag true), (0, .unit)]) := by decide

/-- **Refinement, every history.**  Whatever history the abstract condition-variable machine accepts, the
implementation model (ConditionVariableImpl + MutexImpl as composed by the S4U calls) executes it with the same answers
in the same order; the kernel state it reaches means the abstract state reached (`Abs`: queues are the FIFOs of
waiters/lockers, every acquisition registered); and the invariant `AInv` holds there. -/
theorem cond_refines_spec (es : List CEv) (s : ASt) (o : Outs) (h : arun ASt.init es = .ok (s, o)) :
    ∃ w, w0.run (es.map CEv.toEv) = .ok (w, o) ∧ Abs w s ∧ AInv s :=
  sim_run es abs_init ainv_init h

/-- converse direction, at every reached state: what the implementation does on an event of the domain is what the
abstract machine does (same answers), and the states stay related -/
theorem impl_step_is_spec_step {w w' : World} {s : ASt} (hr : Reach w s) (e : CEv) (o : Outs)
    (hwf : WellFormed s e) (hw : w.step e.toEv = .ok (w', o)) :
    ∃ s', astep s e = .ok (s', o) ∧ Abs w' s' ∧ AInv s' := by
  obtain ⟨ha, hi⟩ := reach_abs hr
  obtain ⟨s', hs, ha'⟩ := sim_step_conv ha hi hwf hw
  exact ⟨s', hs, ha', ainv_step hi hs⟩

/-- the error branches agree: ownership assertion of wait / unlock, timer event without an armed timer -/
theorem spec_error_is_impl_error {w : World} {s : ASt} (hr : Reach w s) (e : CEv) (err : Err)
    (hs : astep s e = .error err) (hne : err ≠ .illFormed) : w.step e.toEv = .error err :=
  sim_step_err (reach_abs hr).1 hs hne

/-- **notify_one wakes exactly the head**, after every history: the longest waiter leaves the queue (the others keep
their order, other condition variables are untouched); it returns now (`false` = no timeout) iff its mutex is free, and
then it owns it; otherwise nobody but the notifier is answered and the waiter is at the TAIL of the FIFO of its mutex,
registered, with its result attached (it returns at the hand-off, `wait_returns_holding_mutex_hist`). -/
theorem notify_one_wakes_exactly_head {w : World} {s : ASt} (hr : Reach w s) (a : Aid) (c : Nat)
    (hb : s.blk a = none) (x : AWaiter) (rest : List AWaiter) (hq : s.cv c = x :: rest) :
    ∃ w' o, w.step (.signal a c) = .ok (w', o) ∧
      (w'.conds c).queue = rest.map concW ∧ (∀ c', c' ≠ c → (w'.conds c').queue = (w.conds c').queue) ∧
      ((w.mutexes x.mutex).owner = none →
        o = [(x.issuer, .flag false), (a, .unit)] ∧ (w'.mutexes x.mutex).owner = some x.issuer ∧
        (w'.mutexes x.mutex).queue = (w.mutexes x.mutex).queue) ∧
      (∀ b, (w.mutexes x.mutex).owner = some b →
        o = [(a, .unit)] ∧ (w'.mutexes x.mutex).owner = some b ∧
        (w'.mutexes x.mutex).queue = (w.mutexes x.mutex).queue ++ [concM (x.issuer, .flag false)]) := by
  obtain ⟨ha, hi⟩ := reach_abs hr
  obtain ⟨w', hw, ha'⟩ := sim_astep ha hi (.notifyOne hb hq)
  refine ⟨w', _, hw, ?_, ?_, ?_, ?_⟩
  · rw [ha'.cq, acquire_cv]; simp
  · intro c' hc
    rw [ha'.cq, acquire_cv, ha.cq]
    simp [upd_ne _ _ hc]
  · intro hfree
    obtain ⟨h1, h2⟩ := (abs_acquire ha ha' rfl).1 hfree
    exact ⟨by rw [h1]; rfl, h2⟩
  · intro b hbusy
    obtain ⟨h1, h2⟩ := (abs_acquire ha ha' rfl).2 b hbusy
    exact ⟨by rw [h1]; rfl, h2⟩

/-- **notify_all wakes exactly the waiters of that moment**, after every history: the queue is empty afterwards (other
condition variables untouched); besides the notifier only waiters of that moment are answered, each with `false` and
each owning its mutex; and EVERY waiter of that moment either returned that way or sits in the FIFO of its mutex,
registered, with its `false` result attached. -/
theorem notify_all_wakes_exactly_current_waiters {w : World} {s : ASt} (hr : Reach w s) (a : Aid) (c : Nat)
    (hb : s.blk a = none) :
    ∃ w' o, w.step (.broadcast a c) = .ok (w', o) ∧
      (w'.conds c).queue = [] ∧ (∀ c', c' ≠ c → (w'.conds c').queue = (w.conds c').queue) ∧
      (∀ y ∈ o, y = (a, .unit) ∨
        ∃ x ∈ s.cv c, y = (x.issuer, .flag false) ∧ (w'.mutexes x.mutex).owner = some x.issuer) ∧
      (∀ x ∈ s.cv c, ((x.issuer, Res.flag false) ∈ o ∧ (w'.mutexes x.mutex).owner = some x.issuer) ∨
        concM (x.issuer, .flag false) ∈ (w'.mutexes x.mutex).queue) := by
  obtain ⟨ha, hi⟩ := reach_abs hr
  obtain ⟨w', hw, ha'⟩ := sim_astep ha hi (.notifyAll (c := c) hb)
  obtain ⟨hc1, hc2⟩ := wakeList_cv c (s.cv c) s rfl
  refine ⟨w', _, hw, ?_, ?_, ?_, ?_⟩
  · rw [ha'.cq, hc1]; rfl
  · intro c' hc; rw [ha'.cq, hc2 c' hc, ha.cq]
  · intro y hy
    rcases List.mem_append.mp hy with hy | hy
    · obtain ⟨x, hx, h1, h2⟩ := wakeList_outs c (s.cv c) s y hy
      exact .inr ⟨x, hx, h1, by rw [ha'.own, h2]⟩
    · exact .inl (by simpa using hy)
  · intro x hx
    rcases wakeList_all c (s.cv c) s x hx with h | h
    · exact .inl ⟨List.mem_append_left _ h.1, by rw [ha'.own, h.2]⟩
    · right
      rw [ha'.mq]
      exact List.mem_map_of_mem h

/-- **notify_all queues the waiters on their mutexes in waiting order**, after every history: the FIFO of every mutex `m`
becomes its old FIFO followed by the woken waiters that wait with `m`, in the order they were waiting on the condition
variable (registered, `false` attached) — minus the first of them when `m` was free: that one takes the mutex and
returns.  With `free_mutex_has_no_waiter` and the FIFO hand-off of C04 this is "every woken waiter re-acquires its mutex
through the mutex FIFO". -/
theorem notify_all_mutex_fifo_order {w w' : World} {s : ASt} (hr : Reach w s) (a : Aid) (c : Nat)
    (hb : s.blk a = none) (o : Outs) (hw : w.step (.broadcast a c) = .ok (w', o)) (m : Nat) :
    (w'.mutexes m).queue = (w.mutexes m).queue ++
      (((s.cv c).filter (fun x => decide (x.mutex = m))).map (fun x => concM (x.issuer, .flag false))).drop
        (if (w.mutexes m).owner = none then 1 else 0) := by
  obtain ⟨ha, hi⟩ := reach_abs hr
  obtain ⟨w1, hw1, ha'⟩ := sim_astep ha hi (.notifyAll (c := c) hb)
  have hw1' : w.step (.broadcast a c) = .ok (w1, (s.wakeList c (s.cv c)).2 ++ [(a, .unit)]) := hw1
  rw [hw] at hw1'
  simp only [Except.ok.injEq, Prod.mk.injEq] at hw1'
  rw [hw1'.1, ha'.mq, wakeList_queue, ha.mq, ha.own, List.map_append, List.map_drop, List.map_map]
  rfl

/-- **the timer event wakes only its own waiter**, after every history: it leaves the queue (the others keep their
order), and re-acquires its mutex exactly like a notified waiter, with the result `true` (timeout) -/
theorem timeout_wakes_only_its_waiter {w : World} {s : ASt} (hr : Reach w s) (a : Aid) (c : Nat) (x : AWaiter)
    (hf : (s.cv c).find? (fun y => y.issuer = a ∧ y.timed) = some x) :
    ∃ w' o, w.step (.condTimeout a c) = .ok (w', o) ∧
      (w'.conds c).queue = (eraseW a (s.cv c)).map concW ∧
      ((w.mutexes x.mutex).owner = none → o = [(a, .flag true)] ∧ (w'.mutexes x.mutex).owner = some a) ∧
      (∀ b, (w.mutexes x.mutex).owner = some b →
        o = [] ∧ (w'.mutexes x.mutex).queue = (w.mutexes x.mutex).queue ++ [concM (a, .flag true)]) := by
  obtain ⟨ha, hi⟩ := reach_abs hr
  obtain ⟨rfl, -⟩ : x.issuer = a ∧ x.timed = true := by simpa using List.find?_some hf
  obtain ⟨w', hw, ha'⟩ := sim_astep ha hi (.timeout (List.mem_of_find?_eq_some hf) hf)
  refine ⟨w', _, hw, ?_, ?_, ?_⟩
  · rw [ha'.cq, acquire_cv]; simp
  · intro hfree
    obtain ⟨h1, h2, -⟩ := (abs_acquire ha ha' rfl).1 hfree
    exact ⟨h1, h2⟩
  · intro b hbusy
    obtain ⟨h1, -, h3⟩ := (abs_acquire ha ha' rfl).2 b hbusy
    exact ⟨h1, h3⟩

/-- **Every woken or timed-out waiter returns only after re-acquiring its mutex**, after every history and for every
event of the domain: whoever is answered by the step while it was blocked — in a condition variable (notified or timed
out) or in a mutex FIFO (plain `lock`, or a waiter that was re-locking) — is the owner, in the resulting kernel state,
of the mutex it was waiting for. -/
theorem wait_returns_holding_mutex_hist {w w' : World} {s : ASt} (hr : Reach w s) (e : CEv) (o : Outs)
    (hwf : WellFormed s e) (hw : w.step e.toEv = .ok (w', o)) :
    ∀ y ∈ o, ∀ m, s.waitsFor y.1 = some m → (w'.mutexes m).owner = some y.1 := by
  obtain ⟨ha, hi⟩ := reach_abs hr
  obtain ⟨s', hs, ha'⟩ := sim_step_conv ha hi hwf hw
  intro y hy m hm
  rw [ha'.own]
  exact awake_owner hi hs y hy m hm

/-- through the mutex FIFO: after every history a free mutex has no blocked locker — so a waiter that finds its mutex
free and takes it overtakes nobody; a waiter that finds it busy queues at the tail (`notify_one_wakes_exactly_head`,
`timeout_wakes_only_its_waiter`) and is served by the FIFO hand-off of C04 -/
theorem free_mutex_has_no_waiter {w : World} {s : ASt} (hr : Reach w s) (m : Nat)
    (h : (w.mutexes m).owner = none) : (w.mutexes m).queue = [] := by
  obtain ⟨ha, hi⟩ := reach_abs hr
  rw [ha.mq, hi.free m (by rw [← ha.own]; exact h)]
  rfl

/-- in a reached state the queues of the implementation are exactly the abstract FIFOs, every acquisition registered:
no actor is in two queues, no queue has a duplicate, no waiter owns the mutex it waits with -/
theorem reached_state_shape {w : World} {s : ASt} (hr : Reach w s) :
    (∀ c, (w.conds c).queue = (s.cv c).map concW) ∧ (∀ m, (w.mutexes m).queue = (s.mx m).queue.map concM) ∧
    (∀ c, ((s.cv c).map (·.issuer)).Nodup) ∧ (∀ c x, x ∈ s.cv c → (w.mutexes x.mutex).owner ≠ some x.issuer) := by
  obtain ⟨ha, hi⟩ := reach_abs hr
  exact ⟨ha.cq, ha.mq, hi.cvNd, fun c x hx => by rw [ha.own]; exact hi.own c x hx⟩

/-- two waiters (the second timed) while actor 3 holds the mutex, notify_all, unlock: the abstract machine accepts the
history (so `Reach` is inhabited at each prefix and the hypotheses `blk a = none` hold for the notifier), both waiters
queue on the mutex in waiting order, the first returns at the hand-off … -/
example : aobserve [.lock 1 0, .wait 1 0 0 false, .lock 2 0, .wait 2 0 0 true, .lock 3 0, .notifyAll 0 0, .unlock 3 0] 0 0 =
    some ([], some 1, [2], [(1, .unit), (2, .unit), (3, .unit), (0, .unit), (1, .flag false), (3, .unit)]) := by
  decide

/-- … and the implementation model gives the same observation on the corresponding kernel events -/
example : observe ([.lock 1 0, .wait 1 0 0 false, .lock 2 0, .wait 2 0 0 true, .lock 3 0, .notifyAll 0 0,
      .unlock 3 0].map CEv.toEv) 0 0 =
    aobserve [.lock 1 0, .wait 1 0 0 false, .lock 2 0, .wait 2 0 0 true, .lock 3 0, .notifyAll 0 0, .unlock 3 0] 0 0 := by
  decide

/-- a timed waiter whose timer fires while the mutex is held: it queues on the mutex; it returns `true` (timeout) only
at the hand-off, owning the mutex -/
example : aobserve [.lock 1 0, .wait 1 0 0 true, .lock 2 0, .timeout 1 0, .unlock 2 0] 0 0 =
    some ([], some 1, [], [(1, .unit), (2, .unit), (1, .flag true), (2, .unit)]) := by decide

/-- events outside the domain are refused by the abstract machine: a blocked actor calling, a re-lock by the owner -/
example : (aobserve [.lock 1 0, .wait 1 0 0 false, .notifyOne 1 0] 0 0).isNone = true ∧
    (aobserve [.lock 1 0, .lock 1 0] 0 0).isNone = true := by decide

end SgVerif.C06
