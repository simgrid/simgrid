/-
C06 — the refinement: the implementation model (Sync/Model.lean: ConditionVariableImpl + MutexImpl composed as the
one-simcall path of s4u_ConditionVariable.cpp / s4u_Mutex.cpp) simulates the abstract condition variable of
C06/Spec.lean step by step, with the same answers, for every history.  Core only.
-/
import SgVerif.C06.Lemmas
import SgVerif.C06.Model
namespace SgVerif.C06
open SgVerif.Sync

/-- the acquisition record of a blocked locker: registered (`waited`), depth 1, carrying the result of its call -/
def concM (x : Aid × Res) : MAcq := { issuer := x.1, depth := 1, waited := true, res := x.2 }
/-- the acquisition record of a condition-variable waiter on the one-simcall path: registered -/
def concW (x : AWaiter) : CAcq := { issuer := x.issuer, mutex := x.mutex, waited := true, timed := x.timed }

/-- `Abs w s`: the abstract state `s` is what the kernel objects of `w` mean -/
structure Abs (w : World) (s : ASt) : Prop where
  nrec : ∀ m, (w.mutexes m).recursive = false
  own : ∀ m, (w.mutexes m).owner = (s.mx m).owner
  mq : ∀ m, (w.mutexes m).queue = (s.mx m).queue.map concM
  cq : ∀ c, (w.conds c).queue = (s.cv c).map concW

theorem abs_init : Abs w0 ASt.init := by
  constructor <;> intro _ <;> rfl

theorem abs_upd_mutex {w w' : World} {s s' : ASt} (h : Abs w s) (m : Nat) {mu : Mutex} {am : AMutex}
    (hwm : w'.mutexes = upd w.mutexes m mu) (hwc : w'.conds = w.conds)
    (hsm : s'.mx = upd s.mx m am) (hsc : s'.cv = s.cv)
    (hr : mu.recursive = false) (ho : mu.owner = am.owner) (hq : mu.queue = am.queue.map concM) : Abs w' s' := by
  refine ⟨?_, ?_, ?_, ?_⟩
  · intro m'; rw [hwm]
    by_cases e : m' = m
    · subst e; simpa using hr
    · simpa [upd_ne _ _ e] using h.nrec m'
  · intro m'; rw [hwm, hsm]
    by_cases e : m' = m
    · subst e; simpa using ho
    · simpa [upd_ne _ _ e] using h.own m'
  · intro m'; rw [hwm, hsm]
    by_cases e : m' = m
    · subst e; simpa using hq
    · simpa [upd_ne _ _ e] using h.mq m'
  · intro c; rw [hwc, hsc]; exact h.cq c

theorem abs_upd_cond {w w' : World} {s s' : ASt} (h : Abs w s) (c : Nat) (q : List AWaiter)
    (hwm : w'.mutexes = w.mutexes) (hwc : w'.conds = upd w.conds c { queue := q.map concW })
    (hsm : s'.mx = s.mx) (hsc : s'.cv = upd s.cv c q) : Abs w' s' := by
  refine ⟨?_, ?_, ?_, ?_⟩
  · intro m; rw [hwm]; exact h.nrec m
  · intro m; rw [hwm, hsm]; exact h.own m
  · intro m; rw [hwm, hsm]; exact h.mq m
  · intro c'; rw [hwc, hsc]
    by_cases e : c' = c
    · subst e; simp
    · simpa [upd_ne _ _ e] using h.cq c'

/-- `lock_async(a)->wait_for(a, -1)` (Mutex::lock, and the re-lock at the end of a condition-variable wait) is the
abstract acquire -/
theorem sim_acquire {w : World} {s : ASt} (h : Abs w s) (a : Aid) (m : Nat) (r : Res) :
    Abs { w with mutexes := upd w.mutexes m ((w.mutexes m).lock a r).1 } (s.acquire a m r).1 ∧
    optOut a ((w.mutexes m).lock a r).2 = (s.acquire a m r).2 := by
  cases ho : (s.mx m).owner with
  | none =>
    have hco : (w.mutexes m).owner = none := by rw [h.own, ho]
    rw [lock_free a r hco, acquire_free s a m r ho]
    exact ⟨abs_upd_mutex h m rfl rfl rfl rfl (h.nrec m) rfl (h.mq m), rfl⟩
  | some x =>
    have hco : (w.mutexes m).owner = some x := by rw [h.own, ho]
    rw [lock_nonrec_busy a x r (h.nrec m) hco, acquire_queued s a m r ho]
    refine ⟨abs_upd_mutex h m rfl rfl rfl rfl (h.nrec m) (h.own m) ?_, rfl⟩
    simp [h.mq m, concM]

theorem abs_acquire {w w' : World} {s t : ASt} {a : Aid} {m : Nat} {r : Res} (h : Abs w s)
    (h' : Abs w' (t.acquire a m r).1) (hmx : t.mx = s.mx) :
    ((w.mutexes m).owner = none →
      (t.acquire a m r).2 = [(a, r)] ∧ (w'.mutexes m).owner = some a ∧ (w'.mutexes m).queue = (w.mutexes m).queue) ∧
    (∀ b, (w.mutexes m).owner = some b →
      (t.acquire a m r).2 = [] ∧ (w'.mutexes m).owner = some b ∧
      (w'.mutexes m).queue = (w.mutexes m).queue ++ [concM (a, r)]) := by
  constructor
  · intro hfree
    rw [acquire_free t a m r (by rw [hmx, ← h.own, hfree])] at h' ⊢
    exact ⟨rfl, by simpa using h'.own m, by simpa [hmx, ← h.mq] using h'.mq m⟩
  · intro b hbusy
    have hown : (t.mx m).owner = some b := by rw [hmx, ← h.own, hbusy]
    rw [acquire_queued t a m r hown] at h' ⊢
    exact ⟨rfl, by simpa [hown] using h'.own m, by simpa [hmx, ← h.mq] using h'.mq m⟩

theorem sim_release {w : World} {s : ASt} (h : Abs w s) (a : Aid) (m : Nat) (ho : (s.mx m).owner = some a) :
    ∃ mu fin, (w.mutexes m).unlock a = .ok (mu, fin) ∧
      Abs { w with mutexes := upd w.mutexes m mu } (s.release m).1 ∧
      fin.toList = (s.release m).2 := by
  have hco : (w.mutexes m).owner = some a := by rw [h.own, ho]
  have hd : ¬ ((w.mutexes m).recursive = true ∧ 1 < (w.mutexes m).depth) := by simp [h.nrec m]
  cases hq : (s.mx m).queue with
  | nil =>
    have hcq : (w.mutexes m).queue = [] := by rw [h.mq, hq]; rfl
    have hrel : s.release m = ({ s with mx := upd s.mx m { owner := none, queue := [] } }, []) := by
      unfold ASt.release; simp only [hq]
    refine ⟨_, _, unlock_free hco hd hcq, ?_, ?_⟩
    · rw [hrel]
      exact abs_upd_mutex h m rfl rfl rfl rfl (h.nrec m) rfl hcq
    · rw [hrel]; rfl
  | cons x rest =>
    have hcq : (w.mutexes m).queue = concM x :: rest.map concM := by rw [h.mq, hq]; rfl
    have hrel : s.release m =
        ({ s with mx := upd s.mx m { owner := some x.1, queue := rest }, blk := upd s.blk x.1 none }, [x]) := by
      unfold ASt.release; simp only [hq]
    refine ⟨_, _, unlock_handoff hco hd hcq, ?_, ?_⟩
    · rw [hrel]
      exact abs_upd_mutex h m rfl rfl rfl rfl (h.nrec m) rfl rfl
    · rw [hrel]; simp [concM]

theorem wstep_unlock_ok {w : World} {a : Aid} {m : Nat} {mu : Mutex} {fin : Option (Aid × Res)}
    (hu : (w.mutexes m).unlock a = .ok (mu, fin)) :
    w.step (.unlock a m) = .ok ({ w with mutexes := upd w.mutexes m mu }, fin.toList ++ [(a, .unit)]) := by
  rw [wstep_unlock, hu]
  cases fin <;> rfl

theorem wstep_unlock_err {w : World} {a : Aid} {m : Nat} {e : Err} (hu : (w.mutexes m).unlock a = .error e) :
    w.step (.unlock a m) = .error e := by
  rw [wstep_unlock, hu]

theorem wstep_signal (w : World) (a : Aid) (c : Nat) :
    w.step (.signal a c) = .ok ((condSignal w c).1, (condSignal w c).2 ++ [(a, .unit)]) := rfl

theorem wstep_broadcast (w : World) (a : Aid) (c : Nat) :
    w.step (.broadcast a c) = .ok ((condBroadcast w c).1, (condBroadcast w c).2 ++ [(a, .unit)]) := rfl

theorem wstep_timeout (w : World) (a : Aid) (c : Nat) : w.step (.condTimeout a c) = condTimeoutStep w a c := rfl

theorem condRelock_eq (w : World) (a : Aid) (m : Nat) (t : Bool) :
    condRelock w a m t = ({ w with mutexes := upd w.mutexes m ((w.mutexes m).lock a (.flag t)).1 },
                          optOut a ((w.mutexes m).lock a (.flag t)).2) := rfl

theorem wstep_condWait (w : World) (a : Aid) (c m : Nat) (t : Bool) :
    w.step (.condWait a c m t) =
      match condAcquireAsync w a c m with
      | .error e => .error e
      | .ok (w1, o) => .ok ({ w1 with conds := upd w1.conds c { queue := markC a t (w1.conds c).queue } }, o) := rfl

theorem wstep_condWait_ok {w : World} {a : Aid} {c m : Nat} {t : Bool} {mu : Mutex} {fin : Option (Aid × Res)}
    (hu : (w.mutexes m).unlock a = .ok (mu, fin)) :
    w.step (.condWait a c m t) =
      .ok ({ w with mutexes := upd w.mutexes m mu,
                    conds := upd w.conds c { queue := markC a t ((w.conds c).queue ++ [{ issuer := a, mutex := m }]) } },
           fin.toList) := by
  rw [wstep_condWait]
  simp only [condAcquireAsync, hu, upd_same, upd_upd]
  cases fin <;> rfl

theorem wstep_condWait_err {w : World} {a : Aid} {c m : Nat} {t : Bool} {e : Err}
    (hu : (w.mutexes m).unlock a = .error e) : w.step (.condWait a c m t) = .error e := by
  rw [wstep_condWait]
  simp only [condAcquireAsync, hu]

theorem condRelock_conds (w : World) (a : Aid) (m : Nat) (t : Bool) : (condRelock w a m t).1.conds = w.conds := by
  simp [condRelock]

theorem condSignal_queue {w : World} {c : Nat} {acq : CAcq} {rest : List CAcq} (h : (w.conds c).queue = acq :: rest) :
    ((condSignal w c).1.conds c).queue = rest := by
  simp only [condSignal, h]
  split
  · rw [condRelock_conds]; simp
  · simp

/-- `broadcast` is `signal` once per waiter of that moment.  The only place where the fuel of `condBroadcastN` is looked at:
a `signal` takes exactly one waiter off the queue. -/
theorem condBroadcast_ind {c : Nat} {P : World → World × Outs → Prop}
    (nil : ∀ w, (w.conds c).queue = [] → P w (w, []))
    (cons : ∀ w acq rest r, (w.conds c).queue = acq :: rest → P (condSignal w c).1 r →
      P w (r.1, (condSignal w c).2 ++ r.2)) (w : World) : P w (condBroadcast w c) := by
  suffices hfuel : ∀ n w, (w.conds c).queue.length ≤ n → P w (condBroadcastN n w c) from hfuel _ w (Nat.le_refl _)
  intro n
  induction n with
  | zero => exact fun w hl => nil w (List.eq_nil_of_length_eq_zero (Nat.le_zero.mp hl))
  | succ n ih =>
    intro w hl
    unfold condBroadcastN
    cases hq : (w.conds c).queue with
    | nil => exact nil w hq
    | cons acq rest =>
      refine cons w acq rest _ hq (ih _ ?_)
      rw [condSignal_queue hq]
      rw [hq] at hl
      exact Nat.le_of_succ_le_succ hl

theorem find_conc (a : Aid) (ws : List AWaiter) :
    (ws.map concW).find? (fun q => decide (q.issuer = a ∧ q.waited = true ∧ q.timed = true)) =
      (ws.find? (fun x => decide (x.issuer = a ∧ x.timed = true))).map concW := by
  rw [List.find?_map]
  congr 2
  funext x
  simp [concW]
  rfl  -- the two tests differ in their `Decidable` instances only

theorem eraseC_conc (a : Aid) (ws : List AWaiter) : eraseC a (ws.map concW) = (eraseW a ws).map concW := by
  induction ws with
  | nil => rfl
  | cons x xs ih =>
    simp only [List.map_cons, eraseC, eraseW]
    by_cases hx : x.issuer = a
    · simp [concW, hx]
    · simp [concW, hx, ih]

theorem sim_signal {w : World} {s : ASt} (h : Abs w s) (c : Nat) (x : AWaiter) (rest : List AWaiter)
    (hq : s.cv c = x :: rest) :
    Abs (condSignal w c).1 (({ s with cv := upd s.cv c rest } : ASt).acquire x.issuer x.mutex (.flag false)).1 ∧
    (condSignal w c).2 = (({ s with cv := upd s.cv c rest } : ASt).acquire x.issuer x.mutex (.flag false)).2 := by
  have hcq : (w.conds c).queue = concW x :: rest.map concW := by rw [h.cq, hq]; rfl
  have h1 : Abs { w with conds := upd w.conds c { queue := rest.map concW } } { s with cv := upd s.cv c rest } :=
    abs_upd_cond h c rest rfl rfl rfl rfl
  have hcs : condSignal w c =
      condRelock { w with conds := upd w.conds c { queue := rest.map concW } } x.issuer x.mutex false := by
    simp [condSignal, hcq, concW]
  rw [hcs, condRelock_eq]
  exact sim_acquire h1 x.issuer x.mutex (.flag false)

theorem sim_wakeList {w : World} {s : ASt} (c : Nat) (h : Abs w s) :
    Abs (condBroadcast w c).1 (s.wakeList c (s.cv c)).1 ∧ (condBroadcast w c).2 = (s.wakeList c (s.cv c)).2 := by
  refine condBroadcast_ind (c := c)
    (P := fun w r => ∀ s, Abs w s → Abs r.1 (s.wakeList c (s.cv c)).1 ∧ r.2 = (s.wakeList c (s.cv c)).2) ?_ ?_ w s h
  · intro w hq s h
    rw [h.cq] at hq
    rw [List.map_eq_nil_iff.mp hq]
    exact ⟨h, rfl⟩
  · intro w acq rest r hq ih s h
    cases hs : s.cv c with
    | nil => rw [h.cq, hs] at hq; cases hq
    | cons x rest' =>
      obtain ⟨ha, ho⟩ := sim_signal h c x rest' hs
      have := ih _ ha
      simp only [acquire_cv, upd_same] at this
      simp only [ASt.wakeList]
      exact ⟨this.1, by rw [ho, this.2]⟩

theorem sim_astep {w : World} {s s' : ASt} {e : CEv} {o : Outs} (h : Abs w s) (hi : AInv s)
    (hs : AStep s e s' o) : ∃ w', w.step e.toEv = .ok (w', o) ∧ Abs w' s' := by
  cases hs with
  | @lock a m =>
    obtain ⟨h1, h2⟩ := sim_acquire h a m .unit
    exact ⟨_, by rw [CEv.toEv, wstep_lock, h2], h1⟩
  | @tryFree a m _ hown =>
    refine ⟨_, by rw [CEv.toEv, wstep_tryLock, tryLock_free a (hown ▸ h.own m)], ?_⟩
    exact abs_upd_mutex h m rfl rfl rfl rfl (h.nrec m) rfl (h.mq m)
  | @tryBusy a m _ _ hown =>
    refine ⟨_, by rw [CEv.toEv, wstep_tryLock, tryLock_nonrec_busy a (h.nrec m) (hown ▸ h.own m)], ?_⟩
    exact abs_upd_mutex (am := s.mx m) h m rfl rfl (upd_eq_self rfl).symm rfl (h.nrec m) (h.own m) (h.mq m)
  | @unlock a m _ hown =>
    obtain ⟨mu, fin, hu, ha, ho⟩ := sim_release h a m hown
    exact ⟨_, by rw [CEv.toEv, wstep_unlock_ok hu, ho], ha⟩
  | @wait a c m timed hb hown =>
    have hout := out_of_unblocked hi hb
    obtain ⟨mu, fin, hu, ha, ho⟩ := sim_release h a m hown
    have hfresh : ∀ x ∈ (w.conds c).queue, x.issuer ≠ a := by
      intro x hx
      rw [h.cq] at hx
      obtain ⟨y, hy, rfl⟩ := List.mem_map.mp hx
      exact hout.cv c y hy
    refine ⟨_, by rw [CEv.toEv, wstep_condWait_ok hu, ho], ?_⟩
    refine abs_upd_cond ha c ((s.release m).1.cv c ++ [{ issuer := a, mutex := m, timed := timed }]) rfl ?_ rfl rfl
    rw [markC_fresh a m timed _ hfresh, release_cv, h.cq]
    simp [concW]
  | @notifyNone _ c _ hq =>
    have hcq : (w.conds c).queue = [] := by rw [h.cq, hq]; rfl
    exact ⟨w, by rw [CEv.toEv, wstep_signal]; simp [condSignal, hcq], h⟩
  | notifyOne _ hq =>
    obtain ⟨ha, ho⟩ := sim_signal h _ _ _ hq
    exact ⟨_, by rw [CEv.toEv, wstep_signal, ho], ha⟩
  | @notifyAll _ c =>
    obtain ⟨ha, ho⟩ := sim_wakeList c h
    exact ⟨_, by rw [CEv.toEv, wstep_broadcast, ho], ha⟩
  | @timeout c x _ hf =>
    have h1 : Abs { w with conds := upd w.conds c { queue := (eraseW x.issuer (s.cv c)).map concW } }
        { s with cv := upd s.cv c (eraseW x.issuer (s.cv c)) } := abs_upd_cond h c _ rfl rfl rfl rfl
    obtain ⟨ha, ho⟩ := sim_acquire h1 x.issuer x.mutex (.flag true)
    have hct : condTimeoutStep w x.issuer c = .ok (condRelock
        { w with conds := upd w.conds c { queue := (eraseW x.issuer (s.cv c)).map concW } } x.issuer x.mutex true) := by
      unfold condTimeoutStep
      rw [h.cq, find_conc, hf, eraseC_conc]
      rfl
    exact ⟨_, by rw [CEv.toEv, wstep_timeout, hct, condRelock_eq, ho], ha⟩

theorem sim_step {w : World} {s s' : ASt} {e : CEv} {o : Outs} (h : Abs w s) (hi : AInv s)
    (hs : astep s e = .ok (s', o)) : ∃ w', w.step e.toEv = .ok (w', o) ∧ Abs w' s' :=
  sim_astep h hi (astep_ok hs)

theorem sim_step_err {w : World} {s : ASt} {e : CEv} {err : Err} (h : Abs w s) (hs : astep s e = .error err)
    (hne : err ≠ .illFormed) : w.step e.toEv = .error err := by
  -- the branches of `astep` that succeed or reject the event as ill-formed contradict `hs`, `hne`
  cases e <;> simp only [astep] at hs <;> split at hs <;>
    try (first | exact absurd (Except.error.inj hs).symm hne | cases hs)
  case lock | tryLock | notifyOne =>
    all_goals split at hs <;> first | exact absurd (Except.error.inj hs).symm hne | cases hs
  case unlock a m _ =>
    split at hs <;> cases hs
    rename_i hown
    rw [CEv.toEv, wstep_unlock_err (unlock_notOwner (h.own m ▸ hown))]
  case wait a c m t _ =>
    split at hs <;> cases hs
    rename_i hown
    rw [CEv.toEv, wstep_condWait_err (unlock_notOwner (h.own m ▸ hown))]
  case h_1 a c _ hf =>
    -- the timer event of an actor with no armed timer (`find? = none`): `noTimer` on both sides
    rw [CEv.toEv, wstep_timeout]
    unfold condTimeoutStep
    rw [h.cq, find_conc, hf]
    rfl

theorem sim_run (es : List CEv) : ∀ {w : World} {s s' : ASt} {o : Outs}, Abs w s → AInv s →
    arun s es = .ok (s', o) → ∃ w', w.run (es.map CEv.toEv) = .ok (w', o) ∧ Abs w' s' ∧ AInv s' := by
  induction es with
  | nil =>
    intro w s s' o h hi hr
    simp [arun] at hr
    obtain ⟨rfl, rfl⟩ := hr
    exact ⟨w, rfl, h, hi⟩
  | cons e es ih =>
    intro w s s' o h hi hr
    simp only [arun] at hr
    split at hr
    · simp at hr
    · rename_i s1 o1 he
      split at hr
      · simp at hr
      · rename_i s2 o2 hr2
        simp only [Except.ok.injEq, Prod.mk.injEq] at hr
        obtain ⟨rfl, rfl⟩ := hr
        obtain ⟨w1, hw1, ha1⟩ := sim_step h hi he
        obtain ⟨w2, hw2, ha2, hi2⟩ := ih ha1 (ainv_step hi he) hr2
        exact ⟨w2, by simp only [List.map_cons, World.run, hw1, hw2], ha2, hi2⟩

/-- an event is in the domain in state `s`: issued by an actor that is not blocked, and not the re-lock of a mutex by
its owner -/
def WellFormed (s : ASt) (e : CEv) : Prop := astep s e ≠ .error .illFormed

theorem sim_step_conv {w w' : World} {s : ASt} {e : CEv} {o : Outs} (h : Abs w s) (hi : AInv s)
    (hwf : WellFormed s e) (hw : w.step e.toEv = .ok (w', o)) : ∃ s', astep s e = .ok (s', o) ∧ Abs w' s' := by
  cases hs : astep s e with
  | error err =>
    have hne : err ≠ .illFormed := fun e' => hwf (by rw [hs, e'])
    rw [sim_step_err h hs hne] at hw
    cases hw
  | ok r =>
    obtain ⟨s', o'⟩ := r
    obtain ⟨w1, hw1, ha⟩ := sim_step h hi hs
    rw [hw] at hw1
    simp only [Except.ok.injEq, Prod.mk.injEq] at hw1
    obtain ⟨rfl, rfl⟩ := hw1
    exact ⟨s', rfl, ha⟩

/-- `Reach w s`: some history of S4U calls leads the abstract machine from its initial state to `s` and the
implementation model from `w0` to `w`, with the same answers -/
def Reach (w : World) (s : ASt) : Prop :=
  ∃ es o, arun ASt.init es = .ok (s, o) ∧ w0.run (es.map CEv.toEv) = .ok (w, o)

theorem reach_abs {w : World} {s : ASt} (hr : Reach w s) : Abs w s ∧ AInv s := by
  obtain ⟨es, o, h1, h2⟩ := hr
  obtain ⟨w1, hw1, ha, hi⟩ := sim_run es abs_init ainv_init h1
  rw [h2] at hw1
  simp only [Except.ok.injEq, Prod.mk.injEq] at hw1
  rw [hw1.1]
  exact ⟨ha, hi⟩

end SgVerif.C06
