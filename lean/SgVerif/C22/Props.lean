import SgVerif.C22.Lemmas
import SgVerif.Common.Fold
/-
C22 — availability profiles are applied exactly.
All theorems are for every pattern (any length), every period / loop delay, every repetition count.
Stochastic profiles are excluded.
-/
namespace SgVerif.C22

/-- the parser's deltas, re-accumulated by `Profile::next`'s `event_date + delta`, give back the absolute dates of the
input lines: repetition 0 fires exactly at the written dates (∀ point lists, ∀ starting `last_date`) -/
theorem deltas_roundtrip (last : Rat) (pts : List (Rat × Rat)) : dates last (deltas last pts) = pts := by
  induction pts generalizing last with
  | nil => simp [deltas, dates]
  | cons e r ih =>
    obtain ⟨d, v⟩ := e
    simp only [deltas, dates]
    have : last + (d - last) = d := by ring
    rw [this, ih]

/-- a sorted, non-negative list of points is accepted and turned into its deltas (`last_date` follows) -/
theorem parse_sorted_points (s : PState) (pts : List (Rat × Rat)) (h0 : 0 ≤ s.lastDate)
    (hs : sortedFrom s.lastDate pts) :
    parseLines s (pts.map (fun e => Line.point e.1 e.2))
      = some { s with pattern := s.pattern ++ deltas s.lastDate pts, lastDate := lastDateOf s.lastDate pts } := by
  induction pts generalizing s with
  | nil => simp [parseLines, deltas, lastDateOf]
  | cons e r ih =>
    obtain ⟨d, v⟩ := e
    obtain ⟨hd, hs'⟩ := hs
    have hneg : ¬ d < 0 := not_lt.mpr (le_trans h0 hd)
    simp only [List.map_cons, parseLines, parseLine, hneg, if_false, hd, not_true_eq_false]
    -- the new state is written out: left to unification, it is found only by unfolding the parser
    rw [ih { s with pattern := s.pattern ++ [(d - s.lastDate, v)], lastDate := d } (le_trans h0 hd) hs']
    simp only [deltas, lastDateOf, List.append_assoc, List.singleton_append]

/-- an out-of-order date is refused (`xbt_assert(last_date <= new_date)`), whatever follows -/
theorem parse_rejects_unsorted (s : PState) (d v : Rat) (rest : List Line) (h : d < s.lastDate) :
    parseLines s (Line.point d v :: rest) = none := by
  simp only [parseLines, parseLine, not_le.mpr h, not_false_eq_true, if_true, ite_self]

/-- **profile_event_dates**: for a looping profile, the events fired from the event list after `m` further callbacks
are exactly repetitions `0..m`; repetition `k` is the pattern's absolute dates shifted by `k * period`, with
`period = (date of the last point) + loop_delay` — i.e. the j-th point of the k-th repetition fires at `t_j + k*period`
with its value `v_j` — as produced by the code's delta arithmetic (`LegacyUpdateCb::operator()`, `Profile::next`). -/
theorem profile_event_dates (p : Prof) (hl : p.loop = true) (hne : p.pattern ≠ []) (m : Nat) :
    dates 0 (gen p m) = iterations p.pattern (total p.pattern + p.loopDelay) m := by
  induction m with
  | zero => simp [gen_zero, iterations]
  | succ m ih =>
    rw [(gen_succ p m hl hne).2, dates_append, ih, total_gen p m hl hne, dates_bumpFirst, dates_shift]
    simp only [iterations, zero_add]
    congr 2
    push_cast
    ring

/-- with a `PERIODICITY P` line the parser sets `loop_delay = P - last date`: the period is `P` -/
theorem periodicity_period (pat : List (Rat × Rat)) (P : Rat) : total pat + (P - total pat) = P := by ring

/-- a one-shot profile never grows: its events are the written ones, once -/
theorem oneshot_event_dates (p : Prof) (hl : p.loop = false) (hne : p.pattern ≠ []) (m : Nat) :
    gen p m = p.pattern := by
  induction m with
  | zero => exact gen_zero p
  | succ m ih =>
    show extend p (gen p m) = _
    rw [ih]
    cases h : p.pattern with
    | nil => exact absurd h hne
    | cons e r => simp [extend, hl]

/-- **value_in_force**: when the clock is at `t`, the resource holds the value of the last event dated ≤ t (events in date
order, values ≥ 0), or its initial value if there is none — events after `t` have no effect yet. -/
theorem value_in_force (init t : Rat) (pre post : List (Rat × Rat))
    (hpre : ∀ e ∈ pre, e.1 ≤ t ∧ 0 ≤ e.2) (hpost : ∀ e ∈ post, t < e.1) :
    valueAt init (pre ++ post) t = (match pre.getLast? with | some e => e.2 | none => init) := by
  unfold valueAt
  rw [List.foldl_append]
  have hpost' : ∀ (c : Rat), post.foldl (fun cur e => if e.1 ≤ t ∧ ¬ e.2 < 0 then e.2 else cur) c = c :=
    (Pre.eqOn id).foldl_mem post fun _ e he => if_neg fun h => absurd h.1 (not_le.mpr (hpost e he))
  rw [hpost']
  induction pre generalizing init with
  | nil => rfl
  | cons e r ih =>
    obtain ⟨he, hpre'⟩ := List.forall_mem_cons.mp hpre
    rw [List.foldl_cons, if_pos ⟨he.1, not_lt.mpr he.2⟩, ih e.2 hpre']
    cases r with
    | nil => rfl
    | cons e2 r2 =>
      rw [List.getLast?_cons_cons]
      cases h : (e2 :: r2).getLast? with
      | none => simp at h
      | some x => rfl

/-- **progress_integrates_availability**: an activity holding `rem > 0` at `now`, alone on a resource whose availability
is piecewise constant (`rate`, then `evs` = changes in date order, rates ≥ 0), ends at the date `T` where the integral
of the availability over `[now, T]` equals `rem`. -/
theorem progress_integrates_availability (now rem rate : Rat) (evs : List (Rat × Rat)) (T : Rat)
    (hrem : 0 < rem) (hrate : 0 ≤ rate) (hs : sortedFrom now evs) (hr : ∀ e ∈ evs, 0 ≤ e.2)
    (h : finishSpec now rem rate evs = some T) : work now rate T evs = rem :=
  (finishSpec_work now rem rate evs T hrem hrate hs hr h).2

/-- FULL-STRENGTH statement for the code: `finishCode cap … = finishSpec …` for every profile — FALSE on the current code
(see the two counterexamples).  Proved with the exact excluding hypotheses: every new availability is positive and,
for a communication (`cap = some c`), never above the bandwidth at its start. -/
theorem code_integrates_availability_partial (cap : Option Rat) (now rem rate : Rat) (evs : List (Rat × Rat))
    (hpos : ∀ e ∈ evs, 0 < e.2) (hcap : ∀ c, cap = some c → ∀ e ∈ evs, e.2 ≤ c) :
    finishCode cap now rem rate evs = finishSpec now rem rate evs := by
  induction evs generalizing now rem rate with
  | nil => simp [finishCode, finishSpec]
  | cons e r ih =>
    obtain ⟨d, r'⟩ := e
    obtain ⟨hp, hpos'⟩ := List.forall_mem_cons.mp hpos
    have he : effRate cap rate r' = r' := by
      unfold effRate
      simp only [gt_iff_lt, hp, if_true]
      cases cap with
      | none => rfl
      | some c =>
        have := hcap c rfl (d, r') (List.mem_cons_self ..)
        simp only [not_lt.mpr this, if_false]
    simp only [finishCode, finishSpec, he]
    rw [ih _ _ _ hpos' (fun c hc e he => hcap c hc e (List.mem_cons_of_mem _ he))]

/-- witness (corpus): speed 1000, ratio 0 on [1,3): the code ends the 4000-flop exec at 4, the integral says 6 -/
theorem zero_availability_counterexample :
    finishCode none 0 4000 1000 [(1, 0), (3, 1000)] = some 4 ∧ finishSpec 0 4000 1000 [(1, 0), (3, 1000)] = some 6 := by
  constructor <;> norm_num [finishCode, finishSpec, effRate]

/-- witness (corpus): bandwidth 1000 at the start of the transfer, 2000 from t = 1: the code stays at 1000 -/
theorem bandwidth_cap_counterexample :
    finishCode (some 1000) (1/2) 4000 1000 [(1, 2000), (3, 500)] = some 6 ∧
    finishSpec (1/2) 4000 1000 [(1, 2000), (3, 500)] = some (11/4) := by
  constructor <;> norm_num [finishCode, finishSpec, effRate]

example : dates 0 (gen { pattern := deltas 0 [(1, 1/2), (3, 1)], loop := true, loopDelay := 4 - 3 } 2)
    = [(1, 1/2), (3, 1), (5, 1/2), (7, 1), (9, 1/2), (11, 1)] := by
  rw [profile_event_dates _ rfl (by simp [deltas])]
  norm_num [iterations, deltas, dates, shift, total]

example : parse (-1) [Line.point 1 (1/2), Line.point 3 1, Line.periodicity 4]
    = some { pattern := [(1, 1/2), (2, 1)], loop := true, loopDelay := 1 } := by
  norm_num [parse, parseLines, parseLine]

example : valueAt 1000 ([(1, 500), (3, 1000)] ++ [(5, 500)]) 4 = 1000 := by
  rw [value_in_force] <;> norm_num

example : work 0 1000 6 [(1, 0), (3, 1000)] = 4000 :=
  progress_integrates_availability 0 4000 1000 [(1, 0), (3, 1000)] 6 (by norm_num) (by norm_num)
    (by norm_num [sortedFrom]) (by intro e he; simp at he; rcases he with rfl | rfl <;> norm_num)
    zero_availability_counterexample.2

end SgVerif.C22
