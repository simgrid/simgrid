import SgVerif.LmmBook.WFPrim
/-
The well-formedness invariant `WF` of a quiescent state, its partially-freed variant `WFX s v i` (inside the loop
of `var_free(v)`: the elements `< i` of `v` are already erased), and their preservation by `enable_var`,
`disable_var`, `on_disabled_var` and `var_free`, under "no assertion fired".
-/
namespace SgVerif.LmmBook

/-- in a quiescent state an element is in the enabled list iff its variable has a positive penalty -/
def stdLoc (s : Sys) : Loc := fun u _ => some (decide ((s.vars u).pen ≠ 0))

/-- the clauses of `WF` about the variables alone: a freed variable has no element, live ids and constraint ids are in
range, a staged variable is disabled -/
structure SO (s : Sys) : Prop where
  dead : ∀ v, (s.vars v).alive = false → (s.vars v).cn = []
  lt : ∀ v, (s.vars v).alive = true → v < s.nv
  cnlt : ∀ v c, c ∈ (s.vars v).cn → c < s.nc
  st : ∀ v, (s.vars v).staged ≠ 0 → (s.vars v).pen = 0

structure WFX (s : Sys) (v i : Nat) : Prop where
  l : WFl s ((stdLoc s).upto v i none)
  so : SO s
  le : i ≤ (s.vars v).cn.length

/-- **element-list well-formedness**: every element `(v, i)` of every variable is linked exactly once, in the
enabled list of `cnsts_[i].constraint` when `sharing_penalty_ > 0` and in its disabled list otherwise; the lists
contain nothing else; a staged variable is disabled; freed variables have no element -/
def WF (s : Sys) : Prop := WFX s 0 0

theorem WF.wfl {s : Sys} (h : WF s) : WFl s (stdLoc s) := h.l.congr (fun u j => by simp [Loc.upto])

theorem WF.of {s : Sys} (h : WFl s (stdLoc s)) (so : SO s) : WF s :=
  ⟨h.congr (fun u j => by simp [Loc.upto]), so, Nat.zero_le _⟩

/-- before the first slot is erased, the variable that `var_free` works on is immaterial -/
theorem WFX.toX {s : Sys} {v : Nat} (h : WFX s v 0) (v' : Nat) : WFX s v' 0 :=
  ⟨h.l.congr (fun u j => by simp [Loc.upto]), h.so, Nat.zero_le _⟩

theorem WFX.toWF {s : Sys} {v : Nat} (h : WFX s v 0) : WF s := h.toX 0

theorem SO.frame {s s' : Sys} (h : SO s) (hnv : s.nv ≤ s'.nv) (hnc : s.nc ≤ s'.nc)
    (hcn : ∀ u, (s'.vars u).cn = (s.vars u).cn) (hal : ∀ u, (s'.vars u).alive = (s.vars u).alive)
    (hst : ∀ u, (s'.vars u).staged ≠ 0 → (s'.vars u).pen = 0) : SO s' := by
  refine ⟨?_, ?_, ?_, hst⟩
  · intro u hu; rw [hcn]; rw [hal] at hu; exact h.dead u hu
  · intro u hu; rw [hal] at hu; exact Nat.lt_of_lt_of_le (h.lt u hu) hnv
  · intro u c hc; rw [hcn] at hc; exact Nat.lt_of_lt_of_le (h.cnlt u c hc) hnc

theorem SO.same {s s' : Sys} (h : SO s) (hs : Same s s') (hst : ∀ u, (s'.vars u).staged ≠ 0 → (s'.vars u).pen = 0) :
    SO s' :=
  h.frame (Nat.le_of_eq hs.dims.1.symm) (Nat.le_of_eq hs.dims.2.1.symm) hs.cn hs.alive hst

theorem SO.setC {s : Sys} (h : SO s) (c : Nat) (k : Cnst) : SO (s.setC c k) := ⟨h.dead, h.lt, h.cnlt, h.st⟩

theorem SO.setV {s : Sys} (h : SO s) (v : Nat) (x : Var) (hd : x.alive = false → x.cn = [])
    (hlt : x.alive = true → v < s.nv) (hc : ∀ c ∈ x.cn, c < s.nc) (hst : x.staged ≠ 0 → x.pen = 0) :
    SO (s.setV v x) := by
  refine ⟨?_, ?_, ?_, ?_⟩
  all_goals
    intro u
    rw [setV_vars]
    split
  · exact hd
  · exact h.dead u
  · rename_i hu; rw [hu]; exact hlt
  · exact h.lt u
  · exact hc
  · exact h.cnlt u
  · exact hst
  · exact h.st u

/-- what `WFX` does not depend on: it reads the two lists of every constraint and the variables up to marks; sizes may grow -/
theorem WFX.frame' {s s' : Sys} {v i : Nat} (h : WFX s v i)
    (hc : ∀ c, (s'.cnsts c).en = (s.cnsts c).en ∧ (s'.cnsts c).dis = (s.cnsts c).dis)
    (hv : ∀ u, VEq (s'.vars u) (s.vars u)) (hnv : s.nv ≤ s'.nv) (hnc : s.nc ≤ s'.nc) : WFX s' v i :=
  ⟨(h.l.transfer hc (fun u => (hv u).cn) (fun _ _ _ => rfl)).congr (fun u j => by simp only [Loc.upto, stdLoc, (hv u).pen]),
   h.so.frame hnv hnc (fun u => (hv u).cn) (fun u => (hv u).alive)
     (fun u hu => by rw [(hv u).pen]; rw [(hv u).staged] at hu; exact h.so.st u hu),
   by rw [(hv v).cn]; exact h.le⟩

theorem WFX.markOnly {s s' : Sys} {v i : Nat} (h : WFX s v i) (hm : MarkOnly s s') : WFX s' v i :=
  h.frame' (fun _ => by rw [hm.cnsts]; exact ⟨rfl, rfl⟩) hm.vars (Nat.le_of_eq hm.nv.symm) (Nat.le_of_eq hm.nc.symm)

theorem WFX.of_eq {s s' : Sys} {v i : Nat} (h : WFX s v i) (hv : s'.vars = s.vars) (hc : s'.cnsts = s.cnsts)
    (hd : Dims s s' := by exact ⟨rfl, rfl, rfl, rfl⟩) : WFX s' v i :=
  h.frame' (fun _ => by rw [hc]; exact ⟨rfl, rfl⟩) (fun _ => by rw [hv]; rfl) (Nat.le_of_eq hd.1.symm) (Nat.le_of_eq hd.2.1.symm)

theorem enableVar_fails {s : Sys} {loc : Loc} (w : Nat) (h : WFl s loc) (hlen : 0 < (s.vars w).cn.length)
    (hl : loc w 0 = none) : (enableVar s w).failed = true := by
  cases hf : (enableVar s w).failed with
  | true => rfl
  | false =>
    exfalso
    unfold enableVar at hf
    simp only at hf
    have h3 := umcsFromVar_sticky _ _ hf
    cases hcn : (s.vars w).cn with
    | nil => rw [hcn] at hlen; exact Nat.lt_irrefl _ hlen
    | cons c0 rest =>
      rw [hcn] at h3
      simp only [forElems] at h3
      have h4 := forElems_sticky moveToEn_sticky w _ _ _ h3
      obtain ⟨e, he, _⟩ := moveToEn_inv _ c0 w 0 h4
      have := h.dis.noKey hl nofun c0 e (List.mem_of_find?_eq_some he)
      rw [List.find?_some he] at this
      cases this

theorem WFX_enableVar {s : Sys} {v i : Nat} (w : Nat) (h : WFX s v i) (hst : (s.vars w).staged ≠ 0)
    (hnf : (enableVar s w).failed = false) : WFX (enableVar s w) v i := by
  have hpen : (s.vars w).pen = 0 := h.so.st w hst
  have hv := enableVar_vars s w
  -- `w` is not the partially freed variable: `enable_var` would fail
  have hnot : ¬(w = v ∧ 0 < i) := fun ⟨hw, hi⟩ => by
    have hf := enableVar_fails w h.l (by rw [hw]; have := h.le; omega) (by simp only [Loc.upto]; rw [if_pos ⟨hw, hi⟩])
    rw [hf] at hnf; cases hnf
  refine ⟨?_, ?_, by rw [hv.cn]; exact h.le⟩
  · have := WFl_enableVar w h.l ?_ hnf
    · refine this.congr ?_
      intro u j
      simp only [Loc.all, Loc.upto, stdLoc]
      by_cases hu : u = w
      · subst hu
        have hp : ((enableVar s u).vars u).pen ≠ 0 := by rw [hv.penv]; exact hst
        rw [if_pos rfl, if_neg (fun hh => hnot ⟨hh.1, by omega⟩)]
        simp [hp]
      · simp only [hu, if_false, hv.pen u hu]
    · intro j _
      simp only [Loc.upto, stdLoc, hpen]
      rw [if_neg (fun hh => hnot ⟨hh.1, by omega⟩)]
      simp
  · refine h.so.same (enableVar_rel same s w) ?_
    intro u hu
    by_cases huw : u = w
    · subst huw; exact absurd hv.stagedv hu
    · rw [hv.pen u huw]; rw [hv.staged u huw] at hu; exact h.so.st u hu

theorem canEnable_staged {s : Sys} {w : Nat} (h : canEnable s w = true) : (s.vars w).staged ≠ 0 := by
  unfold canEnable at h
  rw [Bool.and_eq_true, decide_eq_true_eq] at h
  omega

theorem WFX_onDisabledVar {s : Sys} {v i : Nat} (c : Nat) (h : WFX s v i)
    (hnf : (onDisabledVar s c).failed = false) : WFX (onDisabledVar s c) v i :=
  onDisabledVar_ind (P := fun s => WFX s v i)
    (fun _ w hc hs hn => WFX_enableVar w hs (canEnable_staged hc) hn) s c h hnf

theorem WFX_foldl_onDisabledVar {v i : Nat} (l : List Nat) (s : Sys) (h : WFX s v i)
    (hnf : (l.foldl onDisabledVar s).failed = false) : WFX (l.foldl onDisabledVar s) v i :=
  foldl_ind onDisabledVar_sticky (fun _ c hs hn => WFX_onDisabledVar c hs hn) l s h hnf

theorem WF_disableVar {s : Sys} (v : Nat) (h : WF s) (hpen : (s.vars v).pen ≠ 0)
    (hnf : (disableVar s v).failed = false) : WF (disableVar s v) := by
  have hv := disableVar_vars s v hnf
  have hd := disableVar_rel same s v
  obtain ⟨s2, s3, hc2, hv2, hs3, hnf3, heq⟩ := disableVar_shape hnf
  rw [← (hv2 v).cn] at hs3
  subst hs3
  have hl := WFl_forElems_move (b := false) moveToDis_sticky moveToDis_vars WFl_moveToDis v
    (h.wfl.frame hc2 (fun u => (hv2 u).cn)) (by intro j _; simp [stdLoc, hpen]) hnf3
  apply WF.of
  · have hw : WFl (disableVar s v) ((stdLoc s).all v (some false)) := by
      rw [heq]
      exact hl.frame rfl (setV_field Var.cn _ v _ (by rfl))
    refine hw.congr ?_
    intro u j
    simp only [Loc.all, stdLoc]
    by_cases hu : u = v
    · subst hu; rw [hv.penv, if_pos rfl]; rfl
    · rw [if_neg hu, hv.pen u hu]
  · refine h.so.same hd ?_
    intro u hu
    by_cases huv : u = v
    · subst huv; exact hv.penv
    · rw [hv.pen u huv]; rw [hv.staged u huv] at hu; exact h.so.st u hu

theorem WFX_freeTail {s : Sys} {v i : Nat} (c : Nat) (h : WFX s v i) (hnf : (freeTail s c).failed = false) :
    WFX (freeTail s c) v i := by
  unfold freeTail at hnf ⊢
  split
  · exact h.of_eq rfl rfl
  · rename_i hc; simp only [hc] at hnf
    exact WFX_onDisabledVar c h hnf

/-- state after erasing the element `(v, i)`, which sits in the list `b` of `c` (`k` is `c` afterwards), in
`var_free` (before the tail) -/
theorem WFX_freed {s : Sys} {v i : Nat} (c : Nat) (k : Cnst) (h : WFX s v i) (hcn : (s.vars v).cn[i]? = some c)
    {b : Bool} (hp : decide ((s.vars v).pen ≠ 0) = b)
    (hk : if b then k.en = (s.cnsts c).en.eraseP (isRef v i) ∧ k.dis = (s.cnsts c).dis
          else k.en = (s.cnsts c).en ∧ k.dis = (s.cnsts c).dis.eraseP (isRef v i)) :
    WFX (s.setC c k) v (i+1) := by
  have hloc : (stdLoc s).upto v i none v i = some b := by
    simp only [Loc.upto, stdLoc]; rw [if_neg (by omega), hp]
  refine ⟨(WFl_relocate h.l c v i k none hcn ?_ ?_).congr (Loc.upto_succ (stdLoc s) v i none), h.so.setC c k,
    lt_of_getElem? hcn⟩
  · cases b with
    | true => rw [hk.1]; exact .erase (h.l.enK c) nofun
    | false => rw [hk.1]; exact .same (h.l.enK c) (h.l.en.noKey hloc nofun c) nofun
  · cases b with
    | true => rw [hk.2]; exact .same (h.l.disK c) (h.l.dis.noKey hloc nofun c) nofun
    | false => rw [hk.2]; exact .erase (h.l.disK c) nofun

theorem WFX_freeElem {s : Sys} {v i : Nat} (c : Nat) (h : WFX s v i) (hcn : (s.vars v).cn[i]? = some c)
    (hnf : (freeElem s c v i).failed = false) : WFX (freeElem s c v i) v (i+1) := by
  rcases freeElem_inv s c v i hnf with ⟨hp, e, he, _, heq⟩ | ⟨hp, hen, e, he, heq⟩
  · rw [heq] at hnf ⊢
    exact WFX_freeTail c (WFX_freed (b := true) c _ h hcn (by simp; omega) ⟨rfl, rfl⟩) hnf
  · rw [heq] at hnf ⊢
    exact WFX_freeTail c (WFX_freed (b := false) c _ h hcn (by simp [hp]) ⟨rfl, rfl⟩) hnf

/-- induction over the loop of `var_free(v)` when no assertion fires: `Q i` holds before slot `i`; the state that
enters the loop has the constraints of `s` and, up to marks, its variables -/
theorem varFree_ind {s : Sys} {v : Nat} (hnf : (varFree s v).failed = false) (Q : Nat → Sys → Prop)
    (h0 : ∀ s1 : Sys, MarkOnly { s with varset := s.varset.erase v, modflag := true } s1 → Q 0 s1)
    (hstep : ∀ st c i, (s.vars v).cn[i]? = some c → Q i st → (freeElem st c v i).failed = false →
      Q (i+1) (freeElem st c v i)) :
    ∃ s3, Q (s.vars v).cn.length s3 ∧ varFree s v = s3.setV v { s3.vars v with alive := false, cn := [] } := by
  unfold varFree at hnf ⊢
  simp only at hnf ⊢
  have hm := umcsFromVar_markOnly { s with varset := s.varset.erase v, modflag := true } v
  generalize umcsFromVar { s with varset := s.varset.erase v, modflag := true } v = s1 at hnf hm ⊢
  have hcn : (s1.vars v).cn = (s.vars v).cn := hm.cn v
  rw [hcn] at hnf ⊢
  exact ⟨_, forElems_ind0 v (s.vars v).cn Q (freeElem_rel sticky) hstep s1 (h0 s1 hm) hnf, rfl⟩

theorem WF_kill {s : Sys} {v : Nat} (h : WFX s v (s.vars v).cn.length) :
    WF (s.setV v { s.vars v with alive := false, cn := [] }) := by
  have hstd : ∀ u j, u ≠ v → stdLoc (s.setV v { s.vars v with alive := false, cn := [] }) u j
      = (stdLoc s).upto v (s.vars v).cn.length none u j := by
    intro u j hu
    simp only [stdLoc, Loc.upto, setV_vars, hu, false_and, if_false]
  have side : ∀ {b : Bool} {get : Cnst → List Entry}, WFside s ((stdLoc s).upto v (s.vars v).cn.length none) b get →
      WFside (s.setV v { s.vars v with alive := false, cn := [] })
        (stdLoc (s.setV v { s.vars v with alive := false, cn := [] })) b get := by
    intro b get hs
    refine ⟨?_, hs.K, ?_⟩
    · intro c e he
      have := hs.A c e he
      have hne : e.var ≠ v := by
        intro hv
        have h2 := this.2
        simp only [Loc.upto] at h2
        rw [if_pos ⟨hv, by rw [← hv]; exact lt_of_getElem? this.1⟩] at h2
        cases h2
      rw [setV_vars, if_neg hne, hstd _ _ hne]
      exact this
    · intro u j c hj hl
      rw [setV_vars] at hj
      by_cases hu : u = v
      · simp [hu] at hj
      · rw [if_neg hu] at hj
        rw [hstd _ _ hu] at hl
        exact hs.D u j c hj hl
  exact WF.of (.of_sides (side h.l.en) (side h.l.dis))
    (h.so.setV v _ (fun _ => rfl) (fun hh => by cases hh) (fun _ hh => by cases hh) (h.so.st v))

theorem WF_varFree {s : Sys} (v : Nat) (h : WF s) (hnf : (varFree s v).failed = false) : WF (varFree s v) := by
  obtain ⟨s3, ⟨hw, hs⟩, heq⟩ := varFree_ind hnf (fun i st => WFX st v i ∧ (st.vars v).cn = (s.vars v).cn)
    (fun s1 hm => ⟨WFX.markOnly (s := { s with varset := s.varset.erase v, modflag := true }) ((h.toX v).of_eq rfl rfl) hm,
      hm.cn v⟩)
    (fun st c i hi ⟨hw, hc⟩ hn => ⟨WFX_freeElem c hw (by rw [hc]; exact hi) hn,
      ((freeElem_rel same st c v i).cn v).trans hc⟩)
  rw [heq]
  exact WF_kill (by rw [hs]; exact hw)

end SgVerif.LmmBook
