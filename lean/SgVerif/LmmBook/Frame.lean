import SgVerif.LmmBook.Model
import SgVerif.Common.Fold
/-
What the internal functions of the bookkeeping model leave unchanged.  Every internal function is a composition of a
few primitive updates (set the failure flag, push on the modified set, set a mark, relink an element, …); a
reflexive and transitive relation (`Pre`, Common/Fold) that contains the primitives therefore contains the function.  This is proved
once (`MarkRel` for the modified-set functions, `StepRel` for `enable_var`, `disable_var`, `on_disabled_var`, the
loop body of `var_free`) and instantiated with the relations the invariants need: `MarkOnly`, `Sticky`, `Same` here,
`MKFrame` later; `keepsC` / `keepsOk` are the instances for a property of single constraints.
Model.lean writes its functions with everything inlined; the definitions here and in `Ops` that carry no theorem of their
own (`odvAfter`, `odvRest`, `Cnst.movedEn` …, `stageBack`, `freeTail`, `expandStage`, `expandMarks`, `reuseEn` …) name its
anonymous pieces, and the `_cons` / `_eq` / `_cases` lemma next to each ties it back (`rfl` or one unfolding).
-/
namespace SgVerif.LmmBook

@[simp] theorem setC_cnsts (s : Sys) (c : Nat) (x : Cnst) (i : Nat) :
    (s.setC c x).cnsts i = if i = c then x else s.cnsts i := rfl
@[simp] theorem setC_vars (s : Sys) (c : Nat) (x : Cnst) : (s.setC c x).vars = s.vars := rfl
@[simp] theorem setV_vars (s : Sys) (v : Nat) (x : Var) (i : Nat) :
    (s.setV v x).vars i = if i = v then x else s.vars i := rfl
@[simp] theorem setV_cnsts (s : Sys) (v : Nat) (x : Var) : (s.setV v x).cnsts = s.cnsts := rfl
@[simp] theorem fail_cnsts (s : Sys) : s.fail.cnsts = s.cnsts := rfl
@[simp] theorem fail_vars (s : Sys) : s.fail.vars = s.vars := rfl
theorem fail_failed (s : Sys) : s.fail.failed = true := rfl
@[simp] theorem setC_failed (s : Sys) (c : Nat) (x : Cnst) : (s.setC c x).failed = s.failed := rfl
@[simp] theorem setV_failed (s : Sys) (v : Nat) (x : Var) : (s.setV v x).failed = s.failed := rfl
theorem makeInactive_cnsts (s : Sys) (c : Nat) : (makeInactive s c).cnsts = s.cnsts := rfl
theorem makeInactive_vars (s : Sys) (c : Nat) : (makeInactive s c).vars = s.vars := rfl

theorem setV_field {α : Type} (f : Var → α) (s : Sys) (v : Nat) (x : Var) (h : f x = f (s.vars v)) (u : Nat) :
    f ((s.setV v x).vars u) = f (s.vars u) := by
  rw [setV_vars]
  split
  · rename_i hu; rw [hu]; exact h
  · rfl

theorem setC_field {α : Type} (f : Cnst → α) (s : Sys) (c : Nat) (k : Cnst) (h : f k = f (s.cnsts c)) (c' : Nat) :
    f ((s.setC c k).cnsts c') = f (s.cnsts c') := by
  rw [setC_cnsts]
  split
  · rename_i hc; rw [hc]; exact h
  · rfl

/-- the list `on_disabled_var` continues with (see `odvWalk`) -/
def odvAfter (en : Bool) (e : Entry) (after : List Entry) : List Entry :=
  match after with
  | [] => []
  | nx :: _ => if en && nx.var == e.var then [] else if en then after.filter (fun y => y.var != e.var) else after

/-- the part of one iteration of `on_disabled_var` after the `can_enable`/`enable_var` -/
def odvRest (c n : Nat) (after' : List Entry) (s1 : Sys) : Sys :=
  match (s1.cnsts c).limit with
  | none => s1
  | some lim =>
    if lim < (s1.cnsts c).cur then s1.fail
    else if (s1.cnsts c).cur = lim then s1
    else odvWalk c n after' s1

theorem odvWalk_cons (c n : Nat) (e : Entry) (after : List Entry) (s : Sys) :
    odvWalk c (n+1) (e :: after) s
      = odvRest c n (odvAfter (canEnable s e.var) e after) (if canEnable s e.var then enableVar s e.var else s) := rfl

theorem odvWalk_inv {P : Sys → Prop} (hen : ∀ s w, canEnable s w = true → P s → P (enableVar s w))
    (hfail : ∀ s, P s → P s.fail) (c : Nat) :
    ∀ (n : Nat) (l : List Entry) (s : Sys), P s → P (odvWalk c n l s) := by
  intro n
  induction n with
  | zero => intro l s h; simpa [odvWalk] using h
  | succ n ih =>
    intro l s h
    cases l with
    | nil => simpa [odvWalk] using h
    | cons e after =>
      rw [odvWalk_cons]
      have h1 : P (if canEnable s e.var then enableVar s e.var else s) := by
        split
        · rename_i hc; exact hen _ _ hc h
        · exact h
      generalize (if canEnable s e.var then enableVar s e.var else s) = s1 at h1 ⊢
      unfold odvRest
      split
      · exact h1
      · split
        · exact hfail _ h1
        · split
          · exact h1
          · exact ih _ _ h1

theorem onDisabledVar_inv {P : Sys → Prop} (hen : ∀ s w, canEnable s w = true → P s → P (enableVar s w))
    (hfail : ∀ s, P s → P s.fail) (s : Sys) (c : Nat) (h : P s) : P (onDisabledVar s c) := by
  unfold onDisabledVar
  split
  · exact h
  · exact odvWalk_inv hen hfail c _ _ s h

theorem forElems_rel {R : Sys → Sys → Prop} (h : Pre R) {f : Sys → Nat → Nat → Nat → Sys}
    (hf : ∀ s c v i, R s (f s c v i)) (v : Nat) : ∀ (l : List Nat) (i : Nat) (s : Sys), R s (forElems f v i l s) := by
  intro l
  induction l with
  | nil => intro i s; exact h.refl s
  | cons c rest ih => intro i s; exact h.trans (hf s c v i) (ih _ _)

theorem onDisabledVar_rel {R : Sys → Sys → Prop} (h : Pre R) (hen : ∀ s w, R s (enableVar s w))
    (hfail : ∀ s, R s s.fail) (s : Sys) (c : Nat) : R s (onDisabledVar s c) :=
  onDisabledVar_inv (P := R s) (fun s' w _ hs => h.trans hs (hen s' w)) (fun s' hs => h.trans hs (hfail s')) s c
    (h.refl s)

/-- the primitive updates of the modified-set functions -/
structure MarkRel (R : Sys → Sys → Prop) : Prop extends Pre R where
  fail : ∀ s, R s s.fail
  push : ∀ s c, R s { s with modified := s.modified ++ [c] }
  visit : ∀ s v, R s (s.setV v { s.vars v with visited := s.counter })

section
variable {R : Sys → Sys → Prop} (h : MarkRel R)
include h

theorem umcsInner_rel {recur : Sys → Nat → Sys} (hr : ∀ s c, R s (recur s c)) (c v : Nat) :
    ∀ (l : List Nat) (s : Sys), R s (umcsInner recur c v l s) := by
  intro l
  induction l with
  | nil => intro s; exact h.refl s
  | cons c2 rest ih =>
    intro s
    simp only [umcsInner]
    split
    · exact h.refl s
    · split
      · exact h.trans (h.trans (h.push s c2) (hr _ _)) (ih _)
      · exact ih _

theorem umcsEntries_rel {recur : Sys → Nat → Sys} (hr : ∀ s c, R s (recur s c)) (c : Nat) :
    ∀ (l : List Entry) (s : Sys), R s (umcsEntries recur c l s) := by
  intro l
  induction l with
  | nil => intro s; exact h.refl s
  | cons e rest ih =>
    intro s
    exact h.trans (h.trans (umcsInner_rel h hr c e.var _ s) (h.visit _ _)) (ih _)

theorem umcsRec_rel : ∀ (n : Nat) (s : Sys) (c : Nat), R s (umcsRec n s c) := by
  intro n
  induction n with
  | zero => intro s c; exact h.fail s
  | succ n ih => intro s c; exact umcsEntries_rel h ih c _ s

theorem umcs_rel (s : Sys) (c : Nat) : R s (umcs s c) := by
  unfold umcs
  split
  · exact h.trans (h.push s c) (umcsRec_rel h _ _ _)
  · exact h.refl s

theorem umcsFromVar_rel (s : Sys) (v : Nat) : R s (umcsFromVar s v) := by
  unfold umcsFromVar
  simp only
  split
  · exact h.refl s
  · split
    · exact h.toPre.foldl _ (umcs_rel h) s
    · split
      · exact umcs_rel h s _
      · exact h.refl s

end

-- the constraint records that `moveToEn`, `moveToDis` and the loop body of `var_free` write
def Cnst.movedEn (k : Cnst) (v i : Nat) (e : Entry) : Cnst :=
  { k with dis := k.dis.eraseP (isRef v i), en := e :: k.en, cur := k.cur + conc k.policy e.w }

def Cnst.movedDis (k : Cnst) (v i : Nat) (e : Entry) : Cnst :=
  { k with en := k.en.eraseP (isRef v i), dis := k.dis ++ [e], cur := k.cur - conc k.policy e.w }

def Cnst.freedEn (k : Cnst) (v i : Nat) (e : Entry) : Cnst :=
  { k with cur := k.cur - conc k.policy e.w, en := k.en.eraseP (isRef v i) }

def Cnst.freedDis (k : Cnst) (v i : Nat) : Cnst := { k with dis := k.dis.eraseP (isRef v i) }

/-- what an internal function writes to a constraint: an element moves between the two lists (`enable_var`,
`disable_var`) or leaves one (`var_free`), with the counter following, or the bound changes.  `ok` stands for "no
assertion has fired": `increase_concurrency` tests the limit after the update, so the update is within the limit
unless the run has failed. -/
inductive CUpd (ok : Prop) (k : Cnst) : Cnst → Prop where
  | movedEn (v i : Nat) (e : Entry) (he : k.dis.find? (isRef v i) = some e)
      (hlim : ok → ∀ lim, k.limit = some lim → k.cur + conc k.policy e.w ≤ lim) : CUpd ok k (k.movedEn v i e)
  | movedDis (v i : Nat) (e : Entry) (he : k.en.find? (isRef v i) = some e) (hle : conc k.policy e.w ≤ k.cur) :
      CUpd ok k (k.movedDis v i e)
  | freedEn (v i : Nat) (e : Entry) (he : k.en.find? (isRef v i) = some e) (hle : conc k.policy e.w ≤ k.cur) :
      CUpd ok k (k.freedEn v i e)
  | freedDis (v i : Nat) : CUpd ok k (k.freedDis v i)
  | bound (b : Int) : CUpd ok k { k with bound := b }

theorem CUpd.limit {ok : Prop} {k k' : Cnst} (h : CUpd ok k k') : k'.limit = k.limit := by cases h <;> rfl

theorem CUpd.mono {ok ok' : Prop} {k k' : Cnst} (hok : ok' → ok) (h : CUpd ok k k') : CUpd ok' k k' := by
  cases h with
  | movedEn v i e he hlim => exact .movedEn v i e he (fun h => hlim (hok h))
  | movedDis v i e he hle => exact .movedDis v i e he hle
  | freedEn v i e he hle => exact .freedEn v i e he hle
  | freedDis v i => exact .freedDis v i
  | bound b => exact .bound b

/-- the primitive updates of the other internal functions: write a constraint (`CUpd`), change a variable's
penalties or bound, move it in `variable_set`, deactivate a constraint, set the `modified_` flag -/
structure StepRel (R : Sys → Sys → Prop) : Prop extends MarkRel R where
  cnst : ∀ s c (k : Cnst), CUpd (s.failed = false) (s.cnsts c) k → R s (s.setC c k)
  var : ∀ s v (x : Var), x.alive = (s.vars v).alive → x.cn = (s.vars v).cn → x.visited = (s.vars v).visited →
    R s (s.setV v x)
  front : ∀ s v, R s (varsetFront s v)
  back : ∀ s v, R s (varsetBack s v)
  inactive : ∀ s c, R s (makeInactive s c)
  modflag : ∀ s b, R s { s with modflag := b }

/-- `disable_var(var); for (elem : var->cnsts_) on_disabled_var(elem.constraint); var->staged_sharing_penalty_ = penalty`:
the overflow path of `expand` -/
def stageBack (s : Sys) (v : Nat) : Sys :=
  let penalty := (s.vars v).pen
  let s := disableVar s v
  let s := (s.vars v).cn.foldl onDisabledVar s
  s.setV v { s.vars v with staged := penalty }

/-- the end of one iteration of `var_free`: `make_constraint_inactive` or `on_disabled_var` -/
def freeTail (s : Sys) (c : Nat) : Sys :=
  if (s.cnsts c).en.isEmpty && (s.cnsts c).dis.isEmpty then makeInactive s c else onDisabledVar s c

theorem moveToEn_cases (s : Sys) (c v i : Nat) :
    moveToEn s c v i = s.fail ∨ ∃ e, (s.cnsts c).dis.find? (isRef v i) = some e ∧
      (moveToEn s c v i = (s.setC c ((s.cnsts c).movedEn v i e)).fail ∨
       moveToEn s c v i = s.setC c ((s.cnsts c).movedEn v i e) ∧
         ∀ lim, (s.cnsts c).limit = some lim → (s.cnsts c).cur + conc (s.cnsts c).policy e.w ≤ lim) := by
  unfold moveToEn
  simp only
  cases (s.cnsts c).dis.find? (isRef v i) with
  | none => exact Or.inl rfl
  | some e =>
    refine Or.inr ⟨e, rfl, ?_⟩
    simp only
    split
    · rename_i lim hl
      split
      · exact Or.inl rfl
      · exact Or.inr ⟨rfl, fun lim' hl' => by rw [hl] at hl'; cases hl'; omega⟩
    · rename_i hl; exact Or.inr ⟨rfl, fun lim' hl' => by rw [hl] at hl'; cases hl'⟩

theorem moveToDis_cases (s : Sys) (c v i : Nat) :
    moveToDis s c v i = s.fail ∨ ∃ e, (s.cnsts c).en.find? (isRef v i) = some e ∧
      conc (s.cnsts c).policy e.w ≤ (s.cnsts c).cur ∧ moveToDis s c v i = s.setC c ((s.cnsts c).movedDis v i e) := by
  unfold moveToDis
  simp only
  cases (s.cnsts c).en.find? (isRef v i) with
  | none => exact Or.inl rfl
  | some e =>
    simp only
    split
    · exact Or.inl rfl
    · exact Or.inr ⟨e, rfl, by omega, rfl⟩

theorem moveToEn_inv (s : Sys) (c v i : Nat) (h : (moveToEn s c v i).failed = false) :
    ∃ e, (s.cnsts c).dis.find? (isRef v i) = some e ∧
      moveToEn s c v i = s.setC c ((s.cnsts c).movedEn v i e) := by
  rcases moveToEn_cases s c v i with h1 | ⟨e, he, h1 | h1⟩
  · rw [h1] at h; cases h
  · rw [h1] at h; cases h
  · exact ⟨e, he, h1.1⟩

theorem moveToDis_inv (s : Sys) (c v i : Nat) (h : (moveToDis s c v i).failed = false) :
    ∃ e, (s.cnsts c).en.find? (isRef v i) = some e ∧ conc (s.cnsts c).policy e.w ≤ (s.cnsts c).cur ∧
      moveToDis s c v i = s.setC c ((s.cnsts c).movedDis v i e) := by
  rcases moveToDis_cases s c v i with h1 | h1
  · rw [h1] at h; cases h
  · exact h1

theorem moveToEn_vars (s : Sys) (c v i : Nat) : (moveToEn s c v i).vars = s.vars := by
  rcases moveToEn_cases s c v i with h1 | ⟨e, _, h1 | ⟨h1, _⟩⟩ <;> rw [h1] <;> rfl

theorem moveToDis_vars (s : Sys) (c v i : Nat) : (moveToDis s c v i).vars = s.vars := by
  rcases moveToDis_cases s c v i with h1 | ⟨e, _, _, h1⟩ <;> rw [h1] <;> rfl

inductive FreeElemCase (s : Sys) (c v i : Nat) : Prop where
  | en (hp : 0 < (s.vars v).pen) (e : Entry) (he : (s.cnsts c).en.find? (isRef v i) = some e)
      (hle : conc (s.cnsts c).policy e.w ≤ (s.cnsts c).cur)
      (heq : freeElem s c v i = freeTail (s.setC c ((s.cnsts c).freedEn v i e)) c)
  | dis (hp : (s.vars v).pen = 0) (hen : (s.cnsts c).en.find? (isRef v i) = none) (e : Entry)
      (he : (s.cnsts c).dis.find? (isRef v i) = some e)
      (heq : freeElem s c v i = freeTail (s.setC c ((s.cnsts c).freedDis v i)) c)

theorem freeElem_cases (s : Sys) (c v i : Nat) : freeElem s c v i = s.fail ∨ FreeElemCase s c v i := by
  by_cases hp : 0 < (s.vars v).pen
  · cases he : (s.cnsts c).en.find? (isRef v i) with
    | none => left; unfold freeElem; simp only [hp, decide_true, he]
    | some e =>
      by_cases hlt : (s.cnsts c).cur < conc (s.cnsts c).policy e.w
      · left; unfold freeElem; simp only [hp, decide_true, he, hlt, if_true]
      · refine Or.inr (.en hp e he (by omega) ?_)
        unfold freeElem
        simp only [hp, decide_true, he, hlt, if_false, freeTail, Cnst.freedEn, setC_cnsts, if_true]
  · have hp0 : (s.vars v).pen = 0 := by omega
    cases hen : (s.cnsts c).en.find? (isRef v i) with
    | some e => left; unfold freeElem; simp only [hp0, Nat.lt_irrefl, decide_false, hen]
    | none =>
      cases he : (s.cnsts c).dis.find? (isRef v i) with
      | none => left; unfold freeElem; simp only [hp0, Nat.lt_irrefl, decide_false, hen, he]
      | some e =>
        refine Or.inr (.dis hp0 hen e he ?_)
        unfold freeElem
        simp only [hp0, Nat.lt_irrefl, decide_false, hen, he, freeTail, Cnst.freedDis, setC_cnsts, if_true]

theorem freeElem_inv (s : Sys) (c v i : Nat) (h : (freeElem s c v i).failed = false) : FreeElemCase s c v i :=
  (freeElem_cases s c v i).resolve_left (fun h1 => by rw [h1] at h; cases h)

section
variable {R : Sys → Sys → Prop} (h : StepRel R)
include h

theorem moveToEn_rel (s : Sys) (c v i : Nat) : R s (moveToEn s c v i) := by
  rcases moveToEn_cases s c v i with h1 | ⟨e, he, h1 | ⟨h1, hlim⟩⟩ <;> rw [h1]
  · exact h.fail s
  · -- the assertion fires after the update: as a relation, the flag is set first
    exact h.trans (h.fail s) (h.cnst s.fail c _ (.movedEn v i e he nofun))
  · exact h.cnst s c _ (.movedEn v i e he (fun _ => hlim))

theorem moveToDis_rel (s : Sys) (c v i : Nat) : R s (moveToDis s c v i) := by
  rcases moveToDis_cases s c v i with h1 | ⟨e, he, hle, h1⟩ <;> rw [h1]
  · exact h.fail s
  · exact h.cnst s c _ (.movedDis v i e he hle)

theorem enableVar_rel (s : Sys) (v : Nat) : R s (enableVar s v) := by
  unfold enableVar
  refine h.trans ?_ (umcsFromVar_rel h.toMarkRel _ v)
  refine h.trans ?_ (forElems_rel h.toPre (moveToEn_rel h) v _ _ _)
  refine h.trans ?_ (h.front _ v)
  exact h.var s v _ rfl rfl rfl

theorem disableVar_rel (s : Sys) (v : Nat) : R s (disableVar s v) := by
  unfold disableVar
  split
  · exact h.fail s
  · refine h.trans ?_ (h.var _ v _ rfl rfl rfl)
    refine h.trans ?_ (forElems_rel h.toPre (moveToDis_rel h) v _ _ _)
    exact h.trans (h.back s v) (umcsFromVar_rel h.toMarkRel _ v)

/-- `onDisabledVar_rel` for a `StepRel`, which contains `enable_var` and the failure flag -/
theorem onDisabledVar_rel' (s : Sys) (c : Nat) : R s (onDisabledVar s c) :=
  onDisabledVar_rel h.toPre (enableVar_rel h) h.fail s c

theorem stageBack_rel (s : Sys) (v : Nat) : R s (stageBack s v) := by
  unfold stageBack
  refine h.trans ?_ (h.var _ v _ rfl rfl rfl)
  exact h.trans (disableVar_rel h s v) (h.toPre.foldl _ (onDisabledVar_rel' h) _)

theorem freeTail_rel (s : Sys) (c : Nat) : R s (freeTail s c) := by
  unfold freeTail
  split
  · exact h.inactive s c
  · exact onDisabledVar_rel' h s c

theorem freeElem_rel (s : Sys) (c v i : Nat) : R s (freeElem s c v i) := by
  rcases freeElem_cases s c v i with h1 | ⟨_, e, he, hle, h1⟩ | ⟨_, _, e, _, h1⟩ <;> rw [h1]
  · exact h.fail s
  · exact h.trans (h.cnst s c _ (.freedEn v i e he hle)) (freeTail_rel h _ c)
  · exact h.trans (h.cnst s c _ (.freedDis v i)) (freeTail_rel h _ c)

/-- `StepRel.var` keeps `alive` and `cnsts_`, so the final clearing of the variable is outside the relation: `s3` is the
state before it -/
theorem varFree_rel (s : Sys) (v : Nat) :
    ∃ s3, R { s with varset := s.varset.erase v, modflag := true } s3 ∧
      varFree s v = s3.setV v { s3.vars v with alive := false, cn := [] } :=
  ⟨_, h.trans (umcsFromVar_rel h.toMarkRel _ v) (forElems_rel h.toPre (freeElem_rel h) v _ 0 _), rfl⟩

end

/-- the shape of an invariant about single constraints (`C18.CE`, `C18.BD`): what `keepsC` / `keepsOk` carry through the
internal functions -/
def AllC (P : Nat → Cnst → Prop) (s : Sys) : Prop := ∀ c, P c (s.cnsts c)

theorem AllC.cnsts {P : Nat → Cnst → Prop} {s s' : Sys} (h : AllC P s) (hc : s'.cnsts = s.cnsts) : AllC P s' := by
  intro c; rw [hc]; exact h c

theorem AllC.setC {P : Nat → Cnst → Prop} {s : Sys} (h : AllC P s) (c : Nat) (k : Cnst) (hk : P c k) :
    AllC P (s.setC c k) := by
  intro c'
  rw [setC_cnsts]
  split
  · rename_i hc; rw [hc]; exact hk
  · exact h c'

/-- a property of single constraints that every constraint update keeps is kept by every internal function -/
theorem keepsC {P : Nat → Cnst → Prop} (hP : ∀ ok c k k', CUpd ok k k' → P c k → P c k') :
    StepRel (fun s s' => AllC P s → AllC P s') where
  refl _ h := h
  trans h1 h2 h := h2 (h1 h)
  fail _ h := h
  push _ _ h := h
  visit _ _ h := h
  cnst _ c k hk h := h.setC c k (hP _ c _ _ hk (h c))
  var _ _ _ _ _ _ h := h
  front _ _ h := h
  back _ _ h := h
  inactive _ _ h := h
  modflag _ _ h := h

/-- the same for a run in which no assertion fires (then no intermediate state had failed, `Sticky`) -/
theorem keepsOk {P : Nat → Cnst → Prop} (hP : ∀ c k k', CUpd True k k' → P c k → P c k') :
    StepRel (fun s s' => s'.failed = false → s.failed = false ∧ (AllC P s → AllC P s')) where
  refl _ h := ⟨h, id⟩
  trans h1 h2 h := ⟨(h1 (h2 h).1).1, fun hp => (h2 h).2 ((h1 (h2 h).1).2 hp)⟩
  fail _ h := nomatch h
  push _ _ h := ⟨h, id⟩
  visit _ _ h := ⟨h, id⟩
  cnst _ c k hk h := ⟨h, fun hp => hp.setC c k (hP c _ _ (hk.mono fun _ => h) (hp c))⟩
  var _ _ _ _ _ _ h := ⟨h, id⟩
  front _ _ h := ⟨h, id⟩
  back _ _ h := ⟨h, id⟩
  inactive _ _ h := ⟨h, id⟩
  modflag _ _ h := ⟨h, id⟩

/-- equal up to the `visited_` mark -/
def VEq (a b : Var) : Prop := { a with visited := 0 } = { b with visited := 0 }

theorem VEq.cn {a b : Var} (h : VEq a b) : a.cn = b.cn := (congrArg Var.cn h :)
theorem VEq.alive {a b : Var} (h : VEq a b) : a.alive = b.alive := (congrArg Var.alive h :)
theorem VEq.pen {a b : Var} (h : VEq a b) : a.pen = b.pen := (congrArg Var.pen h :)
theorem VEq.staged {a b : Var} (h : VEq a b) : a.staged = b.staged := (congrArg Var.staged h :)
theorem VEq.bound {a b : Var} (h : VEq a b) : a.bound = b.bound := (congrArg Var.bound h :)

/-- `s'` differs from `s` at most in `modified`, `failed`, and the `visited` field of variables -/
structure MarkOnly (s s' : Sys) : Prop where
  cnsts : s'.cnsts = s.cnsts
  cfg : s'.cfg = s.cfg
  sel : s'.sel = s.sel
  nv : s'.nv = s.nv
  nc : s'.nc = s.nc
  varset : s'.varset = s.varset
  active : s'.active = s.active
  counter : s'.counter = s.counter
  modflag : s'.modflag = s.modflag
  vars : ∀ v, { s'.vars v with visited := 0 } = { s.vars v with visited := 0 }

theorem MarkOnly.staged {s s' : Sys} (h : MarkOnly s s') (v : Nat) : (s'.vars v).staged = (s.vars v).staged :=
  VEq.staged (h.vars v)
theorem MarkOnly.cn {s s' : Sys} (h : MarkOnly s s') (v : Nat) : (s'.vars v).cn = (s.vars v).cn :=
  VEq.cn (h.vars v)
theorem MarkOnly.alive {s s' : Sys} (h : MarkOnly s s') (v : Nat) : (s'.vars v).alive = (s.vars v).alive :=
  VEq.alive (h.vars v)

theorem markOnly : MarkRel MarkOnly where
  refl _ := ⟨rfl, rfl, rfl, rfl, rfl, rfl, rfl, rfl, rfl, fun _ => rfl⟩
  trans h1 h2 :=
    ⟨h2.cnsts.trans h1.cnsts, h2.cfg.trans h1.cfg, h2.sel.trans h1.sel, h2.nv.trans h1.nv, h2.nc.trans h1.nc,
     h2.varset.trans h1.varset, h2.active.trans h1.active, h2.counter.trans h1.counter, h2.modflag.trans h1.modflag,
     fun v => (h2.vars v).trans (h1.vars v)⟩
  fail _ := ⟨rfl, rfl, rfl, rfl, rfl, rfl, rfl, rfl, rfl, fun _ => rfl⟩
  push _ _ := ⟨rfl, rfl, rfl, rfl, rfl, rfl, rfl, rfl, rfl, fun _ => rfl⟩
  visit s v := ⟨rfl, rfl, rfl, rfl, rfl, rfl, rfl, rfl, rfl, fun u => by
    rw [setV_vars]
    split
    · subst_vars; rfl
    · rfl⟩

theorem umcs_markOnly (s : Sys) (c : Nat) : MarkOnly s (umcs s c) := umcs_rel markOnly s c
theorem foldl_umcs_markOnly (l : List Nat) (s : Sys) : MarkOnly s (l.foldl umcs s) :=
  markOnly.toPre.foldl l umcs_markOnly s
theorem umcsFromVar_markOnly (s : Sys) (v : Nat) : MarkOnly s (umcsFromVar s v) := umcsFromVar_rel markOnly s v

/-- `failed` is sticky: no internal function ever resets it.  Hence "the result did not fail" implies "no
intermediate state failed", which is how the invariants of the form `failed = false → …` are carried through
sequences and loops. -/
def Sticky (s s' : Sys) : Prop := s'.failed = false → s.failed = false

theorem sticky : StepRel Sticky where
  refl _ h := h
  trans h1 h2 h := h1 (h2 h)
  fail _ h := by simp [Sys.fail] at h
  push _ _ h := h
  visit _ _ h := h
  cnst _ _ _ _ h := h
  var _ _ _ _ _ _ h := h
  front _ _ h := h
  back _ _ h := h
  inactive _ _ h := h
  modflag _ _ h := h

theorem umcsFromVar_sticky (s : Sys) (v : Nat) : (umcsFromVar s v).failed = false → s.failed = false :=
  umcsFromVar_rel sticky.toMarkRel s v
theorem moveToEn_sticky (s : Sys) (c v i : Nat) : (moveToEn s c v i).failed = false → s.failed = false :=
  moveToEn_rel sticky s c v i
theorem moveToDis_sticky (s : Sys) (c v i : Nat) : (moveToDis s c v i).failed = false → s.failed = false :=
  moveToDis_rel sticky s c v i
theorem onDisabledVar_sticky (s : Sys) (c : Nat) : (onDisabledVar s c).failed = false → s.failed = false :=
  onDisabledVar_rel' sticky s c
theorem freeTail_sticky (s : Sys) (c : Nat) : (freeTail s c).failed = false → s.failed = false := freeTail_rel sticky s c
theorem forElems_sticky {f : Sys → Nat → Nat → Nat → Sys}
    (hf : ∀ s c v i, (f s c v i).failed = false → s.failed = false) (v : Nat) (l : List Nat) (i : Nat) (s : Sys) :
    (forElems f v i l s).failed = false → s.failed = false := forElems_rel sticky.toPre hf v l i s

theorem foldl_sticky {α : Type} {f : Sys → α → Sys} (hf : ∀ s a, (f s a).failed = false → s.failed = false)
    (l : List α) (s : Sys) : (l.foldl f s).failed = false → s.failed = false := sticky.toPre.foldl l hf s

theorem stageBack_stages {s : Sys} {v : Nat} (hnf : (stageBack s v).failed = false) :
    (disableVar s v).failed = false ∧ (((disableVar s v).vars v).cn.foldl onDisabledVar (disableVar s v)).failed = false :=
  have h2 : (((disableVar s v).vars v).cn.foldl onDisabledVar (disableVar s v)).failed = false := hnf
  ⟨foldl_sticky onDisabledVar_sticky _ _ h2, h2⟩

theorem makeActive_failed (s : Sys) (c : Nat) : (makeActive s c).failed = s.failed := by
  unfold makeActive; split <;> rfl

/-- sizes and configuration: what only `constraint_new` / `variable_new` change -/
def Dims (s s' : Sys) : Prop := s'.nv = s.nv ∧ s'.nc = s.nc ∧ s'.cfg = s.cfg ∧ s'.sel = s.sel

/-- what no internal function changes -/
structure Same (s s' : Sys) : Prop where
  dims : Dims s s'
  alive : ∀ u, (s'.vars u).alive = (s.vars u).alive
  cn : ∀ u, (s'.vars u).cn = (s.vars u).cn
  limit : ∀ c, (s'.cnsts c).limit = (s.cnsts c).limit

theorem Same.of_eq {s s' : Sys} (hv : s'.vars = s.vars) (hc : s'.cnsts = s.cnsts) (hd : Dims s s' := by exact ⟨rfl, rfl, rfl, rfl⟩) :
    Same s s' := ⟨hd, fun _ => by rw [hv], fun _ => by rw [hv], fun _ => by rw [hc]⟩

theorem same : StepRel Same where
  refl _ := .of_eq rfl rfl
  trans h1 h2 :=
    ⟨⟨h2.dims.1.trans h1.dims.1, h2.dims.2.1.trans h1.dims.2.1, h2.dims.2.2.1.trans h1.dims.2.2.1,
      h2.dims.2.2.2.trans h1.dims.2.2.2⟩,
     fun u => (h2.alive u).trans (h1.alive u), fun u => (h2.cn u).trans (h1.cn u),
     fun c => (h2.limit c).trans (h1.limit c)⟩
  fail _ := .of_eq rfl rfl
  push _ _ := .of_eq rfl rfl
  visit s v := ⟨⟨rfl, rfl, rfl, rfl⟩, setV_field Var.alive s v _ rfl, setV_field Var.cn s v _ rfl, fun _ => rfl⟩
  cnst s c k hk := ⟨⟨rfl, rfl, rfl, rfl⟩, fun _ => rfl, fun _ => rfl, setC_field Cnst.limit s c k hk.limit⟩
  var s v x ha hc _ := ⟨⟨rfl, rfl, rfl, rfl⟩, setV_field Var.alive s v x ha, setV_field Var.cn s v x hc, fun _ => rfl⟩
  front _ _ := .of_eq rfl rfl
  back _ _ := .of_eq rfl rfl
  inactive _ _ := .of_eq rfl rfl
  modflag _ _ := .of_eq rfl rfl

theorem Same.of_markOnly {s s' : Sys} (h : MarkOnly s s') : Same s s' :=
  ⟨⟨h.nv, h.nc, h.cfg, h.sel⟩, h.alive, h.cn, fun _ => by rw [h.cnsts]⟩

/-- `foldl_inv` for an invariant claimed of non-failed states only -/
theorem foldl_ind {α : Type} {f : Sys → α → Sys} {Q : Sys → Prop}
    (hst : ∀ s a, (f s a).failed = false → s.failed = false)
    (hstep : ∀ s a, Q s → (f s a).failed = false → Q (f s a))
    (l : List α) (s : Sys) (h : Q s) (hnf : (l.foldl f s).failed = false) : Q (l.foldl f s) :=
  foldl_inv (P := fun s => s.failed = false → Q s) (fun s a hs hn => hstep s a (hs (hst s a hn)) hn) l s (fun _ => h) hnf

theorem onDisabledVar_ind {P : Sys → Prop}
    (hen : ∀ s w, canEnable s w = true → P s → (enableVar s w).failed = false → P (enableVar s w))
    (s : Sys) (c : Nat) (h : P s) (hnf : (onDisabledVar s c).failed = false) : P (onDisabledVar s c) :=
  onDisabledVar_inv (P := fun s => s.failed = false → P s)
    (fun s w hc hs hn => hen s w hc (hs (enableVar_rel sticky s w hn)) hn) (fun _ _ hn => by simp [Sys.fail] at hn) s c
    (fun _ => h) hnf

/-- indexed loop lemma: `Q i` holds before the iteration on slot `i` of the array `L` -/
theorem forElems_ind0 {f : Sys → Nat → Nat → Nat → Sys} (v : Nat) (L : List Nat) (Q : Nat → Sys → Prop)
    (hst : ∀ s c v i, (f s c v i).failed = false → s.failed = false)
    (hstep : ∀ s c i, L[i]? = some c → Q i s → (f s c v i).failed = false → Q (i+1) (f s c v i))
    (s : Sys) (h0 : Q 0 s) (hnf : (forElems f v 0 L s).failed = false) : Q L.length (forElems f v 0 L s) := by
  -- generalised to the rest `l` of `L` behind a prefix of length `i`
  have key : ∀ (l : List Nat) (i : Nat) (s : Sys), (∃ pre, L = pre ++ l ∧ pre.length = i) → Q i s →
      (forElems f v i l s).failed = false → Q L.length (forElems f v i l s) := by
    intro l
    induction l with
    | nil =>
      intro i s ⟨pre, hL, hlen⟩ hq _
      have : L.length = i := by rw [hL]; simp [hlen]
      rw [this]; exact hq
    | cons c rest ih =>
      intro i s ⟨pre, hL, hlen⟩ hq hnf
      have hLi : L[i]? = some c := by
        rw [hL, List.getElem?_append_right (by omega)]
        simp [hlen]
      exact ih (i+1) _ ⟨pre ++ [c], by rw [hL]; simp, by simp [hlen]⟩
        (hstep s c i hLi hq (forElems_sticky hst v _ _ _ hnf)) hnf
  exact key L 0 s ⟨[], by simp, rfl⟩ h0 hnf

end SgVerif.LmmBook
