import SgVerif.LmmBook.WFOps
/-
`WF` through `expand`: the three states to which `expand` applies `expandTail` (`ExpandCase`: element reused in the
enabled list, reused in the disabled list, created), and `expandTail`, whose overflow path is `disable_var` →
`on_disabled_var` → stage.
-/
namespace SgVerif.LmmBook

theorem WF.frame {s s' : Sys} (h : WF s) (hc : ∀ c, (s'.cnsts c).en = (s.cnsts c).en ∧ (s'.cnsts c).dis = (s.cnsts c).dis)
    (hv : s'.vars = s.vars) (hd : Dims s s') : WF s' :=
  h.frame' hc (fun u => by rw [hv]; rfl) (Nat.le_of_eq hd.1.symm) (Nat.le_of_eq hd.2.1.symm)

theorem WF_modflag {s : Sys} (h : WF s) (b : Bool) : WF { s with modflag := b } := WFX.of_eq h rfl rfl

theorem WF_makeActive {s : Sys} (h : WF s) (c : Nat) : WF (makeActive s c) := by
  unfold makeActive
  split
  · exact h
  · exact WFX.of_eq h rfl rfl

theorem WF.setV' {s : Sys} (h : WF s) (v : Nat) (x : Var) (hcn : x.cn = (s.vars v).cn) (hd : x.alive = false → x.cn = [])
    (hlt : x.alive = true → v < s.nv) (hpen : x.cn ≠ [] → (x.pen ≠ 0 ↔ (s.vars v).pen ≠ 0))
    (hst : x.staged ≠ 0 → x.pen = 0) : WF (s.setV v x) := by
  refine WF.of ((h.wfl.frame (s' := s.setV v x) rfl (setV_field Var.cn s v x hcn)).congr' ?_)
    (h.so.setV v x hd hlt (fun c hc => h.so.cnlt v c (hcn ▸ hc)) hst)
  intro u j hj
  simp only [stdLoc, setV_vars] at hj ⊢
  split
  · rename_i hu
    rw [if_pos hu] at hj
    simp only [hpen (fun h0 => by rw [h0] at hj; exact Nat.not_lt_zero _ hj), hu]
  · rfl

theorem WF.setV {s : Sys} (h : WF s) (v : Nat) (x : Var) (hcn : x.cn = (s.vars v).cn)
    (hal : x.alive = (s.vars v).alive) (hpen : x.pen ≠ 0 ↔ (s.vars v).pen ≠ 0) (hst : x.staged ≠ 0 → x.pen = 0) :
    WF (s.setV v x) :=
  h.setV' v x hcn (fun hx => by rw [hcn]; exact h.so.dead v (hal ▸ hx)) (fun hx => h.so.lt v (hal ▸ hx)) (fun _ => hpen) hst

theorem WF.relink {s : Sys} (h : WF s) (c v i : Nat) (k : Cnst) (hcn : (s.vars v).cn[i]? = some c) {b : Bool}
    (hloc : stdLoc s v i = some b) (hen : Relink v i (s.cnsts c).en k.en (some b = some true))
    (hdis : Relink v i (s.cnsts c).dis k.dis (some b = some false)) : WF (s.setC c k) := by
  refine WF.of ((WFl_relocate h.wfl c v i k (some b) hcn hen hdis).congr ?_) (h.so.setC c k)
  intro u j
  simp only [Loc.upd]
  split
  · rename_i hk; rw [hk.1, hk.2]; exact hloc
  · rfl

theorem WFside.loc_of_find {s : Sys} {loc : Loc} {b : Bool} {get : Cnst → List Entry} (h : WFside s loc b get)
    {c v i : Nat} {e : Entry} (he : (get (s.cnsts c)).find? (isRef v i) = some e) : loc v i = some b := by
  have hk := (isRef_iff v i e).mp (List.find?_some he)
  have := (h.A c e (List.mem_of_find?_eq_some he)).2
  rw [hk.1, hk.2] at this
  exact this

theorem WF_reuseEn {s : Sys} (h : WF s) {c v i : Nat} (w : Nat) {e : Entry} (hcn : (s.vars v).cn[i]? = some c)
    (he : (s.cnsts c).en.find? (isRef v i) = some e) : WF (reuseEn s c v i w e) := by
  have h0 := WF_modflag h true
  have hloc := h0.wfl.en.loc_of_find he
  exact h0.relink c v i _ hcn hloc (.setW (h0.wfl.enK c) he _ rfl)
    (.same (h0.wfl.disK c) (h0.wfl.dis.noKey hloc nofun c) nofun)

theorem WF_reuseDis {s : Sys} (h : WF s) {c v i : Nat} (w : Nat) {e : Entry} (hcn : (s.vars v).cn[i]? = some c)
    (he : (s.cnsts c).dis.find? (isRef v i) = some e) : WF (reuseDis s c v i w e) := by
  have h0 := WF_modflag h true
  have hloc := h0.wfl.dis.loc_of_find he
  exact h0.relink c v i _ hcn hloc (.same (h0.wfl.enK c) (h0.wfl.en.noKey hloc nofun c) nofun)
    (.setW (h0.wfl.disK c) he _ rfl)

theorem WF_createElem {s : Sys} (c v w : Nat) (h : WF s) (hc : c < s.nc) (hal : (s.vars v).alive = true) :
    WF (createElem s c v w) := by
  have h0 := WF_modflag h true
  have hl1 := WFl_append h0.wfl v c
  have hnone : (stdLoc { s with modflag := true }).upd v (s.vars v).cn.length none v (s.vars v).cn.length = none := by
    simp [Loc.upd]
  have hkey : isRef v (s.vars v).cn.length ⟨v, (s.vars v).cn.length, w⟩ = true := by simp [isRef]
  have h1 : WF ((({ s with modflag := true } : Sys).setV v { s.vars v with cn := (s.vars v).cn ++ [c] }).setC c
      (createdCnst s c v w)) := by
    refine WF.of ((WFl_relocate hl1 c v (s.vars v).cn.length (createdCnst s c v w) (some (decide ((s.vars v).pen ≠ 0)))
      (by simp [setV_vars]) ?_ ?_).congr ?_)
      ((h0.so.setV v { s.vars v with cn := (s.vars v).cn ++ [c] } (fun hh => by rw [hal] at hh; cases hh) (fun _ => h.so.lt v hal) ?_ (h.so.st v)).setC c _)
    · unfold createdCnst
      split
      · rename_i hp
        exact .cons (hl1.enK c) (hl1.en.noKey hnone nofun c) hkey (by simp [hp])
      · rename_i hp
        exact .same (hl1.enK c) (hl1.en.noKey hnone nofun c) (by simp [hp])
    · unfold createdCnst
      split
      · rename_i hp
        exact .same (hl1.disK c) (hl1.dis.noKey hnone nofun c) (by simp [hp])
      · rename_i hp
        exact .snoc (hl1.disK c) (hl1.dis.noKey hnone nofun c) hkey (by simp [hp])
    · intro u j
      have hp := setV_field Var.pen ({ s with modflag := true } : Sys) v { s.vars v with cn := (s.vars v).cn ++ [c] } rfl
      simp only [Loc.upd, stdLoc, setC_vars, hp]
      split
      · rename_i hk; rw [hk.1]
      · rfl
    · intro c' hc'
      rcases List.mem_append.mp hc' with h1 | h1
      · exact h.so.cnlt v c' h1
      · rw [List.mem_singleton.mp h1]; exact hc
  unfold createElem
  simp only
  split
  · exact WF_makeActive h1 c
  · exact h1

theorem onDisabledVar_idle (s : Sys) (c v : Nat) (h : (s.vars v).pen = 0 ∧ (s.vars v).staged = 0) :
    ((onDisabledVar s c).vars v).pen = 0 ∧ ((onDisabledVar s c).vars v).staged = 0 := by
  refine onDisabledVar_inv (P := fun s => (s.vars v).pen = 0 ∧ (s.vars v).staged = 0) ?_ (fun _ h => h) s c h
  intro s w _ hs
  have hv := enableVar_vars s w
  by_cases hw : v = w
  · subst hw; exact ⟨by rw [hv.penv]; exact hs.2, hv.stagedv⟩
  · exact ⟨by rw [hv.pen v hw]; exact hs.1, by rw [hv.staged v hw]; exact hs.2⟩

theorem WF_stageBack {s : Sys} (v : Nat) (h : WF s) (hpen : (s.vars v).pen ≠ 0)
    (hnf : (stageBack s v).failed = false) : WF (stageBack s v) := by
  obtain ⟨hnf1, hnf2⟩ := stageBack_stages hnf
  have hv1 := disableVar_vars s v hnf1
  have h2 := WFX_foldl_onDisabledVar _ _ (WF_disableVar v h hpen hnf1) hnf2
  have hidle := foldl_inv (onDisabledVar_idle · · v) ((disableVar s v).vars v).cn (disableVar s v) ⟨hv1.penv, hv1.stagedv⟩
  exact WF.setV h2 v _ rfl rfl Iff.rfl (fun _ => hidle.1)

theorem WF_expandTail {s : Sys} (c v w' : Nat) (h : WF s) (hnf : (expandTail s c v w').failed = false) :
    WF (expandTail s c v w') := by
  rw [expandTail_eq] at hnf ⊢
  refine WFX.markOnly ?_ (expandMarks_markOnly _ c v w')
  have hnf1 := expandMarks_rel sticky.toMarkRel _ c v w' hnf
  rcases expandStage_cases s c v with ⟨he, _⟩ | ⟨he, hp, _⟩
  · rw [he]; exact h
  · rw [he] at hnf1 ⊢; exact WF_stageBack v h hp hnf1

theorem WF_expand {s : Sys} (c v w : Nat) (f : Bool) (h : WF s) (hc : c < s.nc) (hal : (s.vars v).alive = true)
    (hnf : (expand s c v w f).failed = false) : WF (expand s c v w f) := by
  rcases expand_inv s c v w f hnf with ⟨i, e, hcn, _, he, _, heq⟩ | ⟨i, e, hcn, _, he, heq⟩ | ⟨_, heq⟩
  · rw [heq] at hnf ⊢; exact WF_expandTail _ _ _ (WF_reuseEn h w hcn he) hnf
  · rw [heq] at hnf ⊢; exact WF_expandTail _ _ _ (WF_reuseDis h w hcn he) hnf
  · rw [heq] at hnf ⊢; exact WF_expandTail _ _ _ (WF_createElem c v w h hc hal) hnf

end SgVerif.LmmBook
