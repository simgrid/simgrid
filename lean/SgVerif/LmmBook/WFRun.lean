import SgVerif.LmmBook.WFExpand
/-
`WF` through the remaining operations, then through `step` and `run`, under "no assertion fired".
-/
namespace SgVerif.LmmBook

theorem WF_updatePenalty {s : Sys} (v p : Nat) (h : WF s) (hnf : (updatePenalty s v p).failed = false) :
    WF (updatePenalty s v p) := by
  have h0 : WF { s with modflag := true } := WF_modflag h true
  rcases updatePenalty_cases s v p with heq | ⟨hp, hz, _, heq⟩ | ⟨hp, hz, _, heq⟩ | ⟨_, hz, _, heq⟩ | ⟨_, hz, _, heq⟩ |
    ⟨hp, hz, heq⟩
  all_goals rw [heq] at hnf ⊢
  · exact h
  · exact WF.setV h0 v _ rfl rfl Iff.rfl (fun _ => hz)
  · refine WFX_enableVar v (WF.setV h0 v _ rfl rfl Iff.rfl (fun _ => hz)) ?_ hnf
    simp only [stagedAt, setV_vars, if_true]
    omega
  · have hnf1 := foldl_sticky onDisabledVar_sticky _ _ hnf
    exact WFX_foldl_onDisabledVar _ _ (WF_disableVar v h0 (Nat.ne_of_gt hz) hnf1) hnf
  · exact WF_disableVar v h0 (Nat.ne_of_gt hz) hnf
  · refine WFX.markOnly ?_ (umcsFromVar_markOnly _ _)
    refine WF.setV h0 v _ (by rfl) (by rfl) ?_ ?_
    · show p ≠ 0 ↔ (s.vars v).pen ≠ 0
      omega
    · intro hs
      have := h.so.st v hs
      omega

theorem WF_updateVarBound {s : Sys} (v : Nat) (b : Int) (h : WF s) : WF (updateVarBound s v b) := by
  unfold updateVarBound
  refine WFX.markOnly ?_ (foldl_umcs_markOnly _ _)
  exact WF.setV (WF_modflag h true) v _ (by rfl) (by rfl) Iff.rfl (h.so.st v)

theorem WF_updateCnstBound {s : Sys} (c : Nat) (b : Int) (h : WF s) : WF (updateCnstBound s c b) := by
  unfold updateCnstBound
  exact ((WF_modflag h true).markOnly (umcs_markOnly _ c)).frame'
    (fun c' => ⟨setC_field Cnst.en _ c _ (by rfl) c', setC_field Cnst.dis _ c _ (by rfl) c'⟩) (fun _ => rfl)
    (Nat.le_refl _) (Nat.le_refl _)

theorem WF_solveOp {s : Sys} (h : WF s) : WF (solveOp s) := by
  have hf := solveOp_frame s
  exact h.frame' (fun c => by rw [hf.cnsts]; exact ⟨rfl, rfl⟩) hf.vars (Nat.le_of_eq hf.dims.1.symm)
    (Nat.le_of_eq hf.dims.2.1.symm)

theorem WF_vnew {s : Sys} (p : Nat) (b : Int) (h : WF s) : WF (vnew s p b) := by
  -- slot `nv` is free: not alive, hence without elements
  have hdead : (s.vars s.nv).alive = false := by
    cases ha : (s.vars s.nv).alive with
    | false => rfl
    | true => exact absurd (h.so.lt _ ha) (Nat.lt_irrefl _)
  have h1 : WF { s with nv := s.nv + 1, varset := if 0 < p then s.nv :: s.varset else s.varset ++ [s.nv] } :=
    h.frame' (fun _ => ⟨rfl, rfl⟩) (fun _ => rfl) (Nat.le_succ _) (Nat.le_refl _)
  exact h1.setV' s.nv _ (h.so.dead _ hdead).symm (fun hh => by cases hh) (fun _ => Nat.lt_succ_self _)
    (fun hh => absurd rfl hh) (fun hh => absurd rfl hh)

theorem WF_cnew {s : Sys} (b : Int) (l : Option Nat) (p : Policy) (h : WF s) : WF (cnew s b l p) := by
  -- slot `nc` is free: no variable has an element on it
  have hemp : ∀ {b : Bool} {get : Cnst → List Entry}, WFside s (stdLoc s) b get → get (s.cnsts s.nc) = [] := by
    intro b get hs
    apply List.eq_nil_iff_forall_not_mem.mpr
    intro e he
    have hm : s.nc ∈ (s.vars e.var).cn := List.mem_iff_getElem?.mpr ⟨_, (hs.A _ e he).1⟩
    exact absurd (h.so.cnlt _ _ hm) (Nat.lt_irrefl _)
  unfold cnew
  refine h.frame' ?_ (fun _ => rfl) (Nat.le_refl _) (Nat.le_succ _)
  intro c
  simp only [setC_cnsts]
  split
  · rename_i hc; rw [hc, hemp h.wfl.en, hemp h.wfl.dis]; exact ⟨rfl, rfl⟩
  · exact ⟨rfl, rfl⟩

theorem WF_step {s : Sys} (op : Op) (h : WF s) (hnf : (step s op).failed = false) : WF (step s op) := by
  refine step_cases (P := fun s' => s'.failed = false → WF s') s op (fun _ => h) ?_ hnf
  cases op with
  | cnew b l p => exact fun _ => WF_cnew b l p h
  | vnew p b => exact fun _ => WF_vnew p b h
  | expand c v w f => exact fun hc hal hn => WF_expand c v w f h hc hal hn
  | vfree v => exact WF_varFree v h
  | vbound v b => exact fun _ => WF_updateVarBound v b h
  | vpen v p => exact WF_updatePenalty v p h
  | cbound c b => exact fun _ => WF_updateCnstBound c b h
  | solve => exact fun _ => WF_solveOp h

theorem WF_init (cfg : Cfg) (sel : Bool) : WF (init cfg sel) := by
  apply WF.of
  · refine ⟨?_, ?_, ?_, ?_, ?_, ?_⟩
    · intro c e he; simp [init] at he
    · intro c e he; simp [init] at he
    · intro c; simp [init]
    · intro c; simp [init]
    · intro v j c hj; simp [init] at hj
    · intro v j c hj; simp [init] at hj
  · refine ⟨?_, ?_, ?_, ?_⟩
    · intro v _; rfl
    · intro v hv; simp [init] at hv
    · intro v c hc; simp [init] at hc
    · intro v hv; simp [init] at hv

theorem run_WF (cfg : Cfg) (sel : Bool) (hist : List Op) (hnf : (run (init cfg sel) hist).failed = false) :
    WF (run (init cfg sel) hist) :=
  run_inv (Q := WF) (fun _ op h hn => WF_step op h hn) hist _ (WF_init cfg sel) hnf

end SgVerif.LmmBook
