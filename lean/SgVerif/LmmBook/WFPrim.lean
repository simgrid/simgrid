import SgVerif.LmmBook.WF
/-
`WFl` through the primitive moves (`moveToEn`, `moveToDis`), their loops, and through `enable_var` / `disable_var`;
what these two do to the variables (`EnVars`, `DisVars`).  Loops are followed under "the result did not fail".
-/
namespace SgVerif.LmmBook

theorem WFl_moveToEn {s : Sys} {loc : Loc} (h : WFl s loc) (c v i : Nat) (hcn : (s.vars v).cn[i]? = some c)
    (hl : loc v i = some false) (hnf : (moveToEn s c v i).failed = false) :
    WFl (moveToEn s c v i) (loc.upd v i (some true)) := by
  obtain ⟨e, he, heq⟩ := moveToEn_inv s c v i hnf
  rw [heq]
  exact WFl_relocate h c v i _ (some true) hcn
    (.cons (h.enK c) (h.en.noKey hl nofun c) (List.find?_some he) rfl) (.erase (h.disK c) nofun)

theorem WFl_moveToDis {s : Sys} {loc : Loc} (h : WFl s loc) (c v i : Nat) (hcn : (s.vars v).cn[i]? = some c)
    (hl : loc v i = some true) (hnf : (moveToDis s c v i).failed = false) :
    WFl (moveToDis s c v i) (loc.upd v i (some false)) := by
  obtain ⟨e, he, _, heq⟩ := moveToDis_inv s c v i hnf
  rw [heq]
  exact WFl_relocate h c v i _ (some false) hcn (.erase (h.enK c) nofun)
    (.snoc (h.disK c) (h.dis.noKey hl nofun c) (List.find?_some he) rfl)

def Loc.upto (loc : Loc) (v i : Nat) (b : Option Bool) : Loc := fun u j => if u = v ∧ j < i then b else loc u j

theorem Loc.upto_zero (loc : Loc) (v : Nat) (b : Option Bool) (u j : Nat) : loc.upto v 0 b u j = loc u j := by
  simp [Loc.upto]

theorem Loc.upto_succ (loc : Loc) (v i : Nat) (b : Option Bool) (u j : Nat) :
    loc.upto v (i+1) b u j = (loc.upto v i b).upd v i b u j := by
  simp only [Loc.upto, Loc.upd]
  by_cases h1 : u = v ∧ j = i
  · rw [if_pos h1, if_pos ⟨h1.1, by omega⟩]
  · rw [if_neg h1]
    by_cases h3 : u = v ∧ j < i
    · rw [if_pos h3, if_pos ⟨h3.1, by omega⟩]
    · rw [if_neg h3, if_neg (fun hh => by have := hh.1; have := hh.2; omega)]

def Loc.all (loc : Loc) (v : Nat) (b : Option Bool) : Loc := fun u j => if u = v then b else loc u j

/-- the loop of `enable_var` (`b = true`, `f = moveToEn`) or `disable_var` (`b = false`): every slot of `v` goes from the
list `!b` to the list `b` -/
theorem WFl_forElems_move {f : Sys → Nat → Nat → Nat → Sys} {b : Bool}
    (hst : ∀ s c v i, (f s c v i).failed = false → s.failed = false) (hvars : ∀ s c v i, (f s c v i).vars = s.vars)
    (hmove : ∀ {s : Sys} {loc : Loc}, WFl s loc → ∀ c v i, (s.vars v).cn[i]? = some c → loc v i = some (!b) →
      (f s c v i).failed = false → WFl (f s c v i) (loc.upd v i (some b)))
    {s : Sys} {loc : Loc} (v : Nat) (h : WFl s loc) (hl : ∀ j, j < (s.vars v).cn.length → loc v j = some (!b))
    (hnf : (forElems f v 0 (s.vars v).cn s).failed = false) :
    WFl (forElems f v 0 (s.vars v).cn s) (loc.all v (some b)) := by
  have hloop := forElems_ind0 (f := f) v (s.vars v).cn
    (fun i st => WFl st (loc.upto v i (some b)) ∧ st.vars = s.vars) hst ?_ s
    ⟨h.congr (Loc.upto_zero loc v _), rfl⟩ hnf
  · refine hloop.1.congr' ?_
    intro u j hj
    rw [hloop.2] at hj
    simp only [Loc.all, Loc.upto]
    by_cases hu : u = v
    · rw [if_pos hu, if_pos ⟨hu, by rw [← hu]; exact hj⟩]
    · rw [if_neg hu, if_neg (fun hh => hu hh.1)]
  · intro st c i hi ⟨hw, hv⟩ hnf'
    refine ⟨?_, by rw [hvars, hv]⟩
    have := hmove hw c v i (by rw [hv]; exact hi)
      (by simp only [Loc.upto]; rw [if_neg (by omega)]; exact hl i (lt_of_getElem? hi)) hnf'
    exact this.congr (Loc.upto_succ loc v i _)

/-- what `enable_var` does to the variables: `v` gets its staged penalty, and only marks change otherwise -/
structure EnVars (s s' : Sys) (v : Nat) : Prop where
  cn : ∀ u, (s'.vars u).cn = (s.vars u).cn
  alive : ∀ u, (s'.vars u).alive = (s.vars u).alive
  penv : (s'.vars v).pen = (s.vars v).staged
  stagedv : (s'.vars v).staged = 0
  pen : ∀ u, u ≠ v → (s'.vars u).pen = (s.vars u).pen
  staged : ∀ u, u ≠ v → (s'.vars u).staged = (s.vars u).staged
  bound : ∀ u, (s'.vars u).bound = (s.vars u).bound
  nv : s'.nv = s.nv
  nc : s'.nc = s.nc

theorem enableVar_veq (s : Sys) (v u : Nat) :
    VEq ((enableVar s v).vars u) ((s.setV v { s.vars v with pen := (s.vars v).staged, staged := 0 }).vars u) := by
  unfold enableVar
  refine ((umcsFromVar_markOnly _ v).vars u).trans ?_
  rw [forElems_rel (Pre.eqOn Sys.vars) moveToEn_vars v]
  rfl

theorem enableVar_vars (s : Sys) (v : Nat) : EnVars s (enableVar s v) v := by
  have hv := enableVar_veq s v
  have hs := enableVar_rel same s v
  refine ⟨hs.cn, hs.alive, ?_, ?_, ?_, ?_, ?_, hs.dims.1, hs.dims.2.1⟩
  · rw [(hv v).pen, setV_vars, if_pos rfl]
  · rw [(hv v).staged, setV_vars, if_pos rfl]
  · intro u hu; rw [(hv u).pen, setV_vars, if_neg hu]
  · intro u hu; rw [(hv u).staged, setV_vars, if_neg hu]
  · intro u; rw [(hv u).bound]; exact setV_field Var.bound s v _ (by rfl) u

theorem WFl_enableVar {s : Sys} {loc : Loc} (v : Nat) (h : WFl s loc)
    (hl : ∀ j, j < (s.vars v).cn.length → loc v j = some false)
    (hnf : (enableVar s v).failed = false) : WFl (enableVar s v) (loc.all v (some true)) := by
  unfold enableVar at hnf ⊢
  simp only at hnf ⊢
  generalize hs2 : varsetFront (s.setV v { s.vars v with pen := (s.vars v).staged, staged := 0 }) v = s2 at hnf ⊢
  have hcn2 : ∀ u, (s2.vars u).cn = (s.vars u).cn := by
    intro u; rw [← hs2]; exact setV_field Var.cn s v _ (by rfl) u
  have hw2 : WFl s2 loc := h.frame (by rw [← hs2]; rfl) hcn2
  have hcnv : (s2.vars v).cn = (s.vars v).cn := hcn2 v
  rw [← hcnv] at hnf ⊢
  have hm := umcsFromVar_markOnly (forElems moveToEn v 0 (s2.vars v).cn s2) v
  have := WFl_forElems_move (b := true) moveToEn_sticky moveToEn_vars WFl_moveToEn v hw2 (by rw [hcnv]; exact hl)
    (umcsFromVar_sticky _ _ hnf)
  exact this.markOnly hm

structure DisVars (s s' : Sys) (v : Nat) : Prop where
  cn : ∀ u, (s'.vars u).cn = (s.vars u).cn
  alive : ∀ u, (s'.vars u).alive = (s.vars u).alive
  penv : (s'.vars v).pen = 0
  stagedv : (s'.vars v).staged = 0
  pen : ∀ u, u ≠ v → (s'.vars u).pen = (s.vars u).pen
  staged : ∀ u, u ≠ v → (s'.vars u).staged = (s.vars u).staged
  bound : ∀ u, (s'.vars u).bound = (s.vars u).bound

theorem disableVar_staged {s : Sys} {v : Nat} (hnf : (disableVar s v).failed = false) : (s.vars v).staged = 0 := by
  unfold disableVar at hnf
  split at hnf
  · simp [Sys.fail] at hnf
  · rename_i h; simpa using h

/-- `s2` enters the loop of `disable_var(v)` over the slots of `v`, `s3` leaves it -/
theorem disableVar_shape {s : Sys} {v : Nat} (hnf : (disableVar s v).failed = false) :
    ∃ s2 s3, s2.cnsts = s.cnsts ∧ (∀ u, VEq (s2.vars u) (s.vars u)) ∧ s3 = forElems moveToDis v 0 (s.vars v).cn s2 ∧
      s3.failed = false ∧ disableVar s v = s3.setV v { s3.vars v with pen := 0, staged := 0 } := by
  have hs0 := disableVar_staged hnf
  unfold disableVar at hnf ⊢
  rw [if_neg (fun h => h hs0)] at hnf ⊢
  simp only at hnf ⊢
  have hm := umcsFromVar_markOnly (varsetBack s v) v
  generalize umcsFromVar (varsetBack s v) v = s2 at hnf hm ⊢
  have hcn2 : (s2.vars v).cn = (s.vars v).cn := hm.cn v
  rw [hcn2] at hnf ⊢
  exact ⟨s2, _, hm.cnsts, hm.vars, rfl, hnf, rfl⟩

/-- induction over the loop of `disable_var(v)` when no assertion fires: `Q i` holds before slot `i` -/
theorem disableVar_ind {s : Sys} {v : Nat} (hnf : (disableVar s v).failed = false) (Q : Nat → Sys → Prop)
    (h0 : ∀ s2 : Sys, s2.cnsts = s.cnsts → Q 0 s2)
    (hstep : ∀ st c i, (s.vars v).cn[i]? = some c → Q i st → (moveToDis st c v i).failed = false →
      Q (i+1) (moveToDis st c v i)) :
    ∃ s3, Q (s.vars v).cn.length s3 ∧ disableVar s v = s3.setV v { s3.vars v with pen := 0, staged := 0 } := by
  obtain ⟨s2, s3, hc2, _, rfl, hnf3, heq⟩ := disableVar_shape hnf
  exact ⟨_, forElems_ind0 v (s.vars v).cn Q moveToDis_sticky hstep s2 (h0 s2 hc2) hnf3, heq⟩

theorem disableVar_vars (s : Sys) (v : Nat) (hnf : (disableVar s v).failed = false) :
    DisVars s (disableVar s v) v := by
  obtain ⟨s2, s3, _, hv2, rfl, _, heq⟩ := disableVar_shape hnf
  have hs := disableVar_rel same s v
  rw [heq] at hs ⊢
  have hv3 := forElems_rel (Pre.eqOn Sys.vars) moveToDis_vars v (s.vars v).cn 0 s2
  refine ⟨hs.cn, hs.alive, ?_, ?_, ?_, ?_, ?_⟩
  · rw [setV_vars, if_pos rfl]
  · rw [setV_vars, if_pos rfl]
  · intro u hu; rw [setV_vars, if_neg hu, hv3]; exact (hv2 u).pen
  · intro u hu; rw [setV_vars, if_neg hu, hv3]; exact (hv2 u).staged
  · intro u; rw [setV_field Var.bound _ v _ (by rfl) u, hv3]; exact (hv2 u).bound

end SgVerif.LmmBook
