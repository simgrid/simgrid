import SgVerif.LmmBook.Ops
/-
Well-formedness of the two element lists of every constraint (`enabled_element_set_`, `disabled_element_set_`)
with respect to the variables' `cnsts_` arrays.  `WFl s loc`: `loc v i` says where the element `(v, i)` (the
`i`-th element of variable `v`) is expected to be linked: `some true` = enabled list of its constraint, `some
false` = disabled list, `none` = nowhere (already erased by `var_free`).  In a quiescent state `loc` is `stdLoc`
(enabled list iff `sharing_penalty_ > 0`); inside the loops of `enable_var` / `disable_var` / `var_free` it is the
partially updated map.  The two lists obey the same three clauses (`WFside`); every primitive move is "relocate one
key" (`WFl_relocate`), and what it does to one list is a `Relink`.
-/
namespace SgVerif.LmmBook

/-- two elements are different elements (different variable or different slot of `cnsts_`) -/
def KeyNe (a b : Entry) : Prop := ¬(a.var = b.var ∧ a.idx = b.idx)

abbrev Loc := Nat → Nat → Option Bool

def Loc.upd (loc : Loc) (v i : Nat) (b : Option Bool) : Loc := fun u j => if u = v ∧ j = i then b else loc u j

theorem isRef_iff (v i : Nat) (e : Entry) : isRef v i e = true ↔ e.var = v ∧ e.idx = i := by
  simp [isRef]

theorem isRef_false_iff (v i : Nat) (e : Entry) : isRef v i e = false ↔ ¬(e.var = v ∧ e.idx = i) := by
  rw [← isRef_iff, Bool.not_eq_true]

theorem isRef_of_key {v i : Nat} {a b : Entry} (ha : isRef v i a = true) (hk : a.var = b.var ∧ a.idx = b.idx) :
    isRef v i b = true := by
  have := (isRef_iff v i a).mp ha
  exact (isRef_iff v i b).mpr ⟨hk.1.symm.trans this.1, hk.2.symm.trans this.2⟩

structure WFl (s : Sys) (loc : Loc) : Prop where
  enA : ∀ c e, e ∈ (s.cnsts c).en → (s.vars e.var).cn[e.idx]? = some c ∧ loc e.var e.idx = some true
  disA : ∀ c e, e ∈ (s.cnsts c).dis → (s.vars e.var).cn[e.idx]? = some c ∧ loc e.var e.idx = some false
  enK : ∀ c, (s.cnsts c).en.Pairwise KeyNe
  disK : ∀ c, (s.cnsts c).dis.Pairwise KeyNe
  enD : ∀ v j c, (s.vars v).cn[j]? = some c → loc v j = some true → ∃ e ∈ (s.cnsts c).en, isRef v j e = true
  disD : ∀ v j c, (s.vars v).cn[j]? = some c → loc v j = some false → ∃ e ∈ (s.cnsts c).dis, isRef v j e = true

/-- the clauses of `WFl` for one of the two lists (`get`), which holds the elements located at `some b` -/
structure WFside (s : Sys) (loc : Loc) (b : Bool) (get : Cnst → List Entry) : Prop where
  A : ∀ c e, e ∈ get (s.cnsts c) → (s.vars e.var).cn[e.idx]? = some c ∧ loc e.var e.idx = some b
  K : ∀ c, (get (s.cnsts c)).Pairwise KeyNe
  D : ∀ v j c, (s.vars v).cn[j]? = some c → loc v j = some b → ∃ e ∈ get (s.cnsts c), isRef v j e = true

theorem WFl.en {s : Sys} {loc : Loc} (h : WFl s loc) : WFside s loc true Cnst.en := ⟨h.enA, h.enK, h.enD⟩
theorem WFl.dis {s : Sys} {loc : Loc} (h : WFl s loc) : WFside s loc false Cnst.dis := ⟨h.disA, h.disK, h.disD⟩
theorem WFl.of_sides {s : Sys} {loc : Loc} (he : WFside s loc true Cnst.en) (hd : WFside s loc false Cnst.dis) :
    WFl s loc := ⟨he.A, hd.A, he.K, hd.K, he.D, hd.D⟩

theorem lt_of_getElem? {l : List Nat} {j c : Nat} (h : l[j]? = some c) : j < l.length :=
  (List.getElem?_eq_some_iff.mp h).1

theorem WFside.transfer {s s' : Sys} {loc loc' : Loc} {b : Bool} {get : Cnst → List Entry} (h : WFside s loc b get)
    (hc : ∀ c, get (s'.cnsts c) = get (s.cnsts c))
    (hfw : ∀ u j c, (s.vars u).cn[j]? = some c → (s'.vars u).cn[j]? = some c ∧ loc' u j = loc u j)
    (hbw : ∀ u j c, (s'.vars u).cn[j]? = some c → loc' u j ≠ none → (s.vars u).cn[j]? = some c) :
    WFside s' loc' b get := by
  refine ⟨?_, ?_, ?_⟩
  · intro c e hm; rw [hc] at hm; have := h.A c e hm
    have h2 := hfw _ _ _ this.1
    exact ⟨h2.1, by rw [h2.2]; exact this.2⟩
  · intro c; rw [hc]; exact h.K c
  · intro u j c hj hl
    have hj' := hbw u j c hj (by rw [hl]; nofun)
    rw [(hfw u j c hj').2] at hl
    rw [hc]; exact h.D u j c hj' hl

theorem WFl.transfer {s s' : Sys} {loc loc' : Loc} (h : WFl s loc)
    (hc : ∀ c, (s'.cnsts c).en = (s.cnsts c).en ∧ (s'.cnsts c).dis = (s.cnsts c).dis)
    (hv : ∀ v, (s'.vars v).cn = (s.vars v).cn)
    (he : ∀ v j, j < (s.vars v).cn.length → loc' v j = loc v j) : WFl s' loc' :=
  have hfw : ∀ u j c, (s.vars u).cn[j]? = some c → (s'.vars u).cn[j]? = some c ∧ loc' u j = loc u j :=
    fun u j c hj => ⟨by rw [hv]; exact hj, he u j (lt_of_getElem? hj)⟩
  have hbw : ∀ u j c, (s'.vars u).cn[j]? = some c → loc' u j ≠ none → (s.vars u).cn[j]? = some c :=
    fun u j c hj _ => by rw [← hv]; exact hj
  .of_sides (h.en.transfer (fun c => (hc c).1) hfw hbw) (h.dis.transfer (fun c => (hc c).2) hfw hbw)

theorem WFl.congr {s : Sys} {loc loc' : Loc} (h : WFl s loc) (he : ∀ v j, loc' v j = loc v j) : WFl s loc' :=
  h.transfer (fun _ => ⟨rfl, rfl⟩) (fun _ => rfl) (fun v j _ => he v j)

theorem WFl.congr' {s : Sys} {loc loc' : Loc} (h : WFl s loc)
    (he : ∀ v j, j < (s.vars v).cn.length → loc' v j = loc v j) : WFl s loc' :=
  h.transfer (fun _ => ⟨rfl, rfl⟩) (fun _ => rfl) he

theorem WFl.frame {s s' : Sys} {loc : Loc} (h : WFl s loc) (hc : s'.cnsts = s.cnsts)
    (hv : ∀ v, (s'.vars v).cn = (s.vars v).cn) : WFl s' loc :=
  h.transfer (fun _ => by rw [hc]; exact ⟨rfl, rfl⟩) hv (fun _ _ _ => rfl)

theorem WFl.markOnly {s s' : Sys} {loc : Loc} (h : WFl s loc) (hm : MarkOnly s s') : WFl s' loc :=
  h.frame hm.cnsts (fun v => hm.cn v)

theorem WFside.noKey {s : Sys} {loc : Loc} {b : Bool} {get : Cnst → List Entry} (h : WFside s loc b get) {v i : Nat}
    {o : Option Bool} (hl : loc v i = o) (ho : o ≠ some b) (c : Nat) : ∀ x ∈ get (s.cnsts c), isRef v i x = false := by
  intro x hx
  rw [isRef_false_iff]
  intro hk
  have := (h.A c x hx).2
  rw [hk.1, hk.2] at this
  exact ho (hl ▸ this)

/-- `l'` differs from `l` at most in the elements with key `(v, i)`, of which it has one if `has` and none otherwise -/
structure Relink (v i : Nat) (l l' : List Entry) (has : Prop) : Prop where
  mem : ∀ x, isRef v i x = false → (x ∈ l' ↔ x ∈ l)
  key : ∀ x ∈ l', isRef v i x = true → has
  ex : has → ∃ x ∈ l', isRef v i x = true
  pw : l'.Pairwise KeyNe

theorem not_isRef_of_mem_eraseP (v i : Nat) (l : List Entry) (hp : l.Pairwise KeyNe) (x : Entry)
    (hx : x ∈ l.eraseP (isRef v i)) : isRef v i x = false := by
  -- otherwise `x` has the key of the erased element `e` and stands before it (not the first) or behind it (not pairwise)
  rw [← Bool.not_eq_true]
  intro hr
  obtain ⟨e, as, bs, has, he, hl, h⟩ := List.exists_of_eraseP (List.mem_of_mem_eraseP hx) hr
  rw [h] at hx
  rcases List.mem_append.mp hx with h1 | h1
  · exact has x h1 hr
  · rw [hl, List.pairwise_append, List.pairwise_cons] at hp
    have hk := (isRef_iff v i e).mp he
    have hx' := (isRef_iff v i x).mp hr
    exact hp.2.1.1 x h1 ⟨hk.1.trans hx'.1.symm, hk.2.trans hx'.2.symm⟩

section
variable {v i : Nat} {l : List Entry} {q : Prop}

theorem Relink.erase (hp : l.Pairwise KeyNe) (hq : ¬ q) : Relink v i l (l.eraseP (isRef v i)) q :=
  ⟨fun _ hr => List.mem_eraseP_of_neg (by rw [hr]; exact Bool.false_ne_true),
   fun x hx hr => (by rw [not_isRef_of_mem_eraseP v i l hp x hx] at hr; cases hr),
   fun h => absurd h hq,
   hp.sublist List.eraseP_sublist⟩

theorem Relink.same (hp : l.Pairwise KeyNe) (hno : ∀ x ∈ l, isRef v i x = false) (hq : ¬ q) : Relink v i l l q :=
  ⟨fun _ _ => Iff.rfl, fun x hx hr => (by rw [hno x hx] at hr; cases hr), fun h => absurd h hq, hp⟩

theorem Relink.cons (hp : l.Pairwise KeyNe) (hno : ∀ x ∈ l, isRef v i x = false) {e : Entry}
    (he : isRef v i e = true) (hq : q) : Relink v i l (e :: l) q := by
  refine ⟨?_, fun _ _ _ => hq, fun _ => ⟨e, List.mem_cons_self, he⟩, List.pairwise_cons.mpr ⟨?_, hp⟩⟩
  · intro x hr
    exact List.mem_cons.trans (or_iff_right (fun h1 => by rw [h1, he] at hr; cases hr))
  · intro x hx hk
    have := isRef_of_key he hk
    rw [hno x hx] at this; cases this

theorem Relink.snoc (hp : l.Pairwise KeyNe) (hno : ∀ x ∈ l, isRef v i x = false) {e : Entry}
    (he : isRef v i e = true) (hq : q) : Relink v i l (l ++ [e]) q := by
  refine ⟨?_, fun _ _ _ => hq, fun _ => ⟨e, List.mem_append_right _ (List.mem_singleton.mpr rfl), he⟩,
    List.pairwise_append.mpr ⟨hp, List.pairwise_singleton _ _, ?_⟩⟩
  · intro x hr
    exact List.mem_append.trans (or_iff_left (fun h1 => by rw [List.mem_singleton.mp h1, he] at hr; cases hr))
  · intro x hx y hy hk
    rw [List.mem_singleton.mp hy] at hk
    have := isRef_of_key he ⟨hk.1.symm, hk.2.symm⟩
    rw [hno x hx] at this; cases this

end

theorem setW_append (v i w : Nat) (b : Entry) (bs : List Entry) (hb : isRef v i b = true) :
    ∀ (as : List Entry), (∀ a ∈ as, (!isRef v i a) = true) →
      setW v i w (as ++ b :: bs) = as ++ { b with w := w } :: bs := by
  intro as
  induction as with
  | nil => intro _; simp only [List.nil_append, setW, hb, if_true]
  | cons a rest ih =>
    intro h
    simp only [List.cons_append, setW, (Bool.not_eq_true' _).mp (h a List.mem_cons_self), Bool.false_eq_true, if_false]
    rw [ih (fun x hx => h x (List.mem_cons_of_mem _ hx))]

theorem Relink.setW {v i : Nat} {l : List Entry} {q : Prop} (hp : l.Pairwise KeyNe) {e : Entry}
    (hf : l.find? (isRef v i) = some e) (w : Nat) (hq : q) : Relink v i l (setW v i w l) q := by
  -- `l = as ++ e :: bs` with no key `(v, i)` in `as`, and `setW` replaces `e` by `{ e with w := w }`, which has the same key
  obtain ⟨he, as, bs, hl, has⟩ := List.find?_eq_some_iff_append.mp hf
  have he' : isRef v i { e with w := w } = true := he
  subst hl
  rw [setW_append v i w e bs he as has]
  refine ⟨?_, fun _ _ _ => hq, fun _ => ⟨_, by simp, he'⟩, ?_⟩
  · -- `x` is neither `e` nor its reweighted copy
    intro x hr
    have h1 : ¬ x = { e with w := w } := fun h => by rw [h, he'] at hr; cases hr
    have h2 : ¬ x = e := fun h => by rw [h, he] at hr; cases hr
    simp only [List.mem_append, List.mem_cons, h1, h2, false_or]
  · simp only [List.pairwise_append, List.pairwise_cons, List.mem_cons, forall_eq_or_imp] at hp ⊢
    exact hp

theorem WFside.relocate {s : Sys} {loc : Loc} {b : Bool} {get : Cnst → List Entry} (h : WFside s loc b get)
    (c v i : Nat) (k : Cnst) (b' : Option Bool) (hcn : (s.vars v).cn[i]? = some c)
    (hr : Relink v i (get (s.cnsts c)) (get k) (b' = some b)) : WFside (s.setC c k) (loc.upd v i b') b get := by
  have updNe : ∀ u j, ¬(u = v ∧ j = i) → loc.upd v i b' u j = loc u j := by
    intro u j hne; simp only [Loc.upd, hne, if_false]
  have updEq : loc.upd v i b' v i = b' := by simp [Loc.upd]
  -- an element of another constraint never has the key (v, i)
  have other : ∀ c' (x : Entry), c' ≠ c → (s.vars x.var).cn[x.idx]? = some c' → ¬(x.var = v ∧ x.idx = i) := by
    intro c' x hne hx ⟨h1, h2⟩
    rw [h1, h2, hcn] at hx
    exact hne (Option.some.inj hx).symm
  refine ⟨?_, ?_, ?_⟩
  · intro c' e he
    simp only [setC_cnsts, setC_vars] at he ⊢
    by_cases hc : c' = c
    · subst hc
      simp only [if_true] at he
      by_cases hk : e.var = v ∧ e.idx = i
      · rw [hk.1, hk.2, updEq]
        exact ⟨hcn, hr.key e he ((isRef_iff v i e).mpr hk)⟩
      · have := h.A c' e ((hr.mem e ((isRef_false_iff v i e).mpr hk)).mp he)
        exact ⟨this.1, by rw [updNe _ _ hk]; exact this.2⟩
    · simp only [hc, if_false] at he
      have := h.A c' e he
      exact ⟨this.1, by rw [updNe _ _ (other c' e hc this.1)]; exact this.2⟩
  · intro c'
    simp only [setC_cnsts]
    split
    · exact hr.pw
    · exact h.K c'
  · intro u j c' hj hl
    simp only [setC_cnsts, setC_vars] at hj ⊢
    by_cases hk : u = v ∧ j = i
    · obtain ⟨rfl, rfl⟩ := hk
      rw [hcn] at hj
      have hcc : c = c' := Option.some.inj hj
      subst hcc
      rw [updEq] at hl
      simp only [if_true]
      exact hr.ex hl
    · rw [updNe _ _ hk] at hl
      obtain ⟨e, he, hre⟩ := h.D u j c' hj hl
      have a := (isRef_iff u j e).mp hre
      rw [← a.1, ← a.2] at hk
      refine ⟨e, ?_, hre⟩
      split
      · rename_i hcc; subst hcc
        exact (hr.mem e ((isRef_false_iff v i e).mpr hk)).mpr he
      · exact he

/-- the element `(v, i)`, linked in constraint `c`, is relinked: constraint `c` gets the lists of `k`; `b'` is the new
location -/
theorem WFl_relocate {s : Sys} {loc : Loc} (h : WFl s loc) (c v i : Nat) (k : Cnst) (b' : Option Bool)
    (hcn : (s.vars v).cn[i]? = some c) (hen : Relink v i (s.cnsts c).en k.en (b' = some true))
    (hdis : Relink v i (s.cnsts c).dis k.dis (b' = some false)) : WFl (s.setC c k) (loc.upd v i b') :=
  .of_sides (h.en.relocate c v i k b' hcn hen) (h.dis.relocate c v i k b' hcn hdis)

theorem WFl_append {s : Sys} {loc : Loc} (h : WFl s loc) (v c : Nat) :
    WFl (s.setV v { s.vars v with cn := (s.vars v).cn ++ [c] }) (loc.upd v (s.vars v).cn.length none) := by
  have hcn : ∀ u j c', (s.vars u).cn[j]? = some c' →
      ((s.setV v { s.vars v with cn := (s.vars v).cn ++ [c] }).vars u).cn[j]? = some c' ∧
      loc.upd v (s.vars v).cn.length none u j = loc u j := by
    intro u j c' hj
    have hlt := lt_of_getElem? hj
    simp only [setV_vars, Loc.upd]
    constructor
    · split
      · rename_i hu; subst hu; simp only; rw [List.getElem?_append_left hlt]; exact hj
      · exact hj
    · split
      · rename_i hk; rw [hk.1, hk.2] at hlt; exact absurd hlt (Nat.lt_irrefl _)
      · rfl
  have hback : ∀ u j c', ((s.setV v { s.vars v with cn := (s.vars v).cn ++ [c] }).vars u).cn[j]? = some c' →
      loc.upd v (s.vars v).cn.length none u j ≠ none → (s.vars u).cn[j]? = some c' := by
    intro u j c' hj hne
    simp only [setV_vars] at hj
    by_cases hu : u = v
    · subst hu
      simp only [if_true] at hj
      by_cases hjl : j < (s.vars u).cn.length
      · rw [List.getElem?_append_left hjl] at hj; exact hj
      · have hlt := lt_of_getElem? hj
        simp only [List.length_append, List.length_singleton] at hlt
        have : j = (s.vars u).cn.length := by omega
        exfalso; apply hne; simp [Loc.upd, this]
    · simp only [hu, if_false] at hj; exact hj
  exact .of_sides (h.en.transfer (fun _ => rfl) hcn hback) (h.dis.transfer (fun _ => rfl) hcn hback)

end SgVerif.LmmBook
