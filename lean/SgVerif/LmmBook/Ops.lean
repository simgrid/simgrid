import SgVerif.LmmBook.Frame
/-
The public operations taken apart: `expandTail` is an overflow test followed by an update of the modified set;
`expand` is `expandTail` applied to one of three explicit states, or a failed assertion; `update_variable_penalty`
has six cases; `solve` leaves the constraints and, up to marks, the variables unchanged.  Each invariant is carried
through an operation from these decompositions instead of unfolding the operation again; `step_cases` is the
dispatch of `step`; `run_inv`: an invariant of non-failing steps holds after a history that did not fail.
-/
namespace SgVerif.LmmBook

/-- first half of `expandTail`: the overflow test and its consequence -/
def expandStage (s : Sys) (c v : Nat) : Sys :=
  if (s.vars v).pen ≠ 0 then
    match (s.cnsts c).limit with
    | none => s
    | some lim => if lim < (s.cnsts c).cur then stageBack s v else s
  else s

/-- second half of `expandTail`: the update of the modified set -/
def expandMarks (s : Sys) (c v w' : Nat) : Sys :=
  if 0 < w' ∨ 0 < (s.vars v).pen then
    let s := umcs s c
    if s.cfg.fixFromVar then umcsFromVar s v else s
  else s

theorem expandTail_eq (s : Sys) (c v w' : Nat) : expandTail s c v w' = expandMarks (expandStage s c v) c v w' := rfl

theorem expandMarks_rel {R : Sys → Sys → Prop} (h : MarkRel R) (s : Sys) (c v w' : Nat) : R s (expandMarks s c v w') := by
  unfold expandMarks
  split
  · simp only
    split
    · exact h.trans (umcs_rel h s c) (umcsFromVar_rel h _ v)
    · exact umcs_rel h s c
  · exact h.refl s

theorem expandStage_cases (s : Sys) (c v : Nat) :
    (expandStage s c v = s ∧ ((s.vars v).pen ≠ 0 → ∀ lim, (s.cnsts c).limit = some lim → ¬ lim < (s.cnsts c).cur)) ∨
    (expandStage s c v = stageBack s v ∧ (s.vars v).pen ≠ 0 ∧
      ∃ lim, (s.cnsts c).limit = some lim ∧ lim < (s.cnsts c).cur) := by
  unfold expandStage
  split
  · rename_i hp
    split
    · rename_i hl; exact Or.inl ⟨rfl, fun _ lim hl' => by rw [hl] at hl'; cases hl'⟩
    · rename_i lim hl
      split
      · rename_i hlt; exact Or.inr ⟨rfl, hp, lim, hl, hlt⟩
      · rename_i hlt; exact Or.inl ⟨rfl, fun _ lim' hl' => by rw [hl] at hl'; cases hl'; exact hlt⟩
  · rename_i hp; exact Or.inl ⟨rfl, fun hp' => absurd hp' hp⟩

theorem expandMarks_markOnly (s : Sys) (c v w' : Nat) : MarkOnly s (expandMarks s c v w') := expandMarks_rel markOnly s c v w'

theorem expandTail_rel {R : Sys → Sys → Prop} (h : StepRel R) (s : Sys) (c v w' : Nat) : R s (expandTail s c v w') := by
  rw [expandTail_eq]
  refine h.trans ?_ (expandMarks_rel h.toMarkRel _ c v w')
  rcases expandStage_cases s c v with ⟨he, _⟩ | ⟨he, _⟩
  · rw [he]; exact h.refl s
  · rw [he]; exact stageBack_rel h s v

theorem expandTail_sticky (s : Sys) (c v w' : Nat) : (expandTail s c v w').failed = false → s.failed = false :=
  expandTail_rel sticky s c v w'

/-- the variable `v`, disabled, with the staged penalty `p` -/
def stagedAt (s : Sys) (v p : Nat) : Sys := ({ s with modflag := true } : Sys).setV v { s.vars v with staged := p }

inductive PenaltyCase (s : Sys) (v p : Nat) : Prop where
  | same (heq : updatePenalty s v p = s)
  | stage (hp : 0 < p) (h0 : (s.vars v).pen = 0) (hms : minSlack (stagedAt s v p) v = some 0)
      (heq : updatePenalty s v p = stagedAt s v p)
  | resume (hp : 0 < p) (h0 : (s.vars v).pen = 0) (hms : minSlack (stagedAt s v p) v ≠ some 0)
      (heq : updatePenalty s v p = enableVar (stagedAt s v p) v)
  | suspendFix (hp : p = 0) (h0 : 0 < (s.vars v).pen) (hfix : (disableVar { s with modflag := true } v).cfg.fixSuspend = true)
      (heq : updatePenalty s v p = (s.vars v).cn.foldl onDisabledVar (disableVar { s with modflag := true } v))
  | suspend (hp : p = 0) (h0 : 0 < (s.vars v).pen) (hfix : (disableVar { s with modflag := true } v).cfg.fixSuspend = false)
      (heq : updatePenalty s v p = disableVar { s with modflag := true } v)
  | change (hp : 0 < p) (h0 : 0 < (s.vars v).pen)
      (heq : updatePenalty s v p = umcsFromVar (({ s with modflag := true } : Sys).setV v { s.vars v with pen := p }) v)

theorem updatePenalty_cases (s : Sys) (v p : Nat) : PenaltyCase s v p := by
  by_cases hne : p = (s.vars v).pen
  · exact .same (by unfold updatePenalty; simp only; rw [if_pos hne])
  by_cases hc : 0 < p ∧ (s.vars v).pen = 0
  · by_cases hms : minSlack (stagedAt s v p) v = some 0
    · exact .stage hc.1 hc.2 hms (by
        unfold stagedAt at hms ⊢; unfold updatePenalty; simp only; rw [if_neg hne, if_pos hc, if_pos hms])
    · exact .resume hc.1 hc.2 hms (by
        unfold stagedAt at hms ⊢; unfold updatePenalty; simp only; rw [if_neg hne, if_pos hc, if_neg hms])
  by_cases hc2 : p = 0 ∧ 0 < (s.vars v).pen
  · cases hfix : (disableVar { s with modflag := true } v).cfg.fixSuspend with
    | true =>
      exact .suspendFix hc2.1 hc2.2 hfix (by
        unfold updatePenalty; simp only; rw [if_neg hne, if_neg hc, if_pos hc2, if_pos hfix])
    | false =>
      exact .suspend hc2.1 hc2.2 hfix (by
        unfold updatePenalty; simp only; rw [if_neg hne, if_neg hc, if_pos hc2, if_neg (by rw [hfix]; exact Bool.false_ne_true)])
  · exact .change (by omega) (by omega) (by unfold updatePenalty; simp only; rw [if_neg hne, if_neg hc, if_neg hc2])

section
variable {R : Sys → Sys → Prop} (h : StepRel R)
include h

theorem updatePenalty_rel (s : Sys) (v p : Nat) : R s (updatePenalty s v p) := by
  have h0 := h.modflag s true
  have h1 : R s (stagedAt s v p) := h.trans h0 (h.var _ v _ rfl rfl rfl)
  rcases updatePenalty_cases s v p with heq | ⟨_, _, _, heq⟩ | ⟨_, _, _, heq⟩ | ⟨_, _, _, heq⟩ | ⟨_, _, _, heq⟩ | ⟨_, _, heq⟩
  all_goals rw [heq]
  · exact h.refl s
  · exact h1
  · exact h.trans h1 (enableVar_rel h _ v)
  · exact h.trans (h.trans h0 (disableVar_rel h _ v)) (h.toPre.foldl _ (onDisabledVar_rel' h) _)
  · exact h.trans h0 (disableVar_rel h _ v)
  · refine h.trans ?_ (umcsFromVar_rel h.toMarkRel _ v)
    exact h.trans h0 (h.var _ v _ rfl rfl rfl)

theorem updateVarBound_rel (s : Sys) (v : Nat) (b : Int) : R s (updateVarBound s v b) := by
  unfold updateVarBound
  refine h.trans ?_ (h.toPre.foldl _ (umcs_rel h.toMarkRel) _)
  exact h.trans (h.modflag s true) (h.var _ v _ rfl rfl rfl)

theorem updateCnstBound_rel (s : Sys) (c : Nat) (b : Int) : R s (updateCnstBound s c b) := by
  unfold updateCnstBound
  refine h.trans ?_ (h.cnst _ c _ (.bound b))
  exact h.trans (h.modflag s true) (umcs_rel h.toMarkRel _ c)

end

/-- `expand` on an enabled variable that already has element `i` on `c` (weight `e.w` before) -/
def reuseEn (s : Sys) (c v i w : Nat) (e : Entry) : Sys :=
  ({ s with modflag := true } : Sys).setC c
    { s.cnsts c with cur := (s.cnsts c).cur - conc (s.cnsts c).policy e.w + conc (s.cnsts c).policy (addW (s.cnsts c).policy e.w w),
                     en := setW v i (addW (s.cnsts c).policy e.w w) (s.cnsts c).en }

/-- `expand` on a disabled variable that already has element `i` on `c` -/
def reuseDis (s : Sys) (c v i w : Nat) (e : Entry) : Sys :=
  ({ s with modflag := true } : Sys).setC c
    { s.cnsts c with dis := setW v i (addW (s.cnsts c).policy e.w w) (s.cnsts c).dis }

/-- the constraint `c` after `expand_create_elem` for variable `v` -/
def createdCnst (s : Sys) (c v w : Nat) : Cnst :=
  if (s.vars v).pen ≠ 0
  then { s.cnsts c with en := ⟨v, (s.vars v).cn.length, w⟩ :: (s.cnsts c).en, cur := (s.cnsts c).cur + conc (s.cnsts c).policy w }
  else { s.cnsts c with dis := (s.cnsts c).dis ++ [⟨v, (s.vars v).cn.length, w⟩] }

/-- `expand_create_elem` (+ `make_constraint_active`) -/
def createElem (s : Sys) (c v w : Nat) : Sys :=
  let s1 := (({ s with modflag := true } : Sys).setV v { s.vars v with cn := (s.vars v).cn ++ [c] }).setC c (createdCnst s c v w)
  if 0 < w ∨ 0 < (s.vars v).pen then makeActive s1 c else s1

theorem createElem_eq (s : Sys) (c v w : Nat) : ∃ a, createElem s c v w =
    { (({ s with modflag := true } : Sys).setV v { s.vars v with cn := (s.vars v).cn ++ [c] }).setC c (createdCnst s c v w)
      with active := a } := by
  unfold createElem
  simp only
  split
  · unfold makeActive; split
    · exact ⟨_, rfl⟩
    · exact ⟨_, rfl⟩
  · exact ⟨_, rfl⟩

theorem createElem_cnsts (s : Sys) (c v w : Nat) :
    (createElem s c v w).cnsts = fun c' => if c' = c then createdCnst s c v w else s.cnsts c' := by
  obtain ⟨a, h⟩ := createElem_eq s c v w
  rw [h]; rfl

theorem createElem_vars (s : Sys) (c v w : Nat) :
    (createElem s c v w).vars = fun u => if u = v then { s.vars v with cn := (s.vars v).cn ++ [c] } else s.vars u := by
  obtain ⟨a, h⟩ := createElem_eq s c v w
  rw [h]; rfl

theorem createElem_failed (s : Sys) (c v w : Nat) : (createElem s c v w).failed = s.failed := by
  obtain ⟨a, h⟩ := createElem_eq s c v w
  rw [h]; rfl

inductive ExpandCase (s : Sys) (c v w : Nat) (f : Bool) : Prop where
  | reuseEn (i : Nat) (e : Entry) (hcn : (s.vars v).cn[i]? = some c) (hp : (s.vars v).pen ≠ 0)
      (he : (s.cnsts c).en.find? (isRef v i) = some e) (hle : conc (s.cnsts c).policy e.w ≤ (s.cnsts c).cur)
      (heq : expand s c v w f = expandTail (reuseEn s c v i w e) c v (addW (s.cnsts c).policy e.w w))
  | reuseDis (i : Nat) (e : Entry) (hcn : (s.vars v).cn[i]? = some c) (hp : (s.vars v).pen = 0)
      (he : (s.cnsts c).dis.find? (isRef v i) = some e)
      (heq : expand s c v w f = expandTail (reuseDis s c v i w e) c v (addW (s.cnsts c).policy e.w w))
  | create (hno : f = false → c ∉ (s.vars v).cn) (heq : expand s c v w f = expandTail (createElem s c v w) c v w)

theorem expand_cases (s : Sys) (c v w : Nat) (f : Bool) :
    expand s c v w f = ({ s with modflag := true } : Sys).fail ∨ ExpandCase s c v w f := by
  cases hi : (if f then none else (s.vars v).cn.idxOf? c) with
  | some i =>
    have hcn : (s.vars v).cn[i]? = some c := by
      split at hi
      · cases hi
      · obtain ⟨hlt, heq, _⟩ := List.idxOf?_eq_some_iff.mp hi
        rw [List.getElem?_eq_getElem hlt, heq]
    by_cases hp : (s.vars v).pen ≠ 0
    · cases he : (s.cnsts c).en.find? (isRef v i) with
      | none => left; unfold expand; simp only [hi, hp, he, ne_eq, not_false_eq_true, if_true]
      | some e =>
        by_cases hlt : (s.cnsts c).cur < conc (s.cnsts c).policy e.w
        · left; unfold expand; simp only [hi, hp, he, hlt, ne_eq, not_false_eq_true, if_true]
        · refine Or.inr (.reuseEn i e hcn hp he (by omega) ?_)
          unfold expand reuseEn
          simp only [hi, hp, he, hlt, if_true, if_false, ne_eq, not_false_eq_true]
    · have hp0 : (s.vars v).pen = 0 := by omega
      cases he : (s.cnsts c).dis.find? (isRef v i) with
      | none => left; unfold expand; simp only [hi, hp0, he, ne_eq, not_true_eq_false, if_false]
      | some e =>
        refine Or.inr (.reuseDis i e hcn hp0 he ?_)
        unfold expand reuseDis
        simp only [hi, hp0, he, ne_eq, not_true_eq_false, if_false]
  | none =>
    refine Or.inr (.create ?_ ?_)
    · intro hf
      rw [hf] at hi
      simp only [Bool.false_eq_true, if_false] at hi
      exact List.idxOf?_eq_none_iff.mp hi
    · unfold expand createElem createdCnst
      simp only [hi]
      split <;> split <;> first | rfl | (rename_i h1 h2; exact absurd h1 h2)

theorem expand_inv (s : Sys) (c v w : Nat) (f : Bool) (hnf : (expand s c v w f).failed = false) : ExpandCase s c v w f :=
  (expand_cases s c v w f).resolve_left (fun h => by rw [h] at hnf; cases hnf)

theorem vnew_vars (s : Sys) (p : Nat) (b : Int) (u : Nat) :
    (vnew s p b).vars u =
      if u = s.nv then { alive := true, pen := p, staged := 0, bound := b, cn := [], visited := (s.counter + U32 - 1) % U32 }
      else s.vars u := rfl

/-- what `solve` keeps: constraints, variables up to marks, sizes, `variable_set` -/
structure SolveFrame (s s' : Sys) : Prop where
  cnsts : s'.cnsts = s.cnsts
  vars : ∀ u, VEq (s'.vars u) (s.vars u)
  dims : Dims s s'
  varset : s'.varset = s.varset

theorem removeAllModified_frame (s : Sys) : SolveFrame s (removeAllModified s) := by
  have hreset : ∀ s1 : Sys, SolveFrame s s1 → SolveFrame s (resetVisited s1) := by
    intro s1 h
    refine ⟨h.cnsts, fun u => Eq.trans ?_ (h.vars u), h.dims, h.varset⟩
    show VEq (if u ∈ s1.varset then { s1.vars u with visited := 0 } else s1.vars u) (s1.vars u)
    split <;> rfl
  have h0 : ∀ n, SolveFrame s { s with counter := n } := fun n => ⟨rfl, fun _ => rfl, ⟨rfl, rfl, rfl, rfl⟩, rfl⟩
  suffices h : ∀ s1 : Sys, SolveFrame s s1 → SolveFrame s { s1 with modified := [] } by
    unfold removeAllModified
    apply h
    split
    · split
      · exact hreset _ (h0 1)
      · exact h0 _
    · split
      · exact hreset _ (h0 _)
      · exact h0 _
  exact fun s1 h => ⟨h.cnsts, h.vars, h.dims, h.varset⟩

theorem solveOp_frame (s : Sys) : SolveFrame s (solveOp s) := by
  unfold solveOp
  split
  · exact ⟨rfl, fun _ => rfl, ⟨rfl, rfl, rfl, rfl⟩, rfl⟩
  · simp only
    split
    · have h := removeAllModified_frame { s with modflag := false }
      exact ⟨h.cnsts, h.vars, h.dims, h.varset⟩
    · exact ⟨rfl, fun _ => rfl, ⟨rfl, rfl, rfl, rfl⟩, rfl⟩

/-- of `Op.valid` only what a user needs is handed on (`expand`: the constraint exists, the variable is alive) -/
theorem step_cases {P : Sys → Prop} (s : Sys) (op : Op) (hs : P s)
    (h : match op with
      | .cnew b l p => P (cnew s b l p)
      | .vnew p b => P (vnew s p b)
      | .expand c v w f => c < s.nc → (s.vars v).alive = true → P (expand s c v w f)
      | .vfree v => P (varFree s v)
      | .vbound v b => P (updateVarBound s v b)
      | .vpen v p => P (updatePenalty s v p)
      | .cbound c b => P (updateCnstBound s c b)
      | .solve => P (solveOp s)) : P (step s op) := by
  unfold step
  split
  · exact hs
  · rename_i hv
    cases op with
    | expand c v w f =>
      have hvalid : (Op.expand c v w f).valid s = true := by
        cases hh : (Op.expand c v w f).valid s with
        | true => rfl
        | false => simp [hh] at hv
      simp only [Op.valid, liveC, liveV, Bool.and_eq_true, decide_eq_true_eq] at hvalid
      exact h hvalid.1 hvalid.2.2
    | _ => exact h

theorem step_sticky (s : Sys) (op : Op) : (step s op).failed = false → s.failed = false := by
  intro h
  cases hf : s.failed with
  | false => rfl
  | true => unfold step at h; simp [hf] at h

theorem run_inv {Q : Sys → Prop} (hstep : ∀ s op, Q s → (step s op).failed = false → Q (step s op))
    (hist : List Op) (s : Sys) (h : Q s) (hnf : (run s hist).failed = false) : Q (run s hist) :=
  foldl_ind step_sticky hstep hist s h hnf

theorem run_append_one (s : Sys) (h : List Op) (op : Op) : run s (h ++ [op]) = step (run s h) op := by
  unfold run
  rw [List.foldl_append]
  rfl

theorem step_solve_eff (s : Sys) (hnf : s.failed = false) (hm : s.modflag = true) (hsel : s.sel = true) :
    step s .solve = removeAllModified { s with modflag := false } := by
  unfold step solveOp
  simp [hnf, hm, hsel, Op.valid]

end SgVerif.LmmBook
