import SgVerif.LmmBook.Ops
/-
The marks invariant (`visited_` vs `visited_counter_`) through EVERY operation, for the repaired
`remove_all_modified_cnst_set` (`fixWrap`): the counter stays in `[1, 2^32)`, no live variable carries a mark above
the counter, and every live variable is in `variable_set` (which is what the wrap-around reset iterates over).
Unconditional (no "no assertion fired" hypothesis).
-/
namespace SgVerif.LmmBook

/-- the marks invariant: counter in [1, 2^32), no live mark above it, live variables in `variable_set` -/
structure MK (s : Sys) : Prop where
  lo : 1 ≤ s.counter
  hi : s.counter < U32
  le : ∀ v, (s.vars v).alive = true → (s.vars v).visited ≤ s.counter
  vs : ∀ v, (s.vars v).alive = true → v ∈ s.varset

/-- the changes `MK` survives (`MK.frame`): a mark may become the counter, `variable_set` may grow, no variable is created or freed -/
structure MKFrame (s s' : Sys) : Prop where
  cfg : s'.cfg = s.cfg
  sel : s'.sel = s.sel
  counter : s'.counter = s.counter
  varset : ∀ v, v ∈ s.varset → v ∈ s'.varset
  alive : ∀ v, (s'.vars v).alive = (s.vars v).alive
  visited : ∀ v, (s'.vars v).visited = (s.vars v).visited ∨ (s'.vars v).visited = s.counter

theorem MKFrame.refl (s : Sys) : MKFrame s s := ⟨rfl, rfl, rfl, fun _ h => h, fun _ => rfl, fun _ => Or.inl rfl⟩

theorem MKFrame.trans {a b c : Sys} (h1 : MKFrame a b) (h2 : MKFrame b c) : MKFrame a c := by
  refine ⟨h2.cfg.trans h1.cfg, h2.sel.trans h1.sel, h2.counter.trans h1.counter, fun v h => h2.varset v (h1.varset v h),
    fun v => (h2.alive v).trans (h1.alive v), ?_⟩
  intro v
  rcases h2.visited v with h | h
  · rcases h1.visited v with h' | h'
    · exact Or.inl (h.trans h')
    · exact Or.inr (h.trans h')
  · exact Or.inr (h.trans h1.counter)

theorem MKFrame.le {s s' : Sys} (f : MKFrame s s') {v : Nat} (h : (s.vars v).visited ≤ s.counter) :
    (s'.vars v).visited ≤ s'.counter := by
  rw [f.counter]
  rcases f.visited v with h1 | h1
  · rw [h1]; exact h
  · rw [h1]; exact Nat.le_refl _

theorem MK.frame {s s' : Sys} (h : MK s) (f : MKFrame s s') : MK s' := by
  refine ⟨by rw [f.counter]; exact h.lo, by rw [f.counter]; exact h.hi, ?_, ?_⟩
  · intro v hv; rw [f.alive] at hv; exact f.le (h.le v hv)
  · intro v hv; rw [f.alive] at hv; exact f.varset v (h.vs v hv)

theorem MKFrame.of_eq {s s' : Sys} (hv : s'.vars = s.vars) (hc : s'.counter = s.counter) (hs : s'.varset = s.varset)
    (hg : s'.cfg = s.cfg := by rfl) (hl : s'.sel = s.sel := by rfl) :
    MKFrame s s' := ⟨hg, hl, hc, fun v h => by rw [hs]; exact h, fun v => by rw [hv], fun v => Or.inl (by rw [hv])⟩

theorem mkf_setV (s : Sys) (v : Nat) (x : Var) (ha : x.alive = (s.vars v).alive)
    (hv : x.visited = (s.vars v).visited ∨ x.visited = s.counter) : MKFrame s (s.setV v x) := by
  refine ⟨rfl, rfl, rfl, fun _ h => h, setV_field Var.alive s v x ha, ?_⟩
  intro u; rw [setV_vars]; split
  · rename_i hu; rw [hu]; exact hv
  · exact Or.inl rfl

theorem mkf : StepRel MKFrame where
  refl := MKFrame.refl
  trans := MKFrame.trans
  fail _ := .of_eq rfl rfl rfl
  push _ _ := .of_eq rfl rfl rfl
  visit s v := mkf_setV s v _ rfl (Or.inr rfl)
  cnst _ _ _ _ := .of_eq rfl rfl rfl
  var s v x ha _ hv := mkf_setV s v x ha (Or.inl hv)
  front s v := ⟨rfl, rfl, rfl, fun u hu => by
    show u ∈ v :: s.varset.erase v
    by_cases h : u = v
    · rw [h]; exact List.mem_cons_self
    · exact List.mem_cons_of_mem _ ((List.mem_erase_of_ne h).mpr hu), fun _ => rfl, fun _ => Or.inl rfl⟩
  back s v := ⟨rfl, rfl, rfl, fun u hu => by
    show u ∈ s.varset.erase v ++ [v]
    by_cases h : u = v
    · rw [h]; exact List.mem_append_right _ (List.mem_singleton.mpr rfl)
    · exact List.mem_append_left _ ((List.mem_erase_of_ne h).mpr hu), fun _ => rfl, fun _ => Or.inl rfl⟩
  inactive _ _ := .of_eq rfl rfl rfl
  modflag _ _ := .of_eq rfl rfl rfl

theorem expand_mkf (s : Sys) (c v w : Nat) (f : Bool) : MKFrame s (expand s c v w f) := by
  have h0 := mkf.modflag s true
  rcases expand_cases s c v w f with heq | ⟨i, e, _, _, _, _, heq⟩ | ⟨i, e, _, _, _, heq⟩ | ⟨_, heq⟩
  all_goals rw [heq]
  · exact h0.trans (mkf.fail _)
  · exact (h0.trans (c := reuseEn s c v i w e) (.of_eq rfl rfl rfl)).trans (expandTail_rel mkf _ _ _ _)
  · exact (h0.trans (c := reuseDis s c v i w e) (.of_eq rfl rfl rfl)).trans (expandTail_rel mkf _ _ _ _)
  · refine MKFrame.trans ?_ (expandTail_rel mkf _ _ _ _)
    obtain ⟨a, ha⟩ := createElem_eq s c v w
    rw [ha]
    exact (h0.trans (mkf_setV _ v { s.vars v with cn := (s.vars v).cn ++ [c] } rfl (Or.inl rfl))).trans (.of_eq rfl rfl rfl)

theorem MK_varFree {s : Sys} (v : Nat) (h : MK s) : MK (varFree s v) := by
  obtain ⟨s3, h3, heq⟩ := varFree_rel mkf s v
  rw [heq]
  -- a live variable of the result is not `v` (so it stays in `variable_set`) and was alive in `s`
  have hlive : ∀ u, ((s3.setV v { s3.vars v with alive := false, cn := [] }).vars u).alive = true →
      u ≠ v ∧ (s.vars u).alive = true := by
    intro u ha
    rw [setV_vars] at ha
    by_cases hu : u = v
    · simp [hu] at ha
    · rw [if_neg hu, h3.alive] at ha; exact ⟨hu, ha⟩
  refine ⟨by show 1 ≤ s3.counter; rw [h3.counter]; exact h.lo, by show s3.counter < U32; rw [h3.counter]; exact h.hi,
    fun u ha => ?_, fun u ha => ?_⟩
  · obtain ⟨hu, ha⟩ := hlive u ha
    rw [setV_vars, if_neg hu]
    exact h3.le (h.le u ha)
  · obtain ⟨hu, ha⟩ := hlive u ha
    exact h3.varset u ((List.mem_erase_of_ne hu).mpr (h.vs u ha))

theorem MK_vnew {s : Sys} (p : Nat) (b : Int) (h : MK s) : MK (vnew s p b) := by
  have hlo := h.lo
  have hhi := h.hi
  refine ⟨h.lo, h.hi, ?_, ?_⟩
  · intro u ha
    rw [vnew_vars] at ha ⊢
    show _ ≤ s.counter
    split
    · show (s.counter + U32 - 1) % U32 ≤ s.counter
      unfold U32 at hhi ⊢
      omega
    · rename_i hu; rw [if_neg hu] at ha; exact h.le u ha
  · intro u ha
    rw [vnew_vars] at ha
    show u ∈ (if 0 < p then s.nv :: s.varset else s.varset ++ [s.nv])
    by_cases hu : u = s.nv
    · rw [hu]; split
      · exact List.mem_cons_self
      · exact List.mem_append_right _ (List.mem_singleton.mpr rfl)
    · rw [if_neg hu] at ha
      have := h.vs u ha
      split
      · exact List.mem_cons_of_mem _ this
      · exact List.mem_append_left _ this

theorem removeAllModified_marks {s : Sys} (hfix : s.cfg.fixWrap = true) (hc : s.counter < U32) :
    1 ≤ (removeAllModified s).counter ∧ (removeAllModified s).counter < U32 ∧
    ∀ v ∈ s.varset, (s.vars v).visited ≤ s.counter →
      ((removeAllModified s).vars v).visited < (removeAllModified s).counter := by
  unfold removeAllModified
  simp only [hfix, if_true]
  by_cases hw : (s.counter + 1) % U32 = 0
  · simp only [hw, if_true, resetVisited]
    refine ⟨Nat.le_refl _, by decide, ?_⟩
    intro v hv _
    simp only [hv, if_true]
    exact Nat.zero_lt_one
  · simp only [hw, if_false]
    have hlt : s.counter + 1 < U32 := by
      unfold U32 at hc hw ⊢
      omega
    rw [Nat.mod_eq_of_lt hlt]
    exact ⟨by omega, hlt, fun v _ hv => by omega⟩

theorem MK_removeAllModified {s : Sys} (hfix : s.cfg.fixWrap = true) (h : MK s) : MK (removeAllModified s) := by
  obtain ⟨hlo, hhi, hm⟩ := removeAllModified_marks hfix h.hi
  obtain ⟨_, hv, _, hs⟩ := removeAllModified_frame s
  refine ⟨hlo, hhi, ?_, ?_⟩
  · intro v ha; rw [(hv v).alive] at ha; exact Nat.le_of_lt (hm v (h.vs v ha) (h.le v ha))
  · intro v ha; rw [(hv v).alive] at ha; rw [hs]; exact h.vs v ha

theorem MK_removeAllModified_fresh {s : Sys} (hfix : s.cfg.fixWrap = true) (h : MK s) (v : Nat)
    (ha : ((removeAllModified s).vars v).alive = true) :
    ((removeAllModified s).vars v).visited ≠ (removeAllModified s).counter := by
  rw [((removeAllModified_frame s).vars v).alive] at ha
  exact Nat.ne_of_lt ((removeAllModified_marks hfix h.hi).2.2 v (h.vs v ha) (h.le v ha))

theorem MK_step {s : Sys} (op : Op) (hfix : s.cfg.fixWrap = true) (h : MK s) : MK (step s op) := by
  refine step_cases (P := MK) s op h ?_
  cases op with
  | cnew b l p => exact h.frame (MKFrame.of_eq rfl rfl rfl)
  | vnew p b => exact MK_vnew p b h
  | expand c v w f => exact fun _ _ => h.frame (expand_mkf s c v w f)
  | vfree v => exact MK_varFree v h
  | vbound v b => exact h.frame (updateVarBound_rel mkf s v b)
  | vpen v p => exact h.frame (updatePenalty_rel mkf s v p)
  | cbound c b => exact h.frame (updateCnstBound_rel mkf s c b)
  | solve =>
    show MK (solveOp s)
    unfold solveOp
    split
    · exact h
    · simp only
      split
      · exact MK_removeAllModified (s := { s with modflag := false }) hfix (h.frame (mkf.modflag s false))
      · exact h.frame (mkf.modflag s false)

theorem MK_init (cfg : Cfg) (sel : Bool) : MK (init cfg sel) :=
  ⟨Nat.le_refl _, (by show (1 : Nat) < U32; decide), fun v hv => by simp [init] at hv, fun v hv => by simp [init] at hv⟩

theorem step_cfg_sel (s : Sys) (op : Op) : (step s op).cfg = s.cfg ∧ (step s op).sel = s.sel := by
  have of_dims : ∀ {s' : Sys}, Dims s s' → s'.cfg = s.cfg ∧ s'.sel = s.sel := fun h => h.2.2
  refine step_cases (P := fun s' => s'.cfg = s.cfg ∧ s'.sel = s.sel) s op ⟨rfl, rfl⟩ ?_
  cases op with
  | cnew b l p => exact ⟨rfl, rfl⟩
  | vnew p b => exact ⟨rfl, rfl⟩
  | expand c v w f => exact fun _ _ => ⟨(expand_mkf s c v w f).cfg, (expand_mkf s c v w f).sel⟩
  | vfree v =>
    obtain ⟨s3, h3, heq⟩ := varFree_rel same s v
    show (varFree s v).cfg = s.cfg ∧ (varFree s v).sel = s.sel
    rw [heq]
    exact of_dims (s' := s3) (same.trans (.of_eq rfl rfl) h3).dims
  | vbound v b => exact of_dims (updateVarBound_rel same s v b).dims
  | vpen v p => exact of_dims (updatePenalty_rel same s v p).dims
  | cbound c b => exact of_dims (updateCnstBound_rel same s c b).dims
  | solve => exact of_dims (solveOp_frame s).dims

theorem step_cfg (s : Sys) (op : Op) : (step s op).cfg = s.cfg := (step_cfg_sel s op).1

theorem run_cfg_sel (hist : List Op) (s : Sys) : (run s hist).cfg = s.cfg ∧ (run s hist).sel = s.sel :=
  ((Pre.eqOn Sys.cfg).and (Pre.eqOn Sys.sel)).foldl hist step_cfg_sel s

theorem run_MK (hist : List Op) (s : Sys) (hfix : s.cfg.fixWrap = true) (h : MK s) : MK (run s hist) :=
  (foldl_inv (P := fun s => s.cfg.fixWrap = true ∧ MK s)
    (fun s op hs => ⟨by rw [step_cfg]; exact hs.1, MK_step op hs.1 hs.2⟩) hist s ⟨hfix, h⟩).2

end SgVerif.LmmBook
