import SgVerif.Sched.Model
import SgVerif.Common.List
import SgVerif.Common.Fold
/-! Helper lemmas for the round model: the slices commute, so their order does not matter; sorting is a permutation. -/
namespace SgVerif.Sched

theorem upd_same {β : Type} (f : Nat → β) (a : Nat) (v : β) : upd f a v a = v := by simp [upd]
theorem upd_other {β : Type} (f : Nat → β) (a b : Nat) (v : β) (h : b ≠ a) : upd f a v b = f b := by simp [upd, h]

theorem upd_comm {β : Type} (f : Nat → β) (a b : Nat) (v w : β) (h : a ≠ b) :
    upd (upd f a v) b w = upd (upd f b w) a v := by
  funext x
  unfold upd
  grind

variable {S : Sys}

/-- the slices of two actors commute: each touches only its own local state and its own pending-simcall slot -/
theorem runSlice_comm (s : St S) (a b : Aid) : runSlice (runSlice s a) b = runSlice (runSlice s b) a := by
  by_cases h : a = b
  · subst h; rfl
  · have h' : b ≠ a := fun e => h e.symm
    simp only [runSlice, upd_other _ _ _ _ h, upd_other _ _ _ _ h']
    rw [upd_comm _ _ _ _ _ h, upd_comm _ _ _ _ _ h]

theorem afterSlices_perm (s : St S) {π ρ : List Aid} (p : π.Perm ρ) : afterSlices s π = afterSlices s ρ :=
  p.foldl_eq' (fun a _ b _ s => runSlice_comm s a b) s

theorem afterSlices_append (s : St S) (π ρ : List Aid) : afterSlices s (π ++ ρ) = afterSlices (afterSlices s π) ρ := by
  simp [afterSlices, List.foldl_append]

theorem afterSlices_k (s : St S) (π : List Aid) : (afterSlices s π).k = s.k ∧ (afterSlices s π).toRun = s.toRun
    ∧ (afterSlices s π).ans = s.ans :=
  foldl_inv (f := runSlice) (P := fun t : St S => t.k = s.k ∧ t.toRun = s.toRun ∧ t.ans = s.ans) (fun _ _ h => h) π s ⟨rfl, rfl, rfl⟩

theorem afterSlices_notin (s : St S) (π : List Aid) (a : Aid) (h : a ∉ π) : (afterSlices s π).loc a = s.loc a :=
  (Pre.eqOn fun t : St S => t.loc a).foldl_mem (f := runSlice) π (fun _ _ hb => upd_other _ _ _ _ fun e => h (e ▸ hb)) s

/-- after the slices, every actor of the run list has posted exactly the simcall its own code computes from its own
    state — whatever ran first -/
theorem afterSlices_pend (s : St S) (π : List Aid) (hn : π.Nodup) (a : Aid) (ha : a ∈ π) :
    (afterSlices s π).pend a = some (S.slice a (s.loc a) (s.ans a)).2 := by
  -- the order does not matter: let `a` run last
  have hna : a ∉ π.erase a := fun h => (hn.mem_erase_iff.mp h).1 rfl
  rw [afterSlices_perm s ((List.perm_cons_erase ha).trans (List.perm_append_comm (l₁ := [a]))), afterSlices_append]
  simp only [afterSlices, List.foldl_cons, List.foldl_nil, runSlice, upd_same]
  rw [← afterSlices, afterSlices_notin s _ a hna, (afterSlices_k s _).2.2]

/-- two runs agree when each of their sub-rounds does (either may differ from the other in the address map and in the
    order of the slices) -/
theorem runWith_congr (c : Cfg) (α β : Addr) (p q : Policy)
    (h : ∀ n (s : St S), subroundWith c α (p n s.toRun) s = subroundWith c β (q n s.toRun) s) :
    ∀ (fuel : Nat) (s : St S), runWith c α p fuel s = runWith c β q fuel s := by
  intro fuel
  induction fuel with
  | zero => intro s; rfl
  | succ n ih =>
    intro s
    simp only [runWith]
    cases hs : s.toRun with
    | nil =>
      simp only
      cases S.advance s.k with
      | none => rfl
      | some r => exact ih _
    | cons a t =>
      simp only
      rw [← hs, h n s]; exact ih _

theorem filterMap_all_some {α β : Type} (f : α → Option β) (g : α → β) (l : List α)
    (h : ∀ a ∈ l, f a = some (g a)) : l.filterMap f = l.map g := by
  rw [filterMap_congr_ptw h, ← List.filterMap_eq_map]; rfl

theorem insertBy_perm (key : Nat → Nat) (x : Nat) (l : List Nat) : (insertBy key x l).Perm (x :: l) := by
  induction l with
  | nil => exact List.Perm.refl _
  | cons y ys ih =>
    simp only [insertBy]
    split
    · exact List.Perm.refl _
    · exact (List.Perm.cons y ih).trans (List.Perm.swap x y ys)

/-- whatever the addresses, a `std::set<T*>` iterates over a permutation of its elements -/
theorem sortBy_perm (key : Nat → Nat) (l : List Nat) : (sortBy key l).Perm l := by
  induction l with
  | nil => exact List.Perm.refl _
  | cons x xs ih => exact (insertBy_perm key x (sortBy key xs)).trans (List.Perm.cons x ih)

theorem sortBy_perm2 (k1 k2 : Nat → Nat) (l : List Nat) : (sortBy k1 l).Perm (sortBy k2 l) :=
  (sortBy_perm k1 l).trans (sortBy_perm k2 l).symm

end SgVerif.Sched
