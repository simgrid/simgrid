import SgVerif.TimeCore.Exact
/-
C03 — Simulated time is monotone and events happen exactly at their date.
Model: SgVerif/TimeCore/Model.lean (EngineImpl::run/solve, Timer, ActionHeap, CpuCas01::sleep, ActivityImpl, ActorImpl).
Every theorem is for ALL programs of the op language, ALL resolutions of the equal-date ties (`ties`) and ALL fuel.
-/
namespace SgVerif.C03
open SgVerif.TimeCore

/-- `solve`: `time_delta >= 0` — the step by which `now_` is bumped is never negative. -/
theorem solve_delta_nonneg (now : Rat) (tnext top : Option Rat) (d : Rat)
    (ht : ∀ t, tnext = some t → now ≤ t) (h : timeDelta now tnext top = some d) : 0 ≤ d :=
  timeDelta_nonneg now tnext top d ht h

/-- **clock_monotone** (state form): from any state, whatever is run, the clock never decreases. -/
theorem clock_monotone (fuel : Nat) (s : St) : s.now ≤ (run fuel s).now :=
  run_ind (P := fun s' => s.now ≤ s'.now)
    (fun s' h => Rat.le_trans h (step_ind (P := fun x => s'.now ≤ x.now) (fun _ => outer_now_le s')
      (fun _ => Rat.le_refl) Rat.le_refl)) fuel s Rat.le_refl

/-- **clock_monotone** (log form): the stamps of the observations made by the actors are non-decreasing in the order
of observation, and no observation is stamped in the future. -/
theorem log_sorted (progs : List (List Op)) (ties : List Nat) (fuel : Nat) :
    ((run fuel (initSt progs ties)).log.Pairwise (fun a b => a.1 ≤ b.1)) ∧
    (∀ e ∈ (run fuel (initSt progs ties)).log, e.1 ≤ (run fuel (initSt progs ties)).now) :=
  let h := run_logInv fuel _ (initSt_logInv progs ties)
  ⟨h.2, h.1⟩

/-- **no_early_event** (actions): an action (sleep, exec, comm, its latency phase, I/O) is completed by
`update_actions_state` at clock `t` only if it is *due* at `t`: its date is within the timing precision of `t` for
the lazily updated models (`double_equals(top_date, now, sg_precision_timing)`), and reached for the disk model. -/
theorem no_early_event (progs : List (List Op)) (ties : List Nat) (fuel : Nat) :
    ∀ x ∈ (run fuel (initSt progs ties)).popped, x.2.due x.1 = true :=
  fun x hx => ((run_sinv fuel _ (initSt_sinv progs ties)).popped x hx).1

/-- never more than the timing precision early, in numbers -/
theorem no_early_event_bound (progs : List (List Op)) (ties : List Nat) (fuel : Nat) :
    ∀ x ∈ (run fuel (initSt progs ties)).popped, x.2.date - prec < x.1 := by
  intro x hx
  have h := no_early_event progs ties fuel x hx
  unfold HeapE.due dblEq ratAbs at h
  have hp : (0 : Rat) < prec := by unfold prec; grind
  split at h
  · simp only [decide_eq_true_eq] at h; grind
  · simp only [decide_eq_true_eq] at h
    split at h <;> grind

/-- **no_early_event** (timers: timeouts of wait_for / wait_any_for, kill times): a timer callback runs at clock `t`
only if its date is `≤ t`. -/
theorem timer_never_early (progs : List (List Op)) (ties : List Nat) (fuel : Nat) :
    ∀ x ∈ (run fuel (initSt progs ties)).fired, x.2.date ≤ x.1 :=
  fun x hx => (run_sinv fuel _ (initSt_sinv progs ties)).fired x hx ▸ Rat.le_refl

/-- `CpuCas01::sleep`: a positive duration is raised to the timing precision, others are kept. -/
theorem sleep_clamp (p d : Rat) :
    (0 < d → clampSleep p d = (if d < p then p else d) ∧ p ≤ clampSleep p d ∧ d ≤ clampSleep p d) ∧
    (d ≤ 0 → clampSleep p d = d) := by
  unfold clampSleep
  constructor
  · intro h; simp only [h, if_true]; split <;> grind
  · intro h; have : ¬ (d > 0) := by grind
    simp [this]

/-! ### timers and kill times fire exactly at their date

Full statement `timer_exact`: *every timer (timeout of a wait, kill time) set for date t by a run from `initSt` is
executed at clock exactly t.*  Its local components, each unbounded:
`timer_never_early` (global, above: executed only when `date ≤ clock`), `clock_never_skips_timer` (one maestro
iteration from ANY state: the clock stops at the earliest pending timer, so `clock ≤ date` still holds when
`Timer::execute_all` runs) and `kill_time_set_exactly` / C12 `wait_for_sets_deadline` (the only places where timers
are created: at `now + tau`, `tau ≥ 0`, or at a kill time `> now`, never in the past). -/

/-- one iteration of the maestro loop never moves the clock beyond a pending timer -/
theorem clock_never_skips_timer (s : St) (t : Timer) (ht : t ∈ s.k.timers) (hf : s.now ≤ t.date) :
    (outer s).now ≤ t.date := outer_now_le_timer s t ht hf

/-- **kill_time_exact** (setting): `set_kill_time(t)` creates exactly one timer, at exactly `t`, iff `t > now` -/
theorem kill_time_set_exactly (now : Rat) (k : K) (a : Nat) (t : Rat) :
    (now < t → (k.handle now a (.killAt t)).timers = k.timers ++ [{ id := k.nextT, date := t, cb := .kill a }]) ∧
    (t ≤ now → (k.handle now a (.killAt t)).timers = k.timers) := by
  constructor
  · intro h
    have : ¬ (t ≤ now) := by grind
    simp [K.handle, K.timerSet, this]
  · intro h
    simp [K.handle, h]

/-- **kill_time_exact** (firing): when the kill timer fires the actor is scheduled at that very date (it then runs its
on_exit functions and leaves: `runAll`/`K.die`) -/
theorem kill_timer_schedules_actor (k : K) (id : Nat) (date : Rat) (a : Nat) :
    a ∈ (k.fire { id := id, date := date, cb := .kill a }).toRun := by
  simp only [K.fire, K.addToRun]
  split
  · rename_i h; simpa using h
  · simp

/-- **timer_exact_partial**: a timer that is pending and not in the past before an iteration of the maestro loop, and
that this iteration executes, is executed at exactly its date — given (hypothesis `hexec`) that it is among the
timers executed by this iteration. -/
theorem timer_exact_partial (s : St) (t : Timer) (ht : t ∈ s.k.timers) (hf : s.now ≤ t.date)
    (hexec : t.date ≤ (outer s).now) : (outer s).now = t.date :=
  Rat.le_antisymm (outer_now_le_timer s t ht hf) hexec

/-! ### sleeps

Full statement `sleep_exact`: *an actor that calls `sleep_for d` (d > 0) at `t` and is not killed resumes at a clock r
with `t + clamp d - prec < r ≤ t + clamp d`, `r = t + clamp d` when no other event lies in that window, and at no
other date — in every reachable state.*  (The window is `double_equals(top_date, now, sg_precision_timing)` in
`update_actions_state_lazy`: `no_early_event` above.)  What is proved of it and what is left open is summed up after
`no_stale_registration_regression`. -/

theorem sleep_date_exact (now : Rat) (k : K) (a : Nat) (d : Rat) (ha : a < k.actors.length) :
    let k' := k.handle now a (.sleep d)
    k'.heap = k.heap ++ [{ impl := k.impls.length, date := now + clampSleep prec d }] ∧
    (k'.impl k.impls.length).simcalls = [a] ∧ (k'.impl k.impls.length).kind = .sleep ∧
    (k'.impl k.impls.length).start = now ∧
    (k'.actor a).waiting = (k.actor a).waiting ++ [k.impls.length] ∧
    k'.timers = k.timers ∧ k'.toRun = k.toRun := by
  have hx : k.actors[a]? = some k.actors[a] := List.getElem?_eq_getElem ha
  have hup : ∀ (l : List Impl) (x : Impl) (f : Impl → Impl), (upd (l ++ [x]) l.length f)[l.length]? = some (f x) := by
    intro l x f; rw [getElem?_upd_same]; simp
  simp [K.handle, K.newImpl, K.register, K.actor, K.impl, K.setActor, K.setImpl, getElem?_upd_same, hx, hup]

/-! ### activities: created ≤ start ≤ finish

The start time of an activity is the clock at its start (= its creation: the op language starts an activity when it
creates it), its action is due at exactly `start + d`; the finish time is the clock at which `update_actions_state`
completed it (`K.handleEnded`: `finish := now`), which is later by `clock_monotone`.  `activity_order` below is the
invariant over runs; that `finish = start + d` is checked by the monitor on every log, not proved. -/
theorem activity_start_partial (now : Rat) (k : K) (a slot : Nat) (kind : Kind) (d : Rat)
    (hk : kind = .exec ∨ kind = .io) :
    let k' := k.handle now a (.start slot kind d)
    k'.heap = k.heap ++ [{ impl := k.impls.length, date := now + d, full := kind == .io }] ∧
    (k'.impl k.impls.length).start = now ∧ k'.timers = k.timers := by
  rcases hk with h | h <;> subst h <;> simp [K.handle, K.newImpl] <;> simp [K.impl]

/-- **timer_exact** (full, run level): every timer callback ever executed — timeout of a `wait_for` / `wait_any_for`,
kill time — was executed at a clock EXACTLY equal to the timer's date. -/
theorem timer_exact (progs : List (List Op)) (ties : List Nat) (fuel : Nat) :
    ∀ x ∈ (run fuel (initSt progs ties)).fired, x.1 = x.2.date :=
  (run_sinv fuel _ (initSt_sinv progs ties)).fired

/-- … and no pending timer is ever in the past (`clock_never_skips_timer` at run level): with `timer_exact` and
`timer_never_early`, a timer set for date t either fires at exactly t or is removed before (completion, death). -/
theorem timers_never_past (progs : List (List Op)) (ties : List Nat) (fuel : Nat) :
    ∀ t ∈ (run fuel (initSt progs ties)).k.timers, (run fuel (initSt progs ties)).now ≤ t.date :=
  (run_sinv fuel _ (initSt_sinv progs ties)).d.tim

/-- **progress**: when the run stops (`done`: nothing to run, no next event) no timer and no action is left pending —
so every timer set during the run was executed (at exactly its date, `timer_exact`) or removed (completion of the
wait, death of the actor), and every action was completed or canceled. -/
theorem no_pending_at_end (progs : List (List Op)) (ties : List Nat) (fuel : Nat)
    (hd : (run fuel (initSt progs ties)).done = true) :
    (run fuel (initSt progs ties)).k.timers = [] ∧ (run fuel (initSt progs ties)).k.heap = [] :=
  run_noPend fuel _ (initSt_sinv progs ties) (by intro h; simp [initSt] at h) hd

/-- **kill_time_exact** (full, run level): a kill timer fires at exactly the kill time … -/
theorem kill_time_exact (progs : List (List Op)) (ties : List Nat) (fuel : Nat) (a : Nat) :
    ∀ x ∈ (run fuel (initSt progs ties)).fired, x.2.cb = .kill a → x.1 = x.2.date :=
  fun x hx _ => timer_exact progs ties fuel x hx
-- … it was created with that date (`kill_time_set_exactly`) and its firing schedules the actor at that very clock
-- (`kill_timer_schedules_actor`): the actor runs its on_exit functions in the next sub-round, the clock unchanged.

/-- the clock never skips a pending action either: no heap entry is ever in the past -/
theorem heap_never_past (progs : List (List Op)) (ties : List Nat) (fuel : Nat) :
    ∀ e ∈ (run fuel (initSt progs ties)).k.heap, (run fuel (initSt progs ties)).now ≤ e.date :=
  fun e he => ((run_sinv fuel _ (initSt_sinv progs ties)).d.heap e he).1

/-- **no late event** (run level): an action (sleep, exec, comm phase, I/O) is never completed after its date;
with `no_early_event_bound`: it completes at a clock r with `date - prec < r ≤ date`. -/
theorem no_late_event (progs : List (List Op)) (ties : List Nat) (fuel : Nat) :
    ∀ x ∈ (run fuel (initSt progs ties)).popped, x.1 ≤ x.2.date :=
  fun x hx => ((run_sinv fuel _ (initSt_sinv progs ties)).popped x hx).2

/-- **action_exact_window**: every action completes at a clock r with `date - prec < r ≤ date`, and a disk I/O
(full update, no precision window) at exactly its date. -/
theorem action_exact_window (progs : List (List Op)) (ties : List Nat) (fuel : Nat) :
    ∀ x ∈ (run fuel (initSt progs ties)).popped,
      x.2.date - prec < x.1 ∧ x.1 ≤ x.2.date ∧ (x.2.full = true → x.1 = x.2.date) := by
  intro x hx
  have h1 := no_early_event_bound progs ties fuel x hx
  have h2 := no_late_event progs ties fuel x hx
  refine ⟨h1, h2, fun hf => ?_⟩
  have h3 := no_early_event progs ties fuel x hx
  unfold HeapE.due at h3
  simp only [hf, if_true, decide_eq_true_eq] at h3
  exact Rat.le_antisymm h2 h3

/-- the clock only ever stops at the date of a pending timer or action (`solve`): with `action_exact_window`, a sleep
of date D completes at exactly D unless another event has its date in `(D - prec, D)`. -/
theorem clock_lands_on_event (s : St) :
    (solveStep s (outerDelta s)).now = s.now ∨ (∃ t ∈ s.k.timers, t.date = (solveStep s (outerDelta s)).now) ∨
    (∃ e ∈ s.k.heap, e.date = (solveStep s (outerDelta s)).now) := by
  cases hd : outerDelta s with
  | none => exact Or.inl rfl
  | some d =>
    rw [solveStep_now]
    rcases (timeDelta_some hd).1 with h1 | ⟨h1, _⟩
    · obtain ⟨t, ht, e⟩ := List.mem_map.mp (minDate_mem _ _ h1)
      exact Or.inr (Or.inl ⟨t, ht, e⟩)
    · obtain ⟨x, hx, e⟩ := List.mem_map.mp (minDate_mem _ _ h1)
      exact Or.inr (Or.inr ⟨x, hx, e⟩)

/-- **activity_order** (full, run level): for every activity of every run, `start ≤ now`, and once the finish time is
set (≠ -1) `start ≤ finish ≤ now`.  (In the op language an activity is started when it is created: created = start.) -/
theorem activity_order (progs : List (List Op)) (ties : List Nat) (fuel : Nat) :
    ∀ im ∈ (run fuel (initSt progs ties)).k.impls,
      im.start ≤ (run fuel (initSt progs ties)).now ∧
      (im.finish = -1 ∨ (im.start ≤ im.finish ∧ im.finish ≤ (run fuel (initSt progs ties)).now)) :=
  (run_sinv fuel _ (initSt_sinv progs ties)).d.ord

/-- **no_stale_registration** (the invariant behind `sleep_exact`, full, run level): in every reachable state, every
actor that is not dying is registered on activity i exactly as many times as i occurs in its `waiting_synchros_`;
when it is not in a handled simcall it is registered NOWHERE and no timeout timer of it is pending; in a simcall it is
registered on at most one activity (sleep, wait, wait_for) or on a sub-multiset of the activities of its wait_any;
a simcall not yet handled belongs to an actor blocked in it. -/
theorem no_stale_registration (progs : List (List Op)) (ties : List Nat) (fuel : Nat) (a : Nat)
    (hwd : ((run fuel (initSt progs ties)).k.actor a).wannadie = false) :
    let k := (run fuel (initSt progs ties)).k
    (∀ i, (k.impl i).simcalls.count a = (k.actor a).waiting.count i) ∧
    ((k.actor a).idle = true → (∀ i, a ∉ (k.impl i).simcalls) ∧ (k.actor a).tcb = none ∧
        ∀ t ∈ k.timers, cbActor t.cb ≠ some a) ∧
    ((k.actor a).waiting.length ≤ 1 ∨ ∀ j, (k.actor a).waiting.count j ≤ (k.actor a).anyList.count j) ∧
    ((k.actor a).pending.isSome = true → (k.actor a).blocked = true) :=
  reachable_registration progs ties fuel a hwd

/-- **a sleeper is woken by nothing else** (run level, consequence of `no_stale_registration`): in every reachable
state, `finish()` of an activity `j` leaves untouched every non-dying actor that does not wait for `j` — in
particular an actor blocked in `sleep_for`, whose `waiting_synchros_` is its sleep activity: no other completion
answers it; and (`timeout_of_other_actor_is_inert`, any state) neither does the timeout of another actor's wait. -/
theorem completion_wakes_only_waiters (progs : List (List Op)) (ties : List Nat) (fuel : Nat) (a j : Nat)
    (hwd : ((run fuel (initSt progs ties)).k.actor a).wannadie = false)
    (hj : j ∉ ((run fuel (initSt progs ties)).k.actor a).waiting) :
    ((run fuel (initSt progs ties)).k.finish j).actor a = (run fuel (initSt progs ties)).k.actor a :=
  finish_other _ j a (run_ri fuel _ (initSt_ri progs ties)).reg hwd hj

/-- **the completion of the awaited activity does wake the waiter** (run level): in every reachable state, when
`finish()` of activity i reaches the simcall of a blocked, non-dying actor a at the front of `simcalls_`, a is
answered — scheduled in actors_to_run_ at this very clock, no longer in a simcall — and is then registered nowhere,
with no timeout timer.  (For a sleep: `handle_ended_actions` calls `finish()` right after `update_actions_state`
popped the action, at the clock of `action_exact_window`.) -/
theorem completion_wakes_waiter (progs : List (List Op)) (ties : List Nat) (fuel : Nat) (i a : Nat) (rest : List Nat)
    (hs : ((run fuel (initSt progs ties)).k.impl i).simcalls = a :: rest)
    (hb : ((run fuel (initSt progs ties)).k.actor a).blocked = true)
    (hwd : ((run fuel (initSt progs ties)).k.actor a).wannadie = false) :
    let k := (run fuel (initSt progs ties)).k
    a ∈ (k.finishOne i a).toRun ∧ ((k.finishOne i a).actor a).blocked = false ∧
    ((k.finishOne i a).actor a).waiting = [] ∧ ((k.finishOne i a).actor a).tcb = none :=
  finishOne_wakes _ i a rest (run_ri fuel _ (initSt_ri progs ties)).reg hs hb hwd

theorem timeout_of_other_actor_is_inert (k : K) (t : Timer) (b a : Nat) (hcb : cbActor t.cb = some b) (h : a ≠ b) :
    (k.fire t).actor a = k.actor a := by
  have hs : ∀ (k0 : K) (f : Actor → Actor), (k0.setActor b f).actor a = k0.actor a :=
    fun k0 f => actor_setActor_ne k0 b a f h
  unfold K.fire
  cases hc : t.cb with
  | kill c => rw [hc] at hcb; cases hcb
  | wto c i =>
    rw [hc] at hcb; injection hcb with hcb; subst hcb
    simp only []
    split
    · rw [hs]
    · rw [answer_other _ _ _ h, hs, unregister_other _ _ _ _ h, hs]
  | wany c is =>
    rw [hc] at hcb; injection hcb with hcb; subst hcb
    simp only []
    rw [answer_other _ _ _ h, hs, foldl_unregister_other _ _ _ _ h, hs]

/-- **regression of 4c67abe5fd**: with the double registration of the old `MessImpl::wait_for`
(`K.handleWaitForOld`), the state after the timeout has the actor answered but still registered on the message:
the invariant fails (the fixed code, `kNewFired_clean`, leaves it registered nowhere). -/
theorem no_stale_registration_regression :
    ¬ RegInv kOldFired ∧ (kOldFired.actor 0).waiting = [0] ∧ (kNewFired.actor 0).waiting = [] :=
  ⟨wait_for_double_registration_regression, kOldFired_stale.1, kNewFired_clean.1⟩

/-! `sleep_exact` (full statement above) is proved up to one gluing step.  Proved for every run:
the sleep's action is created due at exactly `t + clamp d` with the sleeper alone registered on it (`sleep_date_exact`);
no registration is ever stale (`no_stale_registration`); hence nothing but the completion of the activities of its
`waiting_synchros_` wakes a blocked actor (`completion_wakes_only_waiters`, `timeout_of_other_actor_is_inert`, and no
timer of its own is pending without `timeout_cb_`), and that completion does wake it, at that very clock
(`completion_wakes_waiter`); an action completes at a clock r with `date - prec < r ≤ date`
(`action_exact_window`), r being the date of a pending event (`clock_lands_on_event`), hence r = t + clamp d when no
other event lies in the window; actions and timers are never in the past (`heap_never_past`); when the run stops
nothing is left pending (`no_pending_at_end`).  NOT proved as one theorem: that the `waiting_synchros_` of an actor
blocked in `sleep_for` is, in every later state, still exactly its sleep activity with its heap entry unchanged, and
that nobody else cancels that activity (the per-operation footprint invariant); the monitor (`sleep not exact`) and
the replay check it on every program. -/

/-! non-vacuity (concrete runs are evaluated by the compiled driver on the corpus: `decide` does not reduce `Rat`) -/

/-- a timer whose date is the clock is executed and recorded: the `fired` trace is not vacuous -/
example (s : St) (t : Timer) (h : s.k.timers = [t]) (hd : t.date = s.now) :
    (execAll 1 s false).1.fired = s.fired ++ [(s.now, t)] := by
  have : ¬ (s.now < s.now) := Rat.lt_irrefl
  simp [execAll, h, hd, minDate, pick, List.range, List.range.loop, this]

/-- a run that is over (`no_pending_at_end`): the empty simulation stops at once -/
example : (run 1 (initSt [] [])).done = true := by
  simp [run, step, initSt, outer_eq, outerPast, outerDelta, minDate, timeDelta, solveStep, outerTail, timersLoop,
    execAll, K.handleEndedAll, K.handleEnded, K.alive]

/-- hypotheses of `completion_wakes_only_waiters`: an actor that waits for nothing -/
example : ((run 0 (initSt [[.sleep 1]] [])).k.actor 0).wannadie = false ∧
    5 ∉ ((run 0 (initSt [[.sleep 1]] [])).k.actor 0).waiting := by
  simp [run, initSt, K.actor]

example : cbActor (Cb.wto 1 0) = some 1 ∧ (0 : Nat) ≠ 1 := by simp [cbActor]

/-- a state satisfying the invariant with a registered, blocked, non-dying waiter (hypotheses of
`completion_wakes_waiter` at the kernel level: `finishOne_wakes`) -/
example : RegInv kNew ∧ (kNew.impl 0).simcalls = [0] ∧ (kNew.actor 0).blocked = true ∧
    (kNew.actor 0).wannadie = false := ⟨kNew_reg, kNew_shape.1, kNew_shape.2.1, kNew_shape.2.2.1⟩

/-- the hypothesis of `no_stale_registration` holds for the actors of an initial state -/
example : ((run 0 (initSt [[.sleep 1]] [])).k.actor 0).wannadie = false := by
  simp [run, initSt, K.actor]

/-- the invariants hold in every reachable state (instances for `activity_order`, `timers_never_past`, …) -/
example : RI (run 7 (initSt [[.sleep 1, .killAt 2]] [1])) ∧ SInv (run 7 (initSt [[.sleep 1, .killAt 2]] [1])) :=
  reachable_inv _ _ _

example : timeDelta 0 (some 1) (some (1/2)) = some (1/2) ∧ (∀ t, some (1 : Rat) = some t → (0 : Rat) ≤ t) := by
  constructor
  · simp [timeDelta]; grind
  · intro t h; injection h with h; subst h; grind

/-- a due entry is completed, and recorded in the ghost trace -/
example (s : St) (e : HeapE) (h : s.k.heap = [e]) (hd : e.due s.now = true) (hl : e.lat = false) :
    (popWindow 1 s []).1.popped = s.popped ++ [(s.now, e)] := by
  simp [popWindow, h, hd, hl, pick, List.range, List.range.loop]

/-- a sub-precision sleep is clamped to the precision; a zero sleep is not -/
example : clampSleep prec (1/4294967296) = prec ∧ clampSleep prec 0 = 0 ∧ clampSleep prec 1 = 1 := by
  unfold clampSleep prec; grind

/-- a kernel with one blocked actor and a pending timer in the future: hypotheses of the timer theorems are satisfiable -/
example : let s : St := { k := { timers := [{ id := 0, date := 1, cb := .kill 0 }], actors := [{ prog := [] }] } }
    ({ id := 0, date := 1, cb := .kill 0 } : Timer) ∈ s.k.timers ∧ s.now ≤ (1 : Rat) := by
  constructor
  · simp
  · show (0 : Rat) ≤ 1; grind

end SgVerif.C03
