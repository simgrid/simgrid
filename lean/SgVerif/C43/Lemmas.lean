import SgVerif.C43.Model
/-
C43 — the codec round trip level by level (`uns_rt`, `sgn_rt`, `prim_roundtrip`, then primitives, members, fields: decoding what
was encoded, whatever follows on the wire, gives it back), and that compatible schemas encode alike (`*_transfer`).  Core-only.
-/
namespace SgVerif.C43

theorem leBytes_length (w n : Nat) : (leBytes w n).length = w := by
  induction w generalizing n with
  | zero => rfl
  | succ w ih => simp [leBytes, ih]

theorem fromLE_leBytes (w n : Nat) : fromLE (leBytes w n) = n % 256 ^ w := by
  induction w generalizing n with
  | zero => simp [leBytes, fromLE, Nat.mod_one]
  | succ w ih =>
    simp only [leBytes, fromLE, ih]
    rw [Nat.pow_succ, Nat.mul_comm (256 ^ w) 256, Nat.mod_mul]

theorem uns_rt (w n : Nat) (r : List Nat) (h : n < 256 ^ w) :
    fromLE ((leBytes w n ++ r).take w) = n ∧ (leBytes w n ++ r).drop w = r ∧ w ≤ (leBytes w n ++ r).length := by
  have hl := leBytes_length w n
  refine ⟨?_, List.drop_left' hl, by rw [List.length_append, hl]; omega⟩
  rw [List.take_left' hl, fromLE_leBytes, Nat.mod_eq_of_lt h]

/-- two's complement on `w` bytes: the bit pattern of a `z` in range fits in `w` bytes and is read back as `z` -/
theorem sgn_rt (w : Nat) (hw : 0 < w) (z : Int) (h1 : -(2 ^ (8 * w - 1)) ≤ z) (h2 : z < 2 ^ (8 * w - 1)) :
    (z % 2 ^ (8 * w)).toNat < 256 ^ w ∧ toSigned (8 * w) (z % 2 ^ (8 * w)).toNat = z := by
  have hw8 : 256 ^ w = 2 ^ (8 * w) := by rw [Nat.pow_mul]
  obtain ⟨c, hc⟩ : ∃ c, 8 * w = c + 1 := ⟨8 * w - 1, by omega⟩
  rw [hc] at hw8 h1 h2 ⊢
  have hp : (0 : Int) < 2 ^ c := Int.pow_pos (by decide)
  rw [Nat.add_sub_cancel] at h1 h2
  rw [Nat.pow_succ] at hw8
  rw [toSigned, Nat.add_sub_cancel, Int.pow_succ]
  generalize hK : (2 : Nat) ^ c = K at *
  have hK : (K : Int) = 2 ^ c := by rw [← hK]; rfl
  generalize (2 : Int) ^ c = H at *
  have hz : z % (H * 2) = if 0 ≤ z then z else z + H * 2 := by
    split
    · exact Int.emod_eq_of_lt (by omega) (by omega)
    · rw [← Int.add_emod_right]; exact Int.emod_eq_of_lt (by omega) (by omega)
  have hN := Int.toNat_of_nonneg (show 0 ≤ z % (H * 2) by rw [hz]; split <;> omega)
  generalize (z % (H * 2)).toNat = N at *
  rw [hz] at hN
  split at hN <;> refine ⟨by omega, ?_⟩ <;> split <;> omega

theorem prim_roundtrip (p : Prim) (v : PVal) (bs rest : List Nat) (h : encodePrim p v = some bs) :
    decodePrim p (bs ++ rest) = some (v, rest) := by
  cases p <;> cases v <;> try (cases h; done)
  case u16.nat n | u32.nat n | u64.nat n | ptr.nat n =>
    obtain ⟨hn, h⟩ := Option.ite_none_right_eq_some.mp h
    cases h
    obtain ⟨a, b, c⟩ := uns_rt _ n rest hn
    simp only [decodePrim, c, if_true, a, b]
  case i32.int z =>
    obtain ⟨hz, h⟩ := Option.ite_none_right_eq_some.mp h
    cases h
    obtain ⟨hn, hs⟩ := sgn_rt 4 (by decide) z hz.1 hz.2
    obtain ⟨a, b, c⟩ := uns_rt 4 _ rest hn
    simp only [decodePrim, c, if_true, a, b]
    exact congrArg (fun x => some (PVal.int x, rest)) hs
  case i64.int z =>
    obtain ⟨hz, h⟩ := Option.ite_none_right_eq_some.mp h
    cases h
    obtain ⟨hn, hs⟩ := sgn_rt 8 (by decide) z hz.1 hz.2
    obtain ⟨a, b, c⟩ := uns_rt 8 _ rest hn
    simp only [decodePrim, c, if_true, a, b]
    exact congrArg (fun x => some (PVal.int x, rest)) hs
  case bool.bool b =>
    cases h
    cases b <;> rfl
  case str.str l =>
    obtain ⟨hg, h⟩ := Option.ite_none_right_eq_some.mp h
    cases h
    simp only [goodStr, Bool.and_eq_true, decide_eq_true_eq, List.all_eq_true] at hg
    obtain ⟨a, b, c⟩ := uns_rt 2 l.length (l ++ [0] ++ rest) (by omega)
    have t : (l ++ [0] ++ rest).take (l.length + 1) = l ++ [0] := List.take_left' (by simp)
    have d : (l ++ [0] ++ rest).drop (l.length + 1) = rest := List.drop_left' (by simp)
    have c2 : l.length + 1 ≤ (l ++ [0] ++ rest).length := by simp
    simp only [decodePrim, List.append_assoc (leBytes 2 l.length), c, if_true, a, b, c2, t, d]
    rw [List.takeWhile_append_of_pos fun c hc => by have := hg.2 c hc; simp; omega]
    simp

/-! What it takes for the list encoders to succeed: every element encodes, and the result is the concatenation. -/

theorem encodePrims_cons {p : Prim} {ps : List Prim} {v : PVal} {vs : List PVal} {bs : List Nat} :
    encodePrims (p :: ps) (v :: vs) = some bs ↔
      ∃ a b, encodePrim p v = some a ∧ encodePrims ps vs = some b ∧ a ++ b = bs := by
  rw [encodePrims]
  constructor
  · intro h
    split at h
    · exact ⟨_, _, ‹_›, ‹_›, Option.some.inj h⟩
    · cases h
  · rintro ⟨a, b, ha, hb, rfl⟩
    rw [ha, hb]

theorem encodeElems_cons {alts : List (Nat × List Prim)} {k : Nat} {vs : List PVal} {es : List (Nat × List PVal)}
    {bs : List Nat} :
    encodeElems alts ((k, vs) :: es) = some bs ↔
      k < 256 ^ 4 ∧ ∃ ps a b, lookup k alts = some ps ∧ encodePrims ps vs = some a ∧ encodeElems alts es = some b ∧
        leBytes 4 k ++ a ++ b = bs := by
  rw [encodeElems]
  constructor
  · intro h
    split at h
    · split at h
      · cases h
      · split at h
        · exact ⟨‹_›, _, _, _, ‹_›, ‹_›, ‹_›, Option.some.inj h⟩
        · cases h
    · cases h
  · rintro ⟨hk, ps, a, b, hl, ha, hb, rfl⟩
    rw [if_pos hk, hl]
    dsimp only
    rw [ha, hb]

theorem encode_cons {f : FieldTy} {fs : List FieldTy} {v : FVal} {vs : List FVal} {bs : List Nat} :
    encode (f :: fs) (v :: vs) = some bs ↔
      ∃ a b, encodeField f v = some a ∧ encode fs vs = some b ∧ a ++ b = bs := by
  rw [encode]
  constructor
  · intro h
    split at h
    · exact ⟨_, _, ‹_›, ‹_›, Option.some.inj h⟩
    · cases h
  · rintro ⟨a, b, ha, hb, rfl⟩
    rw [ha, hb]

theorem prims_roundtrip (ps : List Prim) (vs : List PVal) (bs rest : List Nat) (h : encodePrims ps vs = some bs) :
    decodePrims ps (bs ++ rest) = some (vs, rest) := by
  induction ps generalizing vs bs with
  | nil =>
    cases vs with
    | nil => cases h; rfl
    | cons => cases h
  | cons p ps ih =>
    cases vs with
    | nil => cases h
    | cons v vs =>
      obtain ⟨a, b, ha, hb, rfl⟩ := encodePrims_cons.mp h
      simp only [decodePrims, List.append_assoc, prim_roundtrip p v a (b ++ rest) ha, ih vs b hb]

theorem elems_roundtrip (alts : List (Nat × List Prim)) (es : List (Nat × List PVal)) (bs rest : List Nat)
    (h : encodeElems alts es = some bs) : decodeElems alts es.length (bs ++ rest) = some (es, rest) := by
  induction es generalizing bs with
  | nil => cases h; rfl
  | cons e es ih =>
    obtain ⟨k, vs⟩ := e
    obtain ⟨hk, ps, a, b, hl, ha, hb, rfl⟩ := encodeElems_cons.mp h
    obtain ⟨x, y, z⟩ := uns_rt 4 k (a ++ (b ++ rest)) hk
    simp only [List.length_cons, decodeElems, List.append_assoc, z, if_true, x, y, hl,
      prims_roundtrip ps vs a (b ++ rest) ha, ih b hb]

theorem field_roundtrip (f : FieldTy) (v : FVal) (bs rest : List Nat) (h : encodeField f v = some bs) :
    decodeField f (bs ++ rest) = some (v, rest) := by
  cases f <;> cases v <;> try (cases h; done)
  case prim.p p v =>
    simp only [decodeField, prim_roundtrip p v bs rest h, Option.map]
  case rep.rep alts es =>
    obtain ⟨hn, h⟩ := Option.ite_none_right_eq_some.mp h
    obtain ⟨b, he, h⟩ := Option.map_eq_some_iff.mp h
    cases h
    obtain ⟨x, y, z⟩ := uns_rt 4 es.length (b ++ rest) hn
    simp only [decodeField, List.append_assoc, z, if_true, x, y, elems_roundtrip alts es b rest he, Option.map]

theorem lookup_mem (k : Nat) (alts : List (Nat × List Prim)) (ps : List Prim) (h : lookup k alts = some ps) :
    (k, ps) ∈ alts := by
  induction alts with
  | nil => simp [lookup] at h
  | cons a alts ih =>
    obtain ⟨k', ps'⟩ := a
    simp only [lookup] at h
    split at h
    · simp at h; subst h; rename_i hk; subst hk; simp
    · simp [ih h]

theorem lookup_subset (a c : List (Nat × List Prim)) (hs : altsSubset a c = true) (k : Nat) (ps : List Prim)
    (h : lookup k a = some ps) : lookup k c = some ps := by
  have hm := lookup_mem k a ps h
  simp only [altsSubset, List.all_eq_true] at hs
  have := hs (k, ps) hm
  simpa using this

theorem elems_transfer (a c : List (Nat × List Prim)) (hs : altsSubset a c = true) (es : List (Nat × List PVal))
    (bs : List Nat) (h : encodeElems a es = some bs) : encodeElems c es = some bs := by
  induction es generalizing bs with
  | nil => exact h
  | cons e es ih =>
    obtain ⟨k, vs⟩ := e
    obtain ⟨hk, ps, x, y, hl, hx, hy, hb⟩ := encodeElems_cons.mp h
    exact encodeElems_cons.mpr ⟨hk, ps, x, y, lookup_subset a c hs k ps hl, hx, ih y hy, hb⟩

theorem field_transfer (f g : FieldTy) (hc : fieldCompatible f g = true) (v : FVal) (bs : List Nat)
    (h : encodeField f v = some bs) : encodeField g v = some bs := by
  cases f <;> cases g <;> try (cases hc; done)
  case prim.prim p q => exact of_decide_eq_true hc ▸ h
  case rep.rep a c =>
    cases v with
    | p => cases h
    | rep es =>
      obtain ⟨hn, h⟩ := Option.ite_none_right_eq_some.mp h
      obtain ⟨b, he, h⟩ := Option.map_eq_some_iff.mp h
      rw [encodeField, if_pos hn, elems_transfer a c hc es b he]
      exact congrArg some h

end SgVerif.C43
