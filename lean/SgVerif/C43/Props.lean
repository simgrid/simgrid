import SgVerif.C43.Lemmas
import SgVerif.C43.Gen
/-
C43 — checker and application agree on every transition.  Property theorems.
`appTable` / `checkerSchema` are GENERATED from the `serialize` bodies of the observers and from the channel
constructors of the transition classes (props/C43/gen.py): building this file re-checks the table as the source is now.
-/
namespace SgVerif.C43

/-- **Codec round trip**, generic: for every schema (any length, any nesting of member lists), every value the
application can pack, and whatever follows on the wire: unpacking with the same schema returns exactly the packed
values and leaves exactly what follows. -/
theorem codec_roundtrip_append (sch : List FieldTy) (vs : List FVal) (bs rest : List Nat)
    (h : encode sch vs = some bs) : decode sch (bs ++ rest) = some (vs, rest) := by
  induction sch generalizing vs bs with
  | nil =>
    cases vs with
    | nil => cases h; rfl
    | cons => cases h
  | cons f fs ih =>
    cases vs with
    | nil => cases h
    | cons v vs =>
      obtain ⟨a, b, ha, hb, rfl⟩ := encode_cons.mp h
      simp only [decode, List.append_assoc, field_roundtrip f v a (b ++ rest) ha, ih vs b hb]

theorem codec_roundtrip (sch : List FieldTy) (vs : List FVal) (bs : List Nat) (h : encode sch vs = some bs) :
    decode sch bs = some (vs, []) := by
  simpa using codec_roundtrip_append sch vs bs [] h

theorem compatible_transfer (a c : List FieldTy) (hc : compatible a c = true) (vs : List FVal) (bs : List Nat)
    (h : encode a vs = some bs) : encode c vs = some bs := by
  induction a generalizing c vs bs with
  | nil =>
    cases c with
    | nil => exact h
    | cons => cases hc
  | cons f fs ih =>
    cases c with
    | nil => cases hc
    | cons g gs =>
      obtain ⟨hf, hfs⟩ := Bool.and_eq_true_iff.mp hc
      cases vs with
      | nil => cases h
      | cons v vs =>
        obtain ⟨x, y, hx, hy, hb⟩ := encode_cons.mp h
        exact encode_cons.mpr ⟨x, y, field_transfer f g hf v x hx, ih gs hfs vs y hy, hb⟩

/-- **Agreement ⇒ the checker decodes what the application encoded** (same values, nothing left over, no blocking) -/
theorem agree_decodes (a c : List FieldTy) (hc : compatible a c = true) (vs : List FVal) (bs : List Nat)
    (h : encode a vs = some bs) : decode c bs = some (vs, []) :=
  codec_roundtrip c vs bs (compatible_transfer a c hc vs bs h)

/-- entry `e` of the generated table agrees with what the checker-side constructor of its kind unpacks -/
def agrees (e : Entry) : Bool :=
  match checkerSchema e.kind with
  | some c => !e.dies && compatible e.app c
  | none => false

/-
Full-strength statement (FALSE on the current code because of the message-queue observers, see below):
  theorem schemas_agree : ∀ e ∈ appTable, agrees e = true
-/
def excluded : List String := ["MessIputSimcall", "MessIgetSimcall"]

/-- entry `e`: the roles taken from the packed expressions describe its schema, and position by position they are the
roles of the members the checker-side constructor of its kind stores the unpacked values in -/
def rolesAgree (e : Entry) : Bool :=
  match checkerSchema e.kind, checkerRoles e.kind with
  | some c, some cr => rolesShape e.app e.roles && rolesShape c cr && rolesCompatible e.roles cr
  | _, _ => false

/-- the one evaluation of the generated table: both agreements for every entry outside the message-queue observers
(checked together, the checker-side schema of a kind is looked up once) -/
theorem table_agrees : ∀ e ∈ appTable, ¬ e.observer ∈ excluded → agrees e = true ∧ rolesAgree e = true := by
  decide +kernel

/-- Every (observer, kind) entry except the message-queue observers packs exactly what the checker-side constructor of
that kind unpacks (SEM_WAIT included since the repair of `sem-wait-capacity-signedness`). -/
theorem schemas_agree_partial : ∀ e ∈ appTable, ¬ e.observer ∈ excluded → agrees e = true :=
  fun e he hx => (table_agrees e he hx).1

/-- **End to end, every supported simcall kind**: for every entry of the generated table outside the message-queue
observers (the registered finding `messqueue-observers-serialised-as-comm`), every value list the application can pack
with that observer's `serialize`, the checker-side constructor of the entry's kind exists, consumes exactly the bytes
sent (nothing left, no blocking `receive`) and obtains exactly the packed values.  `schemas_agree_partial` (finite
table) + `agree_decodes` (generic, all values). -/
theorem supported_transition_decodes (e : Entry) (he : e ∈ appTable) (hx : ¬ e.observer ∈ excluded)
    (vs : List FVal) (bs : List Nat) (h : encode e.app vs = some bs) :
    ∃ c, checkerSchema e.kind = some c ∧ e.dies = false ∧ decode c bs = some (vs, []) := by
  have ha := schemas_agree_partial e he hx
  unfold agrees at ha
  cases hc : checkerSchema e.kind with
  | none => simp [hc] at ha
  | some c =>
    simp only [hc, Bool.and_eq_true, Bool.not_eq_true'] at ha
    exact ⟨c, rfl, ha.1, agree_decodes e.app c ha.2 vs bs h⟩

/-! ### roles: the n-th value means the same thing on both sides -/

/-- For every (observer, kind) entry outside the message-queue observers, the expression the
application packs at position n names the same thing (mutex, condvar, semaphore, barrier, comm, mailbox, owner, sender,
receiver, target, child, capacity, granted, timeout, tag, bounds, call location) as the member the checker stores the
n-th unpacked value in; for TESTANY / WAITANY, member kind by member kind.  Two fields of equal wire type that are
packed in one order and unpacked in the other make `schemas_agree_partial` hold and this theorem fail. -/
theorem roles_agree : ∀ e ∈ appTable, ¬ e.observer ∈ excluded → rolesAgree e = true :=
  fun e he hx => (table_agrees e he hx).2

/-- **End to end with roles**: as `supported_transition_decodes`, and moreover the member in which the checker stores
the n-th decoded value has the role of the n-th expression the application packed (for TESTANY / WAITANY: member kind
by member kind).  `supported_transition_decodes` + `roles_agree`. -/
theorem supported_transition_decodes_in_role (e : Entry) (he : e ∈ appTable) (hx : ¬ e.observer ∈ excluded)
    (vs : List FVal) (bs : List Nat) (h : encode e.app vs = some bs) :
    ∃ c cr, checkerSchema e.kind = some c ∧ checkerRoles e.kind = some cr ∧ decode c bs = some (vs, []) ∧
      rolesShape c cr = true ∧ rolesShape e.app e.roles = true ∧ rolesCompatible e.roles cr = true := by
  obtain ⟨c, hc, _, hd⟩ := supported_transition_decodes e he hx vs bs h
  have hr := roles_agree e he hx
  unfold rolesAgree at hr
  rw [hc] at hr
  cases hcr : checkerRoles e.kind with
  | none => simp [hcr] at hr
  | some cr =>
    simp only [hcr, Bool.and_eq_true] at hr
    exact ⟨c, cr, hc, rfl, hd, hr.1.2, hr.1.1, hr.2⟩

/-- sanity of the definition on the witness shape of the class: CONDVAR_WAIT packed as (mutex, cond, granted, timeout)
has the right types and the wrong roles -/
theorem roles_swapped_rejected :
    let e : Entry := { app_ConditionVariableObserver_CONDVAR_WAIT with
                       roles := [.prim "mutex", .prim "cond", .prim "granted", .prim "timeout"] }
    agrees e = true ∧ rolesAgree e = false := by decide

-- non-vacuity: CONDVAR_WAIT has two fields of the same wire type with different roles; a constant is the only wildcard
example : app_ConditionVariableObserver_CONDVAR_WAIT.roles = [.prim "cond", .prim "mutex", .prim "granted", .prim "timeout"] ∧
    app_ConditionVariableObserver_CONDVAR_WAIT.app = [.prim .u32, .prim .u32, .prim .bool, .prim .bool] := by decide
example : roleOk "_const" "granted" = true ∧ roleOk "granted" "_const" = false ∧ roleOk "mutex" "cond" = false := by decide

-- non-vacuity: a MUTEX_WAIT message (mutex 7, owner 3) is an entry of the table, outside the exclusion, and encodes
example : app_MutexAcquisitionObserver_MUTEX_WAIT ∈ appTable := by simp [appTable]
example : ¬ app_MutexAcquisitionObserver_MUTEX_WAIT.observer ∈ excluded ∧
    (encode app_MutexAcquisitionObserver_MUTEX_WAIT.app [.p (.nat 7), .p (.int 3)]).isSome = true := by decide

/-- D14: `MessIputSimcall::serialize` packs two pointers under the COMM_ASYNC_SEND tag, `CommSendTransition` unpacks
`unsigned, unsigned, int, std::string` -/
theorem schemas_agree_counterexample_mess_put : agrees app_MessIputSimcall_COMM_ASYNC_SEND = false := by decide
theorem schemas_agree_counterexample_mess_get : agrees app_MessIgetSimcall_COMM_ASYNC_RECV = false := by decide

/-- what happens on the wire for typical heap pointers: after `comm_`, `mbox_`, `tag_` have eaten 12 of the 16 bytes the
checker takes bytes 4–5 of the queue pointer as a string length (0x7ffc = 32764) and waits for 32765 bytes that
never come (`none` = `receive` blocks): verification hangs. -/
theorem mess_put_blocks :
    (do let bs ← encode app_MessIputSimcall_COMM_ASYNC_SEND.app [.p (.nat 0x55d0c0a81230), .p (.nat 0x7ffc12345678)]
        let c ← checkerSchema 10
        pure (decode c bs)) = some none := by decide

/-- what `SemaphoreAcquisitionObserver::serialize` packed for SEM_WAIT BEFORE the repair of
`sem-wait-capacity-signedness` (`channel.pack(get_capacity())`, an `unsigned`), kept as a literal for the regression
statements below; it now packs `pack<int>`: `[u32, bool, i32]`, what `SemaphoreTransition` unpacks. -/
def oldSemWaitApp : List FieldTy := [.prim .u32, .prim .bool, .prim .u32]

/-- **Regression (`sem-wait-capacity-signedness`).**  The old schema did not agree with the checker's (unsigned vs int),
the generated one does. -/
theorem schemas_agree_counterexample_sem_wait :
    (checkerSchema 22).map (compatible oldSemWaitApp) = some false ∧
    agrees app_SemaphoreAcquisitionObserver_SEM_WAIT = true := by decide
/-- same byte layout (so no hang) ... -/
theorem sem_wait_same_layout : (checkerSchema 22).map (sameLayout oldSemWaitApp) = some true := by decide
/-- ... but a capacity ≥ 2^31 sent as unsigned was read back as another value; with the repaired schema the checker
decodes exactly the (int) value the application packs. -/
theorem sem_wait_misread :
    (do let bs ← encode oldSemWaitApp [.p (.nat 7), .p (.bool true), .p (.nat 3000000000)]
        let c ← checkerSchema 22
        decode c bs) = some ([.p (.nat 7), .p (.bool true), .p (.int (-1294967296))], []) ∧
    (do let bs ← encode app_SemaphoreAcquisitionObserver_SEM_WAIT.app [.p (.nat 7), .p (.bool true), .p (.int (-1294967296))]
        let c ← checkerSchema 22
        decode c bs) = some ([.p (.nat 7), .p (.bool true), .p (.int (-1294967296))], []) := by decide

-- non-vacuity: a WAITANY message with two members round-trips through the checker-side schema
example :
    (do let bs ← encode app_ActivityWaitanySimcall_WAITANY.app
                  [.rep [(13, [.bool false, .nat 5, .int 2, .int (-1), .nat 3, .str [97, 98]]), (29, [])], .p (.str [120])]
        let c ← checkerSchema 6
        decode c bs) =
    some ([.rep [(13, [.bool false, .nat 5, .int 2, .int (-1), .nat 3, .str [97, 98]]), (29, [])], .p (.str [120])], []) := by
  decide
example : agrees app_ActivityWaitanySimcall_WAITANY = true := by decide

end SgVerif.C43
