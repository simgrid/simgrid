import SgVerif.TimeCore.Exact
/-
C12 — Timed waits are exact.
Model: SgVerif/TimeCore/Model.lean (ActivityImpl::wait_for / wait_any_for / test / cancel, Timer, EngineImpl::solve).

Full statement `wait_for_exact`: *wait_for(tau) called at t0 on an exec, comm, I/O or mess raises a timeout at exactly
t0+tau iff the activity has not completed by t0+tau; a completion at the deadline counts as completed.*
It is proved as its components, each for every kernel state, glued over runs by the date and registration invariants
(the actor is registered nowhere else, the timer and `timeout_cb_` point to each other, no pending timer is in the
past, callbacks run at exactly their date).
"completed by the deadline" is the kernel's notion: the activity's action is FINISHED when `Timer::execute_all` runs
(`update_actions_state` runs before).  A message whose put is executed by an actor woken at the deadline's date is
matched in a later scheduling round of that date, i.e. after the timer: the wait times out (corpus case).
-/
namespace SgVerif.C12
open SgVerif.TimeCore

/-- **wait_for_exact / the deadline**: `wait_for(tau)`, `tau ≥ 0`, on an unfinished activity registers the simcall once
and sets ONE timer at exactly `now + tau`. -/
theorem wait_for_sets_deadline (now : Rat) (k : K) (a i : Nat) (tau : Rat)
    (ha : a < k.actors.length) (hi : i < k.impls.length)
    (hst : (k.impl i).st = .waiting ∨ (k.impl i).st = .running) (htau : 0 ≤ tau) :
    let k' := k.handle now a (.waitFor i tau)
    k'.timers = k.timers ++ [{ id := k.nextT, date := now + tau, cb := .wto a i }] ∧
    (k'.actor a).tcb = some k.nextT ∧
    (k'.impl i).simcalls = (k.impl i).simcalls ++ [a] ∧
    (k'.actor a).waiting = (k.actor a).waiting ++ [i] ∧
    k'.toRun = k.toRun ∧ k'.heap = k.heap := by
  have hx : k.actors[a]? = some k.actors[a] := List.getElem?_eq_getElem ha
  have hy : k.impls[i]? = some k.impls[i] := List.getElem?_eq_getElem hi
  simp only [K.impl, List.getD_eq_getElem?_getD, hy, Option.getD_some] at hst
  have ht : (tau ≥ 0) := htau
  rcases hst with h | h <;>
    simp [K.handle, K.register, K.timerSet, K.actor, K.impl, K.setActor, K.setImpl, getElem?_upd_same, hx, hy, h, ht]

theorem wait_without_timeout_no_timer (now : Rat) (k : K) (a i : Nat) (tau : Rat) (hi : i < k.impls.length)
    (hst : (k.impl i).st = .waiting ∨ (k.impl i).st = .running) (htau : tau < 0) :
    (k.handle now a (.waitFor i tau)).timers = k.timers := by
  have hy : k.impls[i]? = some k.impls[i] := List.getElem?_eq_getElem hi
  simp only [K.impl, List.getD_eq_getElem?_getD, hy, Option.getD_some] at hst
  have ht : ¬ (tau ≥ 0) := by grind
  rcases hst with h | h <;>
    simp [K.handle, K.register, K.impl, K.setActor, K.setImpl, getElem?_upd_same, hy, h, ht]

/-- the timeout of a wait (wait_for, wait_any_for) never fires before its date: all programs, tie resolutions, fuel -/
theorem timeout_never_early (progs : List (List Op)) (ties : List Nat) (fuel : Nat) :
    ∀ x ∈ (run fuel (initSt progs ties)).fired, x.2.date ≤ x.1 :=
  fun x hx => (run_sinv fuel _ (initSt_sinv progs ties)).fired x hx ▸ Rat.le_refl

/-- … and the clock never jumps over it: from any state, one maestro iteration stops at the earliest pending timer -/
theorem clock_never_skips_deadline (s : St) (t : Timer) (ht : t ∈ s.k.timers) (hf : s.now ≤ t.date) :
    (outer s).now ≤ t.date := outer_now_le_timer s t ht hf

/-- **completion_at_deadline_counts**: the callback's FINISHED/FAILED test.  When the timer fires and the action of the
activity has finished — in particular at this very date — nothing happens: no timeout, the actor stays registered and
is answered normally by `handle_ended_actions` right after the timers. -/
theorem completion_at_deadline_counts (k : K) (id : Nat) (date : Rat) (a i : Nat)
    (hfin : (k.impl i).act = .finished ∨ (k.impl i).act = .failed) :
    (k.fire { id := id, date := date, cb := .wto a i }).toRun = k.toRun ∧
    (k.fire { id := id, date := date, cb := .wto a i }).impls = k.impls ∧
    (k.fire { id := id, date := date, cb := .wto a i }).bad = k.bad := by
  rw [fire_wto_finished_eq k { id := id, date := date, cb := .wto a i } a i rfl hfin]; exact ⟨rfl, rfl, rfl⟩

/-- **timeout_when_not_completed**: otherwise the wait times out now: unregistered, result "timeout", scheduled. -/
theorem timeout_when_not_completed (k : K) (id : Nat) (date : Rat) (a i : Nat) (ha : a < k.actors.length)
    (hi : i < k.impls.length)
    (hrun : (k.impl i).act ≠ .finished ∧ (k.impl i).act ≠ .failed) (hb : (k.actor a).blocked = true) :
    let k' := k.fire { id := id, date := date, cb := .wto a i }
    k'.toRun = k.toRun ++ [a] ∧ (k'.actor a).res = .timeout ∧ (k'.actor a).blocked = false ∧
    (k'.impl i).simcalls = (k.impl i).simcalls.erase a ∧ (k'.actor a).waiting = (k.actor a).waiting.erase i ∧
    (k'.actor a).tcb = none ∧ k'.bad = k.bad := fire_wto_timeout k _ a i rfl ha hi hrun hb

/-- **wait_for_or_cancel_cancels**: the `cancel()` made after the timeout removes the action from its heap at once (it
never completes; the private resource is free for the next activity — the harness re-uses it), queues it as failed
and the activity becomes CANCELED. -/
theorem wait_for_or_cancel_cancels (k : K) (i : Nat) (hi : i < k.impls.length)
    (hk : (k.impl i).kind = .exec ∨ (k.impl i).kind = .io) (hact : (k.impl i).act = .started) :
    let k' := k.cancel i
    (∀ e ∈ k'.heap, e.impl ≠ i) ∧ i ∈ k'.failedQ ∧ (k'.impl i).st = .canceled ∧ (k'.impl i).act = .failed ∧
    k'.toRun = k.toRun ∧ k'.timers = k.timers := by
  have hy : k.impls[i]? = some k.impls[i] := List.getElem?_eq_getElem hi
  simp only [K.impl, List.getD_eq_getElem?_getD, hy, Option.getD_some] at hk hact
  rcases hk with h | h <;>
    simp [K.cancel, K.impl, K.setImpl, getElem?_upd_same, hy, h, hact]

/-- **wait_any_for_spec / at the deadline**: the timer callback of `wait_any_for` has no "finished right on time"
test: at the deadline the actor is answered with the timeout whatever the state of the activities.  So an activity
that completes exactly AT the deadline is not returned (it is then simply finished: a later `test` is true) — which the
property allows: it demands the activities "completed BEFORE the deadline", and otherwise a return "at the deadline".
Those, completed before the deadline, are returned when they complete (`timeout_never_early`: the timer has not
fired yet; `K.finish` answers the registered actor with the rank). -/
theorem wait_any_for_timeout_at_deadline (k : K) (id : Nat) (date : Rat) (a : Nat) (is : List Nat)
    (ha : a < k.actors.length) (hb : (k.actor a).blocked = true) :
    let k' := k.fire { id := id, date := date, cb := .wany a is }
    k'.toRun = k.toRun ++ [a] ∧ (k'.actor a).res = .timeout ∧ (k'.actor a).blocked = false ∧ k'.bad = k.bad :=
  fire_wany_timeout k _ a is rfl ha hb

/-! Run level: `run fuel (initSt progs ties)` ranges over all programs, tie resolutions and fuels. -/

/-- the timeout of a wait fires at EXACTLY its date (never early, never late): every run -/
theorem timeout_exact (progs : List (List Op)) (ties : List Nat) (fuel : Nat) :
    ∀ x ∈ (run fuel (initSt progs ties)).fired, x.1 = x.2.date :=
  (run_sinv fuel _ (initSt_sinv progs ties)).fired

/-- **wait_for_exact** (run level).  In EVERY reachable state, for every pending timeout timer `t` of a `wait_for`
made by a non-dying actor `a` on activity `i` (the timer was created by `wait_for_sets_deadline` with date exactly
`t0 + tau`, and `timeout_exact`: it is executed at exactly that date):
* the deadline has not passed; `a` is blocked in that simcall, registered on exactly `[i]` — once — and its
  `timeout_cb_` is this timer (so the wait can only end by the completion of `i`, by this timer, or by a kill);
* when `Timer::execute_all` pops it: if the action of `i` has FINISHED or FAILED — a completion at the deadline's
  date counts, `update_actions_state` ran before — NO timeout is raised, `a` stays blocked and registered on `[i]` and
  is answered normally by `handle_ended_actions`; otherwise the wait times out NOW: result `timeout`, `a` scheduled,
  registered nowhere, no timer left.  The invariant still holds afterwards. -/
theorem wait_for_exact (progs : List (List Op)) (ties : List Nat) (fuel : Nat) (j : Nat) (t : Timer) (a i : Nat)
    (ht : (run fuel (initSt progs ties)).k.timers[j]? = some t) (hcb : t.cb = .wto a i)
    (hwd : ((run fuel (initSt progs ties)).k.actor a).wannadie = false) :
    let s := run fuel (initSt progs ties)
    let k' := ({ s.k with timers := removeNth s.k.timers j } : K).fire t
    (s.now ≤ t.date ∧ (s.k.actor a).blocked = true ∧ (s.k.actor a).waiting = [i] ∧
      (s.k.actor a).tcb = some t.id ∧ (s.k.impl i).simcalls.count a = 1) ∧
    (((s.k.impl i).act = .finished ∨ (s.k.impl i).act = .failed) →
        k'.toRun = s.k.toRun ∧ (k'.actor a).blocked = true ∧ (k'.actor a).waiting = [i] ∧
        (k'.actor a).res = (s.k.actor a).res ∧ (k'.actor a).tcb = none) ∧
    (((s.k.impl i).act ≠ .finished ∧ (s.k.impl i).act ≠ .failed) →
        k'.toRun = s.k.toRun ++ [a] ∧ (k'.actor a).res = .timeout ∧ (k'.actor a).blocked = false ∧
        (k'.actor a).waiting = [] ∧ a ∉ (k'.impl i).simcalls ∧ (k'.actor a).tcb = none) ∧
    RegInv k' := by
  obtain ⟨h, d⟩ := reachable_inv progs ties fuel
  obtain ⟨p1, p2, _, p4, p5, p6, _, _⟩ := wto_timer_spec h d t a i (List.mem_of_getElem? ht) hcb hwd
  obtain ⟨q1, q2, q3⟩ := wto_fire_spec h d j t a i ht hcb hwd
  exact ⟨⟨p1, p2, p4, p5, p6⟩, q2, q3, q1⟩

/-- **wait_any_for_spec** (run level).  In every reachable state, for every pending timeout timer of a
`wait_any_for` over `is` made by a non-dying actor `a`: the deadline has not passed, `a` is blocked in that simcall
(`anyList = is`), registered on a sub-multiset of `is` (the activities registered before a finished one was found —
all of them if none was), and when the timer is executed — at exactly the deadline, `timeout_exact` — `a` is answered
with the timeout, whatever the state of the activities (`wait_any_for_timeout_at_deadline`), and is then registered
nowhere.  An activity of the set that completes BEFORE the deadline answers `a` when it completes
(`K.finish` → `unregister_first_simcall`, which removes this timer: `no_stale_timeout` below). -/
theorem wait_any_for_spec (progs : List (List Op)) (ties : List Nat) (fuel : Nat) (j : Nat) (t : Timer) (a : Nat)
    (is : List Nat) (ht : (run fuel (initSt progs ties)).k.timers[j]? = some t) (hcb : t.cb = .wany a is)
    (hwd : ((run fuel (initSt progs ties)).k.actor a).wannadie = false) :
    let s := run fuel (initSt progs ties)
    let k' := ({ s.k with timers := removeNth s.k.timers j } : K).fire t
    (s.now ≤ t.date ∧ (s.k.actor a).blocked = true ∧ (s.k.actor a).anyList = is ∧
      (∀ i, (s.k.actor a).waiting.count i ≤ is.count i) ∧ (s.k.actor a).tcb = some t.id) ∧
    k'.toRun = s.k.toRun ++ [a] ∧ (k'.actor a).res = .timeout ∧ (k'.actor a).blocked = false ∧
    ((k'.actor a).wannadie = false → (k'.actor a).waiting = [] ∧ ∀ i, a ∉ (k'.impl i).simcalls) ∧ RegInv k' := by
  obtain ⟨h, d⟩ := reachable_inv progs ties fuel
  obtain ⟨p1, p2, _, p4, p5, p6, _⟩ := wany_timer_spec h d t a is (List.mem_of_getElem? ht) hcb hwd
  obtain ⟨q1, q2, q3, q4, q5⟩ := wany_fire_spec h d j t a is ht hcb hwd
  exact ⟨⟨p1, p2, p4, p5, p6⟩, q2, q3, q4, q5, q1⟩

/-- **no_stale_timeout** (run level): an actor that is not blocked in a handled simcall has no timeout timer pending —
a wait that ended by completion removed its timer (`unregister_first_simcall`), so no timeout can fire later on
another simcall of the same actor. -/
theorem no_stale_timeout (progs : List (List Op)) (ties : List Nat) (fuel : Nat) (a : Nat)
    (hwd : ((run fuel (initSt progs ties)).k.actor a).wannadie = false)
    (hid : ((run fuel (initSt progs ties)).k.actor a).idle = true) :
    ((run fuel (initSt progs ties)).k.actor a).tcb = none ∧
    ∀ t ∈ (run fuel (initSt progs ties)).k.timers, cbActor t.cb ≠ some a :=
  let r := (reachable_registration progs ties fuel a hwd).2.1 hid
  ⟨r.2.1, r.2.2⟩

/-- the deadline of a pending timeout is never passed: every run -/
theorem deadline_never_passed (progs : List (List Op)) (ties : List Nat) (fuel : Nat) :
    ∀ t ∈ (run fuel (initSt progs ties)).k.timers, (run fuel (initSt progs ties)).now ≤ t.date :=
  (run_sinv fuel _ (initSt_sinv progs ties)).d.tim

/-- the fixed `wait_for` on a waiting message: one timer, the actor registered once; after its firing nothing is left
(the old double registration leaves a stale registration: `wait_for_double_registration_regression`) -/
example : kNew.timers = [{ id := 0, date := 0 + 0, cb := .wto 0 0 }] ∧ (kNew.actor 0).wannadie = false := by
  simp [kNew, kReg0, K.handle, K.register, K.setImpl, K.setActor, K.actor, K.impl, upd, K.timerSet]

/-- a state satisfying the registration invariant with a pending `wait_for` timer of a non-dying actor; popping and
firing it keeps the invariant (`fire_reg`) -/
example : RegInv kNew ∧ kNew.timers[0]? = some { id := 0, date := 0 + 0, cb := .wto 0 0 } ∧
    (kNew.actor 0).wannadie = false ∧ RegInv kNewFired :=
  ⟨kNew_reg, kNew_shape.2.2.2, kNew_shape.2.2.1, fire_reg kNew 0 _ kNew_reg kNew_shape.2.2.2⟩

example : (kNewFired.actor 0).waiting = [] ∧ ¬ RegInv kOldFired :=
  ⟨kNewFired_clean.1, wait_for_double_registration_regression⟩

/-- a timer whose date is the clock is executed and recorded: the `fired` trace is not vacuous -/
example (s : St) (t : Timer) (h : s.k.timers = [t]) (hd : t.date = s.now) :
    (execAll 1 s false).1.fired = s.fired ++ [(s.now, t)] := by
  have : ¬ (s.now < s.now) := Rat.lt_irrefl
  simp [execAll, h, hd, minDate, pick, List.range, List.range.loop, this]

example : ((run 0 (initSt [[.waitFor 0 1]] [])).k.actor 0).wannadie = false ∧
    ((run 0 (initSt [[.waitFor 0 1]] [])).k.actor 0).idle = true := by
  simp [run, initSt, K.actor, Actor.idle]

def kEx : K := { impls := [{ kind := .exec, st := .running, act := .started, simcalls := [0] }],
                 actors := [{ prog := [], blocked := true, waiting := [0] }] }

example : 0 < kEx.actors.length ∧ 0 < kEx.impls.length ∧ (kEx.impl 0).st = .running ∧ (kEx.actor 0).blocked = true ∧
    ((kEx.impl 0).act ≠ .finished ∧ (kEx.impl 0).act ≠ .failed) ∧ (kEx.impl 0).kind = .exec ∧
    (kEx.impl 0).act = .started := by decide

example : ((kEx.setImpl 0 (fun x => { x with act := .finished })).impl 0).act = .finished := by decide

end SgVerif.C12
