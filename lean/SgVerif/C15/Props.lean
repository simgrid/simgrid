/-
C15 — sharing solvers never exceed capacities.  Theorems about the model lean/SgVerif/Lmm/Model.lean
(invariant and its preservation: lean/SgVerif/Lmm/Lemmas.lean; what holds of the returned state: `solve_inv`,
lean/SgVerif/Lmm/Fair.lean).

All theorems quantify over every system `S` (any number of constraints, variables, elements; any rationals) that is
well formed (`WF`: positive capacities, enabled elements have positive penalty and non-negative weight, the
per-constraint and per-variable element views carry the same weights), every initial value table and every fuel.
`eps = 0` is the exact-arithmetic reading of `sg_precision_workamount` (see `dblEq` in the model).
-/
import SgVerif.Lmm.Lemmas
import SgVerif.Lmm.Termination
import SgVerif.Lmm.Fair
import SgVerif.Lmm.FbLemmas
import SgVerif.Lmm.Eps
namespace SgVerif.C15
open SgVerif.Lmm

/-- load of a summing constraint as `Constraint::get_load` computes it = Σ w·value -/
theorem load_shared (S : Sys) (val : Nat → Rat) (c : Nat) (hf : (S.cnst c).fatpipe = false) :
    load S val c = sumBy (fun e => if 0 < e.2 then e.2 * val e.1 else 0) (S.cnst c).elems :=
  load_eq_sumBy S val c hf

/-- **C15, maxmin, exact arithmetic.**  Whenever `maxmin_solve` returns (the model ran out of neither fuel nor
assertions), for every active constraint the load computed as `get_load()` does — the weighted *sum* of the rates for a
summing constraint, the weighted *max* for a FATPIPE one — is at most the capacity; every variable of an enabled
element set has a rate ≥ 0 and ≤ its bound when it has one; and a variable that is in no enabled element set
(disabled, suspended, or without constraint) keeps the value it had (0 after `disable_var`). -/
theorem maxmin_feasible (S : Sys) (hwf : WF S) (val0 : Nat → Rat) (fuel : Nat) (st : St)
    (h : maxminSolve S 0 fuel val0 = some st) :
    (∀ c ∈ S.active, load S st.value c ≤ (S.cnst c).bound) ∧
    (∀ c ∈ S.active, ∀ e ∈ (S.cnst c).elems,
      0 ≤ st.value e.1 ∧ (0 < (S.var e.1).bound → st.value e.1 ≤ (S.var e.1).bound)) ∧
    (∀ v, (∀ c ∈ S.active, ∀ e ∈ (S.cnst c).elems, e.1 ≠ v) → st.value v = val0 v) := by
  obtain ⟨sv, M, hR, _, _, hfr⟩ := solve_inv S hwf val0 fuel st h
  refine ⟨fun c hc => hR.g.cap hwf hc, fun c hc e he => ?_, hfr⟩
  cases hfx : st.fixed e.1 with
  | false =>
    rw [hR.g.val0 c hc e he hfx]
    exact ⟨le_refl 0, fun hb => le_of_lt hb⟩
  | true => exact ⟨le_of_lt (hR.g.valpos e.1 hfx), hR.g.valb e.1 hfx⟩

/-- c0: SHARED, capacity 10, elements v2 (w 1), v1 (w 1), v0 (w 1);  c1: FATPIPE, capacity 4, elements v2 (w 2), v1 (w 1);
v0: penalty 1, bound 1;  v1: penalty 1, no bound;  v2: penalty 2, no bound -/
def exSys : Sys :=
  { cnst := fun c => if c = 0 then { bound := 10, fatpipe := false, elems := [(2, 1), (1, 1), (0, 1)] }
                     else if c = 1 then { bound := 4, fatpipe := true, elems := [(2, 2), (1, 1)] }
                     else { bound := 0, fatpipe := false, elems := [] },
    var := fun v => if v = 0 then { penalty := 1, bound := 1, cnsts := [(0, 1)] }
                    else if v = 1 then { penalty := 1, bound := -1, cnsts := [(0, 1), (1, 1)] }
                    else if v = 2 then { penalty := 2, bound := -1, cnsts := [(0, 1), (1, 2)] }
                    else { penalty := 0, bound := -1, cnsts := [] },
    active := [0, 1], vorder := [2, 1, 0] }

theorem exSys_wf : WF exSys :=
  WF.of_table exSys 3 (fun _ => ⟨le_refl _, rfl⟩) (by decide +kernel)

/-- the hypotheses of `maxmin_feasible` are satisfiable: the solver returns on `exSys` (bound round for v0, then the
FATPIPE constraint saturates v1/v2 … ) with values v0 = 1, v1 = 4, v2 = 2 -/
example : (maxminSolve exSys 0 4 (fun _ => 0)).map (fun st => (st.value 0, st.value 1, st.value 2)) = some (1, 4, 2) := by
  decide +kernel

/-- DESIGN §9-D2: one FATPIPE constraint of capacity 10, variable 0 bounded by 1, variable 1 unbounded (weights 1,
penalties 1; `enabled_element_set_` order = [v1, v0], `variable_set` order = [v1, v0]) -/
def d2Sys : Sys :=
  { cnst := fun c => if c = 0 then { bound := 10, fatpipe := true, elems := [(1, 1), (0, 1)] }
                     else { bound := 0, fatpipe := false, elems := [] },
    var := fun v => if v = 0 then { penalty := 1, bound := 1, cnsts := [(0, 1)] }
                    else if v = 1 then { penalty := 1, bound := -1, cnsts := [(0, 1)] }
                    else { penalty := 0, bound := -1, cnsts := [] },
    active := [0], vorder := [1, 0] }

theorem d2Sys_wf : WF d2Sys :=
  WF.of_table d2Sys 2 (fun _ => ⟨le_refl _, rfl⟩) (by decide +kernel)

/-
Full-strength statement — FALSE on the current code:
  theorem fb_feasible (S) (hwf : WF S) (val0 fuel st) (h : fbSolve S 0 fuel val0 = some st) :
      ∀ c ∈ S.active, load S st.value c ≤ (S.cnst c).bound
In `FairBottleneck::do_solve` the FATPIPE branch of the third loop does `usage_ = min(usage_, w * mu)` over the
elements and subtracts that *minimum* increment from remaining_, while the rate of every still-growing variable may
have grown by up to the *previous* remaining_: the capacity left is over-estimated as soon as the increments differ
(a variable stopped by its bound, or by another constraint).
-/

/-- the counterexample (by kernel evaluation of the model on the concrete witness): FairBottleneck gives the
unbounded variable the rate 55 = 10 + 9 + … + 1 on a FATPIPE constraint of capacity 10 -/
theorem fb_feasible_counterexample :
    ∃ st, fbSolve d2Sys 0 12 (fun _ => 0) = some st ∧ st.value 0 = 1 ∧ st.value 1 = 55 ∧
      (d2Sys.cnst 0).bound < load d2Sys st.value 0 := by
  have h : (fbSolve d2Sys 0 12 (fun _ => 0)).map (fun st => (st.value 0, st.value 1, load d2Sys st.value 0)) = some (1, 55, 55) := by
    decide +kernel
  obtain ⟨st, hs, hv⟩ := Option.map_eq_some_iff.mp h
  simp only [Prod.mk.injEq] at hv
  refine ⟨st, hs, hv.1, hv.2.1, ?_⟩
  rw [hv.2.2]; show (10 : Rat) < 55; norm_num

/-- **`fb_feasible_partial`: FairBottleneck on systems without FATPIPE constraints, exact arithmetic (eps = 0), any
variable bounds.**  Whenever `FairBottleneck::do_solve` returns, the weighted sum of the rates on every active
constraint is at most its capacity, and every consumer has a rate in [0, bound].  The excluded case (an active FATPIPE
constraint) is exactly `fb_feasible_counterexample`.  `WFV`: every enabled element's variable is in `variable_set` and
the element is also in its variable's `cnsts_`; `variable_set` lists each variable once.
Invariant (Lmm/FbLemmas.lean, `FbInv`): `0 ≤ remaining_ c ≤ bound c − Σ w·value`; the growing consumers of `c` get
together at most `nb · usage_ c = remaining_ c` in one pass.  The precision plays no part in the argument: this is the case
`eps = 0` of `Lmm.fb_feasible_shared`, which holds for every `eps ≥ 0`. -/
theorem fb_feasible_partial (S : Sys) (hwf : WF S) (hwv : WFV S) (hvo : S.vorder.Nodup)
    (hsh : ∀ c ∈ S.active, (S.cnst c).fatpipe = false)
    (val0 : Nat → Rat) (fuel : Nat) (st : FbSt) (h : fbSolve S 0 fuel val0 = some st) :
    (∀ c ∈ S.active, load S st.value c ≤ (S.cnst c).bound) ∧
    (∀ c ∈ S.active, ∀ e ∈ (S.cnst c).elems, 0 < e.2 →
       0 ≤ st.value e.1 ∧ (0 < (S.var e.1).bound → st.value e.1 ≤ (S.var e.1).bound)) :=
  fb_feasible_shared S hwf hwv hvo hsh 0 (le_refl 0) val0 fuel st h

/-- non-vacuity: two summing constraints (capacities 10 and 2), three variables, one bounded:
c0 = {v0 (bound 1), v1 (penalty 2), v2}, c1 = {v2} -/
def shSys : Sys :=
  { cnst := fun c => if c = 0 then { bound := 10, fatpipe := false, elems := [(2, 1), (1, 1), (0, 1)] }
                     else if c = 1 then { bound := 2, fatpipe := false, elems := [(2, 1)] }
                     else { bound := 0, fatpipe := false, elems := [] },
    var := fun v => if v = 0 then { penalty := 1, bound := 1, cnsts := [(0, 1)] }
                    else if v = 1 then { penalty := 2, bound := -1, cnsts := [(0, 1)] }
                    else if v = 2 then { penalty := 1, bound := -1, cnsts := [(0, 1), (1, 1)] }
                    else { penalty := 0, bound := -1, cnsts := [] },
    active := [0, 1], vorder := [2, 1, 0] }

theorem shSys_wf : WF shSys :=
  WF.of_table shSys 3 (fun _ => ⟨le_refl _, rfl⟩) (by decide +kernel)

theorem shSys_wfv : WFV shSys := ⟨by decide, by decide⟩

/-- FairBottleneck returns on `shSys` (which meets every hypothesis of `fb_feasible_partial`): v0 = 1, v1 = 7, v2 = 2,
loads 10 and 2 -/
example : (fbSolve shSys 0 4 (fun _ => 0)).map
    (fun st => (st.value 0, st.value 1, st.value 2, load shSys st.value 0, load shSys st.value 1)) = some (1, 7, 2, 10, 2) := by
  decide +kernel

example : shSys.vorder.Nodup ∧ ∀ c ∈ shSys.active, (shSys.cnst c).fatpipe = false :=
  by decide

/-- on the same system maxmin is feasible (instance of `maxmin_feasible`): 1 and 10 -/
example : (maxminSolve d2Sys 0 4 (fun _ => 0)).map (fun st => (st.value 0, st.value 1)) = some (1, 10) := by
  decide +kernel

/-
Full-strength statement planned in DESIGN §8 — FALSE on the current code:
  theorem maxmin_feasible_eps (S) (hwf : WF S) (eps) (h0 : 0 ≤ eps) (val0 fuel st)
      (h : maxminSolve S eps fuel val0 = some st) :
      ∀ c ∈ S.active, (S.cnst c).fatpipe = false → load S st.value c ≤ (S.cnst c).bound + eps * initUsage S c
(DESIGN argued "`double_update` only clamps down, so it never hurts".)  It does hurt: when `double_update` clamps
`usage_` (below `eps`) or `remaining_` (below `bound·eps`) to 0 the constraint is taken out of `cnst_light_tab` although
some of its consumers are not fixed yet; these consumers are then only limited by their *other* constraints, and the
load of the dropped constraint is bounded by no function of `eps` and its own data.  `maxmin_feasible_eps_counterexample`
below; replayed on the real library (corpus case `epsA`, finding `maxmin-precision-drops-constraint`).
What does hold for every `0 ≤ eps < 1` is `maxmin_var_bounds_eps` below (rates in [0, bound]); at `eps = 0`,
`maxmin_feasible`.
-/

/-- c0: SHARED capacity 1, consumers v0 (w 1) and v1 (w 2⁻¹⁸ < eps); c1: capacity 1/2, consumer v0; c2: capacity 2³⁰,
consumer v1 (w 1).  Penalties 1, no variable bound.  (`enabled_element_set_` orders as dumped by the harness.) -/
def epsSys : Sys :=
  { cnst := fun c => if c = 0 then { bound := 1, fatpipe := false, elems := [(1, 1/262144), (0, 1)] }
                     else if c = 1 then { bound := 1/2, fatpipe := false, elems := [(0, 1)] }
                     else if c = 2 then { bound := 1073741824, fatpipe := false, elems := [(1, 1)] }
                     else { bound := 0, fatpipe := false, elems := [] },
    var := fun v => if v = 0 then { penalty := 1, bound := -1, cnsts := [(0, 1), (1, 1)] }
                    else if v = 1 then { penalty := 1, bound := -1, cnsts := [(0, 1/262144), (2, 1)] }
                    else { penalty := 0, bound := -1, cnsts := [] },
    active := [0, 1, 2], vorder := [1, 0] }

theorem epsSys_wf : WF epsSys :=
  WF.of_table epsSys 2 (fun _ => ⟨le_refl _, rfl⟩) (by decide +kernel)

/-- **counterexample to feasibility "up to the configured precision"** (kernel evaluation of the model at the default
`precision/work-amount` 10⁻⁵ on a well-formed system): c1 fixes v0 = 1/2; `double_update` then clamps `usage_` of c0
(2⁻¹⁸ < 10⁻⁵) to 0 and c0 leaves the light table with v1 unfixed; v1 gets 2³⁰ from c2: the load of c0 is 4096.5 for a
capacity of 1.  At `eps = 0` the same system gets v1 = 2¹⁷ and load exactly 1 (`maxmin_feasible`). -/
theorem maxmin_feasible_eps_counterexample :
    ∃ st, maxminSolve epsSys (1 / 100000) 5 (fun _ => 0) = some st ∧ st.value 0 = 1 / 2 ∧ st.value 1 = 1073741824 ∧
      4096 * (epsSys.cnst 0).bound < load epsSys st.value 0 := by
  have h : (maxminSolve epsSys (1 / 100000) 5 (fun _ => 0)).map
      (fun st => (st.value 0, st.value 1, load epsSys st.value 0)) = some (1 / 2, 1073741824, 8193 / 2) := by
    decide +kernel
  obtain ⟨st, hs, hv⟩ := Option.map_eq_some_iff.mp h
  simp only [Prod.mk.injEq] at hv
  refine ⟨st, hs, hv.1, hv.2.1, ?_⟩
  rw [hv.2.2]; show 4096 * (1 : Rat) < 8193 / 2; norm_num

/-- the same system in exact arithmetic: v1 = 2¹⁷, load of c0 = 1 -/
example : (maxminSolve epsSys 0 5 (fun _ => 0)).map
    (fun st => (st.value 0, st.value 1, load epsSys st.value 0)) = some (1 / 2, 131072, 1) := by
  decide +kernel

/-- c0: SHARED capacity 1, consumers v0 (penalty 2⁻²⁰, bound 1/4) and v1 (penalty 2⁻²⁰, **no bound**: `bound_ = -1`) -/
def negSys : Sys :=
  { cnst := fun c => if c = 0 then { bound := 1, fatpipe := false, elems := [(1, 1), (0, 1)] }
                     else { bound := 0, fatpipe := false, elems := [] },
    var := fun v => if v = 0 then { penalty := 1/1048576, bound := 1/4, cnsts := [(0, 1)] }
                    else if v = 1 then { penalty := 1/1048576, bound := -1, cnsts := [(0, 1)] }
                    else { penalty := 0, bound := -1, cnsts := [] },
    active := [0], vorder := [1, 0] }

theorem negSys_wf : WF negSys :=
  WF.of_table negSys 2 (fun _ => ⟨le_refl _, rfl⟩) (by decide +kernel)

/-
"Every rate is in [0, bound]" at a positive precision.  Before the fix of `maxmin-precision-bound-test-unbounded-variable`
this was FALSE: the test `double_equals(min_bound, var.bound_ * var.sharing_penalty_, precision)` of the `while` loop was
also evaluated for variables WITHOUT a bound (`bound_ = -1`): when `min_bound + penalty < precision` it held and the variable
got `value_ = bound_ = -1`.  The test is now `var.bound_ > 0 && double_equals(…)` (model: `fixLoop`,
`decide (0 < V.bound) && dblEq …`) and no variable can get a negative rate: `maxmin_var_bounds_eps` below.
-/

/-- **Regression: the witness of the fixed defect `maxmin-precision-bound-test-unbounded-variable`** at the default precision
10⁻⁵ (kernel evaluation; corpus case `epsN` on the real library): capacity 1 shared by v0 (penalty 2⁻²⁰, bound 1/4) and v1
(penalty 2⁻²⁰, no bound).  Without the guard the unbounded variable v1 was "fixed at its bound" −1; it now gets 3/4, as in
exact arithmetic. -/
theorem maxmin_var_bounds_eps_regression :
    ∃ st, maxminSolve negSys (1 / 100000) 4 (fun _ => 0) = some st ∧ st.value 0 = 1 / 4 ∧ st.value 1 = 3 / 4 := by
  have h : (maxminSolve negSys (1 / 100000) 4 (fun _ => 0)).map (fun st => (st.value 0, st.value 1)) = some (1 / 4, 3 / 4) := by
    decide +kernel
  obtain ⟨st, hs, hv⟩ := Option.map_eq_some_iff.mp h
  simp only [Prod.mk.injEq] at hv
  exact ⟨st, hs, hv.1, hv.2⟩

example : (maxminSolve negSys 0 4 (fun _ => 0)).map (fun st => (st.value 0, st.value 1)) = some (1 / 4, 3 / 4) := by
  decide +kernel

/-- **`maxmin_var_bounds_eps`: what survives at a positive precision.**  For every precision `0 ≤ eps < 1` (the configured
`sg_precision_workamount` is 10⁻⁵) and EVERY well-formed system (SHARED, FATPIPE, variable bounds, any penalties) every rate
`maxmin_solve` returns is in [0, bound] — in particular no rate is negative; the case of
`maxmin_var_bounds_eps_regression` (`eps > penalty`, `bound_ = -1`) is covered thanks to the guard `var.bound_ > 0 &&`.
(Invariant `PInv`, Lmm/Eps.lean: the light table only holds active constraints with remaining_ > 0 and usage_ > 0, so
min_usage > 0.)  The capacity clause has no such version: `maxmin_feasible_eps_counterexample`. -/
theorem maxmin_var_bounds_eps (S : Sys) (hwf : WF S) (eps : Rat) (h0 : 0 ≤ eps) (h1 : eps < 1)
    (val0 : Nat → Rat) (fuel : Nat) (st : St) (h : maxminSolve S eps fuel val0 = some st) :
    ∀ c ∈ S.active, ∀ e ∈ (S.cnst c).elems,
      0 ≤ st.value e.1 ∧ (0 < (S.var e.1).bound → st.value e.1 ≤ (S.var e.1).bound) := by
  unfold maxminSolve at h
  rw [initAll_eps S hwf eps h1 val0] at h
  have hi := init_rinv S hwf val0
  have hP0 : PInv S (initAll S 0 val0) := by
    refine ⟨fun c hc => ⟨hi.1.l.li_act c hc, hi.1.l.li_pos c hc⟩, hi.1.l.li_nd, ?_⟩
    intro c hc e he
    rw [hi.1.g.val0 c hc e he (by rw [hi.2.2])]
    exact ⟨le_refl 0, fun hb => le_of_lt hb⟩
  obtain ⟨_, hR, _⟩ := loop_induct S eps (RP S) (round_P S hwf eps h0) fuel _ _ st (rp_satVar S hwf _ hP0 hi.1.sel) h
  exact hR.p.vr

/-- non-vacuity at the default precision: `exSys` and `negSys` (penalties 2⁻²⁰ < eps, an unbounded variable) are
well-formed and the solver returns -/
example : (maxminSolve exSys (1 / 100000) 4 (fun _ => 0)).isSome = true ∧
    (maxminSolve negSys (1 / 100000) 4 (fun _ => 0)).isSome = true := by
  refine ⟨by decide +kernel, by decide +kernel⟩

/-- `bmfAccept` (the monitor applied to every BMF answer) is, by definition, capacity/bounds feasibility together with
"every consuming enabled variable is at its bound or has the largest share on a saturated constraint" -/
theorem bmfAccept_sound (S : Sys) (tol : Rat) (val : Nat → Rat) (h : bmfAccept S tol val = true) :
    (∀ c ∈ S.active, load S val c ≤ (S.cnst c).bound * (1 + tol)) ∧
    (∀ v ∈ S.vorder, 0 ≤ val v ∧ ((S.var v).penalty ≤ 0 → val v = 0) ∧
      (0 < (S.var v).bound → consumes S v = true → val v ≤ (S.var v).bound * (1 + tol))) ∧
    (∀ v ∈ S.vorder, 0 < (S.var v).penalty → consumes S v = true →
      (0 < (S.var v).bound ∧ (S.var v).bound * (1 - tol) ≤ val v) ∨
      ∃ e ∈ (S.var v).cnsts, 0 < e.2 ∧ bmfShareMax S tol val v e.1 e.2 = true) := by
  unfold bmfAccept at h
  simp only [Bool.and_eq_true] at h
  obtain ⟨hf, hb⟩ := h
  unfold feasible at hf
  simp only [Bool.and_eq_true, List.all_eq_true, decide_eq_true_eq] at hf
  refine ⟨hf.1, ?_, ?_⟩
  · intro v hv
    have := hf.2 v hv
    refine ⟨this.1.1, ?_, ?_⟩
    · intro hp
      have h2 := this.1.2
      simp only [hp, if_true, decide_eq_true_eq] at h2
      exact h2
    · intro hb hc
      have h3 := this.2
      simp only [hb, hc, and_self, if_true, decide_eq_true_eq] at h3
      exact h3
  · intro v hv hp hc
    unfold bmfFair at hb
    simp only [List.all_eq_true] at hb
    have := hb v hv
    simp only [hp, hc, and_self, if_true, Bool.or_eq_true, Bool.and_eq_true, decide_eq_true_eq, List.any_eq_true] at this
    rcases this with h | ⟨e, he, hw, hs⟩
    · exact Or.inl h
    · exact Or.inr ⟨e, he, hw, hs⟩

/-- **`maxmin_terminates` (DESIGN §8), full strength: every well-formed system — SHARED and FATPIPE constraints, any
variable bounds.**  `nv` bounds the variable indices; measure: number of unfixed variables among 0…nv-1, which strictly
decreases at each pass of the do-while that starts with a non-empty light table (`round_progress`; for a saturated
FATPIPE constraint the variable to fix is given by `InvA`: its usage_ is attained by an unfixed consumer); so the model
never runs out of fuel when `fuel ≥ nv + 1`. -/
theorem maxmin_terminates (S : Sys) (hwf : WF S) (nv : Nat)
    (hnv : ∀ c ∈ S.active, ∀ e ∈ (S.cnst c).elems, e.1 < nv) (val0 : Nat → Rat) (fuel : Nat) (hfuel : nv + 1 ≤ fuel) :
    (maxminSolve S 0 fuel val0).isSome = true :=
  maxmin_terminates_wf S hwf nv hnv val0 fuel hfuel

/-- with `nc` constraints: `#variables + #constraints + 1` is enough a fortiori -/
theorem maxmin_terminates_nc (S : Sys) (hwf : WF S) (nv nc : Nat)
    (hnv : ∀ c ∈ S.active, ∀ e ∈ (S.cnst c).elems, e.1 < nv) (val0 : Nat → Rat) :
    (maxminSolve S 0 (nv + nc + 1) val0).isSome = true :=
  maxmin_terminates_wf S hwf nv hnv val0 _ (by omega)

/-- **total correctness of `maxmin_solve` for C15**: on every well-formed system the solver returns, and what it
returns is feasible (all three clauses of `maxmin_feasible`) -/
theorem maxmin_total_feasible (S : Sys) (hwf : WF S) (nv : Nat)
    (hnv : ∀ c ∈ S.active, ∀ e ∈ (S.cnst c).elems, e.1 < nv) (val0 : Nat → Rat) :
    ∃ st, maxminSolve S 0 (nv + 1) val0 = some st ∧
      (∀ c ∈ S.active, load S st.value c ≤ (S.cnst c).bound) ∧
      (∀ c ∈ S.active, ∀ e ∈ (S.cnst c).elems,
        0 ≤ st.value e.1 ∧ (0 < (S.var e.1).bound → st.value e.1 ≤ (S.var e.1).bound)) ∧
      (∀ v, (∀ c ∈ S.active, ∀ e ∈ (S.cnst c).elems, e.1 ≠ v) → st.value v = val0 v) := by
  obtain ⟨st, hs⟩ := Option.isSome_iff_exists.mp (maxmin_terminates_wf S hwf nv hnv val0 (nv + 1) (le_refl _))
  exact ⟨st, hs, maxmin_feasible S hwf val0 (nv + 1) st hs⟩

/-- non-vacuity: `exSys` (SHARED + FATPIPE constraint, a bounded variable) meets the hypotheses with `nv = 3` -/
example : (maxminSolve exSys 0 4 (fun _ => 0)).isSome = true :=
  maxmin_terminates exSys exSys_wf 3
    (by decide) _ 4 (by omega)

/-- the three statements above for systems of summing constraints only (instances; the restriction is not used) -/
theorem maxmin_terminates_partial (S : Sys) (hwf : WF S) (_hsh : ∀ c ∈ S.active, (S.cnst c).fatpipe = false) (nv : Nat)
    (hnv : ∀ c ∈ S.active, ∀ e ∈ (S.cnst c).elems, e.1 < nv) (val0 : Nat → Rat) (fuel : Nat) (hfuel : nv + 1 ≤ fuel) :
    (maxminSolve S 0 fuel val0).isSome = true :=
  maxmin_terminates S hwf nv hnv val0 fuel hfuel

theorem maxmin_terminates_partial_nc (S : Sys) (hwf : WF S) (_hsh : ∀ c ∈ S.active, (S.cnst c).fatpipe = false) (nv nc : Nat)
    (hnv : ∀ c ∈ S.active, ∀ e ∈ (S.cnst c).elems, e.1 < nv) (val0 : Nat → Rat) :
    (maxminSolve S 0 (nv + nc + 1) val0).isSome = true :=
  maxmin_terminates_nc S hwf nv nc hnv val0

theorem maxmin_total_feasible_partial (S : Sys) (hwf : WF S) (_hsh : ∀ c ∈ S.active, (S.cnst c).fatpipe = false) (nv : Nat)
    (hnv : ∀ c ∈ S.active, ∀ e ∈ (S.cnst c).elems, e.1 < nv) (val0 : Nat → Rat) :
    ∃ st, maxminSolve S 0 (nv + 1) val0 = some st ∧ ∀ c ∈ S.active, load S st.value c ≤ (S.cnst c).bound := by
  obtain ⟨st, h1, h2, _⟩ := maxmin_total_feasible S hwf nv hnv val0
  exact ⟨st, h1, h2⟩

end SgVerif.C15
