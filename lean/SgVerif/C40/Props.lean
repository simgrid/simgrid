/-
C40 — ODPOR explores each equivalence class once (partial).

Proved (∀ alphabets, ∀ dependency relations that are symmetric with `same actor → dependent`, ∀ words):
  * `mazurkiewicz_equiv_is_equivalence`    trace equivalence is an equivalence relation
  * `trace_equiv_same_projections`          equivalent executions have the same per-actor sequences
  * `are_equivalent_complete`               equivalent executions are accepted by the checker's `are_equivalent`
  * `are_equivalent_sound`                  … and, when the per-actor sequences agree, only those
  * `are_equivalent_iff_trace_equiv`        hence `are_equivalent` decides exactly trace equivalence on such pairs
  * `are_equivalent_needs_projections_counterexample`  without that hypothesis the code's test is too coarse: it only
                                            compares (type, actor) of the matched events, not their objects
  * `checker_dep_ok`, `are_equivalent_on_labels`   the transliterated `Transition::depends` of the mini-language kinds is
                                            symmetric with same-actor ⇒ dependent, so the theorems apply to it
  * `canon_equiv`, `canon_invariant`, `canon_complete`   the lexicographically least linearisation is a canonical form:
                                            equivalent to the word, equal on equivalent words, and complete
NOT proved: the optimality of ODPOR itself (wakeup trees, sleep sets, `get_odpor_extension_from`): that the executions
it explores are pairwise inequivalent and as many as the classes is CHECKED per program by props/C40/check.py.
-/
import SgVerif.McRef.Trace
import SgVerif.C40.Model
import SgVerif.McRef.Dep
namespace SgVerif.C40
open SgVerif.McRef

variable {α κ : Type}

/-- Trace equivalence is an equivalence relation (symmetry needs a symmetric dependency relation). -/
theorem mazurkiewicz_equiv_is_equivalence (dep : α → α → Bool) (hsym : ∀ x y, dep x y = dep y x) :
    (∀ u, TraceEq dep u u) ∧ (∀ u v, TraceEq dep u v → TraceEq dep v u) ∧
    (∀ u v w, TraceEq dep u v → TraceEq dep v w → TraceEq dep u w) :=
  ⟨TraceEq.refl, fun _ _ h => h.symm hsym, fun _ _ _ h1 h2 => .trans h1 h2⟩

/-- hypotheses on the dependency relation of a concurrent system -/
structure DepOk (aid : α → Nat) (dep : α → α → Bool) : Prop where
  sym : ∀ x y, dep x y = dep y x
  same : ∀ x y, aid x = aid y → dep x y = true

/-- Equivalent executions have the same sequence of events of every actor. -/
theorem trace_equiv_same_projections (aid : α → Nat) (dep : α → α → Bool) (hd : DepOk aid dep)
    {u v : List α} (h : TraceEq dep u v) (p : Nat) : proj aid p u = proj aid p v := by
  induction h with
  | nil => rfl
  | cons a _ ih => simp only [proj, List.filter_cons] at ih ⊢; rw [ih]
  | swap x y t hxy =>
    have hne : aid x ≠ aid y := by
      intro he; rw [hd.same x y he] at hxy; cases hxy
    simp only [proj, List.filter_cons]
    by_cases hx : aid x = p <;> by_cases hy : aid y = p <;> simp_all
  | trans _ _ ih1 ih2 => exact ih1.trans ih2

/-- when `a` is the first event of its actor in `v`, the scan stops at `a` itself, which can then be moved to the front -/
theorem findMatch_first [DecidableEq κ] {aid : α → Nat} {key : α → κ} {dep : α → α → Bool}
    (hd : DepOk aid dep) (hkey : ∀ x y, key x = key y → aid x = aid y) {a : α} :
    ∀ {v v' : List α}, findMatch key dep a v = some v' → (proj aid (aid a) v).head? = some a → Front dep a v v'
  | c :: v, v', h, hp => by
    simp only [findMatch] at h
    simp only [proj, List.filter_cons] at hp
    split at h
    · rename_i hk
      rw [if_pos (beq_iff_eq.2 (hkey c a hk))] at hp
      cases h
      cases hp
      exact .here v
    · split at h
      · cases h
      · rename_i hdep
        obtain ⟨w, hm, rfl⟩ := Option.map_eq_some_iff.1 h
        have hne : ¬ (aid c == aid a) = true := fun he => hdep (hd.same c a (beq_iff_eq.1 he))
        rw [if_neg hne] at hp
        exact .skip (Bool.eq_false_iff.2 hdep) (findMatch_first hd hkey hm hp)

/-- the scan finds a letter that can be moved to the front: an earlier letter with its key would be dependent with it -/
theorem findMatch_front [DecidableEq κ] {aid : α → Nat} {key : α → κ} {dep : α → α → Bool}
    (hd : DepOk aid dep) (hkey : ∀ x y, key x = key y → aid x = aid y) {a : α} {v r : List α}
    (f : Front dep a v r) : findMatch key dep a v = some r := by
  induction f with
  | here s => simp [findMatch]
  | @skip b u r hb _ ih =>
    have hk : key b ≠ key a := fun hk => Bool.false_ne_true (hb.symm.trans (hd.same b a (hkey b a hk)))
    simp only [findMatch, hk, hb, if_false, Bool.false_eq_true, ih, Option.map_some]

/-- Completeness of the checker's test: equivalent executions are judged equivalent.
`key` is (type_, aid_): events with the same key belong to the same actor. -/
theorem are_equivalent_complete [DecidableEq κ] (aid : α → Nat) (key : α → κ) (dep : α → α → Bool)
    (hd : DepOk aid dep) (hkey : ∀ x y, key x = key y → aid x = aid y) :
    ∀ (u v : List α), TraceEq dep u v → areEquivalent key dep u v = true
  | [], v, h => by simp [areEquivalent, ← h.length_eq]
  | a :: u, v, h => by
    obtain ⟨r, f, heq⟩ := Front.split hd.sym h (.here u)
    simp only [areEquivalent, h.length_eq, bne_self_eq_false, Bool.false_eq_true, if_false, findMatch_front hd hkey f]
    exact are_equivalent_complete aid key dep hd hkey u r heq

/-- Soundness of the checker's test on executions whose per-actor sequences agree. -/
theorem are_equivalent_sound [DecidableEq κ] (aid : α → Nat) (key : α → κ) (dep : α → α → Bool)
    (hd : DepOk aid dep) (hkey : ∀ x y, key x = key y → aid x = aid y) :
    ∀ (u v : List α), (∀ p, proj aid p u = proj aid p v) → areEquivalent key dep u v = true → TraceEq dep u v
  | [], v, _, h => by
    simp only [areEquivalent, beq_iff_eq] at h
    cases List.eq_nil_of_length_eq_zero h
    exact .nil
  | a :: u, v, hp, h => by
    simp only [areEquivalent] at h
    split at h
    · cases h
    · cases hm : findMatch key dep a v with
      | none => simp [hm] at h
      | some v' =>
        simp only [hm] at h
        -- `a` is the first event of its actor in `a :: u`, hence in `v`
        have hmove := (findMatch_first hd hkey hm (by rw [← hp (aid a)]; simp [proj])).move
        refine .trans (.cons a (are_equivalent_sound aid key dep hd hkey u v' (fun p => ?_) h)) (hmove.symm hd.sym)
        -- the per-actor sequences of the remainders agree: move `a` to the front of `v` and drop it on both sides
        have := (hp p).trans (trace_equiv_same_projections aid dep hd hmove p)
        simp only [proj, List.filter_cons] at this ⊢
        split at this
        · exact (List.cons.inj this).2
        · exact this

/-- The checker's `are_equivalent` decides exactly trace equivalence on executions in which every actor performs the
same sequence of transitions (which trace-equivalent executions always do, `trace_equiv_same_projections`). -/
theorem are_equivalent_iff_trace_equiv [DecidableEq κ] (aid : α → Nat) (key : α → κ) (dep : α → α → Bool)
    (hd : DepOk aid dep) (hkey : ∀ x y, key x = key y → aid x = aid y) (u v : List α)
    (hp : ∀ p, proj aid p u = proj aid p v) :
    areEquivalent key dep u v = true ↔ TraceEq dep u v :=
  ⟨are_equivalent_sound aid key dep hd hkey u v hp, are_equivalent_complete aid key dep hd hkey u v⟩

theorem trace_equiv_iff [DecidableEq κ] (aid : α → Nat) (key : α → κ) (dep : α → α → Bool)
    (hd : DepOk aid dep) (hkey : ∀ x y, key x = key y → aid x = aid y) (u v : List α) :
    TraceEq dep u v ↔ (∀ p, proj aid p u = proj aid p v) ∧ areEquivalent key dep u v = true :=
  ⟨fun h => ⟨trace_equiv_same_projections aid dep hd h, are_equivalent_complete aid key dep hd hkey u v h⟩,
   fun h => are_equivalent_sound aid key dep hd hkey u v h.1 h.2⟩

/-! The hypothesis on projections cannot be dropped: the code compares only (type, actor) of the matched events.
Events: (actor, type, object). Two executions of one actor locking different mutexes are judged equivalent. -/
def exAid (e : Nat × Nat × Nat) : Nat := e.1
def exKey (e : Nat × Nat × Nat) : Nat × Nat := (e.1, e.2.1)
def exDep (x y : Nat × Nat × Nat) : Bool := x.1 == y.1 || x.2.2 == y.2.2

theorem exDepOk : DepOk exAid exDep where
  sym := by intro x y; unfold exDep; rw [BEq.comm (a := x.1), BEq.comm (a := x.2.2)]
  same := by intro x y h; simp only [exDep, exAid] at *; simp [h]

theorem are_equivalent_needs_projections_counterexample :
    areEquivalent exKey exDep [(1, 0, 5)] [(1, 0, 6)] = true ∧ ¬ TraceEq exDep [(1, 0, 5)] [(1, 0, 6)] := by
  refine ⟨by decide, fun h => ?_⟩
  have := h.perm
  have hm : (1, 0, 5) ∈ [((1 : Nat), (0 : Nat), (6 : Nat))] := this.subset List.mem_cons_self
  simp at hm

/-- non-vacuity: two actors on different objects -/
example : areEquivalent exKey exDep [(1, 0, 5), (2, 0, 6)] [(2, 0, 6), (1, 0, 5)] = true := by decide
example : TraceEq exDep [(1, 0, 5), (2, 0, 6)] [(2, 0, 6), (1, 0, 5)] := .swap _ _ _ (by decide)
example : areEquivalent exKey exDep [(1, 0, 5), (2, 0, 5)] [(2, 0, 5), (1, 0, 5)] = false := by decide

theorem mem_minimals (dep : α → α → Bool) (x : α) : ∀ (u pre : List α),
    x ∈ minimals dep pre u ↔ (∀ y ∈ pre, dep y x = false) ∧ ∃ r, Front dep x u r
  | [], pre => by
    simp only [minimals, List.not_mem_nil, false_iff]
    rintro ⟨_, r, f⟩
    cases f
  | c :: u, pre => by
    rw [minimals, List.mem_append, mem_minimals dep x u (pre ++ [c])]
    simp only [List.mem_append, List.mem_singleton, or_imp, forall_and, forall_eq]
    constructor
    · rintro (h | ⟨⟨hpre, hc⟩, r, f⟩)
      · split at h
        · rename_i hall
          cases List.mem_singleton.1 h
          exact ⟨by simpa [List.all_eq_true] using hall, u, .here u⟩
        · cases h
      · exact ⟨hpre, c :: r, .skip hc f⟩
    · rintro ⟨hpre, r, f⟩
      cases f with
      | here => exact .inl (by simpa [List.all_eq_true] using hpre)
      | skip hc f => exact .inr ⟨⟨hpre, hc⟩, _, f⟩

theorem pickMin_none (rank : α → Nat) : ∀ l : List α, pickMin rank l = none → l = []
  | [], _ => rfl
  | x :: r, h => by
    simp only [pickMin] at h
    split at h
    · cases h
    · split at h <;> cases h

theorem pickMin_some (rank : α → Nat) : ∀ (l : List α) (a : α), pickMin rank l = some a →
    a ∈ l ∧ ∀ y ∈ l, rank a ≤ rank y
  | x :: r, a, h => by
    simp only [pickMin] at h
    split at h
    · rename_i hn
      cases h
      cases pickMin_none rank r hn
      exact ⟨List.mem_cons_self, List.forall_mem_cons.2 ⟨Nat.le_refl _, fun _ h => nomatch h⟩⟩
    · rename_i y hy
      obtain ⟨hmem, hle⟩ := pickMin_some rank r y hy
      split at h <;> rename_i hxy <;> cases h
      · exact ⟨List.mem_cons_self, List.forall_mem_cons.2 ⟨Nat.le_refl _, fun z hz => Nat.le_trans hxy (hle z hz)⟩⟩
      · exact ⟨List.mem_cons_of_mem _ hmem, List.forall_mem_cons.2 ⟨Nat.le_of_lt (Nat.lt_of_not_le hxy), hle⟩⟩

/-- with an injective rank, `pickMin` is THE least-rank element -/
theorem pickMin_eq_some_iff (rank : α → Nat) (hinj : ∀ x y, rank x = rank y → x = y) (l : List α) (a : α) :
    pickMin rank l = some a ↔ a ∈ l ∧ ∀ y ∈ l, rank a ≤ rank y := by
  refine ⟨pickMin_some rank l a, fun ⟨ha, hla⟩ => ?_⟩
  cases h : pickMin rank l with
  | none => rw [pickMin_none rank l h] at ha; cases ha
  | some b =>
    obtain ⟨hb, hlb⟩ := pickMin_some rank l b h
    rw [hinj a b (Nat.le_antisymm (hla b hb) (hlb a ha))]

theorem canonAux_equiv [DecidableEq α] (dep : α → α → Bool) (rank : α → Nat)
    (hrefl : ∀ x, dep x x = true) (hsym : ∀ x y, dep x y = dep y x) :
    ∀ (fuel : Nat) (u : List α), u.length ≤ fuel → TraceEq dep (canonAux dep rank fuel u) u
  | 0, u, h => by
    have : u = [] := List.eq_nil_of_length_eq_zero (by omega)
    subst this; exact .nil
  | fuel + 1, u, h => by
    simp only [canonAux]
    split
    · rename_i hn
      have hm := pickMin_none rank _ hn
      cases u with
      | nil => exact .nil
      | cons c r =>
        have : c ∈ minimals dep [] (c :: r) := (mem_minimals ..).2 ⟨nofun, r, .here r⟩
        rw [hm] at this; cases this
    · rename_i a ha
      obtain ⟨_, r, f⟩ := (mem_minimals ..).1 (pickMin_some rank _ a ha).1
      have hlen := f.move.length_eq
      rw [f.erase hrefl]
      exact .trans (.cons a (canonAux_equiv dep rank hrefl hsym fuel r (by simp at hlen; omega))) (f.move.symm hsym)

theorem canon_equiv [DecidableEq α] (dep : α → α → Bool) (rank : α → Nat)
    (hrefl : ∀ x, dep x x = true) (hsym : ∀ x y, dep x y = dep y x) (u : List α) :
    TraceEq dep (canon dep rank u) u :=
  canonAux_equiv dep rank hrefl hsym u.length u (Nat.le_refl _)

theorem minimals_equiv (dep : α → α → Bool) (hsym : ∀ x y, dep x y = dep y x)
    {u v : List α} (h : TraceEq dep u v) (x : α) (hx : x ∈ minimals dep [] u) : x ∈ minimals dep [] v := by
  obtain ⟨_, r, f⟩ := (mem_minimals ..).1 hx
  obtain ⟨r', f', _⟩ := f.split hsym h
  exact (mem_minimals ..).2 ⟨nofun, r', f'⟩

theorem canonAux_invariant [DecidableEq α] (dep : α → α → Bool) (rank : α → Nat)
    (hrefl : ∀ x, dep x x = true) (hsym : ∀ x y, dep x y = dep y x) (hinj : ∀ x y, rank x = rank y → x = y) :
    ∀ (fuel : Nat) (u v : List α), TraceEq dep u v → canonAux dep rank fuel u = canonAux dep rank fuel v
  | 0, _, _, _ => rfl
  | fuel + 1, u, v, h => by
    have hset : ∀ x, x ∈ minimals dep [] u ↔ x ∈ minimals dep [] v :=
      fun x => ⟨minimals_equiv dep hsym h x, minimals_equiv dep hsym (h.symm hsym) x⟩
    have hpick : pickMin rank (minimals dep [] u) = pickMin rank (minimals dep [] v) :=
      Option.ext fun a => by simp only [pickMin_eq_some_iff rank hinj, hset]
    simp only [canonAux, hpick]
    split
    · rfl
    · rename_i a ha
      obtain ⟨_, r, f⟩ := (mem_minimals ..).1 ((hset a).mpr (pickMin_some rank _ a ha).1)
      obtain ⟨r', f', heq⟩ := f.split hsym h
      rw [f.erase hrefl, f'.erase hrefl, canonAux_invariant dep rank hrefl hsym hinj fuel _ _ heq]

theorem canon_invariant [DecidableEq α] (dep : α → α → Bool) (rank : α → Nat)
    (hrefl : ∀ x, dep x x = true) (hsym : ∀ x y, dep x y = dep y x) (hinj : ∀ x y, rank x = rank y → x = y)
    {u v : List α} (h : TraceEq dep u v) : canon dep rank u = canon dep rank v := by
  unfold canon
  rw [h.length_eq]
  exact canonAux_invariant dep rank hrefl hsym hinj v.length u v h

/-- Completeness: two words are equivalent iff they have the same canonical form. -/
theorem canon_complete [DecidableEq α] (dep : α → α → Bool) (rank : α → Nat)
    (hrefl : ∀ x, dep x x = true) (hsym : ∀ x y, dep x y = dep y x) (hinj : ∀ x y, rank x = rank y → x = y)
    (u v : List α) : TraceEq dep u v ↔ canon dep rank u = canon dep rank v := by
  constructor
  · exact canon_invariant dep rank hrefl hsym hinj
  · intro h
    have h1 := canon_equiv dep rank hrefl hsym u
    have h2 := canon_equiv dep rank hrefl hsym v
    rw [h] at h1
    exact .trans (h1.symm hsym) h2

/-- an injective rank on the example alphabet; the two `example`s below are the non-vacuity of the canonical form -/
def exRank (e : Nat × Nat × Nat) : Nat := (e.1 * 1000 + e.2.1) * 1000 + e.2.2
example : canon exDep exRank [(2, 0, 6), (1, 0, 5), (2, 1, 6)] = [(1, 0, 5), (2, 0, 6), (2, 1, 6)] := by decide
example : canon exDep exRank [(2, 0, 5), (1, 0, 5)] = [(2, 0, 5), (1, 0, 5)] := by decide

/-- the kind at a position of `Transition::Type`: a left inverse of `Kind.idx` -/
def kindAt : Nat → Kind
  | 0 => .random | 1 => .actorJoin | 3 => .actorCreate
  | 7 => .barAsyncLock | 8 => .barWait
  | 9 => .commAsyncRecv | 10 => .commAsyncSend | 12 => .commTest | 13 => .commWait
  | 14 => .mutexAsyncLock | 16 => .mutexTrylock | 17 => .mutexUnlock | 18 => .mutexWait
  | 20 => .semAsyncLock | 21 => .semUnlock | 22 => .semWait
  | 24 => .cvAsyncLock | 25 => .cvBroadcast | 26 => .cvSignal | _ => .cvWait

theorem kindAt_idx (k : Kind) : kindAt k.idx = k := by cases k <;> rfl

theorem depOrdered_comm_of_kind_eq (x y : Label) (h : x.kind = y.kind) : depOrdered x y = depOrdered y x := by
  unfold depOrdered
  rw [← h]
  cases x.kind <;> first | rfl | exact BEq.comm | simp only [Bool.or_comm, BEq.comm (a := x.obj)]

/-- The transliteration of `Transition::dispatch_depends` (McRef/Dep.lean) is symmetric and makes the transitions of
one actor dependent: off the diagonal both orders consult the same cell of the table. -/
theorem checker_dep_ok : DepOk (fun l : Label => l.aid) depLabel where
  same := by intro x y h; simp [depLabel, h]
  sym := by
    intro x y
    unfold depLabel
    rw [BEq.comm (a := x.aid)]
    rcases Nat.lt_trichotomy x.kind.idx y.kind.idx with h | h | h
    · rw [if_pos (Nat.le_of_lt h), if_neg (Nat.not_le_of_lt h)]
    · rw [if_pos (Nat.le_of_eq h), if_pos (Nat.le_of_eq h.symm), depOrdered_comm_of_kind_eq x y (by rw [← kindAt_idx x.kind, h, kindAt_idx])]
    · rw [if_neg (Nat.not_le_of_lt h), if_pos (Nat.le_of_lt h)]

/-- `are_equivalent` with the checker's key (type_, aid_) and dependency relation decides trace equivalence of two
executions of the mini-language in which every actor performs the same transitions. -/
theorem are_equivalent_on_labels (u v : List Label)
    (hp : ∀ p, proj (fun l : Label => l.aid) p u = proj (fun l : Label => l.aid) p v) :
    areEquivalent (fun l : Label => (l.kind.idx, l.aid)) depLabel u v = true ↔ TraceEq depLabel u v :=
  are_equivalent_iff_trace_equiv (fun l : Label => l.aid) (fun l : Label => (l.kind.idx, l.aid)) depLabel checker_dep_ok
    (by intro x y h; exact (Prod.mk.inj h).2) u v hp

end SgVerif.C40
