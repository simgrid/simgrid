/-
The shared model (Sync/Model.lean) equation by equation, as far as more than one of C04–C07 and C14 reasons from it.
Core only.
-/
import SgVerif.Sync.Model
namespace SgVerif.Sync

@[simp] theorem upd_same {β : Type} (f : Nat → β) (i : Nat) (v : β) : upd f i v i = v := if_pos rfl

theorem upd_ne {β : Type} (f : Nat → β) {i j : Nat} (v : β) (h : j ≠ i) : upd f i v j = f j := if_neg h

theorem upd_upd {β : Type} (f : Nat → β) (i : Nat) (v v' : β) : upd (upd f i v) i v' = upd f i v' := by
  funext j; simp only [upd]; split <;> rfl

theorem upd_eq_self {β : Type} {f : Nat → β} {i : Nat} {v : β} (h : f i = v) : upd f i v = f := by
  funext j; simp only [upd]; split
  · rename_i e; rw [e, h]
  · rfl

theorem markLast_append (a : Aid) (r : Res) (q : List MAcq) (d : Int) (w : Bool) (r0 : Res) :
    markLast a r (q ++ [{ issuer := a, depth := d, waited := w, res := r0 }]) =
      q ++ [{ issuer := a, depth := d, waited := true, res := r }] := by
  induction q with
  | nil => simp [markLast]
  | cons x xs ih =>
    have h : (xs ++ [({ issuer := a, depth := d, waited := w, res := r0 } : MAcq)]).any (fun q => decide (q.issuer = a)) = true := by
      simp
    simp only [List.cons_append, markLast, h, if_true, ih]

theorem unlock_notOwner {m : Mutex} {a : Aid} (h : m.owner ≠ some a) : m.unlock a = .error .assertNotOwner := by
  simp [Mutex.unlock, h]

theorem unlock_keep {m : Mutex} {a : Aid} (h : m.owner = some a) (hr : m.recursive = true) (hd : 1 < m.depth) :
    m.unlock a = .ok ({ m with depth := m.depth - 1 }, none) := by
  simp [Mutex.unlock, h, hr]
  intro h1; omega

theorem unlock_handoff {m : Mutex} {a : Aid} {acq : MAcq} {rest : List MAcq} (h : m.owner = some a)
    (hd : ¬ (m.recursive = true ∧ 1 < m.depth)) (hq : m.queue = acq :: rest) :
    m.unlock a = .ok ({ m with owner := some acq.issuer, depth := acq.depth, queue := rest },
                      if acq.waited then some (acq.issuer, acq.res) else none) := by
  unfold Mutex.unlock
  by_cases hr : m.recursive = true
  · have : ¬ (1 < m.depth) := fun hh => hd ⟨hr, hh⟩
    simp [h, hr, hq]
    omega
  · simp [h, hr, hq]

theorem unlock_free {m : Mutex} {a : Aid} (h : m.owner = some a)
    (hd : ¬ (m.recursive = true ∧ 1 < m.depth)) (hq : m.queue = []) :
    m.unlock a = .ok ({ m with owner := none, depth := if m.recursive then m.depth - 1 else m.depth }, none) := by
  unfold Mutex.unlock
  by_cases hr : m.recursive = true
  · have : ¬ (1 < m.depth) := fun hh => hd ⟨hr, hh⟩
    simp [h, hr, hq]
    omega
  · simp [h, hr, hq]

theorem lockAsync_free {m : Mutex} {a : Aid} (h : m.owner = none) :
    (m.lockAsync a) = ({ m with owner := some a, depth := 1 }, true) := by
  unfold Mutex.lockAsync
  cases hr : m.recursive <;> simp [h]

theorem lockAsync_again {m : Mutex} {a : Aid} (h : m.owner = some a) (hr : m.recursive = true) :
    (m.lockAsync a) = ({ m with depth := m.depth + 1 }, true) := by
  simp [Mutex.lockAsync, h, hr]

theorem lockAsync_queue {m : Mutex} {a o : Aid} (h : m.owner = some o) (hne : ¬ (m.recursive = true ∧ o = a))
    (hb : m.queue.any (fun q => decide (q.issuer = a)) = false) :
    (m.lockAsync a) = ({ m with queue := m.queue ++ [{ issuer := a }] }, false) := by
  unfold Mutex.lockAsync
  cases hr : m.recursive <;> simp only [hr, h, true_and] at hne ⊢
  · rfl
  · simp only [if_true, Option.some.injEq, hne, reduceCtorEq, if_false, hb, Bool.false_eq_true]

theorem lockAsync_busy {m : Mutex} {a o : Aid} (h : m.owner = some o) (hne : ¬ (m.recursive = true ∧ o = a)) :
    (m.lockAsync a).2 = false ∧ (m.lockAsync a).1.owner = some o := by
  unfold Mutex.lockAsync
  cases hr : m.recursive <;> simp only [hr, h, true_and] at hne ⊢
  · exact ⟨rfl, rfl⟩
  · simp only [if_true, Option.some.injEq, hne, reduceCtorEq, if_false]
    split <;> exact ⟨rfl, rfl⟩

/-- without `h` right-to-left fails: the owner of a non-recursive mutex that locks it again is not granted -/
theorem lockAsync_granted_iff (m : Mutex) (a : Aid) (h : ¬ (m.recursive = false ∧ m.owner = some a)) :
    (m.lockAsync a).2 = true ↔ (m.lockAsync a).1.owner = some a := by
  cases ho : m.owner with
  | none => rw [lockAsync_free ho]; exact ⟨fun _ => rfl, fun _ => rfl⟩
  | some o =>
    by_cases hre : m.recursive = true ∧ o = a
    · rw [lockAsync_again (hre.2 ▸ ho) hre.1]; exact ⟨fun _ => hre.2 ▸ ho, fun _ => rfl⟩
    · rw [(lockAsync_busy ho hre).1, (lockAsync_busy ho hre).2]
      refine ⟨nofun, fun e => ?_⟩
      cases hr : m.recursive
      · exact absurd ⟨hr, e ▸ ho⟩ h
      · exact absurd ⟨hr, Option.some.inj e⟩ hre

theorem lockAsync_granted_owner (m : Mutex) (a : Aid) (h : (m.lockAsync a).2 = true) :
    (m.lockAsync a).1.owner = some a := by
  by_cases hc : m.recursive = false ∧ m.owner = some a
  · rw [(lockAsync_busy hc.2 (by simp [hc.1])).1] at h; cases h
  · exact (lockAsync_granted_iff m a hc).mp h

theorem lock_free {m : Mutex} (a : Aid) (r : Res) (h : m.owner = none) :
    m.lock a r = ({ m with owner := some a, depth := 1 }, some r) := by
  rw [Mutex.lock, lockAsync_free h]; rfl

/-- whoever the owner is, the caller included: `wait_for` tests `granted_` -/
theorem lock_nonrec_busy {m : Mutex} (a x : Aid) (r : Res) (hr : m.recursive = false) (ho : m.owner = some x) :
    m.lock a r = ({ m with queue := m.queue ++ [{ issuer := a, depth := 1, waited := true, res := r }] }, none) := by
  simp [Mutex.lock, Mutex.lockAsync, Mutex.waitFor, hr, ho, markLast_append]

theorem tryLock_free {m : Mutex} (a : Aid) (h : m.owner = none) :
    m.tryLock a = ({ m with owner := some a, depth := 1 }, true) := by
  simp [Mutex.tryLock, h]

theorem tryLock_nonrec_busy {m : Mutex} {x : Aid} (a : Aid) (hr : m.recursive = false) (ho : m.owner = some x) :
    m.tryLock a = (m, false) := by
  simp [Mutex.tryLock, hr, ho]

theorem markS_fresh (a : Aid) (timed : Bool) (q : List SAcq) (hq : ∀ x ∈ q, x.issuer ≠ a) :
    markS a timed (q ++ [{ issuer := a }]) = q ++ [{ issuer := a, waited := true, timed := timed }] := by
  induction q with
  | nil => simp [markS]
  | cons x xs ih =>
    have hx : x.issuer ≠ a := hq x (by simp)
    simp only [List.cons_append, markS, hx, if_false]
    rw [ih (fun y hy => hq y (by simp [hy]))]

theorem acquire_granted {s : Sem} (a : Aid) (hv : 0 < s.value) :
    s.acquireAsync a = ({ s with value := s.value - 1 }, true) := by
  simp [Sem.acquireAsync, hv]

theorem acquire_queued {s : Sem} (a : Aid) (hv : s.value = 0) :
    s.acquireAsync a = ({ s with queue := s.queue ++ [{ issuer := a }] }, false) := by
  simp [Sem.acquireAsync, hv]

theorem release_nil {s : Sem} (hq : s.queue = []) : s.release = ({ s with value := s.value + 1 }, none) := by
  simp [Sem.release, hq]

theorem release_cons {s : Sem} {acq : SAcq} {rest : List SAcq} (hq : s.queue = acq :: rest) :
    s.release = ({ s with queue := rest }, some acq) := by
  simp [Sem.release, hq]

theorem threshold_eq (b : Bar) (h1 : 1 ≤ b.expected) (h2 : b.expected < 4294967296) : b.threshold = b.expected - 1 := by
  unfold Bar.threshold; omega

theorem acquireAsync_queue {b : Bar} (a : Aid) (h : b.queue.length < b.threshold) :
    b.acquireAsync a = ({ b with queue := b.queue ++ [{ issuer := a }] }, false, []) := by
  simp [Bar.acquireAsync, h]

theorem acquireAsync_open {b : Bar} (a : Aid) (h : ¬ b.queue.length < b.threshold) :
    b.acquireAsync a = ({ b with queue := [] }, true, b.queue) := by
  simp [Bar.acquireAsync, h]

theorem markB_fresh (a : Aid) (q : List BAcq) (hq : ∀ x ∈ q, x.issuer ≠ a) :
    markB a (q ++ [{ issuer := a }]) = q ++ [{ issuer := a, waited := true }] := by
  induction q with
  | nil => simp [markB]
  | cons x xs ih =>
    have hx : x.issuer ≠ a := hq x (by simp)
    simp only [List.cons_append, markB, hx, if_false]
    rw [ih (fun y hy => hq y (by simp [hy]))]

theorem markC_fresh (a : Aid) (m : Nat) (timed : Bool) (q : List CAcq) (hq : ∀ x ∈ q, x.issuer ≠ a) :
    markC a timed (q ++ [{ issuer := a, mutex := m }]) = q ++ [{ issuer := a, mutex := m, waited := true, timed := timed }] := by
  induction q with
  | nil => simp [markC]
  | cons x xs ih =>
    have hx : x.issuer ≠ a := hq x (by simp)
    simp only [List.cons_append, markC, hx, if_false]
    rw [ih (fun y hy => hq y (by simp [hy]))]

theorem wstep_lock (w : World) (a : Aid) (m : Nat) :
    w.step (.lock a m) = .ok ({ w with mutexes := upd w.mutexes m ((w.mutexes m).lock a .unit).1 },
                              optOut a ((w.mutexes m).lock a .unit).2) := rfl

theorem wstep_tryLock (w : World) (a : Aid) (m : Nat) :
    w.step (.tryLock a m) = .ok ({ w with mutexes := upd w.mutexes m ((w.mutexes m).tryLock a).1 },
                                 [(a, .flag ((w.mutexes m).tryLock a).2)]) := rfl

theorem wstep_unlock (w : World) (a : Aid) (m : Nat) :
    w.step (.unlock a m) =
      match (w.mutexes m).unlock a with
      | .error e => .error e
      | .ok (mu, fin) => .ok ({ w with mutexes := upd w.mutexes m mu },
                              (match fin with | some o => [o] | none => []) ++ [(a, .unit)]) := rfl

end SgVerif.Sync
