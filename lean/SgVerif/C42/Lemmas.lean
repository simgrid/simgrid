import SgVerif.C42.Model
/-
C42 — helper lemmas: clock-vector algebra, searching a sorted list, and the skip list.  Core-only.
-/
namespace SgVerif.C42

theorem Clock.max_sound {x y : Clock} {m : Nat} (h : Clock.max x y = some m) : x = some m ∨ y = some m := by
  cases x <;> cases y <;> simp [Clock.max] at h ⊢
  · exact h
  · exact h
  · rw [← h]; exact Std.max_eq_or.imp Eq.symm Eq.symm

theorem Clock.max_ub_left {x y : Clock} {k : Nat} (h : x = some k) : ∃ m, Clock.max x y = some m ∧ k ≤ m := by
  subst h
  cases y with
  | none => exact ⟨k, rfl, Nat.le_refl _⟩
  | some b => exact ⟨Nat.max k b, rfl, Nat.le_max_left _ _⟩

theorem Clock.max_ub_right {x y : Clock} {k : Nat} (h : y = some k) : ∃ m, Clock.max x y = some m ∧ k ≤ m := by
  subst h
  cases x with
  | none => exact ⟨k, rfl, Nat.le_refl _⟩
  | some b => exact ⟨Nat.max b k, rfl, Nat.le_max_right _ _⟩

theorem Clock.max_none_left (x : Clock) : Clock.max none x = x := by
  cases x <;> rfl

theorem get_init (W a : Nat) : (ClockVector.init W).get a = none := by
  unfold ClockVector.get ClockVector.init
  rw [List.getElem?_replicate]
  split <;> simp_all

theorem get_nil (a : Nat) : ClockVector.get [] a = none := by
  simp [ClockVector.get]

theorem get_cons_zero (c : Clock) (r : ClockVector) : ClockVector.get (c :: r) 0 = c := by
  simp [ClockVector.get]

theorem get_cons_succ (c : Clock) (r : ClockVector) (a : Nat) :
    ClockVector.get (c :: r) (a + 1) = ClockVector.get r a := by
  simp [ClockVector.get]

theorem get_of_le_length {cv : ClockVector} {a : Nat} (h : cv.length ≤ a) : cv.get a = none := by
  unfold ClockVector.get
  rw [List.getElem?_eq_none h]

theorem length_maxEmplaceLeft (c1 c2 : ClockVector) : (maxEmplaceLeft c1 c2).length = c1.length := by
  induction c1 generalizing c2 with
  | nil => cases c2 <;> simp [maxEmplaceLeft]
  | cons a r ih =>
    cases c2 with
    | nil => simp [maxEmplaceLeft]
    | cons b r2 => simp [maxEmplaceLeft, ih]

theorem get_maxEmplaceLeft (c1 c2 : ClockVector) (h : c2.length ≤ c1.length) (a : Nat) :
    (maxEmplaceLeft c1 c2).get a = Clock.max (c2.get a) (c1.get a) := by
  induction c1 generalizing c2 a with
  | nil =>
    cases c2 with
    | nil => simp [maxEmplaceLeft, get_nil, Clock.max]
    | cons b r2 => simp at h
  | cons x r ih =>
    cases c2 with
    | nil => simp [maxEmplaceLeft, get_nil, Clock.max_none_left]
    | cons b r2 =>
      cases a with
      | zero => simp [maxEmplaceLeft, get_cons_zero]
      | succ a =>
        simp only [maxEmplaceLeft, get_cons_succ]
        exact ih r2 (by simpa using h) a

theorem get_set (cv : ClockVector) (a b : Nat) (v : Clock) (h : a < cv.length) :
    ClockVector.get (cv.set a v) b = if b = a then v else cv.get b := by
  unfold ClockVector.get
  rw [List.getElem?_set]
  by_cases hab : a = b
  · subst hab; simp [h]
  · have : ¬ b = a := fun e => hab e.symm
    simp [hab, this]

theorem find_desc_max {p : Nat → Bool} {l : List Nat} (hl : l.Pairwise (fun a b => a > b)) {h : Nat}
    (hf : l.find? p = some h) : h ∈ l ∧ ∀ x ∈ l, p x = true → x ≤ h := by
  obtain ⟨_, as, bs, rfl, has⟩ := List.find?_eq_some_iff_append.mp hf
  refine ⟨by simp, fun x hx hpx => ?_⟩
  rcases List.mem_append.mp hx with hx | hx
  · exact absurd hpx (by simpa using has x hx)
  · rcases List.mem_cons.mp hx with rfl | hx
    · exact Nat.le_refl _
    · exact Nat.le_of_lt ((List.pairwise_cons.mp (List.pairwise_append.mp hl).2.1).1 x hx)

/-- `skip_list_[b]`, empty when the list has not been resized that far yet -/
def skipOf (s : List (List Nat)) (b : Nat) : List Nat := (s[b]?).getD []

theorem skipOf_cons_succ (l : List Nat) (r : List (List Nat)) (b : Nat) : skipOf (l :: r) (b + 1) = skipOf r b := rfl

theorem skipOf_pushSkip (s : List (List Nat)) (a v b : Nat) :
    skipOf (pushSkip s a v) b = if b = a then skipOf s a ++ [v] else skipOf s b := by
  induction s, a, v using pushSkip.induct generalizing b with
  | case1 v => cases b <;> rfl
  | case2 a v ih =>
    cases b with
    | zero => rfl
    | succ b => rw [pushSkip, skipOf_cons_succ, ih b]; simp [skipOf]
  | case3 l r v => cases b <;> rfl
  | case4 l r a v ih =>
    cases b with
    | zero => rfl
    | succ b => rw [pushSkip, skipOf_cons_succ, ih b]; simp [skipOf]

theorem skipOf_mem_skip {s : List (List Nat)} {b x : Nat} (h : x ∈ skipOf s b) : skipOf s b ∈ s := by
  unfold skipOf at h ⊢
  cases hb : s[b]? with
  | none => simp [hb] at h
  | some l => simpa using List.mem_iff_getElem?.mpr ⟨b, hb⟩

end SgVerif.C42
