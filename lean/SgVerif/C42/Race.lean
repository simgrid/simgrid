import SgVerif.C42.Inv
/-
C42 — `get_racing_events_of`: the candidates (strictly decreasing), `prev_on_actor`, the filtering loop (it keeps a sub-list, in
order, and its loop invariant), the set it computes.
-/
namespace SgVerif.C42

theorem uniqAdj_short {l : List Nat} (hl : ∀ a b r, l = a :: b :: r → False) : uniqAdj l = l := by
  match l with
  | [] | [_] => rfl
  | a :: b :: r => exact (hl a b r rfl).elim

theorem mem_uniqAdj (l : List Nat) (x : Nat) : x ∈ uniqAdj l ↔ x ∈ l := by
  induction l using uniqAdj.induct with
  | case1 b r ih => rw [uniqAdj, if_pos rfl, ih]; simp
  | case2 a b r hab ih => rw [uniqAdj, if_neg hab, List.mem_cons, ih, List.mem_cons (a := x) (b := a)]
  | case3 l hl => rw [uniqAdj_short hl]

theorem uniqAdj_sublist (l : List Nat) : (uniqAdj l).Sublist l := by
  induction l using uniqAdj.induct with
  | case1 b r ih => rw [uniqAdj, if_pos rfl]; exact ih.trans (List.sublist_cons_self _ _)
  | case2 a b r hab ih => rw [uniqAdj, if_neg hab]; exact ih.cons_cons a
  | case3 l hl => rw [uniqAdj_short hl]; exact List.Sublist.refl _

theorem uniqAdj_strict (l : List Nat) (h : l.Pairwise (fun a b => decide (a ≥ b) = true)) :
    (uniqAdj l).Pairwise (fun a b => a > b) := by
  induction l using uniqAdj.induct with
  | case1 b r ih => rw [uniqAdj, if_pos rfl]; exact ih (List.pairwise_cons.mp h).2
  | case2 a b r hab ih =>
    rw [uniqAdj, if_neg hab]
    obtain ⟨ha, hbr⟩ := List.pairwise_cons.mp h
    refine List.pairwise_cons.mpr ⟨fun x hx => ?_, ih hbr⟩
    have hab' : a ≥ b := by simpa using ha b List.mem_cons_self
    have hbx : b ≥ x := by
      rcases List.mem_cons.mp ((mem_uniqAdj _ _).mp hx) with rfl | hm
      · exact Nat.le_refl _
      · simpa using (List.pairwise_cons.mp hbr).1 x hm
    omega
  | case3 l hl =>
    rw [uniqAdj_short hl]
    match l with
    | [] => exact List.Pairwise.nil
    | [_] => exact List.pairwise_singleton _ _
    | a :: b :: r => exact (hl a b r rfl).elim

theorem mem_raceCandidates {W evtAid : Nat} {cv : ClockVector} {c : Nat} :
    c ∈ raceCandidates W evtAid cv ↔ ∃ a, a < W - 1 ∧ a ≠ evtAid ∧ cv.get a = some c := by
  unfold raceCandidates
  simp only [mem_uniqAdj, List.mem_mergeSort, List.mem_filterMap, List.mem_range]
  constructor
  · rintro ⟨a, ha, h⟩
    split at h
    · rename_i hne; exact ⟨a, ha, hne, h⟩
    · cases h
  · rintro ⟨a, ha, hne, h⟩
    exact ⟨a, ha, by simp [hne, h]⟩

/-- `sort(std::greater)` then `unique()`: the candidates are strictly decreasing -/
theorem raceCandidates_strict (W evtAid : Nat) (cv : ClockVector) :
    (raceCandidates W evtAid cv).Pairwise (fun a b => a > b) := by
  unfold raceCandidates
  apply uniqAdj_strict
  apply List.pairwise_mergeSort
  · intro a b c h1 h2
    simp only [decide_eq_true_eq] at *
    omega
  · intro a b
    simp only [Bool.or_eq_true, decide_eq_true_eq]
    omega

section
variable {T : Type} {aidOf : T → Nat} {dep : T → T → Bool}

theorem happensBefore_eq_false {ex : Execution T} {e j : Nat} (h : j ≤ e) : happensBefore aidOf ex e j = false :=
  if_pos h

theorem prevOnActor_some {ex : Execution T} {aid : Nat} : ∀ {t p : Nat}, prevOnActor aidOf ex aid t = some p →
    p < t ∧ actorOf aidOf ex p = some aid ∧ ∀ q, q < t → actorOf aidOf ex q = some aid → q ≤ p
  | 0, p, h => by simp [prevOnActor] at h
  | t + 1, p, h => by
    unfold prevOnActor at h
    split at h
    · rename_i ha
      cases h
      exact ⟨Nat.lt_succ_self _, ha, fun q hq _ => Nat.le_of_lt_succ hq⟩
    · rename_i hna
      obtain ⟨h1, h2, h3⟩ := prevOnActor_some h
      refine ⟨Nat.lt_succ_of_lt h1, h2, fun q hq hqa => ?_⟩
      rcases Nat.eq_or_lt_of_le (Nat.le_of_lt_succ hq) with rfl | hlt
      · exact absurd hqa hna
      · exact h3 q hlt hqa

theorem prevOnActor_none {ex : Execution T} {aid : Nat} : ∀ {t : Nat}, prevOnActor aidOf ex aid t = none →
    ∀ q, q < t → actorOf aidOf ex q ≠ some aid
  | 0, _, q, hq => by omega
  | t + 1, h, q, hq => by
    unfold prevOnActor at h
    split at h
    · cases h
    · rename_i hna
      rcases Nat.eq_or_lt_of_le (Nat.le_of_lt_succ hq) with rfl | hlt
      · exact hna
      · exact prevOnActor_none h q hlt

theorem raceLoop_cons (ex : Execution T) (prev : Option Nat) (e : Nat) (rest acc : List Nat) :
    raceLoop aidOf ex prev (e :: rest) acc = raceLoop aidOf ex prev rest
      (if prevHB aidOf ex prev e || acc.any (fun ej => happensBefore aidOf ex e ej) then acc else acc ++ [e]) := by
  rw [raceLoop]
  cases prevHB aidOf ex prev e <;> cases acc.any (fun ej => happensBefore aidOf ex e ej) <;> rfl

theorem raceLoop_sublist (ex : Execution T) (prev : Option Nat) :
    ∀ (l acc : List Nat), (raceLoop aidOf ex prev l acc).Sublist (acc ++ l)
  | [], acc => by simp [raceLoop]
  | e :: rest, acc => by
    rw [raceLoop_cons]
    refine (raceLoop_sublist ex prev rest _).trans ?_
    split
    · exact List.Sublist.append_left (List.sublist_cons_self e rest) acc
    · simp

/-- loop invariant of the filtering loop: with candidates in non-increasing order, an event is kept iff it is a
candidate that does not happen before `prev_on_actor` nor before any kept event -/
theorem raceLoop_spec (ex : Execution T) (prev : Option Nat) :
    ∀ (cands acc : List Nat), cands.Pairwise (fun a b => a ≥ b) →
      ∀ x, x ∈ raceLoop aidOf ex prev cands acc ↔
        x ∈ acc ∨ (x ∈ cands ∧ ¬ prevHB aidOf ex prev x = true ∧
          ∀ j ∈ raceLoop aidOf ex prev cands acc, ¬ happensBefore aidOf ex x j = true) := by
  intro cands
  induction cands with
  | nil => intro acc _ x; simp [raceLoop]
  | cons e rest ih =>
    intro acc hsorted x
    rw [List.pairwise_cons] at hsorted
    rw [raceLoop_cons, List.mem_cons, or_and_right]
    by_cases hk : (prevHB aidOf ex prev e || acc.any (fun ej => happensBefore aidOf ex e ej)) = true
    · -- `e` is dropped, and fails the criterion
      rw [if_pos hk]
      have IH := ih acc hsorted.2
      have hfail : ¬ (x = e ∧ ¬ prevHB aidOf ex prev x = true ∧
          ∀ j ∈ raceLoop aidOf ex prev rest acc, ¬ happensBefore aidOf ex x j = true) := by
        rintro ⟨rfl, h1, h2⟩
        rcases Bool.or_eq_true_iff.mp hk with hp | hany
        · exact h1 hp
        · obtain ⟨ej, hej, hhb⟩ := List.any_eq_true.mp hany
          exact h2 ej ((IH ej).mpr (Or.inl hej)) hhb
      rw [IH x, (iff_false _).mpr hfail, false_or]
    · rw [if_neg hk]
      rw [Bool.or_eq_true, not_or] at hk
      have IH := ih (acc ++ [e]) hsorted.2
      -- `e` is kept: it happens before nothing that is kept, earlier (tested) or later (not above it)
      have he_all : ∀ j ∈ raceLoop aidOf ex prev rest (acc ++ [e]), ¬ happensBefore aidOf ex e j = true := by
        intro j hj
        rcases (IH j).mp hj with hj | ⟨hj, _⟩
        · rcases List.mem_append.mp hj with hj | hj
          · exact fun hh => hk.2 (List.any_eq_true.mpr ⟨j, hj, hh⟩)
          · exact Bool.eq_false_iff.mp (happensBefore_eq_false (Nat.le_of_eq (List.mem_singleton.mp hj)))
        · exact Bool.eq_false_iff.mp (happensBefore_eq_false (hsorted.1 j hj))
      rw [IH x, List.mem_append, List.mem_singleton, or_assoc, and_iff_left_of_imp (a := x = e)]
      rintro rfl
      exact ⟨hk.1, he_all⟩

/-- SPEC (doc comment of `get_racing_events_of`, Execution.hpp): `e` and `t` race iff they belong to different
actors, `e` happens before `t`, and no event happens between them. -/
def IsRace (aidOf : T → Nat) (dep : T → T → Bool) (ts : List T) (e t : Nat) : Prop :=
  aidAt aidOf ts e ≠ aidAt aidOf ts t ∧ Chain dep ts e t ∧ ¬ ∃ k, Chain dep ts e k ∧ Chain dep ts k t

theorem actorOf_eq_aidAt {W : Nat} {ts : List T} {ex : Execution T} (h : Inv aidOf dep W ts ex) (i : Nat) :
    actorOf aidOf ex i = aidAt aidOf ts i := by
  unfold actorOf aidAt
  rw [← h.trans, List.getElem?_map]
  cases ex.contents[i]? <;> rfl

theorem prevHB_prevOnActor (hsame : ∀ t1 t2 : T, aidOf t1 = aidOf t2 → dep t1 t2 = true) {W : Nat} {ts : List T}
    {ex : Execution T} (h : Inv aidOf dep W ts ex) (a t e : Nat) :
    prevHB aidOf ex (prevOnActor aidOf ex a t) e = true ↔
      ∃ k, k < t ∧ aidAt aidOf ts k = some a ∧ Chain dep ts e k := by
  cases hprev : prevOnActor aidOf ex a t with
  | none =>
    refine ⟨nofun, fun ⟨k, hkt, hka, _⟩ => ?_⟩
    exact absurd ((actorOf_eq_aidAt h k).trans hka) (prevOnActor_none hprev k hkt)
  | some p =>
    obtain ⟨hpt, hpa, hmax⟩ := prevOnActor_some hprev
    simp only [actorOf_eq_aidAt h] at hpa hmax
    refine (hb_of_inv hsame h e p).trans ⟨fun hc => ⟨p, hpt, hpa, hc⟩, fun ⟨k, hkt, hka, hek⟩ => ?_⟩
    exact hek.trans_hbeq (hbeq_same_actor hsame hka hpa (hmax k hkt hka))

theorem racing_of_inv (hsame : ∀ t1 t2 : T, aidOf t1 = aidOf t2 → dep t1 t2 = true) {W : Nat} {ts : List T}
    {ex : Execution T} (h : Inv aidOf dep W ts ex) (hW : ∀ t ∈ ts, aidOf t < W - 1) (t : Nat) (ht : t < ts.length)
    (x : Nat) : x ∈ getRacingEventsOf aidOf W ex t ↔ IsRace aidOf dep ts x t := by
  obtain ⟨evt, hevt, htaid⟩ := h.event_at ht
  have hbiff := hb_of_inv hsame h
  have hP := prevHB_prevOnActor hsame h (aidOf evt.t) t
  unfold getRacingEventsOf
  simp only [hevt]
  have hspec := raceLoop_spec (aidOf := aidOf) ex (prevOnActor aidOf ex (aidOf evt.t) t)
    (raceCandidates W (aidOf evt.t) evt.cv) [] ((raceCandidates_strict _ _ _).imp Nat.le_of_lt)
  simp only [List.not_mem_nil, false_or] at hspec
  generalize raceLoop aidOf ex _ (raceCandidates W (aidOf evt.t) evt.cv) [] = R at hspec ⊢
  -- a candidate is an event of another actor that happens before t
  have hcand : ∀ c ∈ raceCandidates W (aidOf evt.t) evt.cv,
      aidAt aidOf ts c ≠ aidAt aidOf ts t ∧ Chain dep ts c t := by
    intro c hc
    obtain ⟨a, _, hne, hg⟩ := mem_raceCandidates.mp hc
    obtain ⟨hca, hct⟩ := h.sound t evt a c hevt hg
    have hne' : aidAt aidOf ts c ≠ aidAt aidOf ts t := by
      rw [hca, htaid]; exact fun he => hne (Option.some.inj he)
    exact ⟨hne', hct.resolve_left fun heq => hne' (by rw [heq])⟩
  -- the latest event of k's actor that happens before t is a candidate
  have habove : ∀ k, Chain dep ts k t → aidAt aidOf ts k ≠ aidAt aidOf ts t →
      ∃ c ∈ raceCandidates W (aidOf evt.t) evt.cv, HBeq dep ts k c := by
    intro k hkt hne
    obtain ⟨evk, hevk, hka⟩ := h.event_at (Nat.lt_trans hkt.lt ht)
    obtain ⟨c, hgc, hkc⟩ := h.complete t evt (aidOf evk.t) k hevt hka (Or.inr hkt)
    exact ⟨c, mem_raceCandidates.mpr ⟨_, hW evk.t (List.mem_of_getElem? (h.trans_at hevk)),
        fun he => hne (by rw [hka, htaid, he]), hgc⟩,
      hbeq_same_actor hsame hka (h.sound t evt _ c hevt hgc).1 hkc⟩
  -- a candidate that is not returned fails one of the two tests
  have hdom : ∀ c ∈ raceCandidates W (aidOf evt.t) evt.cv,
      prevHB aidOf ex (prevOnActor aidOf ex (aidOf evt.t) t) c = true ∨ ∃ j ∈ R, HBeq dep ts c j := by
    intro c hc
    refine Classical.byContradiction fun hno => hno (Or.inr ⟨c, (hspec c).mpr ⟨hc, ?_, fun j hj => ?_⟩, Or.inl rfl⟩)
    · exact fun hp => hno (Or.inl hp)
    · exact fun hh => hno (Or.inr ⟨j, hj, Or.inr ((hbiff c j).mp hh)⟩)
  rw [hspec x]
  constructor
  · rintro ⟨hxc, hxp, hxall⟩
    obtain ⟨hne, hxt⟩ := hcand x hxc
    refine ⟨hne, hxt, ?_⟩
    rintro ⟨k, hxk, hkt⟩
    by_cases hka : aidAt aidOf ts k = aidAt aidOf ts t
    · exact hxp ((hP x).mpr ⟨k, hkt.lt, hka.trans htaid, hxk⟩)
    · obtain ⟨c, hcc, hkc⟩ := habove k hkt hka
      have hxc' := hxk.trans_hbeq hkc
      rcases hdom c hcc with hcp | ⟨j, hjR, hcj⟩
      · obtain ⟨p, hpt, hpa, hcp⟩ := (hP c).mp hcp
        exact hxp ((hP x).mpr ⟨p, hpt, hpa, hxc'.trans hcp⟩)
      · exact hxall j hjR ((hbiff x j).mpr (hxc'.trans_hbeq hcj))
  · rintro ⟨hne, hxt, hnobetween⟩
    obtain ⟨c, hcc, hxc⟩ := habove x hxt hne
    obtain rfl : x = c := hxc.resolve_right fun hlt => hnobetween ⟨c, hlt, (hcand c hcc).2⟩
    refine ⟨hcc, fun hp => ?_, fun j hj hh => ?_⟩
    · obtain ⟨p, hpt, hpa, hxp⟩ := (hP x).mp hp
      exact hnobetween ⟨p, hxp, Chain.single hpt (depAt_same_actor hsame hpa htaid)⟩
    · exact hnobetween ⟨j, (hbiff x j).mp hh, (hcand j ((hspec j).mp hj).1).2⟩

end
end SgVerif.C42
