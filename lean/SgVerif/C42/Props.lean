import SgVerif.C42.Race
/-
C42 — Happens-before equals transitive dependency.  Property theorems.

Every theorem is for EVERY execution `ts` (any length), EVERY `max_threads` value `W`, EVERY actor numbering with
aids in the range `Aid`'s constructor admits, and EVERY dependency relation `dep` (not assumed symmetric, transitive
or anything) such that two transitions of one actor are dependent — the first test of `Transition::dispatch_depends`.
`run aidOf dep W ts` is the `Execution` obtained by `push_transition`-ing `ts` one by one on an empty execution.
-/
namespace SgVerif.C42

section
variable {T : Type} (aidOf : T → Nat) (dep : T → T → Bool)

/-- explicit form of a chain: `LinkedFrom i [x1, …, xk]` iff `i < x1 < … < xk` and each consecutive pair is dependent -/
def LinkedFrom (ts : List T) : Nat → List Nat → Prop
  | _, [] => True
  | i, k :: r => i < k ∧ DepAt dep ts i k ∧ LinkedFrom ts k r

/-- the inductive `Chain` is literally "∃ e1 = x0 < x1 < … < xk = e2, k ≥ 1, with dep(x_i, x_{i+1})" -/
theorem chain_iff_list (ts : List T) (i j : Nat) :
    Chain dep ts i j ↔ ∃ l : List Nat, l ≠ [] ∧ LinkedFrom dep ts i l ∧ (i :: l).getLast? = some j := by
  constructor
  · intro h
    induction h with
    | single h d => exact ⟨[_], by simp, ⟨h, d, trivial⟩, by simp⟩
    | step h d _ ih =>
      obtain ⟨l, _, hl, hlast⟩ := ih
      refine ⟨_ :: l, by simp, ⟨h, d, hl⟩, ?_⟩
      rw [List.getLast?_cons_cons]; exact hlast
  · rintro ⟨l, hne, hl, hlast⟩
    induction l generalizing i with
    | nil => exact absurd rfl hne
    | cons k r ih =>
      obtain ⟨hik, d, hr⟩ := hl
      rw [List.getLast?_cons_cons] at hlast
      cases r with
      | nil => simp at hlast; subst hlast; exact Chain.single hik d
      | cons k2 r2 => exact Chain.step hik d (ih k (by simp) hr hlast)

/-- **happens-before = transitive dependency.**  `Execution::happens_before(e1, e2)` (the clock-vector test) is true
exactly when `e1 < e2` and a chain of pairwise dependent events leads from `e1` to `e2` (`Chain` contains `e1 < e2`
and `e2 < size`; irreflexive as the code defines it). -/
theorem hb_iff_dep_chain (hsame : ∀ t1 t2 : T, aidOf t1 = aidOf t2 → dep t1 t2 = true) (W : Nat) (ts : List T)
    (hW : ∀ t ∈ ts, aidOf t < W) (e1 e2 : Nat) :
    happensBefore aidOf (run aidOf dep W ts) e1 e2 = true ↔ Chain dep ts e1 e2 :=
  hb_of_inv hsame (inv_run hsame W ts hW) e1 e2

/-- the same, spelled out with the explicit list of intermediate events -/
theorem hb_iff_dep_chain_list (hsame : ∀ t1 t2 : T, aidOf t1 = aidOf t2 → dep t1 t2 = true) (W : Nat) (ts : List T)
    (hW : ∀ t ∈ ts, aidOf t < W) (e1 e2 : Nat) :
    happensBefore aidOf (run aidOf dep W ts) e1 e2 = true ↔
      e1 < e2 ∧ ∃ l : List Nat, l ≠ [] ∧ LinkedFrom dep ts e1 l ∧ (e1 :: l).getLast? = some e2 := by
  rw [hb_iff_dep_chain aidOf dep hsame W ts hW, chain_iff_list]
  constructor
  · intro h; exact ⟨((chain_iff_list dep ts e1 e2).mpr h).lt, h⟩
  · intro h; exact h.2

/-- the clock-vector invariant itself: entry `a` of the clock vector of event `e` is the latest event of actor `a`
that happens before or is `e` (and INVALID iff there is none) -/
theorem clock_vector_meaning (hsame : ∀ t1 t2 : T, aidOf t1 = aidOf t2 → dep t1 t2 = true) (W : Nat) (ts : List T)
    (hW : ∀ t ∈ ts, aidOf t < W) (e : Nat) (ev : Event T) (he : (run aidOf dep W ts).contents[e]? = some ev) (a : Nat) :
    (∀ m, ev.cv.get a = some m → aidAt aidOf ts m = some a ∧ HBeq dep ts m e) ∧
    (∀ m', aidAt aidOf ts m' = some a → HBeq dep ts m' e → ∃ m, ev.cv.get a = some m ∧ m' ≤ m) :=
  ⟨fun m hm => (inv_run hsame W ts hW).sound e ev a m he hm,
   fun m' h1 h2 => (inv_run hsame W ts hW).complete e ev a m' he h1 h2⟩

/-- **racing events, as the header defines a race**: `get_racing_events_of(t)` returns exactly the events of other
actors that happen before `t` with no event in between. -/
theorem racing_events_exact (hsame : ∀ t1 t2 : T, aidOf t1 = aidOf t2 → dep t1 t2 = true) (W : Nat) (ts : List T)
    (hW : ∀ t ∈ ts, aidOf t < W - 1) (t : Nat) (ht : t < ts.length) (x : Nat) :
    x ∈ getRacingEventsOf aidOf W (run aidOf dep W ts) t ↔ IsRace aidOf dep ts x t :=
  racing_of_inv hsame (inv_run hsame W ts (fun t' h => by have := hW t' h; omega)) hW t ht x

/-- `p` is the previous event of `t`'s actor -/
def IsPrevOnActor (ts : List T) (t p : Nat) : Prop :=
  p < t ∧ aidAt aidOf ts p = aidAt aidOf ts t ∧ ∀ q, p < q → q < t → aidAt aidOf ts q ≠ aidAt aidOf ts t

/-- the set of the property text: predecessors of `t` from other actors, not ordered with the previous event of
`t`'s actor -/
def RaceCand (ts : List T) (t e : Nat) : Prop :=
  aidAt aidOf ts e ≠ aidAt aidOf ts t ∧ Chain dep ts e t ∧ ∀ p, IsPrevOnActor aidOf ts t p → ¬ Chain dep ts e p

theorem exists_prev (ts : List T) (a : Option Nat) : ∀ t k, k < t → aidAt aidOf ts k = a →
    ∃ p, p < t ∧ k ≤ p ∧ aidAt aidOf ts p = a ∧ ∀ q, p < q → q < t → aidAt aidOf ts q ≠ a := by
  intro t k hk hka
  -- the first hit of a search downwards from `t - 1`
  have hmem : ∀ {q}, q < t → q ∈ (List.range t).reverse := fun h => List.mem_reverse.mpr (List.mem_range.mpr h)
  obtain ⟨p, hp⟩ := Option.isSome_iff_exists.mp
    ((List.find?_isSome (p := fun i => decide (aidAt aidOf ts i = a))).mpr ⟨k, hmem hk, decide_eq_true hka⟩)
  obtain ⟨hpm, hmax⟩ := find_desc_max (List.pairwise_reverse.mpr List.pairwise_lt_range) hp
  have hpa := List.find?_some hp
  refine ⟨p, List.mem_range.mp (List.mem_reverse.mp hpm), hmax k (hmem hk) (decide_eq_true hka),
    of_decide_eq_true hpa, fun q h1 h2 hq => ?_⟩
  exact Nat.lt_irrefl _ (Nat.lt_of_lt_of_le h1 (hmax q (hmem h2) (decide_eq_true hq)))

/-- **racing events, as the property text words it**: the races of `t` are the maximal (w.r.t. happens-before)
predecessors of `t` from other actors that are not already ordered with the previous event of `t`'s actor. -/
theorem race_iff_maximal_candidate (hsame : ∀ t1 t2 : T, aidOf t1 = aidOf t2 → dep t1 t2 = true) (ts : List T)
    (t x : Nat) :
    IsRace aidOf dep ts x t ↔
      RaceCand aidOf dep ts t x ∧ ¬ ∃ y, RaceCand aidOf dep ts t y ∧ Chain dep ts x y := by
  have hvalid : ∀ i, i < ts.length → ∃ a, aidAt aidOf ts i = some a := by
    intro i hi; exact ⟨_, aidAt_of_getElem? (List.getElem?_eq_getElem hi)⟩
  constructor
  · rintro ⟨hne, hxt, hno⟩
    refine ⟨⟨hne, hxt, ?_⟩, ?_⟩
    · intro p ⟨hpt, hpa, _⟩ hxp
      obtain ⟨a, ha⟩ := hvalid t hxt.valid
      exact hno ⟨p, hxp, Chain.single hpt (depAt_same_actor hsame (hpa.trans ha) ha)⟩
    · rintro ⟨y, ⟨_, hyt, _⟩, hxy⟩
      exact hno ⟨y, hxy, hyt⟩
  · rintro ⟨⟨hne, hxt, hprev⟩, hmax⟩
    refine ⟨hne, hxt, ?_⟩
    rintro ⟨k, hxk, hkt⟩
    obtain ⟨a, ha⟩ := hvalid t hxt.valid
    by_cases hka : aidAt aidOf ts k = aidAt aidOf ts t
    · obtain ⟨p, hp, hkp, hpa, hall⟩ := exists_prev aidOf ts _ t k hkt.lt hka
      exact hprev p ⟨hp, hpa, hall⟩ (hxk.trans_hbeq (hbeq_same_actor hsame (hka.trans ha) (hpa.trans ha) hkp))
    · apply hmax
      refine ⟨k, ⟨hka, hkt, ?_⟩, hxk⟩
      intro p hp hkp
      exact hprev p hp (hxk.trans hkp)

/-- `happens_before_process(e, p, limit)`: `e` belongs to `p`, or happens before an event of `p` below `limit` -/
theorem happens_before_process_spec (hsame : ∀ t1 t2 : T, aidOf t1 = aidOf t2 → dep t1 t2 = true) (W : Nat)
    (ts : List T) (hW : ∀ t ∈ ts, aidOf t < W) (e p limit : Nat) :
    happensBeforeProcess aidOf (run aidOf dep W ts) e p limit = true ↔
      aidAt aidOf ts e = some p ∨ ∃ k, k < limit ∧ Chain dep ts e k ∧ aidAt aidOf ts k = some p := by
  have hinv := inv_run hsame W ts hW
  unfold happensBeforeProcess
  rw [actorOf_eq_aidAt hinv]
  by_cases h1 : aidAt aidOf ts e = some p
  · simp [h1]
  · simp only [h1, if_false, false_or, List.any_eq_true, List.mem_range, Bool.and_eq_true, decide_eq_true_eq,
      beq_iff_eq]
    constructor
    · rintro ⟨k, hk, ⟨_, hb⟩, ha⟩
      rw [actorOf_eq_aidAt hinv] at ha
      exact ⟨k, hk, (hb_of_inv hsame hinv e k).mp hb, ha⟩
    · rintro ⟨k, hk, hc, ha⟩
      refine ⟨k, hk, ⟨hc.lt, (hb_of_inv hsame hinv e k).mpr hc⟩, ?_⟩
      rw [actorOf_eq_aidAt hinv]; exact ha

/-- **the racing list is strictly decreasing** (hence duplicate-free, latest race first): for EVERY execution object (not
only those built by `run`), every `max_threads` and every target.  The candidates are sorted with `std::greater` and
`unique()`d (`raceCandidates_strict`) and the filtering loop keeps a sub-list in the same order (`raceLoop_sublist`).
With `racing_events_exact` the returned list is THE descending enumeration of the races of `t`. -/
theorem racing_events_strictly_decreasing (W : Nat) (ex : Execution T) (target : Nat) :
    (getRacingEventsOf aidOf W ex target).Pairwise (fun a b => a > b) := by
  unfold getRacingEventsOf
  split
  · exact List.Pairwise.nil
  · rename_i evt _
    have hs := raceLoop_sublist (aidOf := aidOf) ex (prevOnActor aidOf ex (aidOf evt.t) target)
      (raceCandidates W (aidOf evt.t) evt.cv) []
    simp only [List.nil_append] at hs
    exact (raceCandidates_strict W _ _).sublist hs

theorem racing_events_nodup (W : Nat) (ex : Execution T) (target : Nat) : (getRacingEventsOf aidOf W ex target).Nodup :=
  (racing_events_strictly_decreasing aidOf W ex target).imp (fun h => Nat.ne_of_gt h)

end

/-! ### non-vacuity: a concrete relation satisfying the hypotheses, with a transitive-only pair and a race -/

/-- transitions = (actor, resource); dependent iff same actor or same resource -/
def exAid (t : Nat × Nat) : Nat := t.1
def exDep (a b : Nat × Nat) : Bool := a.1 == b.1 || a.2 == b.2
def exTs : List (Nat × Nat) := [(1, 1), (2, 1), (2, 2), (3, 2), (1, 3)]

theorem exDep_same : ∀ t1 t2 : Nat × Nat, exAid t1 = exAid t2 → exDep t1 t2 = true := by
  intro t1 t2 h; simp [exDep, exAid] at *; exact Or.inl h

/-- event 0 happens before event 3 although they are not dependent (chain 0 → 1 → 2 → 3); event 3 does not happen
before event 4 (another actor, another resource) -/
example : happensBefore exAid (run exAid exDep 32 exTs) 0 3 = true ∧ exDep (1, 1) (3, 2) = false ∧
    happensBefore exAid (run exAid exDep 32 exTs) 3 4 = false := by decide

example : Chain exDep exTs 0 3 :=
  (hb_iff_dep_chain exAid exDep exDep_same 32 exTs (by decide) 0 3).mp (by decide)

/-- event 2 races with event 3 (nothing fits between them), hence `get_racing_events_of(3)` returns it; event 1 does
not race with 3 (event 2 is in between) and is not returned -/
example : 2 ∈ getRacingEventsOf exAid 32 (run exAid exDep 32 exTs) 3 ∧
    1 ∉ getRacingEventsOf exAid 32 (run exAid exDep 32 exTs) 3 := by
  constructor
  · refine (racing_events_exact exAid exDep exDep_same 32 exTs (by decide) 3 (by decide) 2).mpr ⟨by decide, ?_, ?_⟩
    · exact Chain.single (by decide) ⟨_, _, rfl, rfl, rfl⟩
    · rintro ⟨k, h1, h2⟩
      have := h1.lt; have := h2.lt; omega
  · intro h
    have hr := (racing_events_exact exAid exDep exDep_same 32 exTs (by decide) 3 (by decide) 1).mp h
    apply hr.2.2
    exact ⟨2, Chain.single (by decide) ⟨_, _, rfl, rfl, rfl⟩, Chain.single (by decide) ⟨_, _, rfl, rfl, rfl⟩⟩

-- an instance of `racing_events_strictly_decreasing`, and the sort/unique step on a list with duplicates
example : (getRacingEventsOf exAid 32 (run exAid exDep 32 exTs) 3).Pairwise (fun a b => a > b) :=
  racing_events_strictly_decreasing exAid 32 _ 3
example : uniqAdj [5, 5, 3, 3, 1] = [5, 3, 1] ∧ [5, 3, 1].Pairwise (fun a b => a > b) := by decide

end SgVerif.C42
