import SgVerif.C42.Lemmas
import SgVerif.Common.Fold
import SgVerif.Common.Snoc
/-
C42 — the SPEC (chain of pairwise dependent events), the invariant of `push_transition`:
"the clock vector of event e at actor a = the latest event of a that happens-before-or-equals e",
its preservation, and `happens_before` as the chain relation.
-/
namespace SgVerif.C42

section
variable {T : Type} (aidOf : T → Nat) (dep : T → T → Bool)

/-- actor of the i-th transition of the sequence -/
def aidAt (ts : List T) (i : Nat) : Option Nat := (ts[i]?).map aidOf

/-- `ts[i]` and `ts[j]` exist and `ts[i]->dispatch_depends(ts[j])` -/
def DepAt (ts : List T) (i j : Nat) : Prop := ∃ ti tj, ts[i]? = some ti ∧ ts[j]? = some tj ∧ dep ti tj = true

/-- SPEC: `Chain ts e1 e2` iff there are `e1 = x0 < x1 < … < xk = e2` (k ≥ 1) with `dep(x_i, x_{i+1})` for all i. -/
inductive Chain (ts : List T) : Nat → Nat → Prop
  | single {i j : Nat} : i < j → DepAt dep ts i j → Chain ts i j
  | step {i k j : Nat} : i < k → DepAt dep ts i k → Chain ts k j → Chain ts i j

def HBeq (ts : List T) (i j : Nat) : Prop := i = j ∨ Chain dep ts i j

variable {dep}

theorem Chain.lt {ts : List T} {i j : Nat} (h : Chain dep ts i j) : i < j := by
  induction h with
  | single h _ => exact h
  | step h _ _ ih => exact Nat.lt_trans h ih

theorem DepAt.valid_right {ts : List T} {i j : Nat} (h : DepAt dep ts i j) : j < ts.length := by
  obtain ⟨_, tj, _, h2, _⟩ := h
  exact (List.getElem?_eq_some_iff.mp h2).1

theorem Chain.valid {ts : List T} {i j : Nat} (h : Chain dep ts i j) : j < ts.length := by
  induction h with
  | single _ h => exact h.valid_right
  | step _ _ _ ih => exact ih

theorem Chain.trans {ts : List T} {i j k : Nat} (h1 : Chain dep ts i j) (h2 : Chain dep ts j k) :
    Chain dep ts i k := by
  induction h1 with
  | single h d => exact Chain.step h d h2
  | step h d _ ih => exact Chain.step h d (ih h2)

theorem Chain.last {ts : List T} {i j : Nat} (h : Chain dep ts i j) :
    ∃ p, HBeq dep ts i p ∧ p < j ∧ DepAt dep ts p j := by
  induction h with
  | single h d => exact ⟨_, Or.inl rfl, h, d⟩
  | step h d c ih =>
    obtain ⟨p, hp, hpj, dp⟩ := ih
    refine ⟨p, Or.inr ?_, hpj, dp⟩
    rcases hp with rfl | hp
    · exact Chain.single h d
    · exact Chain.step h d hp

theorem HBeq.trans_chain {ts : List T} {i j k : Nat} (h1 : HBeq dep ts i j) (h2 : Chain dep ts j k) :
    Chain dep ts i k := by
  rcases h1 with rfl | h1
  · exact h2
  · exact h1.trans h2

theorem Chain.snoc {ts : List T} {i j k : Nat} (h1 : HBeq dep ts i j) (hjk : j < k) (d : DepAt dep ts j k) :
    Chain dep ts i k :=
  h1.trans_chain (Chain.single hjk d)

theorem Chain.trans_hbeq {ts : List T} {i j k : Nat} (h1 : Chain dep ts i j) (h2 : HBeq dep ts j k) :
    Chain dep ts i k := by
  rcases h2 with rfl | h2
  · exact h1
  · exact h1.trans h2

theorem HBeq.trans {ts : List T} {i j k : Nat} (h1 : HBeq dep ts i j) (h2 : HBeq dep ts j k) :
    HBeq dep ts i k := by
  rcases h2 with rfl | h2
  · exact h1
  · exact Or.inr (h1.trans_chain h2)

theorem HBeq.le {ts : List T} {i j : Nat} (h : HBeq dep ts i j) : i ≤ j := by
  rcases h with rfl | h
  · exact Nat.le_refl _
  · exact Nat.le_of_lt h.lt

theorem DepAt.append {ts : List T} {t : T} {i j : Nat} (h : DepAt dep ts i j) : DepAt dep (ts ++ [t]) i j := by
  obtain ⟨ti, tj, h1, h2, h3⟩ := h
  exact ⟨ti, tj, getElem?_snoc_of_some h1, getElem?_snoc_of_some h2, h3⟩

theorem DepAt.of_append {ts : List T} {t : T} {i j : Nat} (h : DepAt dep (ts ++ [t]) i j) (hi : i < ts.length)
    (hj : j < ts.length) : DepAt dep ts i j := by
  obtain ⟨ti, tj, h1, h2, h3⟩ := h
  rw [List.getElem?_append_left hi] at h1
  rw [List.getElem?_append_left hj] at h2
  exact ⟨ti, tj, h1, h2, h3⟩

theorem Chain.append {ts : List T} {t : T} {i j : Nat} (h : Chain dep ts i j) : Chain dep (ts ++ [t]) i j := by
  induction h with
  | single h d => exact Chain.single h d.append
  | step h d _ ih => exact Chain.step h d.append ih

theorem Chain.of_append {ts : List T} {t : T} {i j : Nat} (h : Chain dep (ts ++ [t]) i j) (hj : j < ts.length) :
    Chain dep ts i j := by
  induction h with
  | single h d => exact Chain.single h (d.of_append (Nat.lt_trans h hj) hj)
  | step h d c ih =>
    have hc := ih hj
    exact Chain.step h (d.of_append (Nat.lt_trans h (Nat.lt_trans c.lt hj)) (Nat.lt_trans c.lt hj)) hc

theorem HBeq.append {ts : List T} {t : T} {i j : Nat} (h : HBeq dep ts i j) : HBeq dep (ts ++ [t]) i j := by
  rcases h with rfl | h
  · exact Or.inl rfl
  · exact Or.inr h.append

theorem HBeq.of_append {ts : List T} {t : T} {i j : Nat} (h : HBeq dep (ts ++ [t]) i j) (hj : j < ts.length) :
    HBeq dep ts i j := by
  rcases h with rfl | h
  · exact Or.inl rfl
  · exact Or.inr (h.of_append hj)

variable {aidOf}

theorem aidAt_append_left {ts : List T} {t : T} {i : Nat} (h : i < ts.length) :
    aidAt aidOf (ts ++ [t]) i = aidAt aidOf ts i := by
  unfold aidAt; rw [List.getElem?_append_left h]

theorem aidAt_append_last {ts : List T} {t : T} : aidAt aidOf (ts ++ [t]) ts.length = some (aidOf t) := by
  unfold aidAt; simp

theorem aidAt_of_getElem? {ts : List T} {i : Nat} {x : T} (h : ts[i]? = some x) : aidAt aidOf ts i = some (aidOf x) := by
  unfold aidAt; rw [h]; rfl

theorem aidAt_lt {ts : List T} {i a : Nat} (h : aidAt aidOf ts i = some a) : i < ts.length := by
  obtain ⟨x, hx, _⟩ := Option.map_eq_some_iff.mp h
  exact (List.getElem?_eq_some_iff.mp hx).1

theorem depAt_same_actor (hsame : ∀ t1 t2 : T, aidOf t1 = aidOf t2 → dep t1 t2 = true) {ts : List T} {i j a : Nat}
    (hi : aidAt aidOf ts i = some a) (hj : aidAt aidOf ts j = some a) : DepAt dep ts i j := by
  obtain ⟨ti, h1, hi⟩ := Option.map_eq_some_iff.mp hi
  obtain ⟨tj, h2, hj⟩ := Option.map_eq_some_iff.mp hj
  exact ⟨ti, tj, h1, h2, hsame ti tj (hi.trans hj.symm)⟩

theorem hbeq_same_actor (hsame : ∀ t1 t2 : T, aidOf t1 = aidOf t2 → dep t1 t2 = true) {ts : List T} {i j a : Nat}
    (hi : aidAt aidOf ts i = some a) (hj : aidAt aidOf ts j = some a) (hij : i ≤ j) : HBeq dep ts i j := by
  rcases Nat.eq_or_lt_of_le hij with rfl | hlt
  · exact Or.inl rfl
  · exact Or.inr (Chain.single hlt (depAt_same_actor hsame hi hj))

variable (aidOf dep)

/-- the invariant of `Execution` after pushing the transitions `ts` -/
structure Inv (W : Nat) (ts : List T) (ex : Execution T) : Prop where
  trans : ex.contents.map (·.t) = ts
  skipEq : ∀ b, skipOf ex.skip b = (List.range ts.length).filter (fun i => aidAt aidOf ts i == some b)
  cvLen : ∀ ev ∈ ex.contents, ev.cv.length = W
  sound : ∀ e ev a m, ex.contents[e]? = some ev → ev.cv.get a = some m → aidAt aidOf ts m = some a ∧ HBeq dep ts m e
  complete : ∀ e ev a m', ex.contents[e]? = some ev → aidAt aidOf ts m' = some a → HBeq dep ts m' e →
    ∃ m, ev.cv.get a = some m ∧ m' ≤ m

variable {aidOf dep}

theorem Inv.length {W : Nat} {ts : List T} {ex : Execution T} (h : Inv aidOf dep W ts ex) :
    ex.contents.length = ts.length := by
  rw [← h.trans]; simp

theorem Inv.trans_at {W : Nat} {ts : List T} {ex : Execution T} (h : Inv aidOf dep W ts ex) {i : Nat} {ev : Event T}
    (hi : ex.contents[i]? = some ev) : ts[i]? = some ev.t := by
  rw [← h.trans, List.getElem?_map, hi]; rfl

theorem Inv.event_at {W : Nat} {ts : List T} {ex : Execution T} (h : Inv aidOf dep W ts ex) {i : Nat}
    (hi : i < ts.length) : ∃ ev, ex.contents[i]? = some ev ∧ aidAt aidOf ts i = some (aidOf ev.t) := by
  have : i < ex.contents.length := by rw [h.length]; exact hi
  exact ⟨ex.contents[i], List.getElem?_eq_getElem this, aidAt_of_getElem? (h.trans_at (List.getElem?_eq_getElem this))⟩

theorem inv_empty (W : Nat) : Inv aidOf dep W ([] : List T) Execution.empty :=
  ⟨rfl, fun b => by cases b <;> rfl, nofun, fun _ _ _ _ => nofun, fun _ _ _ _ => nofun⟩

theorem Inv.mem_skip {W : Nat} {ts : List T} {ex : Execution T} (h : Inv aidOf dep W ts ex) {b x : Nat} :
    x ∈ skipOf ex.skip b ↔ aidAt aidOf ts x = some b := by
  rw [h.skipEq b, List.mem_filter, List.mem_range]
  constructor
  · intro ⟨_, h2⟩; simpa using h2
  · intro h2; exact ⟨aidAt_lt h2, by simpa using h2⟩

theorem Inv.skip_sorted {W : Nat} {ts : List T} {ex : Execution T} (h : Inv aidOf dep W ts ex) (b : Nat) :
    (skipOf ex.skip b).Pairwise (fun x y => x < y) := by
  rw [h.skipEq b]; exact List.Pairwise.filter _ List.pairwise_lt_range

/-- the test of `push_transition`'s inner loop on the handle of an existing event is the dependency of the new transition on it -/
theorem Inv.dep_test {W : Nat} {ts : List T} {ex : Execution T} (h : Inv aidOf dep W ts ex) (t : T) {x : Nat}
    (hx : x < ts.length) :
    (match ex.contents[x]? with
      | some ev => dep ev.t t
      | none => false) = true ↔ DepAt dep (ts ++ [t]) x ts.length := by
  obtain ⟨ev, hev, -⟩ := h.event_at hx
  simp only [hev, DepAt, List.getElem?_append_left hx, h.trans_at hev, List.getElem?_concat_length, Option.some.injEq]
  exact ⟨fun hd => ⟨_, _, rfl, rfl, hd⟩, fun ⟨_, _, h1, h2, hd⟩ => h1 ▸ h2 ▸ hd⟩

/-- the search of `push_transition`'s inner loop in the list of actor `b`: if `t` depends on an event `x` of `b`, it returns an event of `b`
at or after `x` (the list is ascending and searched from its end) -/
theorem Inv.latestDependent_of_dep {W : Nat} {ts : List T} {ex : Execution T} (h : Inv aidOf dep W ts ex) (t : T)
    {b x : Nat} (hx : aidAt aidOf ts x = some b) (hd : DepAt dep (ts ++ [t]) x ts.length) :
    ∃ hd, latestDependent dep ex t (skipOf ex.skip b) = some hd ∧ aidAt aidOf ts hd = some b ∧ x ≤ hd := by
  have hxm := List.mem_reverse.mpr (h.mem_skip.mpr hx)
  have hxd := (h.dep_test t (aidAt_lt hx)).mpr hd
  have : ∃ hd, latestDependent dep ex t (skipOf ex.skip b) = some hd :=
    Option.isSome_iff_exists.mp (List.find?_isSome.mpr ⟨x, hxm, hxd⟩)
  obtain ⟨hd, hf⟩ := this
  obtain ⟨hmem, hmax⟩ := find_desc_max (List.pairwise_reverse.mpr (h.skip_sorted b)) hf
  exact ⟨hd, hf, h.mem_skip.mp (List.mem_reverse.mp hmem), hmax x hxm hxd⟩

end

section
variable {T : Type} {aidOf : T → Nat} {dep : T → T → Bool}

theorem contents_push (ex : Execution T) (W : Nat) (t : T) :
    (pushTransition aidOf dep W ex t).contents =
      ex.contents ++ [⟨t, (maxClockVector dep W ex t).set (aidOf t) (some ex.size)⟩] := rfl

/-- one round of `push_transition`'s outer loop: the vector selected in one actor's list, if any, is merged in (the loop body
that `maxClockVector` writes as a lambda; `maxClockVector_fold` is `rfl`) -/
def mergeSel (dep : T → T → Bool) (ex : Execution T) (t : T) (cv : ClockVector) (events : List Nat) : ClockVector :=
  match selectedCv dep ex t events with
  | some c => maxEmplaceLeft cv c
  | none => cv

theorem maxClockVector_fold (W : Nat) (ex : Execution T) (t : T) :
    maxClockVector dep W ex t = ex.skip.foldl (mergeSel dep ex t) (ClockVector.init W) := rfl

theorem mergeSel_cases (ex : Execution T) (t : T) (cv : ClockVector) (events : List Nat) :
    mergeSel dep ex t cv events = cv ∨ ∃ (hd : Nat) (ev : Event T), ex.contents[hd]? = some ev ∧
      dep ev.t t = true ∧ mergeSel dep ex t cv events = maxEmplaceLeft cv ev.cv := by
  unfold mergeSel selectedCv
  cases hl : latestDependent dep ex t events with
  | none => exact .inl rfl
  | some hd =>
    dsimp only
    cases hev : ex.contents[hd]? with
    | none => exact .inl rfl
    | some ev =>
      have hp := List.find?_some hl
      rw [hev] at hp
      exact .inr ⟨hd, ev, hev, hp, rfl⟩

/-- what the vector under construction may hold: it has the width of a clock vector, and each of its entries is an earlier
event of that actor from which a chain leads to the new transition -/
def CvOk (aidOf : T → Nat) (dep : T → T → Bool) (W : Nat) (ts : List T) (t : T) (cv : ClockVector) : Prop :=
  cv.length = W ∧ ∀ a m, cv.get a = some m → aidAt aidOf ts m = some a ∧ Chain dep (ts ++ [t]) m ts.length

theorem maxcv_ok {W : Nat} {ts : List T} {ex : Execution T} (h : Inv aidOf dep W ts ex) (t : T) :
    CvOk aidOf dep W ts t (maxClockVector dep W ex t) := by
  refine foldl_inv (P := CvOk aidOf dep W ts t) ?_ ex.skip _
    ⟨by simp [ClockVector.init], fun a m hg => by rw [get_init] at hg; cases hg⟩
  intro cv events ⟨hlen, hcv⟩
  show CvOk aidOf dep W ts t (mergeSel dep ex t cv events)
  rcases mergeSel_cases ex t cv events with he | ⟨hd, ev, hev, hdep, he⟩
  · rw [he]; exact ⟨hlen, hcv⟩
  · rw [he]
    have hevlen := h.cvLen ev (List.mem_of_getElem? hev)
    refine ⟨by rw [length_maxEmplaceLeft]; exact hlen, fun a m hg => ?_⟩
    rw [get_maxEmplaceLeft _ _ (Nat.le_of_eq (hevlen.trans hlen.symm))] at hg
    rcases Clock.max_sound hg with h1 | h1
    · obtain ⟨ha, hb⟩ := h.sound hd ev a m hev h1
      have hlt : hd < ts.length := h.length ▸ (List.getElem?_eq_some_iff.mp hev).1
      exact ⟨ha, Chain.snoc hb.append hlt ((h.dep_test t hlt).mp (by rw [hev]; exact hdep))⟩
    · exact hcv a m h1

/-- along the rounds a vector of the right width keeps it and its entries only grow -/
def Grows (W : Nat) (cv cv' : ClockVector) : Prop :=
  cv.length = W → cv'.length = W ∧ ∀ a k, cv.get a = some k → ∃ m, cv'.get a = some m ∧ k ≤ m

theorem grows_pre (W : Nat) : Pre (Grows W) where
  refl _ h := ⟨h, fun _ k hk => ⟨k, hk, Nat.le_refl _⟩⟩
  trans h1 h2 h := by
    obtain ⟨l1, g1⟩ := h1 h
    obtain ⟨l2, g2⟩ := h2 l1
    refine ⟨l2, fun a k hk => ?_⟩
    obtain ⟨m, hm, hkm⟩ := g1 a k hk
    obtain ⟨m', hm', hmm⟩ := g2 a m hm
    exact ⟨m', hm', Nat.le_trans hkm hmm⟩

theorem Inv.mergeSel_grows {W : Nat} {ts : List T} {ex : Execution T} (h : Inv aidOf dep W ts ex) (t : T) (cv : ClockVector)
    (events : List Nat) : Grows W cv (mergeSel dep ex t cv events) := by
  intro hlen
  rcases mergeSel_cases ex t cv events with he | ⟨hd, ev, hev, -, he⟩
  · rw [he]; exact (grows_pre W).refl cv hlen
  · rw [he]
    have hevlen := h.cvLen ev (List.mem_of_getElem? hev)
    refine ⟨by rw [length_maxEmplaceLeft]; exact hlen, fun a k hk => ?_⟩
    rw [get_maxEmplaceLeft _ _ (Nat.le_of_eq (hevlen.trans hlen.symm))]
    exact Clock.max_ub_right hk

theorem maxcv_complete (hsame : ∀ t1 t2 : T, aidOf t1 = aidOf t2 → dep t1 t2 = true) {W : Nat} {ts : List T}
    {ex : Execution T} (h : Inv aidOf dep W ts ex) (t : T) {a m' : Nat}
    (ha : aidAt aidOf ts m' = some a) (hc : Chain dep (ts ++ [t]) m' ts.length) :
    ∃ m, (maxClockVector dep W ex t).get a = some m ∧ m' ≤ m := by
  obtain ⟨p, hmp, hpn, hdp⟩ := hc.last
  have hmp' : HBeq dep ts m' p := hmp.of_append hpn
  obtain ⟨evp, hevp, hpaid⟩ := h.event_at hpn
  obtain ⟨hd, hl, haid, hphd⟩ := h.latestDependent_of_dep t hpaid hdp
  have hm'hd : HBeq dep ts m' hd := hmp'.trans (hbeq_same_actor hsame hpaid haid hphd)
  obtain ⟨ev, hev, _⟩ := h.event_at (aidAt_lt haid)
  obtain ⟨m1, hm1, hle1⟩ := h.complete hd ev a m' hev ha hm'hd
  -- the round of that actor's list merges `ev.cv` in; the rounds before it keep the width, those after it only grow
  obtain ⟨pre, post, hsplit⟩ := List.append_of_mem (skipOf_mem_skip (h.mem_skip.mpr haid))
  rw [maxClockVector_fold, hsplit, List.foldl_append, List.foldl_cons]
  obtain ⟨hlen0, -⟩ := (grows_pre W).foldl pre (h.mergeSel_grows t) (ClockVector.init W) (by simp [ClockVector.init])
  generalize pre.foldl (mergeSel dep ex t) (ClockVector.init W) = cv0 at hlen0 ⊢
  have hstep : mergeSel dep ex t cv0 (skipOf ex.skip (aidOf evp.t)) = maxEmplaceLeft cv0 ev.cv := by
    unfold mergeSel selectedCv; rw [hl]; simp only [hev]
  rw [hstep]
  have hevlen := h.cvLen ev (List.mem_of_getElem? hev)
  obtain ⟨m2, hm2, hle2⟩ := Clock.max_ub_left (y := cv0.get a) hm1
  rw [← get_maxEmplaceLeft _ _ (Nat.le_of_eq (hevlen.trans hlen0.symm))] at hm2
  obtain ⟨-, hg⟩ := (grows_pre W).foldl post (h.mergeSel_grows t) (maxEmplaceLeft cv0 ev.cv)
    (by rw [length_maxEmplaceLeft]; exact hlen0)
  obtain ⟨m, hm, hle⟩ := hg a m2 hm2
  exact ⟨m, hm, Nat.le_trans hle1 (Nat.le_trans hle2 hle)⟩

/-- an event of the extended execution is an old one, or the new one, whose clock vector is the merged one with the
entry of its own actor set to its own index -/
theorem push_event_cases {W : Nat} {ts : List T} {ex : Execution T} (h : Inv aidOf dep W ts ex) {t : T}
    (ht : aidOf t < W) {e : Nat} {ev : Event T} (hev : (pushTransition aidOf dep W ex t).contents[e]? = some ev) :
    (e < ts.length ∧ ex.contents[e]? = some ev) ∨
    (e = ts.length ∧
      ∀ a, ev.cv.get a = if a = aidOf t then some ts.length else (maxClockVector dep W ex t).get a) := by
  rw [← h.length]
  rw [contents_push] at hev
  rcases Nat.lt_trichotomy e ex.contents.length with hlt | rfl | hgt
  · left; rw [List.getElem?_append_left hlt] at hev; exact ⟨hlt, hev⟩
  · right; rw [List.getElem?_concat_length] at hev; cases hev
    exact ⟨rfl, fun a => get_set _ _ _ _ (by rw [(maxcv_ok h t).1]; exact ht)⟩
  · rw [List.getElem?_eq_none (by simp; omega)] at hev; cases hev

theorem inv_push (hsame : ∀ t1 t2 : T, aidOf t1 = aidOf t2 → dep t1 t2 = true) (W : Nat) {ts : List T}
    {ex : Execution T} (h : Inv aidOf dep W ts ex) (t : T) (ht : aidOf t < W) :
    Inv aidOf dep W (ts ++ [t]) (pushTransition aidOf dep W ex t) := by
  have hsz : ex.size = ts.length := h.length
  refine ⟨?_, ?_, ?_, ?_, ?_⟩
  · simp [contents_push, h.trans]
  · intro b
    show skipOf (pushSkip ex.skip (aidOf t) ex.size) b = _
    rw [skipOf_pushSkip, List.length_append, List.length_singleton, List.range_succ, List.filter_append]
    have hold : (List.range ts.length).filter (fun i => aidAt aidOf (ts ++ [t]) i == some b)
        = (List.range ts.length).filter (fun i => aidAt aidOf ts i == some b) := by
      apply List.filter_congr
      intro x hx
      rw [aidAt_append_left (List.mem_range.mp hx)]
    rw [hold, ← h.skipEq b, hsz]
    by_cases hb : b = aidOf t
    · subst hb
      simp [aidAt_append_last]
    · simp [hb, aidAt_append_last, Ne.symm hb]
  · intro ev hev
    simp only [contents_push, List.mem_append, List.mem_singleton] at hev
    rcases hev with hev | rfl
    · exact h.cvLen ev hev
    · simp [(maxcv_ok h t).1]
  · intro e ev a m hev hg
    rcases push_event_cases h ht hev with ⟨_, hold⟩ | ⟨rfl, hcv⟩
    · obtain ⟨h1, h2⟩ := h.sound e ev a m hold hg
      rw [aidAt_append_left (aidAt_lt h1)]
      exact ⟨h1, h2.append⟩
    · rw [hcv] at hg
      split at hg
      · rename_i haeq
        cases hg
        subst haeq
        exact ⟨aidAt_append_last, Or.inl rfl⟩
      · obtain ⟨h1, h2⟩ := (maxcv_ok h t).2 a m hg
        rw [aidAt_append_left (aidAt_lt h1)]
        exact ⟨h1, Or.inr h2⟩
  · intro e ev a m' hev ha hhb
    rcases push_event_cases h ht hev with ⟨helt, hold⟩ | ⟨rfl, hcv⟩
    · rw [aidAt_append_left (Nat.lt_of_le_of_lt hhb.le helt)] at ha
      exact h.complete e ev a m' hold ha (hhb.of_append helt)
    · rw [hcv]
      split
      · exact ⟨ts.length, rfl, hhb.le⟩
      · rename_i hne
        rcases hhb with rfl | hc
        · rw [aidAt_append_last] at ha
          cases ha; exact absurd rfl hne
        · rw [aidAt_append_left hc.lt] at ha
          exact maxcv_complete hsame h t ha hc

theorem inv_run (hsame : ∀ t1 t2 : T, aidOf t1 = aidOf t2 → dep t1 t2 = true) (W : Nat) (ts : List T)
    (hW : ∀ t ∈ ts, aidOf t < W) : Inv aidOf dep W ts (run aidOf dep W ts) := by
  have := foldl_snoc (step := pushTransition aidOf dep W)
    (P := fun h ex => (∀ t ∈ h, aidOf t < W) → Inv aidOf dep W h ex)
    (fun t hp hW => inv_push hsame W (hp fun t' ht' => hW t' (List.mem_append_left _ ht')) t
      (hW t (List.mem_append_right _ (List.mem_singleton_self t)))) ts (h0 := []) fun _ => inv_empty W
  exact this hW

theorem hb_of_inv (hsame : ∀ t1 t2 : T, aidOf t1 = aidOf t2 → dep t1 t2 = true) {W : Nat} {ts : List T}
    {ex : Execution T} (h : Inv aidOf dep W ts ex) (e1 e2 : Nat) :
    happensBefore aidOf ex e1 e2 = true ↔ Chain dep ts e1 e2 := by
  constructor
  · intro hb
    unfold happensBefore at hb
    split at hb
    · cases hb
    · rename_i hlt
      have hlt : e1 < e2 := by omega
      split at hb
      · rename_i ev2 ev1 hev2 hev1
        split at hb
        · rename_i c hc
          have hle : e1 ≤ c := by simpa using hb
          obtain ⟨hca, hcb⟩ := h.sound e2 ev2 _ c hev2 hc
          have he1a := aidAt_of_getElem? (aidOf := aidOf) (h.trans_at hev1)
          have := (hbeq_same_actor hsame he1a hca hle).trans hcb
          rcases this with heq | hch
          · omega
          · exact hch
        · cases hb
      · cases hb
  · intro hc
    have hlt := hc.lt
    have hv := hc.valid
    obtain ⟨ev2, hev2, _⟩ := h.event_at hv
    obtain ⟨ev1, hev1, he1a⟩ := h.event_at (Nat.lt_trans hlt hv)
    obtain ⟨m, hm, hle⟩ := h.complete e2 ev2 _ e1 hev2 he1a (Or.inr hc)
    unfold happensBefore
    have : ¬ e1 ≥ e2 := by omega
    simp only [this, if_false, hev2, hev1, hm]
    simpa using hle

end
end SgVerif.C42
