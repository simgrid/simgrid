import SgVerif.C30.Closure
/-
C30 — the (un)serialize walk versus the MPI typemap (`W`), per class object and per "contiguous" shortcut (blocks that chain
form one run), and the induction over ALL `Wf` constructor trees that gives `Rel1` and `W` together (`relW_all`).
-/
namespace SgVerif.C30
open Spec

mutual
/-- the trees of the property: any nest of the constructors, with non-negative strides (vector / hvector), non-negative
    new extents (resized), and no struct member that has copies (block length > 0) of an empty type (MPI does not define
    lb / ub of an empty typemap; see `lb_ub_empty_member_counterexample`).  Block lengths, counts, displacements of
    indexed / hindexed / struct members, subarray arguments are unconstrained (bad ones make `build` fail). -/
def Wf : Tree → Prop
  | .basic _ => True
  | .contiguous _ t => Wf t
  | .vector _ _ st t => 0 ≤ st ∧ Wf t
  | .hvector _ _ st t => 0 ≤ st ∧ Wf t
  | .indexed _ t => Wf t
  | .hindexed _ t => Wf t
  | .indexedBlock _ _ t => Wf t
  | .hindexedBlock _ _ t => Wf t
  | .struct m => WfM m
  | .resized _ ext t => 0 ≤ ext ∧ Wf t
  | .subarray _ _ t => Wf t
  | .dup t => Wf t
def WfM : Members → Prop
  | .nil => True
  | .cons bl _ t rest => (bl > 0 → (Spec.layout t).bytes ≠ []) ∧ Wf t ∧ WfM rest
end

theorem byteRange_eq_seg (p len : Int) : byteRange p len = seg p len := by
  simp only [byteRange, seg, Spec.range, List.map_map]
  congr 1; funext k; simp only [Function.comp]; omega

theorem upto_eq_range (n : Int) : upto n = Spec.range n := rfl

theorem seg_map_add (p len d : Int) : (seg p len).map (· + d) = seg (p + d) len := by
  simp only [seg, List.map_map]; congr 1; funext x; simp only [Function.comp]; omega

theorem seg_flat (p b : Int) (hb : 0 ≤ b) : ∀ n : Int, (Spec.range n).flatMap (fun i => seg (p + i * b) b) = seg p (n * b) := by
  have nat : ∀ k : Nat, (Spec.range (k : Int)).flatMap (fun i => seg (p + i * b) b) = seg p ((k : Int) * b) := by
    intro k
    induction k with
    | zero => rw [Int.natCast_zero, Int.zero_mul, range_zero, seg_nil _ _ (Int.le_refl 0)]; rfl
    | succ k ih =>
      rw [Int.natCast_succ, range_add k 1 (Int.natCast_nonneg k) Int.one_nonneg, List.flatMap_append, ih, range_one]
      simp only [List.map_cons, List.map_nil, List.flatMap_cons, List.flatMap_nil, List.append_nil, Int.zero_add]
      rw [seg_append p _ b (Int.mul_nonneg (Int.natCast_nonneg k) hb) hb, Int.add_mul, Int.one_mul]
  intro n
  by_cases hn : 0 ≤ n
  · have := nat n.toNat
    rwa [Int.toNat_of_nonneg hn] at this
  · rw [range_nil n (by omega), seg_nil _ _ (Int.mul_nonpos_of_nonpos_of_nonneg (by omega) hb)]; rfl

theorem bytesOf_def (l : Layout) (cnt : Int) :
    bytesOf l cnt = (Spec.range cnt).flatMap (fun k => l.bytes.map (· + k * l.extent)) := rfl

theorem bytesOf_one (l : Layout) (p : Int) : (bytesOf l 1).map (· + p) = l.bytes.map (· + p) := by
  rw [bytesOf_def, range_one]
  simp only [List.flatMap_cons, List.flatMap_nil, List.append_nil, List.map_map]
  apply List.map_congr_left
  intro x _
  simp only [Function.comp]; omega

def IsRun (l : Layout) : Prop := l.bytes = seg l.lb l.size ∧ l.extent = l.size

theorem run_bytesOf (l : Layout) (h : IsRun l) (cnt base : Int) :
    (bytesOf l cnt).map (· + base) = seg (base + l.lb) (cnt * l.size) := by
  obtain ⟨h1, h2⟩ := h
  have hs : 0 ≤ l.size := Int.natCast_nonneg _
  rw [bytesOf_def, h1, h2]
  have : (fun k => (seg l.lb l.size).map (· + k * l.size)) = (fun k => seg (l.lb + k * l.size) l.size) := by
    funext k; rw [seg_map_add]
  rw [this, seg_flat l.lb l.size hs cnt, seg_map_add, Int.add_comm]

theorem natural_isRun {o : Obj} {l : Layout} (h : Rel1 o l) (hd : o.info.derived = false) : IsRun l := by
  obtain ⟨a, _, c⟩ := h.nat hd
  refine ⟨?_, ?_⟩
  · rw [c, a, ← h.size, seg]
    exact ((List.map_congr_left fun x _ => Int.add_zero x).trans (List.map_id _)).symm
  · rw [← h.size]; exact (h.natural hd).2.2.2

theorem block_seg {o : Obj} {l : Layout} (h : Rel1 o l) (hd : o.info.derived = false) (bl D : Int) :
    (bytesOf l bl).map (· + D) = seg D (bl * o.info.size) := by
  rw [run_bytesOf l (natural_isRun h hd), (h.nat hd).1, ← h.size, Int.add_zero]

/-- the walk clause: (un)serialize of `count` elements at `base` visits exactly the typemap's offsets, in typemap order -/
def W (o : Obj) (l : Layout) : Prop := ∀ count base, walk o count base = (bytesOf l count).map (· + base)

/-- what the induction over the trees carries -/
def RelW (o : Obj) (l : Layout) : Prop := Rel1 o l ∧ W o l

/-- one block of a Type_Hvector / Type_Hindexed / Type_Struct: memcpy for a non-derived old type, recursive serialize otherwise
    (the `if` that `walk` and `walkBlocks` spell out three times: `walk_hvector`, `walk_hindexed`, `walkBlocks_cons`) -/
def blockB (old : Obj) (bl p : Int) : List Int :=
  if !old.info.derived then byteRange p (bl * old.info.size) else walk old bl p

theorem blockB_eq {o : Obj} {l : Layout} (h : Rel1 o l) (hw : W o l) (bl p : Int) :
    blockB o bl p = (bytesOf l bl).map (· + p) := by
  unfold blockB
  cases hd : o.info.derived with
  | true => exact hw bl p
  | false => rw [block_seg h hd]; exact byteRange_eq_seg _ _

theorem blockCopies_bytes (l : Layout) (D bl : Int) :
    (blockCopies D bl l.extent).flatMap (fun d => l.bytes.map (· + d)) = (bytesOf l bl).map (· + D) := by
  simp only [blockCopies, bytesOf_def, List.flatMap_map, List.map_flatMap, List.map_map]
  congr 1; funext j; congr 1; funext x; simp only [Function.comp]; omega

theorem place_blocks_bytes {α : Type} (X : List α) (D B : α → Int) (l : Layout) :
    (place (X.flatMap (fun a => blockCopies (D a) (B a) l.extent)) l).bytes =
      X.flatMap (fun a => (bytesOf l (B a)).map (· + D a)) := by
  simp only [place, List.flatMap_assoc, blockCopies_bytes]

theorem bytesOf_simple (l : Layout) (cnt base : Int) :
    (bytesOf l cnt).map (· + base) = (Spec.range cnt).flatMap (fun k => l.bytes.map (· + (base + k * l.extent))) := by
  rw [bytesOf_def]
  simp only [List.map_flatMap, List.map_map]
  congr 1; funext k
  apply List.map_congr_left
  intro x _
  simp only [Function.comp]; omega

/-- Type_Hvector / Type_Hindexed (`walk_hvector`, `walk_hindexed`): element j, at j extents `e` of the object, walks for
    each `a` of `X` a block of `B a` old elements at displacement `D a`; these are the bytes, in order, of MPI's typemap of
    the copies placed at these displacements -/
theorem blocks_W {α : Type} (X : List α) (D B : α → Int) {o : Obj} {l : Layout} (h : Rel1 o l) (hw : W o l)
    (e cnt base : Int) (he : e = (place (X.flatMap (fun a => blockCopies (D a) (B a) l.extent)) l).extent) :
    (Spec.range cnt).flatMap (fun j => X.flatMap (fun a => blockB o (B a) (base + j * e + D a))) =
      (bytesOf (place (X.flatMap (fun a => blockCopies (D a) (B a) l.extent)) l) cnt).map (· + base) := by
  rw [bytesOf_simple, place_blocks_bytes, ← he]
  simp only [List.map_flatMap, List.map_map]
  congr 1; funext j; congr 1; funext a
  rw [blockB_eq h hw]
  apply List.map_congr_left
  intro x _
  simp only [Function.comp]; omega

theorem walk_plain (i : Info) (cnt base : Int) : walk (.plain i) cnt base = seg (base + i.lb) (cnt * i.size) := by
  rw [walk, byteRange_eq_seg]
theorem walk_contig (i : Info) (n : Int) (old : Obj) (cnt base : Int) :
    walk (.contig i n old) cnt base = seg (base + i.lb) (old.info.size * cnt * n) := by
  rw [walk, byteRange_eq_seg]
theorem walk_hvector (i : Info) (n bl S : Int) (old : Obj) (f : Bool) (cnt base : Int) :
    walk (.hvector i n bl S old f) cnt base =
      (Spec.range cnt).flatMap (fun j => (Spec.range n).flatMap (fun k => blockB old bl (base + j * i.extent + k * S))) := by
  rw [walk]; rfl
theorem walk_hindexed (i : Info) (blocks : List (Int × Int)) (old : Obj) (f : Bool) (cnt base : Int) :
    walk (.hindexed i blocks old f) cnt base =
      (Spec.range cnt).flatMap (fun j => blocks.flatMap (fun b => blockB old b.1 (base + j * i.extent + b.2))) := by
  rw [walk]; rfl
theorem walk_struct (i : Info) (blocks : Blocks) (cnt base : Int) :
    walk (.struct i blocks) cnt base = (Spec.range cnt).flatMap (fun j => walkBlocks blocks (base + j * i.extent)) := by
  rw [walk]; rfl
theorem walkBlocks_cons (bl d : Int) (old : Obj) (rest : Blocks) (elem : Int) :
    walkBlocks (.cons bl d old rest) elem = blockB old bl (elem + d) ++ walkBlocks rest elem := by
  rw [walkBlocks]; rfl
theorem walkBlocks_nil (elem : Int) : walkBlocks .nil elem = [] := by rw [walkBlocks]

/-- what create_contiguous makes of `n` elements of a non-derived type at `lb` (a Type_Contiguous or a plain Datatype)
    walks one run; so it walks MPI's typemap when that is the run of `n * size` bytes from `lb` -/
theorem mkContiguous_run_W {n lb : Int} {o r : Obj} {L : Layout} (hd : o.info.derived = false)
    (hr : mkContiguous n o lb = some r) (hrel : Rel1 r L) (hb : L.bytes = seg lb (n * o.info.size)) : W r L := by
  obtain ⟨s1, g1, g2, _⟩ := mkContiguous_info hd hr
  have hrun : IsRun L := by
    refine ⟨by rw [hb, ← hrel.lb, ← hrel.size, g1, s1], ?_⟩
    rw [← hrel.ext, ← hrel.size, Info.extent, g1, g2, s1]; omega
  intro cnt base
  rw [run_bytesOf L hrun, ← hrel.lb, ← hrel.size]
  rcases mkContiguous_nd hd hr with ⟨_, rfl⟩ | ⟨_, rfl⟩
  · rw [walk_contig]; congr 1; show _ = cnt * (n * o.info.size); ring
  · exact walk_plain _ _ _

theorem plain_W (i : Info) (L : Layout) (hrel : Rel1 (.plain i) L) (hrun : IsRun L) : W (.plain i) L := by
  intro cnt base
  rw [walk_plain, run_bytesOf L hrun, ← hrel.lb, ← hrel.size]; rfl

theorem dsHv_blocks (n bl S e : Int) : dsHv n bl S e = (Spec.range n).flatMap (fun i => blockCopies (i * S) bl e) := rfl

theorem hv_run (n bl S : Int) (o : Obj) (l : Layout) (h : Rel1 o l) (hd : o.info.derived = false) (hbl : 0 ≤ bl)
    (hS : S = bl * o.info.size) :
    (place (dsHv n bl S l.extent) l).bytes = seg 0 (n * (bl * o.info.size)) := by
  rw [dsHv_blocks, place_blocks_bytes]
  have : (fun k => (bytesOf l bl).map (· + k * S)) = (fun k => seg (0 + k * (bl * o.info.size)) (bl * o.info.size)) := by
    funext k
    rw [block_seg h hd, hS, Int.zero_add]
  rw [this, seg_flat 0 _ (Int.mul_nonneg hbl h.size_nonneg)]

theorem hvOut_walk {f : Bool} {n bl S : Int} {o r : Obj} {l : Layout} (h : RelW o l) (hn : 0 ≤ n)
    (hS : 0 ≤ S) (hr : HvOut f n bl S o r) : RelW r (place (dsHv n bl S l.extent) l) := by
  obtain ⟨h, hw⟩ := h
  have hrel := hvOut_rel h hn hS hr
  refine ⟨hrel, ?_⟩
  obtain ⟨hbl, rfl | ⟨hd, hst, rfl⟩⟩ := hr
  · intro cnt base
    rw [walk_hvector]
    exact blocks_W (Spec.range n) (· * S) (fun _ => bl) h hw _ cnt base hrel.ext
  · refine plain_W _ _ hrel ⟨?_, ?_⟩
    · rw [hv_run n bl S o l h hd hbl (hst.trans (congrArg _ (h.natural hd).2.2.1)), ← hrel.lb, ← hrel.size]
      show _ = seg 0 (o.info.size * bl * n)
      congr 1; ring
    · rw [← hrel.ext, ← hrel.size]; exact Int.sub_zero _

theorem mkContiguous_walk {n : Int} {o r : Obj} {l : Layout} (h : RelW o l) (hn : 0 ≤ n)
    (hr : mkContiguous n o 0 = some r) : RelW r (place (dsHv n 1 l.extent l.extent) l) := by
  cases hd : o.info.derived with
  | true => exact hvOut_walk h hn h.1.ext_nonneg (h.1.ext ▸ mkHvector_out (mkContiguous_d hd hr))
  | false =>
    obtain ⟨h, _⟩ := h
    have hrel := mkContiguous_rel h hd hn hr
    refine ⟨hrel, mkContiguous_run_W hd hr hrel ?_⟩
    rw [hv_run n 1 _ o l h hd Int.one_nonneg ((h.natural hd).2.2.2.trans (Int.one_mul _).symm), Int.one_mul]

/-- `Datatype::create_resized`: a struct whose MPI_LB / MPI_UB markers are empty blocks -/
theorem mkResized_walk (o : Obj) (l : Layout) (lb ext : Int) (h : RelW o l) :
    W (mkResized o lb ext) ⟨l.bytes, lb, lb + ext⟩ := by
  obtain ⟨h, hw⟩ := h
  intro cnt base
  have hm : ∀ p, blockB markerObj 1 p = [] := fun p => rfl
  rw [mkResized, walk_struct, bytesOf_simple]
  simp only [walkBlocks_cons, walkBlocks_nil, hm, blockB_eq h hw, bytesOf_one, List.nil_append, List.append_nil,
    Layout.extent, Info.extent]
  congr 1; funext k
  apply List.map_congr_left
  intro x _
  omega

theorem idxOut_walk {k : Bool} {bs : List (Int × Int)} {o r : Obj} {l : Layout} (h : RelW o l)
    (hr : IdxOut k bs o r) : RelW r (place (dsIdx bs (idxScale k o.info) l.extent) l) := by
  obtain ⟨h, hw⟩ := h
  have hrel := idxOut_rel h hr
  refine ⟨hrel, ?_⟩
  obtain ⟨size, lb, ub, c, heq, rfl | ⟨hd, rfl, hr⟩⟩ := hr
  · intro cnt base
    simp only [walk_hindexed, List.flatMap_map]
    exact blocks_W bs (·.2 * idxScale k o.info) (·.1) h hw _ cnt base hrel.ext
  · refine mkContiguous_run_W hd hr hrel ?_
    obtain ⟨n1, n2, n3, _⟩ := h.natural hd
    rw [n1, n2, n3] at heq
    have := (idxLoop_run _ _ o.info.size h.size_nonneg (idx_units k _ n3) bs 0 (0, 0, true) true (Int.le_refl 0)
      (Or.inl ⟨rfl, Int.zero_mul _⟩) _ heq rfl).2
    rw [seg_nil _ _ (Int.le_of_eq (Int.zero_mul _))] at this
    rw [dsIdx, place_blocks_bytes]
    simp only [block_seg h hd]
    exact this

theorem mkIndexed_walk {bs : List (Int × Int)} {o r : Obj} {l : Layout} (h : RelW o l)
    (hr : mkIndexed bs o = some r) : RelW r (place (dsIdx bs l.extent l.extent) l) := by
  have := idxOut_walk h (mkIndexed_out hr)
  rwa [idxScale, h.1.ext] at this

theorem mkHindexed_walk {bs : List (Int × Int)} {o r : Obj} {l : Layout} (h : RelW o l)
    (hr : mkHindexed bs o = some r) : RelW r (place (dsIdx bs 1 l.extent) l) := by
  have := idxOut_walk h (mkHindexed_out hr)
  rwa [idxScale] at this

/-- member by member: the object satisfies the spec and its walk is the typemap -/
def MembersW : Members → List (Int × Int × Obj) → Prop
  | .nil, ms => ms = []
  | .cons bl d t rest, ms => ∃ o ms', ms = (bl, d, o) :: ms' ∧ Rel1 o (layout t) ∧ W o (layout t) ∧ MembersW rest ms'

theorem membersW_ok : (m : Members) → (ms : List (Int × Int × Obj)) → MembersW m ms → MembersOk m ms
  | .nil, ms, h => by simpa only [MembersW, MembersOk] using h
  | .cons bl d t rest, ms, h => by
    simp only [MembersW] at h
    obtain ⟨o, ms', rfl, hrel, _, hrest⟩ := h
    simp only [MembersOk]
    exact ⟨o, ms', rfl, hrel.lb, hrel.ub, hrel.ext_nonneg, membersW_ok rest ms' hrest⟩

theorem membersW_facts : (m : Members) → (ms : List (Int × Int × Obj)) → MembersW m ms → WfM m → MemFacts ms
  | .nil, ms, h, _ => by
    simp only [MembersW] at h; subst h; exact fun x hx => absurd hx List.not_mem_nil
  | .cons bl d t rest, ms, h, w => by
    simp only [MembersW] at h
    obtain ⟨o, ms', rfl, hrel, _, hrest⟩ := h
    intro x hx
    rcases List.mem_cons.mp hx with rfl | hx
    · refine ⟨fun hd => ⟨(hrel.natural hd).1, (hrel.natural hd).2.1, hrel.size_nonneg⟩, hrel.size_nonneg,
        hrel.lb ▸ hrel.ub ▸ hrel.le, fun hbl => ?_⟩
      -- `WfM`: a member with copies has a non-empty typemap
      have hs := hrel.size
      have : (layout t).bytes.length ≠ 0 := fun e => w.1 hbl (List.length_eq_zero_iff.mp e)
      simp only [Layout.size] at hs
      show 0 < o.info.size
      omega
    · exact membersW_facts rest ms' hrest w.2.2 x hx

theorem member_bytes (l : Layout) (bl d : Int) :
    (place ((Spec.range bl).map (fun j => d + j * l.extent)) l).bytes = (bytesOf l bl).map (· + d) :=
  blockCopies_bytes l d bl

theorem struct_blocks : (m : Members) → (ms : List (Int × Int × Obj)) → MembersW m ms → ∀ elem : Int,
    walkBlocks (Blocks.ofList ms) elem = ((layoutMembers m).flatMap (·.1.bytes)).map (· + elem)
  | .nil, ms, h, elem => by
    simp only [MembersW] at h; subst h
    exact walkBlocks_nil elem
  | .cons bl d t rest, ms, h, elem => by
    simp only [MembersW] at h
    obtain ⟨o, ms', rfl, hrel, hw, hrest⟩ := h
    rw [Blocks.ofList, walkBlocks_cons, struct_blocks rest ms' hrest elem, blockB_eq hrel hw]
    simp only [layoutMembers, List.flatMap_cons, List.map_append, member_bytes, List.map_map]
    congr 1
    apply List.map_congr_left
    intro x _
    simp only [Function.comp]; omega

theorem struct_segs : (m : Members) → (ms : List (Int × Int × Obj)) → MembersW m ms →
    (∀ x ∈ ms, x.2.2.info.derived = false) →
    (layoutMembers m).flatMap (·.1.bytes) = ms.flatMap (fun x => seg x.2.1 (x.1 * x.2.2.info.size))
  | .nil, ms, h, _ => by
    simp only [MembersW] at h; subst h; rfl
  | .cons bl d t rest, ms, h, hnd => by
    simp only [MembersW] at h
    obtain ⟨o, ms', rfl, hrel, _, hrest⟩ := h
    obtain ⟨hd, hnd'⟩ := List.forall_mem_cons.mp hnd
    simp only [layoutMembers, List.flatMap_cons, member_bytes, struct_segs rest ms' hrest hnd', block_seg hrel hd]

theorem mkStruct_walk (m : Members) (ms : List (Int × Int × Obj)) (r : Obj) (hw : MembersW m ms) (wf : WfM m)
    (hz : MembersSz m ms) (hr : mkStruct ms = some r) : RelW r (structL (layoutMembers m)) := by
  have hf := membersW_facts m ms hw wf
  have hrel := mkStruct_rel m ms r hf (membersW_ok m ms hw) hz hr
  refine ⟨hrel, ?_⟩
  obtain ⟨size, lb, ub, c, heq, rfl | ⟨rfl, hr⟩⟩ := mkStruct_out hr
  · intro cnt base
    rw [walk_struct, bytesOf_simple, ← hrel.ext]
    congr 1; funext j
    exact struct_blocks m ms hw _
  · refine mkContiguous_run_W (o := basicObj 1) rfl hr hrel ?_
    obtain ⟨_, this, hnd⟩ := structLoop_run ms 0 (0, 0, true) true (Int.le_refl 0) (fun x hx => (hf x hx).1)
      (Or.inl ⟨rfl, rfl⟩) _ heq rfl
    rw [seg_nil _ _ (Int.le_refl 0), List.nil_append] at this
    show (layoutMembers m).flatMap (·.1.bytes) = _
    rw [struct_segs m ms hw hnd, this]
    exact congrArg _ (Int.mul_one _).symm

theorem clone_scale (x e : Int) : (if (e != 0) = true then x * e / e else 0) * e = x * e := by
  by_cases h : e = 0
  · subst h; rw [Int.mul_zero, Int.mul_zero]
  · rw [if_pos (bne_iff_ne.mpr h), Int.mul_ediv_cancel _ h]

/-- the byte stride a Type_Vector stores is a multiple of the old extent -/
theorem clone_hvOut {f : Bool} {n bl S : Int} {o r : Obj} (hr : HvOut f n bl S o r)
    (hS : f = true → ∃ st, S = st * o.info.extent) : cloneObj r = r := by
  obtain ⟨_, rfl | ⟨_, _, rfl⟩⟩ := hr
  · cases f
    · rfl
    · obtain ⟨st, rfl⟩ := hS rfl
      simp only [cloneObj, clone_scale]
  · rfl

theorem clone_mkContiguous {n lb : Int} {o r : Obj} (hr : mkContiguous n o lb = some r) : cloneObj r = r := by
  cases hd : o.info.derived with
  | true => exact clone_hvOut (mkHvector_out (mkContiguous_d hd hr)) (fun h => Bool.noConfusion h)
  | false => rcases mkContiguous_nd hd hr with ⟨_, rfl⟩ | ⟨_, rfl⟩ <;> rfl

theorem clone_idxOut {k : Bool} {bs : List (Int × Int)} {o r : Obj} (hr : IdxOut k bs o r) : cloneObj r = r := by
  obtain ⟨size, lb, ub, c, _, rfl | ⟨_, _, hr⟩⟩ := hr
  · cases k
    · rfl
    · simp only [cloneObj, List.map_map]
      congr 1
      apply List.map_congr_left
      intro b _
      simp only [Function.comp, idxScale, clone_scale]
  · exact clone_mkContiguous hr

theorem cloneObj_fix (t : Tree) (o : Obj) (h : build t = some o) : cloneObj o = o := by
  refine (build_ind (P := fun _ o => cloneObj o = o) (PM := fun _ _ => True) (fun s => rfl) ?_ ?_ ?_ ?_ ?_ ?_ ?_ ?_ ?_
    ?_ ?_ trivial (fun _ _ _ _ _ _ _ _ => trivial)).1 t o h
  · intro n t o r _ _ h; exact clone_mkContiguous h
  · intro n bl st t o r _ _ h; exact clone_hvOut (mkVector_out h) (fun _ => ⟨st, rfl⟩)
  · intro n bl st t o r _ _ h; exact clone_hvOut (mkHvector_out h) (fun h => Bool.noConfusion h)
  · intro bs t o r _ h; exact clone_idxOut (mkIndexed_out h)
  · intro bs t o r _ h; exact clone_idxOut (mkHindexed_out h)
  · intro bl ds t o r _ h; exact clone_idxOut (mkIndexed_out h)
  · intro bl ds t o r _ h; exact clone_idxOut (mkHindexed_out h)
  · intro m ms r _ _ h
    obtain ⟨_, _, _, _, _, rfl | ⟨_, h⟩⟩ := mkStruct_out h
    · rfl
    · exact clone_mkContiguous h
  · intro lb ext t o _; rfl
  · intro dims c t o r _ h
    obtain ⟨_, hh, rfl, _⟩ := mkSubarray_out h
    rfl
  · intro t o _ ih; rw [ih, ih]

theorem sub1_ds (sz sub start e : Int) :
    (subPositions [(sz, sub, start)]).map (· * e) = dsIdx [(sub, start * e)] 1 e := by
  simp only [subPositions, List.map_nil, List.foldl_nil, List.map_cons, dsIdx, List.flatMap_cons, List.flatMap_nil,
    List.append_nil, blockCopies, ← List.map_eq_flatMap, List.map_map]
  apply List.map_congr_left
  intro k _
  simp only [Function.comp]; ring

/-- selected positions without the start offsets (dims slowest-varying first) -/
def qpos : List (Int × Int × Int) → List Int
  | [] => [0]
  | (_, sub, _) :: rest => (Spec.range sub).flatMap (fun k => (qpos rest).map (· + k * prodF (rest.map (·.1))))

/-- linear position of the first selected element -/
def qoff : List (Int × Int × Int) → Int
  | [] => 0
  | (_, _, start) :: rest => start * prodF (rest.map (·.1)) + qoff rest

theorem subPositions_q : ∀ ds : List (Int × Int × Int), subPositions ds = (qpos ds).map (· + qoff ds)
  | [] => rfl
  | (sz, sub, start) :: rest => by
    simp only [subPositions, qpos, qoff, subPositions_q rest, List.map_flatMap, List.map_map]
    congr 1; funext k
    apply List.map_congr_left
    intro p _
    simp only [Function.comp, prodF]; ring

/-- the typemap bytes of the elements at the linear positions `ps` -/
def bytesAt (l : Layout) (ps : List Int) : List Int := ps.flatMap (fun p => l.bytes.map (· + p * l.extent))

theorem bytesAt_map_add (l : Layout) (ps : List Int) (c : Int) :
    bytesAt l (ps.map (· + c)) = (bytesAt l ps).map (· + c * l.extent) := by
  simp only [bytesAt, List.flatMap_map, List.map_flatMap, List.map_map]
  congr 1; funext p
  apply List.map_congr_left
  intro x _
  simp only [Function.comp]; ring

theorem subL_bytes (dims : List (Int × Int × Int)) (c : Bool) (l : Layout) :
    (subL dims c l).bytes = bytesAt l (subPositions (if c then dims else dims.reverse)) := by
  simp only [subL, place, bytesAt, List.flatMap_map]

theorem qpos_step (l T : Layout) (sz sub st : Int) (dr : List (Int × Int × Int)) (hb : T.bytes = bytesAt l (qpos dr)) :
    (place (dsHv sub 1 (prodF (dr.map (·.1)) * l.extent) T.extent) T).bytes = bytesAt l (qpos ((sz, sub, st) :: dr)) := by
  simp only [place, dsHv, range_one, List.map_cons, List.map_nil, List.flatMap_cons, List.flatMap_nil, List.append_nil,
    Int.zero_mul, Int.add_zero, hb, qpos, bytesAt, List.flatMap_assoc, List.map_flatMap, List.flatMap_map, List.map_map]
  congr 1; funext i; congr 1; funext p
  apply List.map_congr_left
  intro x _
  simp only [Function.comp]; ring

theorem vec_bytes (l : Layout) (d0 d1 : Int × Int × Int) :
    (place (dsHv d1.2.1 d0.2.1 (d0.1 * l.extent) l.extent) l).bytes = bytesAt l (qpos [d1, d0]) := by
  obtain ⟨sz0, sub0, st0⟩ := d0
  obtain ⟨sz1, sub1, st1⟩ := d1
  simp only [place, dsHv, qpos, bytesAt, List.flatMap_assoc, List.flatMap_map, List.map_nil, List.map_cons, prodF_nil,
    prodF_cons, List.flatMap_cons, List.flatMap_nil, List.append_nil]
  congr 1; funext i; congr 1; funext j
  apply List.map_congr_left
  intro x _
  ring

/-- the hvector loop of create_subarray: `done` = the dimensions already traversed (fastest first) -/
theorem subarrayLoop_inv (l : Layout) (he : 0 ≤ l.extent) : ∀ (rest : List (Int × Int × Int)) (tmp : Obj) (size lb : Int)
    (done : List (Int × Int × Int)) (T : Layout),
    RelW tmp T → T.bytes = bytesAt l (qpos done.reverse) → size = prodF (done.map (·.1)) →
    lb = qoff done.reverse → SubChecks done → SubChecks rest →
    ∀ res, subarrayLoop l.extent rest tmp size lb = some res →
      ∃ T', RelW res.1 T' ∧ T'.bytes = bytesAt l (qpos (done ++ rest).reverse) ∧
        res.2.1 = prodF ((done ++ rest).map (·.1)) ∧ res.2.2 = qoff (done ++ rest).reverse
  | [], tmp, size, lb, done, T, hrel, hb, hs, hl, _, _, res, h => by
    rw [subarrayLoop, Option.some.injEq] at h
    subst h
    rw [List.append_nil]
    exact ⟨T, hrel, hb, hs, hl⟩
  | (sz, sub, start) :: rest, tmp, size, lb, done, T, hrel, hb, hs, hl, hdone, hrest, res, h => by
    rw [subarrayLoop] at h
    split at h
    · cases h
    · rename_i nt hnt
      obtain ⟨hsz, hsub, hstart⟩ := hrest (sz, sub, start) List.mem_cons_self
      have hS : 0 ≤ size * l.extent := Int.mul_nonneg (hs ▸ hdone.prodF_sizes_nonneg) he
      have hrev : (done ++ [(sz, sub, start)]).reverse = (sz, sub, start) :: done.reverse := by
        rw [List.reverse_append, List.reverse_singleton, List.singleton_append]
      have hp : prodF (done.reverse.map (·.1)) = prodF (done.map (·.1)) := by rw [List.map_reverse, prodF_reverse]
      have := subarrayLoop_inv l he rest nt (size * sz) (lb + size * start) (done ++ [(sz, sub, start)]) _
        (hvOut_walk hrel hsub hS (mkHvector_out hnt))
        (by rw [hs, hrev, ← hp]; exact qpos_step l T sz sub start done.reverse hb)
        (by rw [hs, List.map_append, prodF_append, List.map_cons, List.map_nil, prodF_cons, prodF_nil, Int.mul_one])
        (by rw [hl, hs, hrev, qoff, hp]; ring)
        (List.forall_mem_append.mpr ⟨hdone, List.forall_mem_singleton.mpr ⟨hsz, hsub, hstart⟩⟩)
        (List.forall_mem_cons.mp hrest).2 res h
      rwa [List.append_assoc, List.singleton_append] at this

theorem subCore_walk {ds : List (Int × Int × Int)} {o r : Obj} {l : Layout} (h : RelW o l)
    (hchk : SubChecks ds) (hr : subCore ds o = some r) :
    W r ⟨bytesAt l (subPositions ds.reverse), 0, 0 + prodF (ds.map (·.1)) * l.extent⟩ := by
  match ds, hr with
  | [], hr | [_], hr => cases hr
  | d0 :: d1 :: rest, hr =>
    -- the selected positions are `qpos` shifted by the constant `qoff` (`subPositions_q`): the vector and the hvector loop
    -- build `qpos` (`subarrayLoop_inv`), the final hindexed of one block adds `qoff`
    obtain ⟨v, tmp, size, lb, hh, hv, hloop, hhe, rfl⟩ := subCore_some hr
    obtain ⟨c0, hchk1⟩ := List.forall_mem_cons.mp hchk
    obtain ⟨c1, hrest⟩ := List.forall_mem_cons.mp hchk1
    have he := h.1.ext_nonneg
    have hS := Int.mul_nonneg (Int.le_of_lt c0.1) he
    rw [h.1.ext] at hloop hhe ⊢
    obtain ⟨T', rT, bT, sT, lT⟩ := subarrayLoop_inv l he rest v (d0.1 * d1.1) (d0.2.2 + d1.2.2 * d0.1) [d0, d1] _
      (hvOut_walk h c1.2.1 hS (h.1.ext ▸ mkVector_out hv)) (vec_bytes l d0 d1)
      (by rw [List.map_cons, List.map_cons, List.map_nil, prodF_cons, prodF_cons, prodF_nil, Int.mul_one])
      (by simp only [List.reverse_cons, List.reverse_nil, List.nil_append, List.cons_append, qoff, List.map_cons,
            List.map_nil, prodF_cons, prodF_nil]; ring)
      (List.forall_mem_cons.mpr ⟨c0, List.forall_mem_singleton.mpr c1⟩) hrest _ hloop
    have sT : size = prodF ((d0 :: d1 :: rest).map (·.1)) := sT
    have lT : lb = qoff (d0 :: d1 :: rest).reverse := lT
    have := mkResized_walk hh _ 0 (size * l.extent) (mkHindexed_walk rT hhe)
    have hbytes : (place (dsIdx [(1, lb * l.extent)] 1 T'.extent) T').bytes =
        bytesAt l (subPositions (d0 :: d1 :: rest).reverse) := by
      rw [subPositions_q, bytesAt_map_add]
      simp only [place, dsIdx, blockCopies, range_one, List.flatMap_cons, List.flatMap_nil, List.append_nil,
        List.map_cons, List.map_nil, bT]
      apply List.map_congr_left
      intro x _
      rw [lT]; ring
    rw [hbytes] at this
    rwa [← sT]

theorem mkSubarray_walk {dims : List (Int × Int × Int)} {c : Bool} {o r : Obj} {l : Layout} (h : RelW o l)
    (hr : mkSubarray dims c o = some r) : RelW r (subL dims c l) := by
  refine ⟨mkSubarray_rel h.1 hr, ?_⟩
  match dims, hr with
  | [], hr => cases hr
  | [(sz, sub, start)], hr =>
    obtain ⟨_, hh, hhe, rfl⟩ := mkSubarray_one hr
    rw [h.1.ext] at hhe ⊢
    have hrev : (if c = true then [(sz, sub, start)] else [(sz, sub, start)].reverse) = [(sz, sub, start)] := by
      cases c <;> rfl
    have e : subL [(sz, sub, start)] c l =
        ⟨(place (dsIdx [(sub, start * l.extent)] 1 l.extent) l).bytes, 0, 0 + sz * l.extent⟩ := by
      simp only [subL, hrev, sub1_ds, List.map_cons, List.map_nil, prodF_cons, prodF_nil, Int.mul_one, Int.zero_add]
    rw [e]
    exact mkResized_walk hh _ 0 (sz * l.extent) (mkHindexed_walk h hhe)
  | d1 :: d2 :: rest, hr =>
    obtain ⟨hchk, hr⟩ := mkSubarray_ge2 hr
    rw [subL_eta, subL_bytes]
    cases c
    · rw [if_neg Bool.false_ne_true] at hr ⊢
      exact subCore_walk h hchk hr
    · rw [if_pos rfl] at hr ⊢
      have := subCore_walk h (fun d hd => hchk d (List.mem_reverse.mp hd)) hr
      rwa [List.reverse_reverse, List.map_reverse, prodF_reverse] at this

theorem relW_all : (∀ t o, build t = some o → Wf t → RelW o (layout t)) ∧
    (∀ m ms, buildMembers m = some ms → WfM m → MembersW m ms) := by
  refine build_ind (fun s _ => ⟨basic_rel s, plain_W _ _ (basic_rel s) (natural_isRun (basic_rel s) rfl)⟩)
    ?_ ?_ ?_ ?_ ?_ ?_ ?_ ?_ ?_ ?_ ?_ (fun _ => rfl) ?_
  · intro n t o r hn ih h w
    rw [layout, dsContig_eq]
    exact mkContiguous_walk (ih w) hn h
  · intro n bl st t o r hn ih h w
    have hr := ih w.2
    rw [layout, dsVec_eq]
    exact hvOut_walk hr hn (Int.mul_nonneg w.1 hr.1.ext_nonneg) (hr.1.ext ▸ mkVector_out h)
  · intro n bl st t o r hn ih h w
    exact hvOut_walk (ih w.2) hn w.1 (mkHvector_out h)
  · intro bs t o r ih h w
    rw [layout_indexed]; exact mkIndexed_walk (ih w) h
  · intro bs t o r ih h w
    rw [layout_hindexed]; exact mkHindexed_walk (ih w) h
  · intro bl ds t o r ih h w
    rw [layout_indexedBlock, layout_indexed]; exact mkIndexed_walk (ih w) h
  · intro bl ds t o r ih h w
    rw [layout_hindexedBlock, layout_hindexed]; exact mkHindexed_walk (ih w) h
  · intro m ms r hb ih h w
    rw [layout_struct]
    exact mkStruct_walk m ms r (ih w) w (size_members m ms hb) h
  · intro lb ext t o ih w
    exact ⟨mkResized_rel o _ lb ext (ih w.2).1.size w.1, mkResized_walk o _ lb ext (ih w.2)⟩
  · intro dims c t o r ih h w
    rw [layout_subarray]; exact mkSubarray_walk (ih w) h
  · intro t o hb ih w
    rw [cloneObj_fix t o hb]
    exact ih w
  · intro bl d t rest o ms ih ihr w
    obtain ⟨hr, hw⟩ := ih w.2.1
    exact ⟨o, ms, rfl, hr, hw, ihr w.2.2⟩

theorem rel_tree (t : Tree) (w : Wf t) (o : Obj) (h : build t = some o) : Rel1 o (layout t) := (relW_all.1 t o h w).1

theorem walk_members : (m : Members) → WfM m → (ms : List (Int × Int × Obj)) → buildMembers m = some ms → MembersW m ms :=
  fun m w ms h => relW_all.2 m ms h w

end SgVerif.C30
