import SgVerif.C30.Walk
/-
C30 — Derived datatypes have MPI layout and transfer exactly their bytes.  Property theorems (the model follows the code
after props/C30/fix_series) and the witnesses of the fixed defects as regression theorems.
Still false on the code (findings kept): true extent (`true-extent`), uncommitted old type of a ≥ 2-dimensional subarray
(`valid-type-rejected`).  Outside the theorems: negative strides / negative new extents, MPI_LB / MPI_UB members given by
the user, different send and receive types.
-/
namespace SgVerif.C30

/-- `MPI_Type_create_resized` over any tree: lb and ub are exactly the requested ones, as MPI defines. ∀ t, lb, extent. -/
theorem resized_lb_ub_eq_spec (t : Tree) (lb ext : Int) (o : Obj) (h : build t = some o) :
    ∃ r, build (.resized lb ext t) = some r ∧ r.info.lb = (Spec.layout (.resized lb ext t)).lb ∧
      r.info.ub = (Spec.layout (.resized lb ext t)).ub ∧ r.info.size = o.info.size := by
  simp [build, h, mkResized, Obj.info, Spec.layout]

/-- `MPI_Type_dup` keeps size, lb, ub (∀ trees) -/
theorem dup_layout_eq (t : Tree) (o : Obj) (h : build t = some o) :
    ∃ r, build (.dup t) = some r ∧ r.info = o.info ∧ Spec.layout (.dup t) = Spec.layout t := by
  refine ⟨cloneObj o, ?_, cloneObj_info o, ?_⟩
  · simp [build, h]
  · simp [Spec.layout]

/-- MPI: a type made of k copies of `old` has k times its size (∀ displacement lists, ∀ old layouts) -/
theorem spec_size_place (ds : List Int) (old : Spec.Layout) : (Spec.place ds old).size = ds.length * old.size :=
  place_size ds old

/-! ### pack ∘ unpack on the bytes the code's walk selects (memory = function from offsets to bytes) -/

abbrev Mem := Int → Nat

def writeAll : List Int → List Nat → Mem → Mem
  | o :: os, v :: vs, m => writeAll os vs (fun a => if a = o then v else m a)
  | _, _, m => m

/-- `serialize`: the contiguous buffer holds the bytes at the walked offsets, in order -/
def serialize (o : Obj) (count : Int) (m : Mem) : List Nat := (walk o count 0).map m
/-- `unserialize` (MPI_REPLACE): the bytes of the contiguous buffer are stored at the walked offsets, in order -/
def unserialize (o : Obj) (count : Int) (stream : List Nat) (m : Mem) : Mem := writeAll (walk o count 0) stream m

theorem writeAll_other (os : List Int) : ∀ (vs : List Nat) (m : Mem) (a : Int), a ∉ os → writeAll os vs m a = m a := by
  induction os with
  | nil => intro vs m a _; cases vs <;> rfl
  | cons o os ih =>
    intro vs m a ha
    cases vs with
    | nil => rfl
    | cons v vs =>
      simp only [writeAll]
      rw [ih vs _ a (fun h => ha (by simp [h]))]
      have : a ≠ o := fun h => ha (by simp [h])
      simp [this]

theorem writeAll_read (os : List Int) : ∀ (vs : List Nat) (m : Mem), os.Nodup → vs.length = os.length →
    os.map (writeAll os vs m) = vs := by
  induction os with
  | nil => intro vs m _ hl; cases vs <;> simp_all [writeAll]
  | cons o os ih =>
    intro vs m hnd hl
    cases vs with
    | nil => simp at hl
    | cons v vs =>
      have hno : o ∉ os := (List.nodup_cons.mp hnd).1
      have hnd' := (List.nodup_cons.mp hnd).2
      have e1 : writeAll os vs (fun a => if a = o then v else m a) o = v := by
        rw [writeAll_other os vs _ o hno]; simp
      simp only [writeAll, List.map_cons, e1]
      rw [ih vs _ hnd' (Nat.succ.inj hl)]

theorem writeAll_map (src : Mem) (os : List Int) : ∀ (m : Mem) (a : Int),
    writeAll os (os.map src) m a = if a ∈ os then src a else m a := by
  induction os with
  | nil => intro m a; simp [writeAll]
  | cons o os ih =>
    intro m a
    simp only [List.map_cons, writeAll, ih, List.mem_cons]
    by_cases h1 : a ∈ os
    · simp [h1]
    · by_cases h2 : a = o
      · subst h2; simp [h1]
      · simp [h1, h2]

/-- unpack ∘ pack with the same object and count, for any object whatever its walk: the destination gets the source's byte at
    every walked offset (overlaps included: the same byte is written each time) and keeps its own everywhere else -/
theorem copy_walk (o : Obj) (count : Int) (src dst : Mem) (a : Int) :
    unserialize o count (serialize o count src) dst a = if a ∈ walk o count 0 then src a else dst a :=
  writeAll_map src _ dst a

-- `hnd` is not used: `copy_walk` holds for overlapping offsets too
/-- about the code's own walk, whatever it is (∀ objects, ∀ counts, ∀ memories): if the offsets walked are pairwise
    distinct, unpacking what was packed restores exactly those bytes and leaves every other byte of the destination
    untouched.  `pack_unpack_roundtrip` is the statement on MPI's typemap. -/
theorem pack_unpack_roundtrip_partial (o : Obj) (count : Int) (src dst : Mem) (hnd : (walk o count 0).Nodup) :
    serialize o count (unserialize o count (serialize o count src) dst) = serialize o count src ∧
    ∀ a, a ∉ walk o count 0 → unserialize o count (serialize o count src) dst a = dst a :=
  ⟨List.map_congr_left fun a ha => by rw [copy_walk, if_pos ha], fun a ha => by rw [copy_walk, if_neg ha]⟩

/-- **MPI_Type_indexed**, ∀ block lists (any lengths ≥ 0 incl. 0, any displacements, any order), ∀ old types that satisfy
    the spec: the lb and ub the code computes are MPI's (min / max over the placed copies of the old type's lb / ub;
    0 / 0 for a type without any copy).  Covers the Type_Indexed object and the contiguous shortcut. -/
theorem lb_ub_extent_eq_spec_indexed (bs : List (Int × Int)) (t : Tree) (o r : Obj) (ho : build t = some o)
    (hlb : o.info.lb = (Spec.layout t).lb) (hub : o.info.ub = (Spec.layout t).ub)
    (hext : 0 ≤ (Spec.layout t).extent)
    (hnat : o.info.derived = false → o.info.lb = 0 ∧ o.info.ub = o.info.size)
    (hr : build (.indexed bs t) = some r) :
    r.info.lb = (Spec.layout (.indexed bs t)).lb ∧ r.info.ub = (Spec.layout (.indexed bs t)).ub := by
  simp only [build, ho, Option.bind_some] at hr
  have := idxOut_bounds hlb hub hext hnat (mkIndexed_out hr)
  rwa [idxScale, extent_eq hlb hub, ← layout_indexed] at this

/-- **MPI_Type_create_hindexed**, same statement (displacements in bytes) -/
theorem lb_ub_extent_eq_spec_hindexed (bs : List (Int × Int)) (t : Tree) (o r : Obj) (ho : build t = some o)
    (hlb : o.info.lb = (Spec.layout t).lb) (hub : o.info.ub = (Spec.layout t).ub)
    (hext : 0 ≤ (Spec.layout t).extent)
    (hnat : o.info.derived = false → o.info.lb = 0 ∧ o.info.ub = o.info.size)
    (hr : build (.hindexed bs t) = some r) :
    r.info.lb = (Spec.layout (.hindexed bs t)).lb ∧ r.info.ub = (Spec.layout (.hindexed bs t)).ub := by
  simp only [build, ho, Option.bind_some] at hr
  have := idxOut_bounds hlb hub hext hnat (mkHindexed_out hr)
  rwa [idxScale, ← layout_hindexed] at this

/-- **MPI_Type_create_indexed_block** (same code path as indexed) -/
theorem lb_ub_extent_eq_spec_indexed_block (bl : Int) (ds : List Int) (t : Tree) (o r : Obj) (ho : build t = some o)
    (hlb : o.info.lb = (Spec.layout t).lb) (hub : o.info.ub = (Spec.layout t).ub)
    (hext : 0 ≤ (Spec.layout t).extent)
    (hnat : o.info.derived = false → o.info.lb = 0 ∧ o.info.ub = o.info.size)
    (hr : build (.indexedBlock bl ds t) = some r) :
    r.info.lb = (Spec.layout (.indexedBlock bl ds t)).lb ∧ r.info.ub = (Spec.layout (.indexedBlock bl ds t)).ub := by
  have hr' : build (.indexed (ds.map (fun d => (bl, d))) t) = some r := by
    simp only [build] at hr ⊢; exact hr
  rw [layout_indexedBlock]
  exact lb_ub_extent_eq_spec_indexed _ t o r ho hlb hub hext hnat hr'

/-- **MPI_Type_create_hindexed_block** (same code path as hindexed) -/
theorem lb_ub_extent_eq_spec_hindexed_block (bl : Int) (ds : List Int) (t : Tree) (o r : Obj) (ho : build t = some o)
    (hlb : o.info.lb = (Spec.layout t).lb) (hub : o.info.ub = (Spec.layout t).ub)
    (hext : 0 ≤ (Spec.layout t).extent)
    (hnat : o.info.derived = false → o.info.lb = 0 ∧ o.info.ub = o.info.size)
    (hr : build (.hindexedBlock bl ds t) = some r) :
    r.info.lb = (Spec.layout (.hindexedBlock bl ds t)).lb ∧ r.info.ub = (Spec.layout (.hindexedBlock bl ds t)).ub := by
  have hr' : build (.hindexed (ds.map (fun d => (bl, d))) t) = some r := by
    simp only [build] at hr ⊢; exact hr
  rw [layout_hindexedBlock]
  exact lb_ub_extent_eq_spec_hindexed _ t o r ho hlb hub hext hnat hr'

/-- **MPI_Type_create_struct**, ∀ member lists (any block lengths ≥ 0 incl. 0, any displacements, any order, members of
    different types), every member satisfying the spec (`MembersOk`): the lb and ub the code computes are MPI's (min / max
    over the members that have at least one copy; 0 / 0 without any).  Covers the Type_Struct object and the contiguous
    shortcut (MPI_CHAR run). -/
theorem lb_ub_extent_eq_spec_struct (m : Members) (ms : List (Int × Int × Obj)) (r : Obj)
    (hm : buildMembers m = some ms) (hok : MembersOk m ms)
    (hnat : ∀ x ∈ ms, x.2.2.info.derived = false →
      x.2.2.info.lb = 0 ∧ x.2.2.info.ub = x.2.2.info.size ∧ 0 ≤ x.2.2.info.size)
    (hr : build (.struct m) = some r) :
    r.info.lb = (Spec.layout (.struct m)).lb ∧ r.info.ub = (Spec.layout (.struct m)).ub := by
  simp only [build, hm, Option.bind_some] at hr
  obtain ⟨h1, h2⟩ := mkStruct_bounds hnat hr
  obtain ⟨s1, s2⟩ := spec_members m ms hok
  rw [h1, h2]
  refine ⟨?_, ?_⟩ <;> simp only [Spec.layout, s1, s2]

/-- **one-dimensional MPI_Type_create_subarray**, ∀ sizes / subsizes / starts / order, ∀ old types: lb = 0 and the extent
    is the one of the full array, as MPI defines -/
theorem lb_ub_extent_eq_spec_subarray_ndims1 (sz sub start : Int) (c : Bool) (t : Tree) (o r : Obj) (ho : build t = some o)
    (hlb : o.info.lb = (Spec.layout t).lb) (hub : o.info.ub = (Spec.layout t).ub)
    (hr : build (.subarray [(sz, sub, start)] c t) = some r) :
    r.info.lb = (Spec.layout (.subarray [(sz, sub, start)] c t)).lb ∧
    r.info.ub = (Spec.layout (.subarray [(sz, sub, start)] c t)).ub := by
  simp only [build, ho, Option.bind_some] at hr
  obtain ⟨_, hh, _, rfl⟩ := mkSubarray_one hr
  refine ⟨rfl, ?_⟩
  show 0 + sz * o.info.extent = _
  rw [extent_eq hlb hub, layout_subarray]
  simp only [subL, List.map_cons, List.map_nil, prodF_cons, prodF_nil, Int.mul_one, Int.zero_add]

/-- trees made of the basic types with indexed / hindexed / indexed_block / hindexed_block (any arguments), resized (to a
    non-negative extent) and dup, nested to any depth -/
inductive IdxTree : Tree → Prop
  | basic (s : Nat) : IdxTree (.basic s)
  | indexed (bs : List (Int × Int)) (t : Tree) : IdxTree t → IdxTree (.indexed bs t)
  | hindexed (bs : List (Int × Int)) (t : Tree) : IdxTree t → IdxTree (.hindexed bs t)
  | indexedBlock (bl : Int) (ds : List Int) (t : Tree) : IdxTree t → IdxTree (.indexedBlock bl ds t)
  | hindexedBlock (bl : Int) (ds : List Int) (t : Tree) : IdxTree t → IdxTree (.hindexedBlock bl ds t)
  | resized (lb ext : Int) (t : Tree) : 0 ≤ ext → IdxTree t → IdxTree (.resized lb ext t)
  | dup (t : Tree) : IdxTree t → IdxTree (.dup t)

/-- "the object satisfies the spec": the hypotheses of the per-constructor theorems -/
def Good (t : Tree) (o : Obj) : Prop :=
  o.info.lb = (Spec.layout t).lb ∧ o.info.ub = (Spec.layout t).ub ∧ 0 ≤ (Spec.layout t).extent ∧
  (o.info.derived = false → o.info.lb = 0 ∧ o.info.ub = o.info.size ∧ 0 ≤ o.info.size)

theorem IdxTree.wf {t : Tree} (h : IdxTree t) : Wf t := by
  induction h with
  | basic s => trivial
  | resized lb ext t hext _ ih => exact ⟨hext, ih⟩
  | _ => rw [Wf]; assumption

/-- **lb_ub_extent_eq_spec on the indexed family** (any depth, any block lists, any resizes to a non-negative extent):
    whenever the constructor calls succeed, the lb and ub of the resulting datatype are MPI's.  These trees are `Wf`. -/
theorem lb_ub_extent_eq_spec_idx_trees (t : Tree) (h : IdxTree t) : ∀ o, build t = some o → Good t o := by
  intro o ho
  have r := rel_tree t h.wf o ho
  exact ⟨r.lb, r.ub, r.ext_nonneg, fun hd => ⟨(r.natural hd).1, (r.natural hd).2.1, r.size_nonneg⟩⟩

/- (size, lb, ub) on the code's side and on MPI's: the regression witnesses below compare the two; every one is replayed on
   the library by props/C30/corpus.txt -/

def slu (t : Tree) : Option (Int × Int × Int) := (build t).map (fun o => (o.info.size, o.info.lb, o.info.ub))
def specSlu (t : Tree) : Int × Int × Int := ((Spec.layout t).size, (Spec.layout t).lb, (Spec.layout t).ub)

/-- **size_eq_spec**: for every constructor tree — contiguous, vector, hvector, indexed, hindexed,
    indexed_block, hindexed_block, struct, resized, subarray (any ndims ≥ 1, C or Fortran order), dup, nested to any depth,
    with any arguments — whenever the nest of constructor calls succeeds, the size of the datatype the code builds is the
    number of bytes of MPI's typemap.  By induction on the tree (`size_all`). -/
theorem size_eq_spec (t : Tree) (o : Obj) (h : build t = some o) : o.info.size = (Spec.layout t).size :=
  size_all.1 t o h

/-- **lb_ub_extent_eq_spec**: for every constructor tree satisfying `Wf` (vector / hvector strides ≥ 0, resized extents
    ≥ 0, struct members that have copies are not empty types; any other argument, any depth), whenever the constructor
    calls succeed, lb, ub and extent of the datatype the code builds are MPI's (min / max over the placed copies, sticky
    resized markers, ε = 0), and the extent is not negative.  By induction on the tree (`rel_tree`). -/
theorem lb_ub_extent_eq_spec (t : Tree) (hw : Wf t) (o : Obj) (h : build t = some o) :
    o.info.lb = (Spec.layout t).lb ∧ o.info.ub = (Spec.layout t).ub ∧ o.info.extent = (Spec.layout t).extent ∧
      0 ≤ (Spec.layout t).extent :=
  have r := rel_tree t hw o h
  ⟨r.lb, r.ub, r.ext, r.ext_nonneg⟩

/-- `Wf` cannot drop "strides ≥ 0": MPI_Type_vector(2, 1, -3, MPI_INT) has lb = -12, ub = 4; the code computes 0 / -8 -/
theorem lb_ub_negative_stride_counterexample :
    slu (.vector 2 1 (-3) (.basic 4)) = some (8, 0, -8) ∧ specSlu (.vector 2 1 (-3) (.basic 4)) = (8, -12, 4) := by decide

/-- `Wf` cannot drop "no copies of an empty type in a struct" on this model: the struct {1 × (0 × MPI_INT) at 40} is a
    non-derived size-0 Datatype with lb = ub = 40 (`Spec` puts the bounds of an empty member at its displacement; MPI
    leaves lb / ub of an empty typemap undefined), and the shortcut of create_hvector then resets the bounds to 0 -/
theorem lb_ub_empty_member_counterexample :
    slu (.hvector 1 1 0 (.struct (.cons 1 40 (.contiguous 0 (.basic 4)) .nil))) = some (0, 0, 0) ∧
    specSlu (.hvector 1 1 0 (.struct (.cons 1 40 (.contiguous 0 (.basic 4)) .nil))) = (0, 40, 40) := by decide

/-- **walk = typemap**: for every `Wf` tree, every count and every base address, the byte offsets visited by
    `serialize` / `unserialize` of the object the code builds are exactly the offsets of MPI's typemap of `count`
    consecutive elements (element k at k · extent), in typemap order.  By induction on the tree (`relW_all`); covers the
    Type_Contiguous / Hvector / Vector / Hindexed / Indexed / Struct objects, the "contiguous" shortcuts of
    create_hvector / vector / indexed / hindexed / struct, the resized struct with its MPI_LB / MPI_UB markers, the chain
    vector → hvector … → hindexed → resized of create_subarray, and clone. -/
theorem walk_eq_typemap (t : Tree) (hw : Wf t) (o : Obj) (h : build t = some o) (count base : Int) :
    walk o count base = (Spec.bytesOf (Spec.layout t) count).map (· + base) :=
  (relW_all.1 t o h hw).2 count base

theorem walk_eq_typemap_zero (t : Tree) (hw : Wf t) (o : Obj) (h : build t = some o) (count : Int) :
    walk o count 0 = Spec.bytesOf (Spec.layout t) count := by
  rw [walk_eq_typemap t hw o h]; simp

/-- **copy_touches_only_typemap** (send → receive / pack → unpack with the same datatype and count): the destination ends
    with the source's byte at every offset of MPI's typemap and is untouched everywhere else.  ∀ `Wf` trees, ∀ counts,
    ∀ memories; overlapping typemap entries allowed. -/
theorem copy_touches_only_typemap (t : Tree) (hw : Wf t) (o : Obj) (h : build t = some o) (count : Int) (src dst : Mem)
    (a : Int) :
    unserialize o count (serialize o count src) dst a =
      if a ∈ Spec.bytesOf (Spec.layout t) count then src a else dst a := by
  rw [copy_walk, walk_eq_typemap_zero t hw o h]

/-- the packed stream is the source's bytes at the typemap offsets, in typemap order -/
theorem serialize_eq_typemap (t : Tree) (hw : Wf t) (o : Obj) (h : build t = some o) (count : Int) (src : Mem) :
    serialize o count src = (Spec.bytesOf (Spec.layout t) count).map src := by
  unfold serialize; rw [walk_eq_typemap_zero t hw o h]

/-- **pack_unpack_roundtrip**: packing what was unpacked from a packed
    stream gives the same stream, every typemap offset of the destination holds the source byte, every other byte of the
    destination is untouched -/
theorem pack_unpack_roundtrip (t : Tree) (hw : Wf t) (o : Obj) (h : build t = some o) (count : Int) (src dst : Mem) :
    serialize o count (unserialize o count (serialize o count src) dst) = serialize o count src ∧
    (∀ a, a ∈ Spec.bytesOf (Spec.layout t) count → unserialize o count (serialize o count src) dst a = src a) ∧
    (∀ a, a ∉ Spec.bytesOf (Spec.layout t) count → unserialize o count (serialize o count src) dst a = dst a) :=
  ⟨List.map_congr_left fun a ha => by rw [copy_walk, if_pos ha],
   fun a ha => by rw [copy_touches_only_typemap t hw o h, if_pos ha],
   fun a ha => by rw [copy_touches_only_typemap t hw o h, if_neg ha]⟩


/-- indexed over an old type with lb ≠ 0.  MPI_Type_indexed(1, [2], [0], MPI_Type_indexed(1, [1], [1], MPI_INT)):
    the old code gave (8, 0, 16) (`bl·ub_old`, first block's lb without `+ lb_old`) -/
theorem lb_ub_extent_eq_spec_indexed_regression :
    slu (.indexed [(2, 0)] (.indexed [(1, 1)] (.basic 4))) = some (8, 4, 12) ∧
    specSlu (.indexed [(2, 0)] (.indexed [(1, 1)] (.basic 4))) = (8, 4, 12) := by decide

/-- the old code gave (8, 4, 16) -/
theorem lb_ub_extent_eq_spec_hindexed_regression :
    slu (.hindexed [(2, 0)] (.indexed [(1, 1)] (.basic 4))) = some (8, 4, 12) ∧
    specSlu (.hindexed [(2, 0)] (.indexed [(1, 1)] (.basic 4))) = (8, 4, 12) := by decide

/-- struct: the old code (`lb = indices[i]` dropping `+ lb_old`; `bl·ub_old`) gave (8, 4, 16) -/
theorem lb_ub_extent_eq_spec_struct_regression :
    slu (.struct (.cons 2 0 (.indexed [(1, 1)] (.basic 4)) .nil)) = some (8, 4, 12) ∧
    specSlu (.struct (.cons 2 0 (.indexed [(1, 1)] (.basic 4)) .nil)) = (8, 4, 12) := by decide

/-- zero-length blocks took part in lb / ub: MPI_Type_indexed(2, [0,1], [5,0], MPI_INT) had (4, 0, 20) -/
theorem lb_ub_extent_eq_spec_zero_block_regression :
    slu (.indexed [(0, 5), (1, 0)] (.basic 4)) = some (4, 0, 4) ∧
    specSlu (.indexed [(0, 5), (1, 0)] (.basic 4)) = (4, 0, 4) ∧
    slu (.struct (.cons 0 40 (.basic 4) (.cons 1 0 (.basic 8) .nil))) = some (8, 0, 8) ∧
    specSlu (.struct (.cons 0 40 (.basic 4) (.cons 1 0 (.basic 8) .nil))) = (8, 0, 8) := by decide

/-- MPI_Type_vector(2, 0, 3, MPI_INT) was an empty type with extent 12 -/
theorem lb_ub_extent_eq_spec_vector_regression :
    slu (.vector 2 0 3 (.basic 4)) = some (0, 0, 0) ∧ specSlu (.vector 2 0 3 (.basic 4)) = (0, 0, 0) ∧
    slu (.hvector 2 0 8 (.basic 4)) = some (0, 0, 0) ∧ specSlu (.hvector 2 0 8 (.basic 4)) = (0, 0, 0) := by decide

/-- one-dimensional subarray: the old code gave (12, 8, 20) (lb = start·extent, extent = subsize·extent) -/
theorem lb_ub_extent_eq_spec_subarray_regression :
    slu (.subarray [(10, 3, 2)] true (.basic 4)) = some (12, 0, 40) ∧
    specSlu (.subarray [(10, 3, 2)] true (.basic 4)) = (12, 0, 40) := by decide

/-- regression (fixed in /repo a255fb7726): the 4×6 subarray of ints has the extent of the full array, 96 -/
theorem subarray_extent_regression :
    slu (.subarray [(4, 2, 1), (6, 3, 2)] true (.basic 4)) = some (24, 0, 96) ∧
    specSlu (.subarray [(4, 2, 1), (6, 3, 2)] true (.basic 4)) = (24, 0, 96) := by decide

/-- STILL FALSE on the code (finding `valid-type-rejected`): a (≥ 2)-dimensional subarray of a derived, not yet committed
    old type is rejected (MPI_ERR_TYPE) although MPI only requires a commit before communication -/
theorem subarray_uncommitted_rejected_counterexample :
    build (.subarray [(2, 1, 0), (2, 1, 0)] true (.contiguous 2 (.basic 4))) = none := by decide

/-- MPI_Type_dup of a vector / indexed type transfers the bytes of the original (the old `clone` re-scaled the byte
    stride: second block at 48 instead of 12; and reinterpreted the MPI_Aint displacements as ints: a write at offset 64) -/
theorem dup_walk_regression :
    (build (.dup (.vector 2 1 3 (.basic 4)))).map (fun o => walk o 1 0) = some [0, 1, 2, 3, 12, 13, 14, 15] ∧
    (build (.dup (.indexed [(1, 4), (1, 0), (1, 2)] (.basic 4)))).map (fun o => walk o 1 0) =
      some [16, 17, 18, 19, 0, 1, 2, 3, 8, 9, 10, 11] := by decide

/-- count > 1 of a type whose blocks are not in increasing order: element j is walked at j extents (the old walk
    restarted at the end of the last block: 2 × indexed([1,1],[2,0],MPI_INT) gave bytes 8.., 0.., 4.., 0..) -/
theorem multi_count_walk_regression :
    (build (.indexed [(1, 2), (1, 0)] (.basic 4))).map (fun o => walk o 2 0) =
      some [8, 9, 10, 11, 0, 1, 2, 3, 20, 21, 22, 23, 12, 13, 14, 15] ∧
    Spec.bytesOf (Spec.layout (.indexed [(1, 2), (1, 0)] (.basic 4))) 2 =
      [8, 9, 10, 11, 0, 1, 2, 3, 20, 21, 22, 23, 12, 13, 14, 15] := by decide

example : (build (.vector 2 1 3 (.basic 4))).map Obj.info = some ⟨8, 0, 16, true⟩ := by decide
example : specSlu (.vector 2 1 3 (.basic 4)) = (8, 0, 16) := by decide
/-- the hypotheses of `lb_ub_extent_eq_spec_indexed` hold for an old type with lb ≠ 0 (and the conclusion is not trivial) -/
example : (build (.indexed [(1, 1)] (.basic 4))).map Obj.info = some ⟨4, 4, 8, true⟩ ∧
    specSlu (.indexed [(1, 1)] (.basic 4)) = (4, 4, 8) := by decide
/-- the contiguous shortcut of create_indexed is taken by [(2,1),(0,3),(1,3)] over MPI_INT (a Type_Contiguous at lb 4) -/
example : (build (.indexed [(2, 1), (0, 3), (1, 3)] (.basic 4))).map Obj.info = some ⟨12, 4, 16, true⟩ ∧
    specSlu (.indexed [(2, 1), (0, 3), (1, 3)] (.basic 4)) = (12, 4, 16) := by decide

/-- `MembersOk` (hypothesis of `lb_ub_extent_eq_spec_struct`) holds for a struct with an empty member, a member whose lb
    is not 0 and members out of order -/
example : MembersOk (.cons 0 40 (.basic 4) (.cons 2 8 (.indexed [(1, 1)] (.basic 4)) (.cons 1 0 (.basic 8) .nil)))
    [(0, 40, basicObj 4), (2, 8, .hindexed ⟨4, 4, 8, true⟩ [(1, 4)] (basicObj 4) true), (1, 0, basicObj 8)] := by
  simp only [MembersOk]
  refine ⟨_, _, rfl, by decide, by decide, by decide, _, _, rfl, by decide, by decide, by decide, _, _, rfl, by decide,
    by decide, by decide, rfl⟩
example : slu (.struct (.cons 0 40 (.basic 4) (.cons 2 8 (.indexed [(1, 1)] (.basic 4)) (.cons 1 0 (.basic 8) .nil)))) =
    some (16, 0, 20) ∧
    specSlu (.struct (.cons 0 40 (.basic 4) (.cons 2 8 (.indexed [(1, 1)] (.basic 4)) (.cons 1 0 (.basic 8) .nil)))) =
    (16, 0, 20) := by decide

/-- `lb_ub_extent_eq_spec_idx_trees` on a three-level tree with an old lb ≠ 0, a zero-length block, shuffled blocks, a resize -/
example : IdxTree (.indexed [(0, 7), (2, 1), (1, 0)] (.resized 4 24 (.hindexedBlock 2 [8, 0] (.basic 4)))) :=
  .indexed _ _ (.resized _ _ _ (by decide) (.hindexedBlock _ _ _ (.basic 4)))
example : slu (.indexed [(0, 7), (2, 1), (1, 0)] (.resized 4 24 (.hindexedBlock 2 [8, 0] (.basic 4)))) = some (48, 4, 76) ∧
    specSlu (.indexed [(0, 7), (2, 1), (1, 0)] (.resized 4 24 (.hindexedBlock 2 [8, 0] (.basic 4)))) = (48, 4, 76) := by
  decide

/-- non-vacuity of the ∀-tree theorems: a `Wf` tree with a struct (member out of order, a zero-length member, a member whose
    lb is not 0), a strided vector, a contiguous of a derived type, a 2-D Fortran-order subarray, a resize and a dup -/
def bigTree : Tree :=
  .dup (.resized 4 200 (.struct (.cons 2 64 (.vector 2 1 3 (.basic 4))
    (.cons 0 500 (.basic 8)
    (.cons 1 0 (.contiguous 2 (.indexed [(1, 1)] (.basic 4)))
    (.cons 1 128 (.subarray [(4, 2, 1), (3, 2, 0)] false (.basic 2)) .nil))))))
example : Wf bigTree := by
  simp only [bigTree, Wf, WfM]; decide
example : slu bigTree = some (32, 4, 204) ∧ specSlu bigTree = (32, 4, 204) := by decide
example : (build bigTree).map (fun o => walk o 2 0) = some (Spec.bytesOf (Spec.layout bigTree) 2) ∧
    (Spec.bytesOf (Spec.layout bigTree) 2).length = 64 ∧ (Spec.bytesOf (Spec.layout bigTree) 1).take 6 = [64, 65, 66, 67, 76, 77] := by
  decide
/-- a subarray of a derived type is accepted for ndims = 1 (the theorems are not vacuous for nested subarrays) -/
example : slu (.subarray [(5, 2, 1)] true (.vector 2 1 2 (.basic 4))) = some (16, 0, 60) ∧
    specSlu (.subarray [(5, 2, 1)] true (.vector 2 1 2 (.basic 4))) = (16, 0, 60) := by decide

end SgVerif.C30
