import SgVerif.C30.Model
/-
C30 — what the `for` loops of create_indexed / create_hindexed / create_struct compute, three facts about each loop: the
size and the flag it returns (`*_size`), that the bounds it returns are the min / max over the placed copies (`*_ok`),
and that blocks that chain form one run of bytes (`*_run`).
-/
namespace SgVerif.C30
open Spec

def IsMin (xs : List Int) (m : Int) : Prop := m ∈ xs ∧ ∀ x ∈ xs, m ≤ x
def IsMax (xs : List Int) (m : Int) : Prop := m ∈ xs ∧ ∀ x ∈ xs, x ≤ m

theorem listMin_eq {xs : List Int} {m : Int} (h : IsMin xs m) : listMin xs = m := by
  cases xs with
  | nil => exact absurd h.1 List.not_mem_nil
  | cons a t => exact Option.some.inj (List.min?_cons'.symm.trans (List.min?_eq_some_iff.mpr h))

theorem listMax_eq {xs : List Int} {m : Int} (h : IsMax xs m) : listMax xs = m := by
  cases xs with
  | nil => exact absurd h.1 List.not_mem_nil
  | cons a t => exact Option.some.inj (List.max?_cons'.symm.trans (List.max?_eq_some_iff.mpr h))

theorem listMin_isMin {xs : List Int} (h : xs ≠ []) : IsMin xs (listMin xs) := by
  cases xs with
  | nil => exact absurd rfl h
  | cons a t => exact List.min?_eq_some_iff.mp List.min?_cons'

theorem listMax_isMax {xs : List Int} (h : xs ≠ []) : IsMax xs (listMax xs) := by
  cases xs with
  | nil => exact absurd rfl h
  | cons a t => exact List.max?_eq_some_iff.mp List.max?_cons'

theorem isMin_append {A B : List Int} {a b : Int} (ha : IsMin A a) (hb : IsMin B b) :
    IsMin (A ++ B) (if b < a then b else a) := by
  refine ⟨?_, fun x hx => ?_⟩
  · split
    · exact List.mem_append_right _ hb.1
    · exact List.mem_append_left _ ha.1
  · rcases List.mem_append.mp hx with hx | hx
    · have := ha.2 x hx; split <;> omega
    · have := hb.2 x hx; split <;> omega

theorem isMax_append {A B : List Int} {a b : Int} (ha : IsMax A a) (hb : IsMax B b) :
    IsMax (A ++ B) (if b > a then b else a) := by
  refine ⟨?_, fun x hx => ?_⟩
  · split
    · exact List.mem_append_right _ hb.1
    · exact List.mem_append_left _ ha.1
  · rcases List.mem_append.mp hx with hx | hx
    · have := ha.2 x hx; split <;> omega
    · have := hb.2 x hx; split <;> omega

theorem listMin_le_listMax {α : Type} (A : List α) (f g : α → Int) (h : ∀ x ∈ A, f x ≤ g x) :
    listMin (A.map f) ≤ listMax (A.map g) := by
  cases A with
  | nil => exact Int.le_refl 0
  | cons a t =>
    have h1 := (listMin_isMin (List.cons_ne_nil (f a) (t.map f))).2 (f a) List.mem_cons_self
    have h2 := (listMax_isMax (List.cons_ne_nil (g a) (t.map g))).2 (g a) List.mem_cons_self
    have := h a List.mem_cons_self
    simp only [List.map_cons]
    omega

theorem mem_range (n x : Int) : x ∈ Spec.range n ↔ 0 ≤ x ∧ x < n := by
  simp only [Spec.range, List.mem_map, List.mem_range]
  constructor
  · rintro ⟨k, hk, rfl⟩; omega
  · rintro ⟨h0, h1⟩; exact ⟨x.toNat, by omega, by omega⟩

theorem range_nil (n : Int) (h : n ≤ 0) : Spec.range n = [] := by
  have : n.toNat = 0 := by omega
  simp only [Spec.range, this, List.range_zero, List.map_nil]

theorem range_add (a b : Int) (ha : 0 ≤ a) (hb : 0 ≤ b) :
    Spec.range (a + b) = Spec.range a ++ (Spec.range b).map (· + a) := by
  have h : (a + b).toNat = a.toNat + b.toNat := by omega
  simp only [Spec.range, h, List.range_add, List.map_append, List.map_map]
  congr 1
  apply List.map_congr_left
  intro k _
  simp only [Function.comp]; omega

/-- displacements of the copies of one block -/
def blockCopies (d bl e : Int) : List Int := (Spec.range bl).map (fun j => d + j * e)

theorem blockCopies_nil (d bl e : Int) (h : bl ≤ 0) : blockCopies d bl e = [] := by
  simp only [blockCopies, range_nil bl h, List.map_nil]

theorem block_isMin (d bl e L : Int) (hbl : 0 < bl) (he : 0 ≤ e) :
    IsMin ((blockCopies d bl e).map (· + L)) (d + L) := by
  simp only [IsMin, blockCopies, List.map_map, List.mem_map, Function.comp, mem_range]
  refine ⟨⟨0, ⟨Int.le_refl 0, hbl⟩, by omega⟩, ?_⟩
  rintro x ⟨j, hj, rfl⟩
  have := Int.mul_nonneg hj.1 he
  omega

theorem block_isMax (d bl e U : Int) (hbl : 0 < bl) (he : 0 ≤ e) :
    IsMax ((blockCopies d bl e).map (· + U)) (d + (bl - 1) * e + U) := by
  simp only [IsMax, blockCopies, List.map_map, List.mem_map, Function.comp, mem_range]
  refine ⟨⟨bl - 1, by omega, rfl⟩, ?_⟩
  rintro x ⟨j, hj, rfl⟩
  have : j * e ≤ (bl - 1) * e := Int.mul_le_mul_of_nonneg_right (by omega) he
  omega

/-- `len` consecutive byte offsets starting at `p`: the model's `byteRange`, written over `Spec.range` so that the list
    lemmas about `range` apply (`byteRange_eq_seg`) -/
def seg (p len : Int) : List Int := (Spec.range len).map (· + p)

theorem seg_nil (p len : Int) (h : len ≤ 0) : seg p len = [] := by
  simp only [seg, range_nil len h, List.map_nil]

theorem seg_append (p a b : Int) (ha : 0 ≤ a) (hb : 0 ≤ b) : seg p a ++ seg (p + a) b = seg p (a + b) := by
  simp only [seg, range_add a b ha hb, List.map_append, List.map_map]
  congr 1
  apply List.map_congr_left
  intro k _
  simp only [Function.comp]; omega

/-- the state describes the lower bounds `A` and the upper bounds `B` of the copies placed so far -/
def StOk (A B : List Int) (st : Int × Int × Bool) : Prop :=
  (st = (0, 0, true) ∧ A = [] ∧ B = []) ∨ (st.2.2 = false ∧ IsMin A st.1 ∧ IsMax B st.2.1)

theorem blockBounds_skip (d bl L U e : Int) (st : Int × Int × Bool) (h : ¬ bl > 0) : blockBounds d bl L U e st = st :=
  if_neg h

/-- a block with copies: `A'`, `B'` are the bounds of its copies (the old types of struct members differ, so the caller
    says what they are) -/
theorem blockBounds_ok {A B A' B' : List Int} (d bl L U e : Int) {st : Int × Int × Bool} (h : StOk A B st) (hbl : bl > 0)
    (hA : IsMin A' (d + L)) (hB : IsMax B' (d + (bl - 1) * e + U)) :
    StOk (A ++ A') (B ++ B') (blockBounds d bl L U e st) := by
  unfold blockBounds
  rw [if_pos hbl]
  rcases h with ⟨rfl, rfl, rfl⟩ | ⟨hf, hmn, hmx⟩
  · exact Or.inr ⟨rfl, hA, hB⟩
  · refine Or.inr ⟨rfl, ?_, ?_⟩
    · have := isMin_append hmn hA
      simpa only [hf, Bool.false_or, decide_eq_true_eq] using this
    · have := isMax_append hmx hB
      simpa only [hf, Bool.false_or, decide_eq_true_eq] using this

theorem stOk_bounds {A B : List Int} {st : Int × Int × Bool} (h : StOk A B st) :
    st.1 = listMin A ∧ st.2.1 = listMax B := by
  rcases h with ⟨rfl, rfl, rfl⟩ | ⟨_, hmn, hmx⟩
  · exact ⟨rfl, rfl⟩
  · exact ⟨(listMin_eq hmn).symm, (listMax_eq hmx).symm⟩

/-- over old types with the natural bounds (lb = 0, ub = extent = size: every non-derived type), the blocks placed so far
    form one run of `T` bytes from lb, and the next block, if there is one, starts at `nxt`, where the run ends -/
def Chain (T : Int) (nxt : Option Int) (st : Int × Int × Bool) : Prop :=
  (st = (0, 0, true) ∧ T = 0) ∨ (st.2.2 = false ∧ st.2.1 = st.1 + T ∧ ∀ p ∈ nxt, p = st.2.1)

theorem blockBounds_chain (T d bl e : Int) (nxt : Option Int) (st : Int × Int × Bool) (hT : 0 ≤ T) (hbl : 0 ≤ bl)
    (he : 0 ≤ e) (h : Chain T (some d) st) (hn : ∀ p ∈ nxt, p = d + bl * e) :
    Chain (T + bl * e) nxt (blockBounds d bl 0 e e st) ∧
      seg st.1 T ++ seg d (bl * e) = seg (blockBounds d bl 0 e e st).1 (T + bl * e) := by
  have hB : 0 ≤ bl * e := Int.mul_nonneg hbl he
  obtain ⟨lb, ub, f⟩ := st
  by_cases hpos : bl > 0
  · have hend : d + (bl - 1) * e + e = d + bl * e := by rw [Int.sub_mul, Int.one_mul]; omega
    rw [blockBounds, if_pos hpos, hend, Int.add_zero]
    rcases h with ⟨h, rfl⟩ | ⟨hf, hub, hd⟩
    · cases h
      rw [Int.zero_add, seg_nil _ 0 (Int.le_refl 0)]
      exact ⟨Or.inr ⟨rfl, rfl, hn⟩, rfl⟩
    · dsimp only at hf hub hd
      subst hf hub
      have hd := hd d rfl
      subst hd
      have hlb : ¬ lb + T < lb := by omega
      have hub : (if lb + T + bl * e > lb + T then lb + T + bl * e else lb + T) = lb + (T + bl * e) := by
        split <;> omega
      simp only [Bool.false_or, decide_eq_true_eq, if_neg hlb, hub]
      exact ⟨Or.inr ⟨rfl, rfl, fun p hp => by rw [hn p hp, Int.add_assoc]⟩, seg_append _ _ _ hT hB⟩
  · obtain rfl : bl = 0 := by omega
    rw [blockBounds_skip _ _ _ _ _ _ hpos, Int.zero_mul, Int.add_zero, seg_nil _ 0 (Int.le_refl 0), List.append_nil]
    rw [Int.zero_mul, Int.add_zero] at hn
    exact ⟨h.imp id fun ⟨hf, hub, hd⟩ => ⟨hf, hub, fun p hp => (hn p hp).trans (hd d rfl)⟩, rfl⟩

theorem chainOk_iff {x : Int} {nxt : Option Int} : chainOk x nxt = true ↔ ∀ p ∈ nxt, x = p := by
  cases nxt <;> simp [chainOk]

theorem idxLoop_cons {scale csize L U e bl idx : Int} {rest : List (Int × Int)} {s : Int} {st : Int × Int × Bool}
    {c : Bool} {r : Int × Int × Int × Bool} (h : idxLoop scale csize L U e ((bl, idx) :: rest) s st c = some r) :
    0 ≤ bl ∧ idxLoop scale csize L U e rest (s + bl) (blockBounds (idx * scale) bl L U e st)
      (c && chainOk (idx + csize * bl) (rest.head?.map (·.2))) = some r := by
  rw [idxLoop, Option.ite_none_left_eq_some] at h
  exact ⟨Int.not_lt.mp h.1, h.2⟩

theorem idxLoop_size (scale csize L U e : Int) :
    ∀ (bs : List (Int × Int)) (s : Int) (st : Int × Int × Bool) (c : Bool) r,
      idxLoop scale csize L U e bs s st c = some r →
        r.1 = s + (bs.map (·.1)).sum ∧ (∀ b ∈ bs, 0 ≤ b.1) ∧ (r.2.2.2 = true → c = true)
  | [], s, st, c, r, hr => by
    rw [idxLoop, Option.some.injEq] at hr
    subst hr
    exact ⟨by simp only [List.map_nil, List.sum_nil, Int.add_zero], fun _ hb => absurd hb List.not_mem_nil, id⟩
  | (bl, idx) :: rest, s, st, c, r, hr => by
    obtain ⟨hbl, hr⟩ := idxLoop_cons hr
    obtain ⟨h1, h2, h3⟩ := idxLoop_size scale csize L U e rest _ _ _ r hr
    exact ⟨by rw [h1, List.map_cons, List.sum_cons]; omega, List.forall_mem_cons.mpr ⟨hbl, h2⟩,
      fun hc => (Bool.and_eq_true _ _ ▸ h3 hc).1⟩

theorem idxLoop_ok (scale csize L U e : Int) (he : 0 ≤ e) :
    ∀ (bs : List (Int × Int)) (s : Int) (st : Int × Int × Bool) (c : Bool) (A B : List Int), StOk A B st →
      ∀ r, idxLoop scale csize L U e bs s st c = some r →
        r.2.1 = listMin (A ++ (bs.flatMap (fun b => blockCopies (b.2 * scale) b.1 e)).map (· + L)) ∧
        r.2.2.1 = listMax (B ++ (bs.flatMap (fun b => blockCopies (b.2 * scale) b.1 e)).map (· + U))
  | [], s, st, c, A, B, h, r, hr => by
    rw [idxLoop, Option.some.injEq] at hr
    subst hr
    simpa only [List.flatMap_nil, List.map_nil, List.append_nil] using stOk_bounds h
  | (bl, idx) :: rest, s, st, c, A, B, h, r, hr => by
    obtain ⟨_, hr⟩ := idxLoop_cons hr
    simp only [List.flatMap_cons, List.map_append, ← List.append_assoc]
    by_cases hbl : bl > 0
    · exact idxLoop_ok scale csize L U e he rest _ _ _ _ _
        (blockBounds_ok (idx * scale) bl L U e h hbl (block_isMin _ bl e L hbl he) (block_isMax _ bl e U hbl he)) r hr
    · rw [blockBounds_skip _ _ _ _ _ _ hbl] at hr
      rw [blockCopies_nil _ _ _ (by omega)]
      simpa only [List.map_nil, List.append_nil] using idxLoop_ok scale csize L U e he rest _ _ _ A B h r hr

/-- over an old type with the natural bounds (lb = 0, ub = extent = `e`): the `s * e` bytes placed before this suffix of the
    loop and its blocks form one run.  `hcs` relates the units of the contiguity test to bytes (indexed: csize = 1, scale = e; hindexed: csize = e,
    scale = 1) -/
theorem idxLoop_run (scale csize e : Int) (he : 0 ≤ e) (hcs : ∀ x : Int, (csize * x) * scale = x * e) :
    ∀ (bs : List (Int × Int)) (s : Int) (st : Int × Int × Bool) (c : Bool), 0 ≤ s →
      Chain (s * e) (bs.head?.map (·.2 * scale)) st →
      ∀ r, idxLoop scale csize 0 e e bs s st c = some r → r.2.2.2 = true →
        r.2.2.1 = r.2.1 + r.1 * e ∧
          seg st.1 (s * e) ++ bs.flatMap (fun b => seg (b.2 * scale) (b.1 * e)) = seg r.2.1 (r.1 * e)
  | [], s, st, c, _, hst, r, hr, _ => by
    rw [idxLoop, Option.some.injEq] at hr
    subst hr
    refine ⟨?_, List.append_nil _⟩
    rcases hst with ⟨rfl, h⟩ | ⟨_, h, _⟩
    · dsimp only; omega
    · exact h
  | (bl, idx) :: rest, s, st, c, hs, hst, r, hr, hfin => by
    obtain ⟨hbl, hr⟩ := idxLoop_cons hr
    have hchain := (Bool.and_eq_true _ _ ▸ (idxLoop_size _ _ _ _ _ _ _ _ _ _ hr).2.2 hfin).2
    -- the next block, if any, starts where this one ends
    have hnext : ∀ p ∈ rest.head?.map (·.2 * scale), p = idx * scale + bl * e := by
      intro p hp
      obtain ⟨b, hb, rfl⟩ := Option.map_eq_some_iff.mp hp
      show b.2 * scale = _
      rw [← chainOk_iff.mp hchain b.2 (Option.mem_map_of_mem _ hb), Int.add_mul, hcs]
    obtain ⟨hch, hseg⟩ := blockBounds_chain (s * e) (idx * scale) bl e _ st (Int.mul_nonneg hs he) hbl he hst hnext
    rw [← Int.add_mul] at hch hseg
    simp only [List.flatMap_cons, ← List.append_assoc]
    rw [hseg]
    exact idxLoop_run scale csize e he hcs rest (s + bl) _ _ (by omega) hch r hr hfin

theorem structLoop_cons {bl idx : Int} {old : Obj} {rest : List (Int × Int × Obj)} {s : Int} {st : Int × Int × Bool}
    {c : Bool} {r : Int × Int × Int × Bool} (h : structLoop ((bl, idx, old) :: rest) s st c = some r) :
    0 ≤ bl ∧ structLoop rest (s + bl * old.info.size) (blockBounds idx bl old.info.lb old.info.ub old.info.extent st)
      (c && !old.info.derived && chainOk (idx + old.info.size * bl) (rest.head?.map (·.2.1))) = some r := by
  rw [structLoop, Option.ite_none_left_eq_some] at h
  exact ⟨Int.not_lt.mp h.1, h.2⟩

def membersSize (ms : List (Int × Int × Obj)) : Int := (ms.map (fun m => m.1 * m.2.2.info.size)).sum

theorem structLoop_size :
    ∀ (ms : List (Int × Int × Obj)) (s : Int) (st : Int × Int × Bool) (c : Bool) r,
      structLoop ms s st c = some r → r.1 = s + membersSize ms ∧ (∀ x ∈ ms, 0 ≤ x.1) ∧ (r.2.2.2 = true → c = true)
  | [], s, st, c, r, hr => by
    rw [structLoop, Option.some.injEq] at hr
    subst hr
    exact ⟨(Int.add_zero s).symm, fun _ hb => absurd hb List.not_mem_nil, id⟩
  | (bl, idx, old) :: rest, s, st, c, r, hr => by
    obtain ⟨hbl, hr⟩ := structLoop_cons hr
    obtain ⟨h1, h2, h3⟩ := structLoop_size rest _ _ _ r hr
    exact ⟨by rw [h1]; simp only [membersSize, List.map_cons, List.sum_cons]; omega, List.forall_mem_cons.mpr ⟨hbl, h2⟩,
      fun hc => (Bool.and_eq_true _ _ ▸ (Bool.and_eq_true _ _ ▸ h3 hc).1).1⟩

/-- lb / ub of the copies of one member (block length > 0) -/
def memberLb (m : Int × Int × Obj) : Int := m.2.1 + m.2.2.info.lb
def memberUb (m : Int × Int × Obj) : Int := m.2.1 + (m.1 - 1) * m.2.2.info.extent + m.2.2.info.ub
def activeMembers (ms : List (Int × Int × Obj)) : List (Int × Int × Obj) := ms.filter (fun m => decide (m.1 > 0))

theorem activeMembers_cons (m : Int × Int × Obj) (ms : List (Int × Int × Obj)) :
    activeMembers (m :: ms) = if m.1 > 0 then m :: activeMembers ms else activeMembers ms := by
  simp only [activeMembers, List.filter_cons, decide_eq_true_eq]

theorem structLoop_ok :
    ∀ (ms : List (Int × Int × Obj)) (s : Int) (st : Int × Int × Bool) (c : Bool) (A B : List Int), StOk A B st →
      ∀ r, structLoop ms s st c = some r →
        r.2.1 = listMin (A ++ (activeMembers ms).map memberLb) ∧
        r.2.2.1 = listMax (B ++ (activeMembers ms).map memberUb)
  | [], s, st, c, A, B, h, r, hr => by
    rw [structLoop, Option.some.injEq] at hr
    subst hr
    simpa only [activeMembers, List.filter_nil, List.map_nil, List.append_nil] using stOk_bounds h
  | (bl, idx, old) :: rest, s, st, c, A, B, h, r, hr => by
    obtain ⟨_, hr⟩ := structLoop_cons hr
    rw [activeMembers_cons]
    by_cases hbl : bl > 0
    · have := structLoop_ok rest _ _ _ _ _ (blockBounds_ok idx bl old.info.lb old.info.ub old.info.extent h hbl
        (A' := [idx + old.info.lb]) (B' := [idx + (bl - 1) * old.info.extent + old.info.ub])
        ⟨List.mem_singleton_self _, fun x hx => Int.le_of_eq (List.mem_singleton.mp hx).symm⟩
        ⟨List.mem_singleton_self _, fun x hx => Int.le_of_eq (List.mem_singleton.mp hx)⟩) r hr
      simpa only [if_pos hbl, List.map_cons, List.append_assoc, List.singleton_append, memberLb, memberUb] using this
    · rw [blockBounds_skip _ _ _ _ _ _ hbl] at hr
      rw [if_neg hbl]
      exact structLoop_ok rest _ _ _ A B h r hr

/-- the `s` bytes placed before this suffix of the loop and its members form one run -/
theorem structLoop_run :
    ∀ (ms : List (Int × Int × Obj)) (s : Int) (st : Int × Int × Bool) (c : Bool), 0 ≤ s →
      (∀ m ∈ ms, m.2.2.info.derived = false →
        m.2.2.info.lb = 0 ∧ m.2.2.info.ub = m.2.2.info.size ∧ 0 ≤ m.2.2.info.size) →
      Chain s (ms.head?.map (·.2.1)) st →
      ∀ r, structLoop ms s st c = some r → r.2.2.2 = true →
        r.2.2.1 = r.2.1 + r.1 ∧ seg st.1 s ++ ms.flatMap (fun x => seg x.2.1 (x.1 * x.2.2.info.size)) = seg r.2.1 r.1 ∧
          ∀ x ∈ ms, x.2.2.info.derived = false
  | [], s, st, c, _, _, hst, r, hr, _ => by
    rw [structLoop, Option.some.injEq] at hr
    subst hr
    refine ⟨?_, List.append_nil _, fun _ hx => absurd hx List.not_mem_nil⟩
    rcases hst with ⟨rfl, h⟩ | ⟨_, h, _⟩
    · dsimp only; omega
    · exact h
  | (bl, idx, old) :: rest, s, st, c, hs, hnat, hst, r, hr, hfin => by
    obtain ⟨hbl, hr⟩ := structLoop_cons hr
    have hflag := (structLoop_size _ _ _ _ _ hr).2.2 hfin
    simp only [Bool.and_eq_true, Bool.not_eq_true'] at hflag
    obtain ⟨⟨_, hd⟩, hchain⟩ := hflag
    obtain ⟨hnat0, hnat'⟩ := List.forall_mem_cons.mp hnat
    obtain ⟨hL, hU, hsz⟩ := hnat0 hd
    have hE : old.info.extent = old.info.size := by rw [Info.extent, hL, hU, Int.sub_zero]
    rw [hL, hU, hE] at hr
    have hnext : ∀ p ∈ rest.head?.map (·.2.1), p = idx + bl * old.info.size :=
      fun p hp => (chainOk_iff.mp hchain p hp).symm.trans (by rw [Int.mul_comm])
    obtain ⟨hch, hseg⟩ := blockBounds_chain s idx bl old.info.size _ st hs hbl hsz hst hnext
    simp only [List.flatMap_cons, ← List.append_assoc]
    rw [hseg]
    obtain ⟨a, b, c⟩ := structLoop_run rest _ _ _ (Int.add_nonneg hs (Int.mul_nonneg hbl hsz)) hnat' hch r hr hfin
    exact ⟨a, b, List.forall_mem_cons.mpr ⟨hd, c⟩⟩

end SgVerif.C30
