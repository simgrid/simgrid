import SgVerif.C30.Lemmas
import SgVerif.Common.List
import Mathlib.Tactic.Ring
/-
C30 — the relation `Rel1` between an object the code builds and an MPI layout; what each `create_*` function returns, as a
shape, and that `Rel1` holds of it; the induction principle of `build` (`build_ind`) and, by it, the size for ALL
constructor trees.
-/
namespace SgVerif.C30
open Spec

/-- "the object satisfies the spec" (object / layout level, so that the chains of internal constructor calls of
    create_subarray can be followed too) -/
structure Rel1 (o : Obj) (l : Layout) : Prop where
  lb : o.info.lb = l.lb
  ub : o.info.ub = l.ub
  le : l.lb ≤ l.ub
  size : o.info.size = l.size
  -- a non-derived type has the natural bounds and the typemap [0, size): what the memcpy branches of `walk` rely on
  nat : o.info.derived = false → l.lb = 0 ∧ l.ub = o.info.size ∧ l.bytes = Spec.range o.info.size

theorem extent_eq {i : Info} {l : Layout} (hlb : i.lb = l.lb) (hub : i.ub = l.ub) : i.extent = l.extent := by
  rw [Info.extent, Layout.extent, hlb, hub]

theorem Rel1.ext {o : Obj} {l : Layout} (h : Rel1 o l) : o.info.extent = l.extent := extent_eq h.lb h.ub

theorem Rel1.ext_nonneg {o : Obj} {l : Layout} (h : Rel1 o l) : 0 ≤ l.extent := by
  have := h.le; simp only [Layout.extent]; omega

theorem Rel1.size_nonneg {o : Obj} {l : Layout} (h : Rel1 o l) : 0 ≤ o.info.size := by
  rw [h.size]; simp only [Layout.size]; omega

theorem Rel1.natural {o : Obj} {l : Layout} (h : Rel1 o l) (hd : o.info.derived = false) :
    o.info.lb = 0 ∧ o.info.ub = o.info.size ∧ o.info.extent = o.info.size ∧ l.extent = o.info.size := by
  obtain ⟨a, b, _⟩ := h.nat hd
  refine ⟨by rw [h.lb, a], by rw [h.ub, b], ?_, ?_⟩
  · rw [h.ext, Layout.extent, a, b, Int.sub_zero]
  · rw [Layout.extent, a, b, Int.sub_zero]

theorem range_length {n : Int} (h : 0 ≤ n) : ((Spec.range n).length : Int) = n := by
  rw [Spec.range, List.length_map, List.length_range, Int.toNat_of_nonneg h]

theorem range_zero : Spec.range 0 = [] := rfl

theorem range_one : Spec.range 1 = [0] := rfl

theorem basic_rel (s : Nat) : Rel1 (basicObj s) (layout (.basic s)) := by
  refine ⟨rfl, rfl, ?_, ?_, fun _ => ⟨rfl, rfl, rfl⟩⟩
  · exact Int.natCast_nonneg s
  · simp only [layout, basicObj, Obj.info, Layout.size, Spec.range, List.length_map, List.length_range, Int.toNat_natCast]

@[simp] theorem info_plain (i : Info) : (Obj.plain i).info = i := rfl
@[simp] theorem info_contig (i : Info) (n : Int) (o : Obj) : (Obj.contig i n o).info = i := rfl
@[simp] theorem info_hvector (i : Info) (n bl s : Int) (o : Obj) (b : Bool) : (Obj.hvector i n bl s o b).info = i := rfl
@[simp] theorem info_hindexed (i : Info) (bs : List (Int × Int)) (o : Obj) (b : Bool) : (Obj.hindexed i bs o b).info = i := rfl
@[simp] theorem info_struct (i : Info) (bs : Blocks) : (Obj.struct i bs).info = i := rfl

theorem place_size (ds : List Int) (old : Layout) : (place ds old).size = ds.length * old.size := by
  simp only [place, Layout.size]
  rw [length_flatMap_const ds _ old.bytes.length (fun d _ => List.length_map _), Int.natCast_mul]

theorem place_lb (ds : List Int) (old : Layout) : (place ds old).lb = listMin (ds.map (· + old.lb)) := rfl
theorem place_ub (ds : List Int) (old : Layout) : (place ds old).ub = listMax (ds.map (· + old.ub)) := rfl

/-- `Rel1` for a type made of copies: every non-derived object a `create_*` call returns for one is an empty type -/
theorem rel_place {r : Obj} {l : Layout} {ds : List Int} (hle : l.lb ≤ l.ub) (hlb : r.info.lb = (place ds l).lb)
    (hub : r.info.ub = (place ds l).ub) (hsz : r.info.size = ds.length * l.size)
    (hnd : r.info.derived = false → ds = []) : Rel1 r (place ds l) where
  lb := hlb
  ub := hub
  le := listMin_le_listMax ds _ _ (fun d _ => Int.add_le_add_left hle d)
  size := by rw [hsz, place_size]
  nat := fun hd => by
    have := hnd hd
    subst this
    have : r.info.size = 0 := by rw [hsz, List.length_nil, Int.natCast_zero, Int.zero_mul]
    rw [this]
    exact ⟨rfl, rfl, rfl⟩

/-- the double loop of vector / hvector: `n` blocks of `bl` copies, block i at `i * S`, copy j at `+ j * e` -/
def dsHv (n bl S e : Int) : List Int := (Spec.range n).flatMap (fun i => (Spec.range bl).map (fun j => i * S + j * e))

theorem dsHv_length (n bl S e : Int) (hn : 0 ≤ n) (hbl : 0 ≤ bl) : ((dsHv n bl S e).length : Int) = n * bl := by
  rw [dsHv, length_flatMap_const _ _ (Spec.range bl).length (fun i _ => List.length_map _), Int.natCast_mul,
    range_length hn, range_length hbl]

theorem dsHv_nil (n bl S e : Int) (h : n ≤ 0 ∨ bl ≤ 0) : dsHv n bl S e = [] := by
  rcases h with h | h
  · simp only [dsHv, range_nil n h, List.flatMap_nil]
  · rw [dsHv, List.flatMap_eq_nil_iff]
    intro i _
    rw [range_nil bl h]; rfl

theorem mem_dsHv (n bl S e x : Int) : x ∈ dsHv n bl S e ↔ ∃ i j, 0 ≤ i ∧ i < n ∧ 0 ≤ j ∧ j < bl ∧ x = i * S + j * e := by
  simp only [dsHv, List.mem_flatMap, List.mem_map, mem_range]
  constructor
  · rintro ⟨i, ⟨hi0, hi1⟩, j, ⟨hj0, hj1⟩, rfl⟩; exact ⟨i, j, hi0, hi1, hj0, hj1, rfl⟩
  · rintro ⟨i, j, hi0, hi1, hj0, hj1, rfl⟩; exact ⟨i, ⟨hi0, hi1⟩, j, ⟨hj0, hj1⟩, rfl⟩

theorem dsHv_bounds (n bl S e : Int) (old : Layout) (hS : 0 ≤ S) (he : 0 ≤ e) :
    (place (dsHv n bl S e) old).lb = (if n > 0 ∧ bl > 0 then old.lb else 0) ∧
    (place (dsHv n bl S e) old).ub = (if n > 0 ∧ bl > 0 then (n - 1) * S + (bl - 1) * e + old.ub else 0) := by
  by_cases h : n > 0 ∧ bl > 0
  · rw [if_pos h, if_pos h]
    -- the first copy of the first block is the lowest, the last copy of the last block the highest
    refine ⟨listMin_eq ?_, listMax_eq ?_⟩
    · simp only [IsMin, List.mem_map, mem_dsHv]
      refine ⟨⟨_, ⟨0, 0, Int.le_refl 0, h.1, Int.le_refl 0, h.2, rfl⟩, by omega⟩, ?_⟩
      rintro x ⟨_, ⟨i, j, hi0, _, hj0, _, rfl⟩, rfl⟩
      have := Int.mul_nonneg hi0 hS
      have := Int.mul_nonneg hj0 he
      omega
    · simp only [IsMax, List.mem_map, mem_dsHv]
      refine ⟨⟨_, ⟨n - 1, bl - 1, by omega, by omega, by omega, by omega, rfl⟩, rfl⟩, ?_⟩
      rintro x ⟨_, ⟨i, j, _, hi1, _, hj1, rfl⟩, rfl⟩
      have : i * S ≤ (n - 1) * S := Int.mul_le_mul_of_nonneg_right (by omega) hS
      have : j * e ≤ (bl - 1) * e := Int.mul_le_mul_of_nonneg_right (by omega) he
      omega
  · rw [if_neg h, if_neg h, place_lb, place_ub, dsHv_nil n bl S e (by omega)]
    exact ⟨rfl, rfl⟩

theorem ite_and_decide (n bl a b : Int) :
    (if (decide (n > 0) && decide (bl > 0)) = true then a else b) = if n > 0 ∧ bl > 0 then a else b := by
  simp only [Bool.and_eq_true, decide_eq_true_eq]

/-- what create_hvector (`S` = the stride in bytes) and create_vector (`S` = stride · extent, `f` set) return: the class
    object or, over a non-derived old type whose blocks touch, a plain Datatype -/
def HvOut (f : Bool) (n bl S : Int) (o r : Obj) : Prop :=
  0 ≤ bl ∧
  (r = .hvector ⟨o.info.size * bl * n, if n > 0 ∧ bl > 0 then o.info.lb else 0,
      if n > 0 ∧ bl > 0 then (n - 1) * S + (bl - 1) * o.info.extent + o.info.ub else 0, true⟩ n bl S o f ∨
   (o.info.derived = false ∧ S = bl * o.info.extent ∧
    r = .plain ⟨o.info.size * bl * n, 0, o.info.size * bl * n, true⟩))

theorem mkHvector_out {n bl S : Int} {o r : Obj} (h : mkHvector n bl S o = some r) : HvOut false n bl S o r := by
  simp only [mkHvector, Option.ite_none_left_eq_some, ite_and_decide] at h
  obtain ⟨hbl, h⟩ := h
  split at h
  · exact ⟨by omega, Or.inl (Option.some.inj h).symm⟩
  · rename_i hc
    simp only [Bool.or_eq_true, bne_iff_ne, ne_eq, not_or, Bool.not_eq_true, Decidable.not_not] at hc
    exact ⟨by omega, Or.inr ⟨hc.1, hc.2, (Option.some.inj h).symm⟩⟩

theorem mkVector_out {n bl st : Int} {o r : Obj} (h : mkVector n bl st o = some r) :
    HvOut true n bl (st * o.info.extent) o r := by
  simp only [mkVector, Option.ite_none_left_eq_some, ite_and_decide] at h
  obtain ⟨hbl, h⟩ := h
  split at h
  · refine ⟨by omega, Or.inl ?_⟩
    rw [← Option.some.inj h]
    have : ((n - 1) * st + bl - 1) * o.info.extent = (n - 1) * (st * o.info.extent) + (bl - 1) * o.info.extent := by
      ring
    rw [this]
  · rename_i hc
    simp only [Bool.or_eq_true, bne_iff_ne, ne_eq, not_or, Bool.not_eq_true, Decidable.not_not] at hc
    refine ⟨by omega, Or.inr ⟨hc.1, by rw [hc.2], ?_⟩⟩
    rw [← Option.some.inj h, hc.2]
    have : o.info.size * ((n - 1) * bl + bl) = o.info.size * bl * n := by ring
    rw [this]

theorem hvOut_size {f : Bool} {n bl S : Int} {o r : Obj} (h : HvOut f n bl S o r) :
    r.info.size = o.info.size * bl * n ∧ 0 ≤ bl ∧ r.info.derived = true := by
  obtain ⟨hbl, rfl | ⟨_, _, rfl⟩⟩ := h <;> exact ⟨rfl, hbl, rfl⟩

theorem hvOut_rel {f : Bool} {n bl S : Int} {o r : Obj} {l : Layout} (h : Rel1 o l) (hn : 0 ≤ n) (hS : 0 ≤ S)
    (hr : HvOut f n bl S o r) : Rel1 r (place (dsHv n bl S l.extent) l) := by
  obtain ⟨hbl, hr⟩ := hr
  obtain ⟨b1, b2⟩ := dsHv_bounds n bl S l.extent l hS h.ext_nonneg
  have hsz : o.info.size * bl * n = ((dsHv n bl S l.extent).length : Int) * l.size := by
    rw [dsHv_length n bl S _ hn hbl, h.size]; ring
  rcases hr with rfl | ⟨hd, hst, rfl⟩
  · exact rel_place h.le (by rw [b1, ← h.lb]; rfl) (by rw [b2, ← h.ub, ← h.ext]; rfl) hsz (fun hd => Bool.noConfusion hd)
  · obtain ⟨_, _, _, n4⟩ := h.natural hd
    obtain ⟨m1, m2, _⟩ := h.nat hd
    refine rel_place h.le ?_ ?_ hsz (fun hd => Bool.noConfusion hd)
    · rw [b1, m1, ite_self]; rfl
    · rw [b2, hst, h.ext, m2, n4]
      show o.info.size * bl * n = _
      split
      · ring
      · have : n = 0 ∨ bl = 0 := by omega
        rcases this with rfl | rfl <;> ring

theorem dsVec_eq (n bl st e : Int) :
    (Spec.range n).flatMap (fun i => (Spec.range bl).map (fun j => (i * st + j) * e)) = dsHv n bl (st * e) e := by
  simp only [dsHv]
  congr 1; funext i; congr 1; funext j; ring

theorem dsContig_eq (n e : Int) : (Spec.range n).map (· * e) = dsHv n 1 e e := by
  simp only [dsHv, range_one, List.map_cons, List.map_nil, Int.zero_mul, Int.add_zero]
  exact List.map_eq_flatMap

theorem mkContiguous_d {n lb : Int} {o r : Obj} (hd : o.info.derived = true) (h : mkContiguous n o lb = some r) :
    mkHvector n 1 o.info.extent o = some r := by
  rw [mkContiguous] at h
  simpa only [hd, if_true] using h

theorem mkContiguous_nd {n lb : Int} {o r : Obj} (hd : o.info.derived = false) (h : mkContiguous n o lb = some r) :
    (0 < n ∧ r = .contig ⟨n * o.info.size, lb, lb + n * o.info.size, true⟩ n o) ∨
    (n ≤ 0 ∧ r = .plain ⟨n * o.info.size, lb, lb + n * o.info.size, false⟩) := by
  rw [mkContiguous] at h
  simp only [hd, Bool.false_eq_true, if_false] at h
  split at h
  · exact Or.inl ⟨by omega, (Option.some.inj h).symm⟩
  · exact Or.inr ⟨by omega, (Option.some.inj h).symm⟩

theorem mkContiguous_info {n lb : Int} {o r : Obj} (hd : o.info.derived = false) (h : mkContiguous n o lb = some r) :
    r.info.size = n * o.info.size ∧ r.info.lb = lb ∧ r.info.ub = lb + n * o.info.size ∧
      (r.info.derived = false → n ≤ 0) := by
  rcases mkContiguous_nd hd h with ⟨hn, rfl⟩ | ⟨hn, rfl⟩
  · exact ⟨rfl, rfl, rfl, fun hd => Bool.noConfusion hd⟩
  · exact ⟨rfl, rfl, rfl, fun _ => hn⟩

theorem mkContiguous_size {n lb : Int} {o r : Obj} (h : mkContiguous n o lb = some r) :
    r.info.size = n * o.info.size ∧ (r.info.derived = false → n ≤ 0) := by
  cases hd : o.info.derived with
  | false => exact ⟨(mkContiguous_info hd h).1, (mkContiguous_info hd h).2.2.2⟩
  | true =>
    obtain ⟨a, _, c⟩ := hvOut_size (mkHvector_out (mkContiguous_d hd h))
    exact ⟨by rw [a]; ring, fun x => by rw [c] at x; cases x⟩

/-- the non-derived case; over a derived old type create_contiguous is create_hvector (`mkContiguous_d`, `hvOut_rel`) -/
theorem mkContiguous_rel {n : Int} {o r : Obj} {l : Layout} (h : Rel1 o l) (hd : o.info.derived = false) (hn : 0 ≤ n)
    (hr : mkContiguous n o 0 = some r) : Rel1 r (place (dsHv n 1 l.extent l.extent) l) := by
  obtain ⟨b1, b2⟩ := dsHv_bounds n 1 l.extent l.extent l h.ext_nonneg h.ext_nonneg
  obtain ⟨s1, g1, g2, s2⟩ := mkContiguous_info hd hr
  obtain ⟨_, _, _, n4⟩ := h.natural hd
  obtain ⟨m1, m2, _⟩ := h.nat hd
  refine rel_place h.le ?_ ?_ ?_ (fun hnd => dsHv_nil n 1 _ _ (Or.inl (s2 hnd)))
  · rw [g1, b1, m1, ite_self]
  · rw [g2, b2, m2, n4]
    split
    · ring
    · have : n = 0 := by omega
      subst this; ring
  · rw [s1, dsHv_length n 1 _ _ hn (by omega), h.size]; ring

/-- the two callers of `idxLoop`: create_indexed (`true`: displacements in extents, Type_Indexed) and create_hindexed
    (`false`: displacements in bytes, Type_Hindexed) -/
def idxScale : Bool → Info → Int
  | true, i => i.extent
  | false, _ => 1
def idxCsize : Bool → Info → Int
  | true, _ => 1
  | false, i => i.size

theorem idx_units (k : Bool) (i : Info) (h : i.extent = i.size) (x : Int) :
    (idxCsize k i * x) * idxScale k i = x * i.size := by
  cases k
  · rw [idxCsize, idxScale, Int.mul_one, Int.mul_comm]
  · rw [idxCsize, idxScale, Int.one_mul, h]

/-- what create_indexed / create_hindexed return: the class object or, when the old type is not derived and `contiguous`
    survived the loop, what create_contiguous makes of `size` elements at `lb` -/
def IdxOut (k : Bool) (bs : List (Int × Int)) (o r : Obj) : Prop :=
  ∃ size lb ub c,
    idxLoop (idxScale k o.info) (idxCsize k o.info) o.info.lb o.info.ub o.info.extent bs 0 (0, 0, true) true =
      some (size, lb, ub, c) ∧
    (r = .hindexed ⟨size * o.info.size, lb, ub, true⟩ (bs.map (fun b => (b.1, b.2 * idxScale k o.info))) o k ∨
     (o.info.derived = false ∧ c = true ∧ mkContiguous size o lb = some r))

theorem mkIndexed_out {bs : List (Int × Int)} {o r : Obj} (h : mkIndexed bs o = some r) : IdxOut true bs o r := by
  unfold mkIndexed at h
  simp only at h
  split at h
  · cases h
  · rename_i size lb ub c heq
    refine ⟨size, lb, ub, c, heq, ?_⟩
    cases hd : o.info.derived <;> cases c <;>
      simp only [hd, if_true, if_false, Bool.not_false, Bool.not_true, Bool.false_eq_true] at h
    · exact Or.inl (Option.some.inj h).symm
    · exact Or.inr ⟨rfl, rfl, h⟩
    · exact Or.inl (Option.some.inj h).symm
    · exact Or.inl (Option.some.inj h).symm

theorem mkHindexed_out {bs : List (Int × Int)} {o r : Obj} (h : mkHindexed bs o = some r) : IdxOut false bs o r := by
  unfold mkHindexed at h
  simp only at h
  split at h
  · cases h
  · rename_i size lb ub c heq
    refine ⟨size, lb, ub, c, heq, ?_⟩
    have hbs : bs.map (fun b => (b.1, b.2 * idxScale false o.info)) = bs :=
      (List.map_congr_left (fun b _ => by rw [idxScale, Int.mul_one]; rfl)).trans (List.map_id _)
    rw [hbs]
    by_cases hd : (o.info.derived || lb != 0) = true
    · rw [if_pos hd] at h
      exact Or.inl (Option.some.inj h).symm
    · rw [if_neg hd] at h
      simp only [Bool.or_eq_true, bne_iff_ne, ne_eq, not_or, Bool.not_eq_true, Decidable.not_not] at hd
      cases c
      · exact Or.inl (Option.some.inj h).symm
      · exact Or.inr ⟨hd.1, rfl, h⟩

/-- displacements of the copies of an indexed (scale = extent) / hindexed (scale = 1) type -/
def dsIdx (bs : List (Int × Int)) (scale e : Int) : List Int := bs.flatMap (fun b => blockCopies (b.2 * scale) b.1 e)

theorem blockCopies_length (d bl e : Int) (h : 0 ≤ bl) : ((blockCopies d bl e).length : Int) = bl := by
  rw [blockCopies, List.length_map, range_length h]

theorem dsIdx_length (scale e : Int) : ∀ (bs : List (Int × Int)), (∀ b ∈ bs, 0 ≤ b.1) →
    ((dsIdx bs scale e).length : Int) = (bs.map (·.1)).sum
  | [], _ => rfl
  | b :: rest, h => by
    obtain ⟨hb, hrest⟩ := List.forall_mem_cons.mp h
    have := dsIdx_length scale e rest hrest
    simp only [dsIdx] at this
    simp only [dsIdx, List.flatMap_cons, List.length_append, List.map_cons, List.sum_cons, Int.natCast_add, this,
      blockCopies_length _ _ _ hb]

theorem sum_nonneg : ∀ (l : List Int), (∀ x ∈ l, 0 ≤ x) → 0 ≤ l.sum
  | [], _ => Int.le_refl 0
  | y :: ys, h => by
    obtain ⟨hy, hys⟩ := List.forall_mem_cons.mp h
    have := sum_nonneg ys hys
    rw [List.sum_cons]; omega

theorem eq_zero_of_sum_nonpos : ∀ (l : List Int), (∀ x ∈ l, 0 ≤ x) → l.sum ≤ 0 → ∀ x ∈ l, x = 0
  | [], _, _ => fun _ hx => absurd hx List.not_mem_nil
  | y :: ys, h, hs => by
    obtain ⟨hy, hys⟩ := List.forall_mem_cons.mp h
    have hsum := sum_nonneg ys hys
    rw [List.sum_cons] at hs
    exact List.forall_mem_cons.mpr ⟨by omega, eq_zero_of_sum_nonpos ys hys (by omega)⟩

theorem dsIdx_nil_of_sum_zero (scale e : Int) (bs : List (Int × Int)) (hnn : ∀ b ∈ bs, 0 ≤ b.1)
    (hs : (bs.map (·.1)).sum ≤ 0) : dsIdx bs scale e = [] := by
  rw [dsIdx, List.flatMap_eq_nil_iff]
  intro b hb
  have := eq_zero_of_sum_nonpos _ (fun x hx => by obtain ⟨b, hb, rfl⟩ := List.mem_map.mp hx; exact hnn b hb) hs b.1
    (List.mem_map_of_mem hb)
  exact blockCopies_nil _ _ _ (Int.le_of_eq this)

theorem idxOut_size {k : Bool} {bs : List (Int × Int)} {o r : Obj} (hr : IdxOut k bs o r) :
    r.info.size = (bs.map (·.1)).sum * o.info.size ∧ (∀ b ∈ bs, 0 ≤ b.1) ∧
      (r.info.derived = false → (bs.map (·.1)).sum ≤ 0) := by
  obtain ⟨size, lb, ub, c, heq, hr⟩ := hr
  obtain ⟨hsz, hnn, _⟩ := idxLoop_size _ _ _ _ _ _ _ _ _ _ heq
  rw [Int.zero_add] at hsz
  change size = _ at hsz
  subst hsz
  rcases hr with rfl | ⟨_, _, hr⟩
  · exact ⟨rfl, hnn, fun h => Bool.noConfusion h⟩
  · exact ⟨(mkContiguous_size hr).1, hnn, (mkContiguous_size hr).2⟩

/-- lb / ub are MPI's for any block list, over an old type of which only lb, ub and (when it is not derived) the natural
    bounds are known -/
theorem idxOut_bounds {k : Bool} {bs : List (Int × Int)} {o r : Obj} {l : Layout} (hlb : o.info.lb = l.lb)
    (hub : o.info.ub = l.ub) (hext : 0 ≤ l.extent)
    (hnat : o.info.derived = false → o.info.lb = 0 ∧ o.info.ub = o.info.size) (hr : IdxOut k bs o r) :
    r.info.lb = (place (dsIdx bs (idxScale k o.info) l.extent) l).lb ∧
    r.info.ub = (place (dsIdx bs (idxScale k o.info) l.extent) l).ub := by
  have hE' := extent_eq hlb hub
  have he : 0 ≤ o.info.extent := hE' ▸ hext
  rw [place_lb, place_ub, ← hE', ← hlb, ← hub]
  unfold dsIdx
  obtain ⟨size, lb, ub, c, heq, hr⟩ := hr
  obtain ⟨h1, h2⟩ := idxLoop_ok _ _ _ _ _ he bs 0 (0, 0, true) true [] [] (Or.inl ⟨rfl, rfl, rfl⟩) _ heq
  rw [List.nil_append] at h1 h2
  rcases hr with rfl | ⟨hd, rfl, hr⟩
  · exact ⟨h1, h2⟩
  · -- the contiguous shortcut: create_contiguous sets ub = lb + size; it is MPI's because the blocks chain (`idxLoop_run`)
    obtain ⟨_, g1, g2, _⟩ := mkContiguous_info hd hr
    obtain ⟨hL, hU⟩ := hnat hd
    have hE : o.info.extent = o.info.size := by rw [Info.extent, hL, hU, Int.sub_zero]
    refine ⟨g1.trans h1, ?_⟩
    rw [g2, ← h2]
    rw [hL, hU, hE] at heq
    exact ((idxLoop_run _ _ o.info.size (hE ▸ he) (idx_units k _ hE) bs 0 (0, 0, true) true (Int.le_refl 0)
      (Or.inl ⟨rfl, Int.zero_mul _⟩) _ heq rfl).1).symm

theorem idxOut_rel {k : Bool} {bs : List (Int × Int)} {o r : Obj} {l : Layout} (h : Rel1 o l) (hr : IdxOut k bs o r) :
    Rel1 r (place (dsIdx bs (idxScale k o.info) l.extent) l) := by
  obtain ⟨b1, b2⟩ := idxOut_bounds h.lb h.ub h.ext_nonneg (fun hd => ⟨(h.natural hd).1, (h.natural hd).2.1⟩) hr
  obtain ⟨s1, s2, s3⟩ := idxOut_size hr
  refine rel_place h.le b1 b2 (by rw [dsIdx_length _ _ bs s2, s1, h.size]) (fun hd => ?_)
  exact dsIdx_nil_of_sum_zero _ _ bs s2 (s3 hd)

theorem layout_indexed (bs : List (Int × Int)) (t : Tree) :
    layout (.indexed bs t) = place (dsIdx bs (layout t).extent (layout t).extent) (layout t) := by
  simp only [layout, dsIdx, blockCopies]
  congr 2; funext b; congr 1; funext j; ring

theorem layout_hindexed (bs : List (Int × Int)) (t : Tree) :
    layout (.hindexed bs t) = place (dsIdx bs 1 (layout t).extent) (layout t) := by
  simp only [layout, dsIdx, blockCopies, Int.mul_one]

theorem layout_indexedBlock (bl : Int) (ds : List Int) (t : Tree) :
    layout (.indexedBlock bl ds t) = layout (.indexed (ds.map (fun d => (bl, d))) t) := by
  simp only [layout, List.flatMap_map]

theorem layout_hindexedBlock (bl : Int) (ds : List Int) (t : Tree) :
    layout (.hindexedBlock bl ds t) = layout (.hindexed (ds.map (fun d => (bl, d))) t) := by
  simp only [layout, List.flatMap_map]

theorem mkResized_rel (o : Obj) (bytes : List Int) (lb ext : Int) (hs : o.info.size = (bytes.length : Int))
    (hext : 0 ≤ ext) : Rel1 (mkResized o lb ext) ⟨bytes, lb, lb + ext⟩ :=
  ⟨rfl, rfl, Int.le_add_of_nonneg_right hext, hs, fun hd => Bool.noConfusion hd⟩

/-- what create_struct returns: the Type_Struct object or, when `contiguous` survived the loop, a run of MPI_CHAR -/
theorem mkStruct_out {ms : List (Int × Int × Obj)} {r : Obj} (h : mkStruct ms = some r) :
    ∃ size lb ub c, structLoop ms 0 (0, 0, true) true = some (size, lb, ub, c) ∧
      (r = .struct ⟨size, lb, ub, true⟩ (Blocks.ofList ms) ∨ (c = true ∧ mkContiguous size (basicObj 1) lb = some r)) := by
  unfold mkStruct at h
  split at h
  · cases h
  · rename_i size lb ub c heq
    refine ⟨size, lb, ub, c, heq, ?_⟩
    cases c
    · exact Or.inl (Option.some.inj h).symm
    · exact Or.inr ⟨rfl, h⟩

theorem mkStruct_size {ms : List (Int × Int × Obj)} {r : Obj} (hr : mkStruct ms = some r) :
    r.info.size = membersSize ms ∧ (∀ x ∈ ms, 0 ≤ x.1) ∧ (r.info.derived = false → membersSize ms ≤ 0) := by
  obtain ⟨size, lb, ub, c, heq, hr⟩ := mkStruct_out hr
  obtain ⟨hsz, hnn, _⟩ := structLoop_size _ _ _ _ _ heq
  rw [Int.zero_add] at hsz
  change size = _ at hsz
  subst hsz
  rcases hr with rfl | ⟨_, hr⟩
  · exact ⟨rfl, hnn, fun h => Bool.noConfusion h⟩
  · obtain ⟨a, b⟩ := mkContiguous_size hr
    exact ⟨a.trans (Int.mul_one _), hnn, b⟩

theorem mkStruct_bounds {ms : List (Int × Int × Obj)} {r : Obj}
    (hnat : ∀ m ∈ ms, m.2.2.info.derived = false →
      m.2.2.info.lb = 0 ∧ m.2.2.info.ub = m.2.2.info.size ∧ 0 ≤ m.2.2.info.size)
    (hr : mkStruct ms = some r) :
    r.info.lb = listMin ((activeMembers ms).map memberLb) ∧ r.info.ub = listMax ((activeMembers ms).map memberUb) := by
  obtain ⟨size, lb, ub, c, heq, hr⟩ := mkStruct_out hr
  obtain ⟨h1, h2⟩ := structLoop_ok ms 0 (0, 0, true) true [] [] (Or.inl ⟨rfl, rfl, rfl⟩) _ heq
  rw [List.nil_append] at h1 h2
  rcases hr with rfl | ⟨rfl, hr⟩
  · exact ⟨h1, h2⟩
  · -- the contiguous shortcut, as in `idxOut_bounds` (`structLoop_run`)
    obtain ⟨_, g1, g2, _⟩ := mkContiguous_info (o := basicObj 1) rfl hr
    refine ⟨g1.trans h1, ?_⟩
    rw [g2, ← h2]
    have := (structLoop_run ms 0 (0, 0, true) true (Int.le_refl 0) hnat (Or.inl ⟨rfl, rfl⟩) _ heq rfl).1
    exact (this.trans (congrArg _ (Int.mul_one _).symm)).symm

/-- MPI's struct layout from the placed members: the `.struct` arm of `Spec.layout` under a name (`layout_struct`) -/
def structL (parts : List (Layout × Bool)) : Layout :=
  ⟨parts.flatMap (·.1.bytes), listMin ((parts.filter (·.2)).map (·.1.lb)), listMax ((parts.filter (·.2)).map (·.1.ub))⟩

theorem layout_struct (m : Members) : layout (.struct m) = structL (layoutMembers m) := by
  simp only [layout, structL]

/-- what `buildMembers` returns, member by member, satisfies the spec: lb, ub are MPI's and the extent is not negative
    (`MembersSz`, `MembersW` have the same shape with another fact about each object) -/
def MembersOk : Members → List (Int × Int × Obj) → Prop
  | .nil, ms => ms = []
  | .cons bl d t rest, ms => ∃ o ms', ms = (bl, d, o) :: ms' ∧ o.info.lb = (Spec.layout t).lb ∧
      o.info.ub = (Spec.layout t).ub ∧ 0 ≤ (Spec.layout t).extent ∧ MembersOk rest ms'

/-- MPI's per-member bounds (`Spec.layoutMembers`, members with at least one copy) are the ones the loop collects -/
theorem spec_members : (m : Members) → (ms : List (Int × Int × Obj)) → MembersOk m ms →
    ((Spec.layoutMembers m).filter (·.2)).map (·.1.lb) = (activeMembers ms).map memberLb ∧
    ((Spec.layoutMembers m).filter (·.2)).map (·.1.ub) = (activeMembers ms).map memberUb
  | .nil, ms, h => by
    simp only [MembersOk] at h
    subst h
    exact ⟨rfl, rfl⟩
  | .cons bl d t rest, ms, h => by
    simp only [MembersOk] at h
    obtain ⟨o, ms', rfl, hlb, hub, hext, hrest⟩ := h
    obtain ⟨i1, i2⟩ := spec_members rest ms' hrest
    have hE := extent_eq hlb hub
    rw [activeMembers_cons]
    by_cases hbl : bl > 0
    · have hmin := listMin_eq (block_isMin d bl (Spec.layout t).extent (Spec.layout t).lb hbl hext)
      have hmax := listMax_eq (block_isMax d bl (Spec.layout t).extent (Spec.layout t).ub hbl hext)
      simp only [blockCopies] at hmin hmax
      simp only [Spec.layoutMembers, hbl, decide_true, List.filter_cons, if_true, List.map_cons, Spec.place,
        memberLb, memberUb, hmin, hmax, hE, hlb, hub, i1, i2]
      exact ⟨trivial, trivial⟩
    · simp only [Spec.layoutMembers, hbl, decide_false, List.filter_cons, Bool.false_eq_true, if_false, i1, i2]
      exact ⟨trivial, trivial⟩

def MembersSz : Members → List (Int × Int × Obj) → Prop
  | .nil, ms => ms = []
  | .cons bl d t rest, ms => ∃ o ms', ms = (bl, d, o) :: ms' ∧ o.info.size = (layout t).size ∧ MembersSz rest ms'

theorem structL_size : (m : Members) → (ms : List (Int × Int × Obj)) → MembersSz m ms → (∀ x ∈ ms, 0 ≤ x.1) →
    (structL (layoutMembers m)).size = membersSize ms
  | .nil, ms, h, _ => by
    simp only [MembersSz] at h; subst h; rfl
  | .cons bl d t rest, ms, h, hn => by
    simp only [MembersSz] at h
    obtain ⟨o, ms', rfl, hsz, hrest⟩ := h
    obtain ⟨hbl, hn'⟩ := List.forall_mem_cons.mp hn
    have ih := structL_size rest ms' hrest hn'
    have hp := place_size ((Spec.range bl).map (fun j => d + j * (layout t).extent)) (layout t)
    simp only [structL, Layout.size, layoutMembers, List.flatMap_cons, List.length_append, membersSize, List.map_cons,
      List.sum_cons, Int.natCast_add] at ih hp ⊢
    rw [ih, hp, List.length_map, range_length hbl, hsz]
    simp only [Layout.size]

/-- what the struct lemmas need of the objects built for the members -/
def MemFacts (ms : List (Int × Int × Obj)) : Prop :=
  ∀ x ∈ ms, (x.2.2.info.derived = false → x.2.2.info.lb = 0 ∧ x.2.2.info.ub = x.2.2.info.size ∧ 0 ≤ x.2.2.info.size) ∧
    0 ≤ x.2.2.info.size ∧ x.2.2.info.lb ≤ x.2.2.info.ub ∧ (x.1 > 0 → 0 < x.2.2.info.size)

theorem active_nil_of_size_zero (ms : List (Int × Int × Obj)) (hf : MemFacts ms) (hn : ∀ x ∈ ms, 0 ≤ x.1)
    (hs : membersSize ms ≤ 0) : activeMembers ms = [] := by
  rw [activeMembers, List.filter_eq_nil_iff]
  intro x hx hpos
  have hpos := of_decide_eq_true hpos
  have := eq_zero_of_sum_nonpos _ (fun y hy => by
    obtain ⟨m, hm, rfl⟩ := List.mem_map.mp hy
    exact Int.mul_nonneg (hn m hm) (hf m hm).2.1) hs _ (List.mem_map_of_mem hx)
  have := Int.mul_pos hpos ((hf x hx).2.2.2 hpos)
  omega

theorem mkStruct_rel (m : Members) (ms : List (Int × Int × Obj)) (r : Obj) (hf : MemFacts ms) (hok : MembersOk m ms)
    (hz : MembersSz m ms) (hr : mkStruct ms = some r) : Rel1 r (structL (layoutMembers m)) := by
  obtain ⟨b1, b2⟩ := mkStruct_bounds (fun x hx => (hf x hx).1) hr
  obtain ⟨p1, p2⟩ := spec_members m ms hok
  obtain ⟨s1, s2, s3⟩ := mkStruct_size hr
  have hsz := structL_size m ms hz s2
  have hlb : r.info.lb = (structL (layoutMembers m)).lb := by rw [b1]; simp only [structL, p1]
  have hub : r.info.ub = (structL (layoutMembers m)).ub := by rw [b2]; simp only [structL, p2]
  refine ⟨hlb, hub, ?_, by rw [s1, hsz], fun hd => ?_⟩
  · rw [← hlb, ← hub, b1, b2]
    refine listMin_le_listMax _ _ _ (fun x hx => ?_)
    obtain ⟨hxm, hxp⟩ := List.mem_filter.mp hx
    obtain ⟨_, _, hle, _⟩ := hf x hxm
    have : 0 ≤ (x.1 - 1) * x.2.2.info.extent :=
      Int.mul_nonneg (by have := of_decide_eq_true hxp; omega) (by simp only [Info.extent]; omega)
    simp only [memberLb, memberUb]; omega
  · have hact := active_nil_of_size_zero ms hf s2 (s3 hd)
    have h0 : membersSize ms = 0 := by
      have : 0 ≤ (structL (layoutMembers m)).size := Int.natCast_nonneg _
      have := s3 hd
      omega
    have hbytes : (structL (layoutMembers m)).bytes = [] :=
      List.length_eq_zero_iff.mp (Int.natCast_eq_zero.mp ((hsz.trans h0)))
    rw [← hlb, ← hub, b1, b2, hact, s1, h0, hbytes]
    exact ⟨rfl, rfl, rfl⟩

def prodF (xs : List Int) : Int := xs.foldl (· * ·) 1

theorem prodF_eq (xs : List Int) : prodF xs = xs.prod := List.prod_eq_foldl.symm

theorem prodF_nil : prodF [] = 1 := rfl
theorem prodF_cons (x : Int) (xs : List Int) : prodF (x :: xs) = x * prodF xs := by
  rw [prodF_eq, prodF_eq, List.prod_cons]
theorem prodF_append (xs ys : List Int) : prodF (xs ++ ys) = prodF xs * prodF ys := by
  rw [prodF_eq, prodF_eq, prodF_eq, List.prod_append_int]
theorem prodF_reverse (xs : List Int) : prodF xs.reverse = prodF xs := by
  rw [prodF_eq, prodF_eq, List.prod_reverse_int]
theorem prodF_nonneg (xs : List Int) (h : ∀ x ∈ xs, 0 ≤ x) : 0 ≤ prodF xs := by
  induction xs with
  | nil => exact Int.one_nonneg
  | cons x t ih =>
    rw [prodF_cons]
    exact Int.mul_nonneg (List.forall_mem_cons.mp h).1 (ih (List.forall_mem_cons.mp h).2)

theorem subPositions_length : ∀ (ds : List (Int × Int × Int)), (∀ d ∈ ds, 0 ≤ d.2.1) →
    ((subPositions ds).length : Int) = prodF (ds.map (·.2.1))
  | [], _ => rfl
  | (sz, sub, start) :: rest, h => by
    obtain ⟨hsub, hrest⟩ := List.forall_mem_cons.mp h
    have ih := subPositions_length rest hrest
    rw [subPositions, length_flatMap_const _ _ (subPositions rest).length (fun k _ => List.length_map _),
      Int.natCast_mul, ih, range_length hsub, List.map_cons, prodF_cons]

/-- MPI's layout of a subarray from the layout of the old type: the `.subarray` arm of `Spec.layout` under a name
    (`layout_subarray`) -/
def subL (dims : List (Int × Int × Int)) (c : Bool) (o : Layout) : Layout :=
  let ds := if c then dims else dims.reverse
  ⟨(place ((subPositions ds).map (· * o.extent)) o).bytes, 0, prodF (dims.map (·.1)) * o.extent⟩

theorem layout_subarray (dims : List (Int × Int × Int)) (c : Bool) (t : Tree) :
    layout (.subarray dims c t) = subL dims c (layout t) := by
  simp only [layout, subL, prodF]

theorem subL_size (dims : List (Int × Int × Int)) (c : Bool) (o : Layout) (h : ∀ d ∈ dims, 0 ≤ d.2.1) :
    (subL dims c o).size = prodF (dims.map (·.2.1)) * o.size := by
  have hp := place_size ((subPositions (if c then dims else dims.reverse)).map (· * o.extent)) o
  simp only [subL, Layout.size, List.length_map] at hp ⊢
  rw [hp]
  cases c with
  | true => rw [if_pos rfl, subPositions_length dims h]
  | false =>
    rw [if_neg Bool.false_ne_true, subPositions_length dims.reverse (fun d hd => h d (List.mem_reverse.mp hd)),
      List.map_reverse, prodF_reverse]

/-- the body of create_subarray for ndims ≥ 2 (after the argument checks), dimensions in traversal order: the last arm of
    `mkSubarray` under a name (`mkSubarray_ge2`) -/
def subCore (ds : List (Int × Int × Int)) (old : Obj) : Option Obj :=
  match ds with
  | (sz0, sub0, st0) :: (sz1, sub1, st1) :: rest =>
    let extent := old.info.extent
    match mkVector sub1 sub0 sz0 old with
    | none => none
    | some v =>
      match subarrayLoop extent rest v (sz0 * sz1) (st0 + st1 * sz0) with
      | none => none
      | some (tmp, size, lb) =>
        match mkHindexed [(1, lb * extent)] tmp with
        | none => none
        | some h => some (mkResized h 0 (size * extent))
  | _ => none

theorem subCore_some {d0 d1 : Int × Int × Int} {rest : List (Int × Int × Int)} {old r : Obj}
    (h : subCore (d0 :: d1 :: rest) old = some r) :
    ∃ v tmp size lb hh, mkVector d1.2.1 d0.2.1 d0.1 old = some v ∧
      subarrayLoop old.info.extent rest v (d0.1 * d1.1) (d0.2.2 + d1.2.2 * d0.1) = some (tmp, size, lb) ∧
      mkHindexed [(1, lb * old.info.extent)] tmp = some hh ∧ r = mkResized hh 0 (size * old.info.extent) := by
  obtain ⟨sz0, sub0, st0⟩ := d0
  obtain ⟨sz1, sub1, st1⟩ := d1
  simp only [subCore] at h
  split at h
  · cases h
  · rename_i v hv
    split at h
    · cases h
    · rename_i tmp size lb hloop
      split at h
      · cases h
      · rename_i hh hhe
        exact ⟨v, tmp, size, lb, hh, hv, hloop, hhe, (Option.some.inj h).symm⟩

/-- the argument checks of `PMPI_Type_create_subarray` -/
def SubChecks (dims : List (Int × Int × Int)) : Prop := ∀ d ∈ dims, 0 < d.1 ∧ 0 ≤ d.2.1 ∧ 0 ≤ d.2.2

theorem checks_of_any {dims : List (Int × Int × Int)}
    (h : ¬ (dims.any (fun d => d.1 ≤ 0 || d.2.1 < 0 || d.2.2 < 0) = true)) : SubChecks dims := by
  intro d hd
  simp only [List.any_eq_true, not_exists, not_and, Bool.or_eq_true, decide_eq_true_eq, not_or] at h
  have := h d hd
  omega

theorem SubChecks.prodF_sizes_nonneg {dims : List (Int × Int × Int)} (h : SubChecks dims) : 0 ≤ prodF (dims.map (·.1)) :=
  prodF_nonneg _ fun x hx => by
    obtain ⟨d, hd, rfl⟩ := List.mem_map.mp hx
    exact Int.le_of_lt (h d hd).1

theorem mkSubarray_one {sz sub start : Int} {c : Bool} {old r : Obj} (h : mkSubarray [(sz, sub, start)] c old = some r) :
    SubChecks [(sz, sub, start)] ∧
      ∃ hh, mkHindexed [(sub, start * old.info.extent)] old = some hh ∧ r = mkResized hh 0 (sz * old.info.extent) := by
  simp only [mkSubarray, Option.ite_none_left_eq_some] at h
  obtain ⟨hany, _, h⟩ := h
  split at h
  · cases h
  · rename_i hh hhe
    exact ⟨checks_of_any hany, hh, hhe, (Option.some.inj h).symm⟩

theorem mkSubarray_ge2 {d1 d2 : Int × Int × Int} {rest : List (Int × Int × Int)} {c : Bool} {old r : Obj}
    (h : mkSubarray (d1 :: d2 :: rest) c old = some r) :
    SubChecks (d1 :: d2 :: rest) ∧ subCore (if c then (d1 :: d2 :: rest).reverse else (d1 :: d2 :: rest)) old = some r := by
  simp only [mkSubarray, Option.ite_none_left_eq_some] at h
  exact ⟨checks_of_any h.1, h.2.2.2⟩

theorem subarrayLoop_size (e : Int) : ∀ (rest : List (Int × Int × Int)) (tmp : Obj) (size lb : Int) res,
    subarrayLoop e rest tmp size lb = some res →
      res.1.info.size = tmp.info.size * prodF (rest.map (·.2.1)) ∧ res.2.1 = size * prodF (rest.map (·.1))
  | [], tmp, size, lb, res, h => by
    rw [subarrayLoop, Option.some.injEq] at h
    subst h
    exact ⟨(Int.mul_one _).symm, (Int.mul_one _).symm⟩
  | (sz, sub, start) :: rest, tmp, size, lb, res, h => by
    rw [subarrayLoop] at h
    split at h
    · cases h
    · rename_i nt hnt
      obtain ⟨a, b⟩ := subarrayLoop_size e rest _ _ _ _ h
      obtain ⟨s, _, _⟩ := hvOut_size (mkHvector_out hnt)
      simp only [List.map_cons, prodF_cons]
      rw [a, b, s]
      exact ⟨by ring, by ring⟩

theorem subCore_out {ds : List (Int × Int × Int)} {old r : Obj} (hr : subCore ds old = some r) :
    ∃ h, r = mkResized h 0 (prodF (ds.map (·.1)) * old.info.extent) ∧
      h.info.size = old.info.size * prodF (ds.map (·.2.1)) := by
  match ds, hr with
  | [], hr | [_], hr => cases hr
  | d0 :: d1 :: rest, hr =>
    obtain ⟨v, tmp, size, lb, hh, hv, hloop, hhe, rfl⟩ := subCore_some hr
    obtain ⟨v1, _, _⟩ := hvOut_size (mkVector_out hv)
    obtain ⟨l1, l2⟩ := subarrayLoop_size _ _ _ _ _ _ hloop
    obtain ⟨h1, _, _⟩ := idxOut_size (mkHindexed_out hhe)
    simp only [List.map_cons, prodF_cons, List.sum_cons, List.map_nil, List.sum_nil] at h1 l1 l2 ⊢
    refine ⟨hh, ?_, ?_⟩
    · rw [l2]; congr 1; ring
    · rw [h1, l1, v1]; ring

/-- the last call is create_resized, so lb and ub are explicit and only the size of the inner type matters -/
theorem mkSubarray_out {dims : List (Int × Int × Int)} {c : Bool} {o r : Obj} (hr : mkSubarray dims c o = some r) :
    SubChecks dims ∧ ∃ hh, r = mkResized hh 0 (prodF (dims.map (·.1)) * o.info.extent) ∧
      hh.info.size = o.info.size * prodF (dims.map (·.2.1)) := by
  match dims, hr with
  | [], hr => cases hr
  | [(sz, sub, start)], hr =>
    obtain ⟨hchk, hh, hhe, rfl⟩ := mkSubarray_one hr
    obtain ⟨h1, _, _⟩ := idxOut_size (mkHindexed_out hhe)
    simp only [List.map_cons, List.map_nil, prodF_cons, prodF_nil, List.sum_cons, List.sum_nil, Int.add_zero,
      Int.mul_one] at h1 ⊢
    exact ⟨hchk, hh, rfl, by rw [h1, Int.mul_comm]⟩
  | d1 :: d2 :: rest, hr =>
    obtain ⟨hchk, hr⟩ := mkSubarray_ge2 hr
    obtain ⟨hh, e1, e2⟩ := subCore_out hr
    refine ⟨hchk, hh, ?_, ?_⟩
    · rw [e1]; cases c <;> simp only [if_true, Bool.false_eq_true, if_false, List.map_reverse, prodF_reverse]
    · rw [e2]; cases c <;> simp only [if_true, Bool.false_eq_true, if_false, List.map_reverse, prodF_reverse]

theorem subL_eta (dims : List (Int × Int × Int)) (c : Bool) (l : Layout) :
    subL dims c l = ⟨(subL dims c l).bytes, 0, 0 + prodF (dims.map (·.1)) * l.extent⟩ := by
  simp only [subL, Int.zero_add]

theorem mkSubarray_rel {dims : List (Int × Int × Int)} {c : Bool} {o r : Obj} {l : Layout} (h : Rel1 o l)
    (hr : mkSubarray dims c o = some r) : Rel1 r (subL dims c l) := by
  obtain ⟨hchk, hh, e1, e2⟩ := mkSubarray_out hr
  have hsz := subL_size dims c l (fun d hd => (hchk d hd).2.1)
  rw [subL_eta, e1, h.ext]
  refine mkResized_rel _ _ _ _ ?_ (Int.mul_nonneg hchk.prodF_sizes_nonneg h.ext_nonneg)
  simp only [Layout.size] at hsz
  rw [e2, hsz, h.size, Layout.size, Int.mul_comm]

/-- induction along `build`: a statement about every tree and the object built for it follows from one step per
    `create_*` call (the calls of a nest that succeeds all succeed; the counts are not negative) -/
theorem build_ind {P : Tree → Obj → Prop} {PM : Members → List (Int × Int × Obj) → Prop}
    (basic : ∀ s, P (.basic s) (basicObj s))
    (contiguous : ∀ n t o r, 0 ≤ n → P t o → mkContiguous n o 0 = some r → P (.contiguous n t) r)
    (vector : ∀ n bl st t o r, 0 ≤ n → P t o → mkVector n bl st o = some r → P (.vector n bl st t) r)
    (hvector : ∀ n bl st t o r, 0 ≤ n → P t o → mkHvector n bl st o = some r →
      P (.hvector n bl st t) r)
    (indexed : ∀ bs t o r, P t o → mkIndexed bs o = some r → P (.indexed bs t) r)
    (hindexed : ∀ bs t o r, P t o → mkHindexed bs o = some r → P (.hindexed bs t) r)
    (indexedBlock : ∀ bl ds t o r, P t o → mkIndexed (ds.map (fun d => (bl, d))) o = some r →
      P (.indexedBlock bl ds t) r)
    (hindexedBlock : ∀ bl ds t o r, P t o → mkHindexed (ds.map (fun d => (bl, d))) o = some r →
      P (.hindexedBlock bl ds t) r)
    (struct : ∀ m ms r, buildMembers m = some ms → PM m ms → mkStruct ms = some r → P (.struct m) r)
    (resized : ∀ lb ext t o, P t o → P (.resized lb ext t) (mkResized o lb ext))
    (subarray : ∀ dims c t o r, P t o → mkSubarray dims c o = some r → P (.subarray dims c t) r)
    (dup : ∀ t o, build t = some o → P t o → P (.dup t) (cloneObj o))
    (nil : PM .nil [])
    (cons : ∀ bl d t rest o ms, P t o → PM rest ms → PM (.cons bl d t rest) ((bl, d, o) :: ms)) :
    (∀ t o, build t = some o → P t o) ∧ (∀ m ms, buildMembers m = some ms → PM m ms) :=
  ⟨tree, members⟩
where
  tree : ∀ t o, build t = some o → P t o
    | .basic s, _, h => Option.some.inj h ▸ basic s
    | .contiguous n t, r, h => by
      obtain ⟨hn, h⟩ := Option.ite_none_left_eq_some.mp h
      obtain ⟨o, h1, h2⟩ := Option.bind_eq_some_iff.mp h
      exact contiguous n t o r (Int.not_lt.mp hn) (tree t o h1) h2
    | .vector n bl st t, r, h => by
      obtain ⟨hn, h⟩ := Option.ite_none_left_eq_some.mp h
      obtain ⟨o, h1, h2⟩ := Option.bind_eq_some_iff.mp h
      exact vector n bl st t o r (Int.not_lt.mp hn) (tree t o h1) h2
    | .hvector n bl st t, r, h => by
      obtain ⟨hn, h⟩ := Option.ite_none_left_eq_some.mp h
      obtain ⟨o, h1, h2⟩ := Option.bind_eq_some_iff.mp h
      exact hvector n bl st t o r (Int.not_lt.mp hn) (tree t o h1) h2
    | .indexed bs t, r, h => by
      obtain ⟨o, h1, h2⟩ := Option.bind_eq_some_iff.mp h
      exact indexed bs t o r (tree t o h1) h2
    | .hindexed bs t, r, h => by
      obtain ⟨o, h1, h2⟩ := Option.bind_eq_some_iff.mp h
      exact hindexed bs t o r (tree t o h1) h2
    | .indexedBlock bl ds t, r, h => by
      obtain ⟨o, h1, h2⟩ := Option.bind_eq_some_iff.mp h
      exact indexedBlock bl ds t o r (tree t o h1) h2
    | .hindexedBlock bl ds t, r, h => by
      obtain ⟨o, h1, h2⟩ := Option.bind_eq_some_iff.mp h
      exact hindexedBlock bl ds t o r (tree t o h1) h2
    | .struct m, r, h => by
      obtain ⟨ms, h1, h2⟩ := Option.bind_eq_some_iff.mp h
      exact struct m ms r h1 (members m ms h1) h2
    | .resized lb ext t, _, h => by
      obtain ⟨o, h1, rfl⟩ := Option.map_eq_some_iff.mp h
      exact resized lb ext t o (tree t o h1)
    | .subarray dims c t, r, h => by
      obtain ⟨o, h1, h2⟩ := Option.bind_eq_some_iff.mp h
      exact subarray dims c t o r (tree t o h1) h2
    | .dup t, _, h => by
      obtain ⟨o, h1, rfl⟩ := Option.map_eq_some_iff.mp h
      exact dup t o h1 (tree t o h1)
  members : ∀ m ms, buildMembers m = some ms → PM m ms
    | .nil, _, h => Option.some.inj h ▸ nil
    | .cons bl d t rest, ms, h => by
      rw [buildMembers] at h
      split at h
      · rename_i o r ho hr
        exact Option.some.inj h ▸ cons bl d t rest o r (tree t o ho) (members rest r hr)
      · cases h

theorem cloneObj_info (o : Obj) : (cloneObj o).info = o.info := by
  unfold cloneObj
  split <;> rfl

theorem size_all : (∀ t o, build t = some o → o.info.size = (layout t).size) ∧
    (∀ m ms, buildMembers m = some ms → MembersSz m ms) := by
  have hv : ∀ {f n bl S o r} {l : Layout} (S' : Int), 0 ≤ n → o.info.size = l.size → HvOut f n bl S o r →
      r.info.size = (place (dsHv n bl S' l.extent) l).size := by
    intro f n bl S o r l S' hn ih h
    obtain ⟨a, b, _⟩ := hvOut_size h
    rw [a, place_size, dsHv_length _ _ _ _ hn b, ih]; ring
  have idx : ∀ {k bs o r} {l : Layout} (sc : Int), o.info.size = l.size → IdxOut k bs o r →
      r.info.size = (place (dsIdx bs sc l.extent) l).size := by
    intro k bs o r l sc ih h
    obtain ⟨a, b, _⟩ := idxOut_size h
    rw [a, place_size, dsIdx_length _ _ _ b, ih]
  refine build_ind (fun s => (basic_rel s).size) ?_ ?_ ?_ ?_ ?_ ?_ ?_ ?_ ?_ ?_ ?_ rfl ?_
  · intro n t o r hn ih h
    obtain ⟨a, _⟩ := mkContiguous_size h
    rw [layout, dsContig_eq, a, place_size, dsHv_length _ _ _ _ hn (by omega), ih]; ring
  · intro n bl st t o r hn ih h
    rw [layout, dsVec_eq]
    exact hv _ hn ih (mkVector_out h)
  · intro n bl st t o r hn ih h
    exact hv _ hn ih (mkHvector_out h)
  · intro bs t o r ih h
    rw [layout_indexed]; exact idx _ ih (mkIndexed_out h)
  · intro bs t o r ih h
    rw [layout_hindexed]; exact idx _ ih (mkHindexed_out h)
  · intro bl ds t o r ih h
    rw [layout_indexedBlock, layout_indexed]; exact idx _ ih (mkIndexed_out h)
  · intro bl ds t o r ih h
    rw [layout_hindexedBlock, layout_hindexed]; exact idx _ ih (mkHindexed_out h)
  · intro m ms r _ ih h
    obtain ⟨a, b, _⟩ := mkStruct_size h
    rw [layout_struct, a, structL_size m ms ih b]
  · intro lb ext t o ih
    exact ih
  · intro dims c t o r ih h
    obtain ⟨hchk, hh, rfl, e2⟩ := mkSubarray_out h
    rw [layout_subarray, subL_size dims c _ (fun d hd => (hchk d hd).2.1)]
    show hh.info.size = _
    rw [e2, ih, Int.mul_comm]
  · intro t o _ ih
    rw [cloneObj_info]; exact ih
  · intro bl d t rest o ms ih ihr
    exact ⟨o, ms, rfl, ih, ihr⟩

theorem size_members : (m : Members) → (ms : List (Int × Int × Obj)) → buildMembers m = some ms → MembersSz m ms :=
  size_all.2

end SgVerif.C30
