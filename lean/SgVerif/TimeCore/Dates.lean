import SgVerif.TimeCore.Frame
import SgVerif.Common.Snoc
/-
Date invariants of every reachable state of the time-core model (`DInv`, `SInv`): no pending timer and no pending action
(heap entry) is in the past, every timer callback is executed at a clock exactly equal to its date, start ≤ finish ≤ now
for every activity; and when the run stops nothing is left pending (`NoPend`).
-/
namespace SgVerif.TimeCore

/-- `pend` sits with the dates because the heap entry a handler pushes is not in the past only for a well-formed
request (`hpush` of `handle_ind`) -/
structure DInv (now : Rat) (k : K) : Prop where
  tim : ∀ t ∈ k.timers, now ≤ t.date
  heap : ∀ e ∈ k.heap, now ≤ e.date ∧ (e.lat = true → 0 ≤ e.rem)
  ord : ∀ im ∈ k.impls, im.start ≤ now ∧ (im.finish = -1 ∨ (im.start ≤ im.finish ∧ im.finish ≤ now))
  pend : ∀ a r, (k.actor a).pending = some r → ReqOk r

theorem ord_of_sfk {k k' : K} (h : k'.impls.map Impl.sfk = k.impls.map Impl.sfk) (im : Impl) (him : im ∈ k'.impls) :
    ∃ im0 ∈ k.impls, im.start = im0.start ∧ im.finish = im0.finish := by
  have : im.sfk ∈ k'.impls.map Impl.sfk := List.mem_map.mpr ⟨im, him, rfl⟩
  rw [h] at this
  obtain ⟨im0, h0, he⟩ := List.mem_map.mp this
  unfold Impl.sfk at he
  injection he with _ h2
  injection h2 with h2 h3
  exact ⟨im0, h0, h2.symm, h3.symm⟩

theorem DInv.shr {now : Rat} {k k' : K} (h : DInv now k) (s : Shr k k') : DInv now k' := by
  refine ⟨fun t ht => h.tim t (s.timers.subset ht), fun e he => h.heap e (s.heap.subset he), fun im him => ?_,
    fun a r hr => ?_⟩
  · obtain ⟨im0, h0, hs, hf⟩ := ord_of_sfk s.sfk im him
    rw [hs, hf]; exact h.ord im0 h0
  · rcases s.pend a with h1 | h1 | ⟨r', h1, h2⟩
    · rw [h1] at hr; exact h.pend a r hr
    · rw [h1] at hr; cases hr
    · rw [h1] at hr; injection hr with hr; subst hr; exact h2

/-! the four kinds of creation in `K.handle` (`handle_ind`): nothing new lies in the past -/

theorem DInv.newImpl {now : Rat} {k : K} (h : DInv now k) (im : Impl) (hs : im.start ≤ now) (hf : im.finish = -1) :
    DInv now (k.newImpl im).1 :=
  ⟨h.tim, h.heap, forall_mem_snoc h.ord ⟨hs, Or.inl hf⟩, h.pend⟩

theorem DInv.heapPush {now : Rat} {k : K} (h : DInv now k) (e : HeapE)
    (he : now ≤ e.date ∧ (e.lat = true → 0 ≤ e.rem)) : DInv now { k with heap := k.heap ++ [e] } :=
  ⟨h.tim, forall_mem_snoc h.heap he, h.ord, h.pend⟩

theorem DInv.timerSet {now : Rat} {k : K} (h : DInv now k) (d : Rat) (cb : Cb) (hd : now ≤ d) :
    DInv now (k.timerSet d cb).1 :=
  ⟨forall_mem_snoc h.tim hd, h.heap, h.ord, h.pend⟩

theorem DInv.register {now : Rat} {k : K} (h : DInv now k) (i a : Nat) : DInv now (k.register i a) := by
  refine ⟨h.tim, h.heap, fun im him => ?_, fun b r hr => h.pend b r ?_⟩
  · obtain ⟨im0, h0, hs, hf⟩ := ord_of_sfk (k' := k.register i a) (map_upd_inv _ _ _ _ (fun _ => rfl)) im him
    rw [hs, hf]; exact h.ord im0 h0
  · rw [← hr]; exact (actor_setActor_proj (·.pending) (k.setImpl i _) a b _ (by intro _; rfl)).symm

theorem handle_dinv (now : Rat) (k : K) (a : Nat) (r : Req) (h0 : 0 ≤ now) (hr : ReqOk r) (h : DInv now k) :
    DInv now (k.handle now a r) :=
  handle_ind (P := DInv now) now a r (fun _ _ s h => h.shr s)
    (fun _ im hs hf h => h.newImpl im (by rcases hs with e | e <;> rw [e] <;> grind) hf)
    (fun _ e he h => h.heapPush e (he hr)) (fun _ i h => h.register i a)
    (fun _ d cb hd h => h.timerSet d cb hd) k h

theorem dinv_stampFinish (now : Rat) (k : K) (i : Nat) (h : DInv now k) :
    DInv now (k.setImpl i (fun x => { x with finish := now })) := by
  refine ⟨h.tim, h.heap, ?_, h.pend⟩
  intro im him
  rcases mem_upd _ _ _ _ him with h1 | ⟨y, hy, rfl⟩
  · exact h.ord im h1
  · have := (h.ord y hy).1
    exact ⟨this, Or.inr ⟨this, Rat.le_refl⟩⟩

theorem handleEnded_dinv (now : Rat) (n : Nat) (k : K) (h : DInv now k) : DInv now (k.handleEnded now n) := by
  induction n generalizing k with
  | zero => exact h
  | succ n ih =>
    unfold K.handleEnded
    split
    · exact ih _ (h.shr (shr_finish _ _))
    · split
      · exact ih _ ((dinv_stampFinish now k _ h).shr (shr_finish _ _))
      · exact h

theorem slice_dinv (now : Rat) (a : Nat) (fuel : Nat) (k : K) (evs : List Ev) (h : DInv now k) :
    DInv now (k.slice a fuel evs).1 := by
  refine slice_ind a (DInv now) (DInv now) ?_ ?_ ?_ ?_ (fun _ h => h) fuel k evs h
  · intro k' f h hf
    refine h.shr (shr_setActor_keep _ _ _ ?_)
    cases hf <;> exact fun _ => rfl
  · intro k' r b h hr _
    refine ⟨h.tim, h.heap, h.ord, fun c r' hc => ?_⟩
    unfold K.issue at hc
    rw [actor_setActor] at hc; split at hc
    · injection hc with hc; exact hc ▸ hr
    · exact h.pend c r' hc
  · intro k' s h
    exact h.shr (shr_of _ _ (List.Sublist.refl _) (List.Sublist.refl _) rfl rfl rfl)
  · intro k' h
    exact h.shr (shr_die _ _ _)

theorem runAll_dinv (now : Rat) (l : List Nat) (k : K) (evs : List Ev) (h : DInv now k) :
    DInv now (runAll k l evs).1 := by
  induction l generalizing k evs with
  | nil => exact h
  | cons a rest ih =>
    unfold runAll
    dsimp only []
    split
    · split
      · exact ih _ _ (h.shr (shr_die k a true))
      · exact ih _ _ h
    · exact ih _ _ (slice_dinv now a _ k [] h)

theorem handlePending_dinv (now : Rat) (h0 : 0 ≤ now) (l : List Nat) (k : K) (h : DInv now k) :
    DInv now (handlePending now k l) := by
  induction l generalizing k with
  | nil => exact h
  | cons a rest ih =>
    unfold handlePending
    split
    · rename_i r hr
      have hr' := h.pend a r hr
      dsimp only []
      refine ih _ ?_
      have h1 : DInv now (k.setActor a fun x => { x with pending := none }) :=
        h.shr (shr_setActor _ _ _ (by intro _; exact ⟨Or.inr (Or.inl rfl), id, id, id, fun _ => rfl⟩))
      split
      · exact h1
      · exact handle_dinv now _ a r h0 hr' h1
    · exact ih _ h

/-- invariant of the maestro loop: the clock is non-negative, the kernel dates are consistent with it, every timer
callback executed so far was executed at exactly its date, and every action completed by `update_actions_state` was due
at that clock (`HeapE.due`: not more than the timing precision early) and not after its date -/
structure SInv (s : St) : Prop where
  now0 : 0 ≤ s.now
  d : DInv s.now s.k
  fired : ∀ x ∈ s.fired, x.1 = x.2.date
  popped : ∀ x ∈ s.popped, x.2.due x.1 = true ∧ x.1 ≤ x.2.date

theorem SInv.pick {s : St} (h : SInv s) (m : Nat) : SInv (pick m s).2 :=
  ⟨by rw [pick_now]; exact h.now0, by rw [pick_now, pick_k]; exact h.d, by rw [pick_fired]; exact h.fired,
   by rw [pick_popped]; exact h.popped⟩

theorem subround_sinv (s : St) (h : SInv s) : SInv (subround s) := by
  refine ⟨h.now0, ?_, h.fired, h.popped⟩
  refine handleEnded_dinv _ _ _ (handlePending_dinv _ h.now0 _ _ ?_)
  exact runAll_dinv _ _ _ _ (h.d.shr (shr_clearRun _))

/-- `update_actions_state` at clock `now`: the entries it takes were due not before `now`, those it re-arms are due
not before `now` -/
theorem popWindow_dinv (now : Rat) (n : Nat) (s : St) (re : List HeapE) (hn : s.now = now) (h : DInv now s.k)
    (hre : ∀ e ∈ re, now ≤ e.date ∧ (e.lat = true → 0 ≤ e.rem)) (hp : ∀ x ∈ s.popped, x.2.due x.1 = true ∧ x.1 ≤ x.2.date) :
    DInv now (popWindow n s re).1.k ∧ (∀ e ∈ (popWindow n s re).2, now ≤ e.date ∧ (e.lat = true → 0 ≤ e.rem)) ∧
    ∀ x ∈ (popWindow n s re).1.popped, x.2.due x.1 = true ∧ x.1 ≤ x.2.date :=
  (popWindow_ind
    (P := fun s' re' => s'.now = now ∧ DInv now s'.k ∧ (∀ e ∈ re', now ≤ e.date ∧ (e.lat = true → 0 ≤ e.rem)) ∧
      ∀ x ∈ s'.popped, x.2.due x.1 = true ∧ x.1 ≤ x.2.date)
    (fun m s' _ h => by rw [pick_now, pick_k, pick_popped]; exact h)
    (fun s' _ j e he hd hl h =>
      have hh := h.2.1.heap e (List.mem_of_getElem? he)
      ⟨h.1, h.2.1.shr (shr_popHeap _ j), forall_mem_snoc h.2.2.1 ⟨h.1 ▸ rat_le_add (hh.2 hl), fun hc => by cases hc⟩,
       forall_mem_snoc h.2.2.2 ⟨hd, h.1 ▸ hh.1⟩⟩)
    (fun s' _ j e he hd _ h =>
      ⟨h.1, h.2.1.shr ((shr_popHeap _ j).trans (shr_actionDone _ _)), h.2.2.1,
       forall_mem_snoc h.2.2.2 ⟨hd, h.1 ▸ (h.2.1.heap e (List.mem_of_getElem? he)).1⟩⟩)
    n s re ⟨hn, h, hre, hp⟩).2

theorem DInv.advance {now now' : Rat} {k : K} (h : DInv now k) (hle : now ≤ now')
    (ht : ∀ t ∈ k.timers, now' ≤ t.date) (hh : ∀ e ∈ k.heap, now' ≤ e.date) : DInv now' k := by
  refine ⟨ht, fun e he => ⟨hh e he, (h.heap e he).2⟩, ?_, h.pend⟩
  intro im him
  obtain ⟨h1, h2⟩ := h.ord im him
  refine ⟨Rat.le_trans h1 hle, ?_⟩
  rcases h2 with h2 | h2
  · exact Or.inl h2
  · exact Or.inr ⟨h2.1, Rat.le_trans h2.2 hle⟩

/-- `solve` jumps over no pending timer and over no pending action: the dates are consistent with the new clock -/
theorem DInv.solve {s : St} {d : Rat} (h : DInv s.now s.k) (hd : outerDelta s = some d) :
    0 ≤ d ∧ DInv (s.now + d) s.k := by
  obtain ⟨h0, ht⟩ := outerDelta_some h.tim hd
  refine ⟨h0, h.advance (by grind) ht (minDate_map_ge _ fun m hm => (timeDelta_some hd).2.2 m hm ?_)⟩
  obtain ⟨e, he, rfl⟩ := List.mem_map.mp (minDate_mem _ _ hm)
  exact (h.heap e he).1

theorem solveStep_sinv (s : St) (h : SInv s) : SInv (solveStep s (outerDelta s)) := by
  cases hd : outerDelta s with
  | none => exact h
  | some d =>
    obtain ⟨h0, hadv⟩ := h.d.solve hd
    obtain ⟨h1, h2, h3⟩ := popWindow_dinv (s.now + d) s.k.heap.length { s with now := s.now + d } [] rfl hadv
      (fun _ he => by cases he) h.popped
    refine ⟨?_, ?_, ?_, h3⟩
    · rw [solveStep_now]; have := h.now0; grind
    · rw [solveStep_now]
      exact ⟨h1.tim, fun e he => (List.mem_append.mp he).elim (h1.heap e) (h2 e), h1.ord, h1.pend⟩
    · show ∀ x ∈ (popWindow _ _ _).1.fired, _
      rw [popWindow_fired]; exact h.fired

theorem timersLoop_sinv (n : Nat) (s : St) (h : SInv s) : SInv (timersLoop n s) :=
  timersLoop_ind (fun m _ h => h.pick m)
    (fun _ j t he hd h =>
      ⟨h.now0, h.d.shr ((shr_popTimer _ j).trans (shr_fire _ t)),
       forall_mem_snoc h.fired (Rat.le_antisymm (h.d.tim t (List.mem_of_getElem? he)) hd), h.popped⟩)
    (fun _ h => ⟨h.now0, handleEnded_dinv _ _ _ h.d, h.fired, h.popped⟩) n s h

theorem outerTail_sinv (s : St) (dl : Option Rat) (h : SInv s) : SInv (outerTail s dl) :=
  outerTail_ind (fun _ h => ⟨h.now0, h.d.shr (shr_foldl_kill _ _), h.fired, h.popped⟩)
    (fun _ h => ⟨h.now0, h.d, h.fired, h.popped⟩) s dl h

theorem step_sinv (s : St) (h : SInv s) : SInv (step s) := by
  refine step_ind (fun h => ?_) (subround_sinv s) h
  rw [outer_eq]
  split
  · exact ⟨h.now0, h.d.shr (shr_of _ _ (List.Sublist.refl _) (List.Sublist.refl _) rfl rfl rfl), h.fired, h.popped⟩
  · exact outerTail_sinv _ _ (timersLoop_sinv _ _ (solveStep_sinv s h))

theorem run_sinv (n : Nat) (s : St) (h : SInv s) : SInv (run n s) := run_ind step_sinv n s h

theorem initSt_sinv (progs : List (List Op)) (ties : List Nat) : SInv (initSt progs ties) := by
  refine ⟨Rat.le_refl, ⟨by simp [initSt], by simp [initSt], by simp [initSt], ?_⟩, by simp [initSt], by simp [initSt]⟩
  intro a r hr
  exfalso
  simp only [initSt, K.actor, List.getD_eq_getElem?_getD, List.getElem?_map] at hr
  cases h : progs[a]? <;> simp [h] at hr

/-- the two fields of `Shr` that `K.handleEnded` (which stamps finish times) keeps -/
structure Sub (k k' : K) : Prop where
  timers : k'.timers.Sublist k.timers
  heap : k'.heap.Sublist k.heap

theorem Sub.refl (k : K) : Sub k k := ⟨List.Sublist.refl _, List.Sublist.refl _⟩
theorem Sub.trans {k1 k2 k3 : K} (h1 : Sub k1 k2) (h2 : Sub k2 k3) : Sub k1 k3 :=
  ⟨h2.timers.trans h1.timers, h2.heap.trans h1.heap⟩
theorem Shr.sub {k k' : K} (h : Shr k k') : Sub k k' := ⟨h.timers, h.heap⟩

theorem Sub.eq_nil {k k' : K} (h : Sub k k') (ht : k.timers = []) (hh : k.heap = []) :
    k'.timers = [] ∧ k'.heap = [] :=
  ⟨List.sublist_nil.mp (ht ▸ h.timers), List.sublist_nil.mp (hh ▸ h.heap)⟩

theorem handleEnded_sub (now : Rat) (n : Nat) (k : K) : Sub k (k.handleEnded now n) := by
  induction n generalizing k with
  | zero => exact Sub.refl k
  | succ n ih =>
    unfold K.handleEnded
    split
    · exact (shr_finish _ _).sub.trans (ih _)
    · split
      · rename_i i _ _
        exact Sub.trans (k2 := k.setImpl i fun x => { x with finish := now }) ⟨List.Sublist.refl _, List.Sublist.refl _⟩
          ((shr_finish _ _).sub.trans (ih _))
      · exact Sub.refl k

theorem timersLoop_sub (n : Nat) (s : St) : Sub s.k (timersLoop n s).k :=
  timersLoop_ind (P := fun s' => Sub s.k s'.k) (fun m s' h => by rw [pick_k]; exact h)
    (fun s' j t _ _ h => h.trans ((shr_popTimer _ j).trans (shr_fire _ t)).sub)
    (fun s' h => h.trans (handleEnded_sub _ _ _)) n s (Sub.refl _)

theorem outerDelta_none (s : St) (h : SInv s) (hd : outerDelta s = none) : s.k.timers = [] ∧ s.k.heap = [] := by
  obtain ⟨h1, h2⟩ := timeDelta_none hd
  have h3 : minDate (s.k.heap.map (·.date)) = none := by
    cases hm : minDate (s.k.heap.map (·.date)) with
    | none => rfl
    | some m =>
      obtain ⟨e, he, rfl⟩ := List.mem_map.mp (minDate_mem _ _ hm)
      exact absurd (h2 _ hm) (Rat.not_lt.mpr (h.d.heap e he).1)
  exact ⟨List.map_eq_nil_iff.mp (minDate_none h1), List.map_eq_nil_iff.mp (minDate_none h3)⟩

/-- when the run stops (`done`), no timer and no action is pending -/
def NoPend (s : St) : Prop := s.done = true → s.k.timers = [] ∧ s.k.heap = []

theorem outer_noPend (s : St) (h : SInv s) (hdone : s.done = false) : NoPend (outer s) := by
  rw [outer_eq]
  split
  · intro hd; rw [hdone] at hd; cases hd
  · cases hdl : outerDelta s with
    | some d =>
      intro hd
      have hd' : (timersLoop ((solveStep s (some d)).k.timers.length + 1) (solveStep s (some d))).done = true := hd
      rw [timersLoop_done, show (solveStep s (some d)).done = s.done from popWindow_done _ _ _, hdone] at hd'
      cases hd'
    | none =>
      intro _
      obtain ⟨e1, e2⟩ := outerDelta_none s h hdl
      refine outerTail_ind (P := fun s' => s'.k.timers = [] ∧ s'.k.heap = [])
        (fun s' h => (shr_foldl_kill _ _).sub.eq_nil h.1 h.2) (fun _ h => h) _ _ ?_
      exact (timersLoop_sub _ s).eq_nil e1 e2

theorem step_noPend (s : St) (h : SInv s) (hp : NoPend s) : NoPend (step s) := by
  unfold step
  split
  · exact hp
  · rename_i hc
    have hdone : s.done = false := by
      cases hd : s.done with
      | false => rfl
      | true => exfalso; apply hc; simp [hd]
    split
    · exact outer_noPend s h hdone
    · intro hd
      rw [show (subround s).done = s.done from rfl, hdone] at hd; cases hd

theorem run_noPend (n : Nat) (s : St) (h : SInv s) (hp : NoPend s) : NoPend (run n s) :=
  (run_ind (P := fun s => SInv s ∧ NoPend s) (fun s h => ⟨step_sinv s h.1, step_noPend s h.1 h.2⟩) n s ⟨h, hp⟩).2

end SgVerif.TimeCore
