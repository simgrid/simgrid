import SgVerif.TimeCore.Frame
/-
What the timer callbacks of `ActivityImpl::wait_for` / `wait_any_for` do when they time out, for EVERY kernel state in
which the indices are valid and the actor is in a simcall (no other reachability assumption).
-/
namespace SgVerif.TimeCore

/-- **timeout**: when the timer fires and the action has not finished, the simcall is unregistered (first occurrence),
the result is "timeout" and the actor is scheduled. -/
theorem fire_wto_timeout (k : K) (t : Timer) (a i : Nat) (hcb : t.cb = .wto a i) (ha : a < k.actors.length)
    (hi : i < k.impls.length)
    (hrun : (k.impl i).act ≠ .finished ∧ (k.impl i).act ≠ .failed) (hb : (k.actor a).blocked = true) :
    let k' := k.fire t
    k'.toRun = k.toRun ++ [a] ∧ (k'.actor a).res = .timeout ∧ (k'.actor a).blocked = false ∧
    (k'.impl i).simcalls = (k.impl i).simcalls.erase a ∧ (k'.actor a).waiting = (k.actor a).waiting.erase i ∧
    (k'.actor a).tcb = none ∧ k'.bad = k.bad := by
  have hx : k.actors[a]? = some k.actors[a] := List.getElem?_eq_getElem ha
  have hy : k.impls[i]? = some k.impls[i] := List.getElem?_eq_getElem hi
  simp only [K.actor, K.impl, List.getD_eq_getElem?_getD, hx, hy, Option.getD_some] at hrun hb
  simp [K.fire, hcb, K.answer, K.unregister, K.actor, K.impl, K.setActor, K.setImpl, getElem?_upd_same, hx, hy,
        hrun.1, hrun.2, hb]

/-- the callback of `wait_any_for` does NOT test whether an activity "terminated right on time": whatever the state
of the activities — including one whose action finished at this very date — the actor is answered with the timeout
(result -1) at the deadline. -/
theorem fire_wany_timeout (k : K) (t : Timer) (a : Nat) (is : List Nat) (hcb : t.cb = .wany a is)
    (ha : a < k.actors.length) (hb : (k.actor a).blocked = true) :
    let k' := k.fire t
    k'.toRun = k.toRun ++ [a] ∧ (k'.actor a).res = .timeout ∧ (k'.actor a).blocked = false ∧ k'.bad = k.bad := by
  simp only [K.fire, hcb]
  -- unregistering touches neither actors_to_run_ nor `bad` nor whether `a` is in a simcall
  obtain ⟨h1, h2, h4⟩ :=
    ((Pre.eqOn K.toRun).and ((Pre.eqOn K.bad).and (Pre.eqOn fun k => (k.actor a).blocked))).foldl
      (f := fun k j => k.unregister j a) is
      (fun k j => ⟨rfl, rfl, by unfold K.unregister; exact actor_setActor_proj (·.blocked) _ a a _ (fun _ => rfl)⟩)
      (k.setActor a fun x => { x with tcb := none })
  have h3 := (shr_foldl_unregister is a (k.setActor a fun x => { x with tcb := none })).nact
  have hx : k.actors[a]? = some k.actors[a] := List.getElem?_eq_getElem ha
  have hb' : ((k.setActor a fun x => { x with tcb := none }).actor a).blocked = true := by
    simp only [K.actor, List.getD_eq_getElem?_getD, hx, Option.getD_some] at hb
    simp [K.actor, K.setActor, getElem?_upd_same, hx, hb]
  rw [hb'] at h4
  have hlen : a < (is.foldl (fun k j => k.unregister j a) (k.setActor a fun x => { x with tcb := none })).actors.length := by
    rw [h3]; simpa using ha
  simp only [setActor_toRun, setActor_bad] at h1 h2
  generalize (is.foldl (fun k j => k.unregister j a) (k.setActor a fun x => { x with tcb := none })) = k2 at *
  have hx2 : k2.actors[a]? = some k2.actors[a] := List.getElem?_eq_getElem hlen
  simp only [K.actor, List.getD_eq_getElem?_getD, hx2, Option.getD_some] at h4
  simp [K.answer, K.actor, K.setActor, getElem?_upd_same, hx2, h4, h1, h2]

end SgVerif.TimeCore
