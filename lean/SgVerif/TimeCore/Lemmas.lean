import SgVerif.TimeCore.Model
import SgVerif.Common.FoldMin
/-
The maestro loop of the time-core model: one induction principle per loop, `outer` cut into its phases (`outer_eq`),
and the invariants that need nothing about the kernel functions (monotone clock, sorted log); then what `upd`,
`K.setActor`, `K.setImpl` and `K.answer` do to each field, on which Frame and Reg build.
-/
namespace SgVerif.TimeCore

@[simp] theorem pick_now (n : Nat) (s : St) : (pick n s).2.now = s.now := by
  unfold pick; (repeat' split) <;> rfl
@[simp] theorem pick_log (n : Nat) (s : St) : (pick n s).2.log = s.log := by
  unfold pick; (repeat' split) <;> rfl
@[simp] theorem pick_k (n : Nat) (s : St) : (pick n s).2.k = s.k := by
  unfold pick; (repeat' split) <;> rfl
@[simp] theorem pick_fired (n : Nat) (s : St) : (pick n s).2.fired = s.fired := by
  unfold pick; (repeat' split) <;> rfl
@[simp] theorem pick_popped (n : Nat) (s : St) : (pick n s).2.popped = s.popped := by
  unfold pick; (repeat' split) <;> rfl
@[simp] theorem pick_done (n : Nat) (s : St) : (pick n s).2.done = s.done := by
  unfold pick; (repeat' split) <;> rfl

/-- the loop of `update_actions_state`: the oracle, the re-arming of a due latency entry, the completion of a due entry -/
theorem popWindow_ind {P : St → List HeapE → Prop}
    (hpick : ∀ m s re, P s re → P (pick m s).2 re)
    (hlat : ∀ s re j e, s.k.heap[j]? = some e → e.due s.now = true → e.lat = true → P s re →
      P { s with k := { s.k with heap := removeNth s.k.heap j }, popped := s.popped ++ [(s.now, e)] }
        (re ++ [{ e with lat := false, date := s.now + e.rem }]))
    (hfin : ∀ s re j e, s.k.heap[j]? = some e → e.due s.now = true → e.lat = false → P s re →
      P { s with
          k := { ({ s.k with heap := removeNth s.k.heap j } : K).setImpl e.impl (fun x => { x with act := .finished })
                 with doneQ := s.k.doneQ ++ [e.impl] },
          popped := s.popped ++ [(s.now, e)] } re)
    (n : Nat) (s : St) (re : List HeapE) (h : P s re) : P (popWindow n s re).1 (popWindow n s re).2 := by
  induction n generalizing s re with
  | zero => exact h
  | succ n ih =>
    unfold popWindow
    dsimp only []
    split
    · exact h
    · split
      · exact hpick _ s re h
      · rename_i j hj
        have hmem := List.mem_filter.mp (List.mem_of_getElem? hj)
        have hlt : j < s.k.heap.length := List.mem_range.mp hmem.1
        generalize ((List.range s.k.heap.length).filter fun j => (s.k.heap.getD j default).due s.now).length = m at hj ⊢
        have hp := hpick m s re h
        have ek := pick_k m s
        have en := pick_now m s
        generalize (pick m s).2 = s' at hp ek en ⊢
        have he : s'.k.heap[j]? = some (s'.k.heap.getD j default) := by
          rw [ek, List.getD_eq_getElem?_getD, List.getElem?_eq_getElem hlt]; rfl
        have hdue : (s'.k.heap.getD j default).due s'.now = true := by rw [ek, en]; exact hmem.2
        split
        · rename_i hl; exact ih _ _ (hlat s' re j _ he hdue hl hp)
        · rename_i hl; exact ih _ _ (hfin s' re j _ he hdue (by simpa using hl) hp)

theorem popWindow_keeps {β} (g : St → β) (hp : ∀ m s, g (pick m s).2 = g s)
    (hk : ∀ (s : St) k p, g { s with k := k, popped := p } = g s) (n : Nat) (s : St) (re : List HeapE) :
    g (popWindow n s re).1 = g s :=
  popWindow_ind (P := fun s' _ => g s' = g s) (fun m s' _ h => (hp m s').trans h)
    (fun s' _ _ _ _ _ _ h => (hk s' _ _).trans h) (fun s' _ _ _ _ _ _ h => (hk s' _ _).trans h) n s re rfl

theorem popWindow_now (n : Nat) (s : St) (re : List HeapE) : (popWindow n s re).1.now = s.now :=
  popWindow_keeps (·.now) pick_now (fun _ _ _ => rfl) n s re
theorem popWindow_log (n : Nat) (s : St) (re : List HeapE) : (popWindow n s re).1.log = s.log :=
  popWindow_keeps (·.log) pick_log (fun _ _ _ => rfl) n s re
theorem popWindow_fired (n : Nat) (s : St) (re : List HeapE) : (popWindow n s re).1.fired = s.fired :=
  popWindow_keeps (·.fired) pick_fired (fun _ _ _ => rfl) n s re
theorem popWindow_done (n : Nat) (s : St) (re : List HeapE) : (popWindow n s re).1.done = s.done :=
  popWindow_keeps (·.done) pick_done (fun _ _ _ => rfl) n s re

/-- the loop of `Timer::execute_all`: the oracle, popping and running a timer whose date is reached -/
theorem execAll_ind {P : St → Prop}
    (hpick : ∀ m s, P s → P (pick m s).2)
    (hfire : ∀ s j t, s.k.timers[j]? = some t → t.date ≤ s.now → P s →
      P { s with k := ({ s.k with timers := removeNth s.k.timers j } : K).fire t, fired := s.fired ++ [(s.now, t)] })
    (n : Nat) (s : St) (r : Bool) (h : P s) : P (execAll n s r).1 := by
  induction n generalizing s r with
  | zero => exact h
  | succ n ih =>
    unfold execAll
    dsimp only []
    split
    · exact h
    · rename_i top _
      split
      · exact h
      · rename_i hnow
        split
        · exact hpick _ s h
        · rename_i j hj
          have hmem := List.mem_filter.mp (List.mem_of_getElem? hj)
          have hlt : j < s.k.timers.length := List.mem_range.mp hmem.1
          generalize ((List.range s.k.timers.length).filter
            fun j => (s.k.timers.getD j default).date == top).length = m at hj ⊢
          have hp := hpick m s h
          have ek := pick_k m s
          have en := pick_now m s
          generalize (pick m s).2 = s' at hp ek en ⊢
          have he : s'.k.timers[j]? = some (s'.k.timers.getD j default) := by
            rw [ek, List.getD_eq_getElem?_getD, List.getElem?_eq_getElem hlt]; rfl
          have hd : (s'.k.timers.getD j default).date ≤ s'.now := by
            rw [ek, en, beq_iff_eq.mp hmem.2]; exact Rat.not_lt.mp hnow
          exact ih _ _ (hfire s' j _ he hd hp)

theorem execAll_done (n : Nat) (s : St) (r : Bool) : (execAll n s r).1.done = s.done :=
  execAll_ind (P := fun s' => s'.done = s.done) (fun m s' h => (pick_done m s').trans h) (fun _ _ _ _ _ h => h) n s r rfl

theorem timersLoop_ind {P : St → Prop}
    (hpick : ∀ m s, P s → P (pick m s).2)
    (hfire : ∀ s j t, s.k.timers[j]? = some t → t.date ≤ s.now → P s →
      P { s with k := ({ s.k with timers := removeNth s.k.timers j } : K).fire t, fired := s.fired ++ [(s.now, t)] })
    (hended : ∀ s, P s → P { s with k := s.k.handleEndedAll s.now })
    (n : Nat) (s : St) (h : P s) : P (timersLoop n s) := by
  induction n generalizing s with
  | zero => exact h
  | succ n ih =>
    unfold timersLoop
    dsimp only []
    have h1 := hended _ (execAll_ind hpick hfire s.k.timers.length s false h)
    split
    · exact ih _ h1
    · exact h1

theorem timersLoop_keeps {β} (g : St → β) (hp : ∀ m s, g (pick m s).2 = g s)
    (hk : ∀ (s : St) k f, g { s with k := k, fired := f } = g s) (n : Nat) (s : St) : g (timersLoop n s) = g s :=
  timersLoop_ind (P := fun s' => g s' = g s) (fun m s' h => (hp m s').trans h)
    (fun s' _ _ _ _ h => (hk s' _ _).trans h) (fun s' h => (hk s' _ s'.fired).trans h) n s rfl

theorem timersLoop_now (n : Nat) (s : St) : (timersLoop n s).now = s.now :=
  timersLoop_keeps (·.now) pick_now (fun _ _ _ => rfl) n s
theorem timersLoop_log (n : Nat) (s : St) : (timersLoop n s).log = s.log :=
  timersLoop_keeps (·.log) pick_log (fun _ _ _ => rfl) n s
theorem timersLoop_done (n : Nat) (s : St) : (timersLoop n s).done = s.done :=
  timersLoop_keeps (·.done) pick_done (fun _ _ _ => rfl) n s

theorem run_ind {P : St → Prop} (hstep : ∀ s, P s → P (step s)) (n : Nat) (s : St) (h : P s) : P (run n s) := by
  induction n generalizing s with
  | zero => exact h
  | succ n ih => exact ih _ (hstep s h)

theorem step_ind {P : St → Prop} {s : St} (houter : P s → P (outer s)) (hsub : P s → P (subround s)) (h : P s) :
    P (step s) := by
  unfold step
  split
  · exact h
  · split
    · exact houter h
    · exact hsub h

/-! `outer` in three phases under names, equal to it by `rfl` (`outer_eq`, the first step of every `step_*` proof):
`solveStep` on the step `outerDelta`, the timers loop, `outerTail`; `outerPast` is the `xbt_assert` of `solve` -/

def outerDelta (s : St) : Option Rat :=
  timeDelta s.now (minDate (s.k.timers.map (·.date))) (minDate (s.k.heap.map (·.date)))

def outerPast (s : St) : Bool :=
  match minDate (s.k.timers.map (·.date)) with | some t => decide (t < s.now) | none => false

/-- `solve`: advance the clock by `d` and update the actions -/
def solveStep (s : St) : Option Rat → St
  | none => s
  | some d =>
    let s := { s with now := s.now + d }
    let r := popWindow s.k.heap.length s []
    { r.1 with k := { r.1.k with heap := r.1.k.heap ++ r.2 } }

def outerTail (s : St) (delta : Option Rat) : St :=
  let s := if delta.isNone && s.k.toRun.isEmpty && !s.k.alive.isEmpty then
      { s with k := s.k.alive.foldl (fun k a => k.kill a) s.k }
    else s
  if delta.isNone && s.k.toRun.isEmpty then { s with done := true } else s

theorem outer_eq (s : St) : outer s =
    match outerPast s with
    | true => { s with k := { s.k with bad := some "solve: xbt_assert(max_date >= now_)" } }
    | false =>
      let s1 := solveStep s (outerDelta s)
      outerTail (timersLoop (s1.k.timers.length + 1) s1) (outerDelta s) := rfl

/-- the deadlock / termination phase: maestro kills every actor, the `done` flag is raised -/
theorem outerTail_ind {P : St → Prop}
    (hkill : ∀ s, P s → P { s with k := s.k.alive.foldl (fun k a => k.kill a) s.k })
    (hdone : ∀ s, P s → P { s with done := true }) (s : St) (dl : Option Rat) (h : P s) : P (outerTail s dl) := by
  unfold outerTail
  dsimp only []
  split
  · split
    · exact hdone _ (hkill _ h)
    · exact hkill _ h
  · split
    · exact hdone _ h
    · exact h

theorem outerTail_keeps {β} (g : St → β) (hk : ∀ (s : St) k d, g { s with k := k, done := d } = g s)
    (s : St) (dl : Option Rat) : g (outerTail s dl) = g s :=
  outerTail_ind (P := fun s' => g s' = g s) (fun s' h => (hk s' _ s'.done).trans h)
    (fun s' h => (hk s' s'.k _).trans h) s dl rfl

/-- `minDate` adds one candidate at a time -/
theorem minDate_minOf : ∀ l : List Rat, MinOf (· ∈ l) (minDate l)
  | [] => minOf_none.congr fun _ => ⟨False.elim, fun h => nomatch h⟩
  | d :: ds => by
    have h := ((minDate_minOf ds).insert d).congr (C' := (· ∈ d :: ds)) fun t => by
      rw [List.mem_cons, or_comm, eq_comm]
    rw [minDate]
    cases hm : minDate ds <;> rw [hm] at h <;> exact h

theorem minDate_le (l : List Rat) (m : Rat) (h : minDate l = some m) : ∀ x ∈ l, m ≤ x :=
  ((minDate_minOf l).2 m h).2

theorem minDate_mem (l : List Rat) (m : Rat) (h : minDate l = some m) : m ∈ l :=
  ((minDate_minOf l).2 m h).1

theorem minDate_none {l : List Rat} (h : minDate l = none) : l = [] :=
  List.eq_nil_iff_forall_not_mem.mpr ((minDate_minOf l).1 h)

theorem minDate_map_ge {α} (f : α → Rat) {l : List α} {b : Rat} (h : ∀ m, minDate (l.map f) = some m → b ≤ m) :
    ∀ x ∈ l, b ≤ f x := by
  intro x hx
  cases hm : minDate (l.map f) with
  | none => rw [List.map_eq_nil_iff.mp (minDate_none hm)] at hx; cases hx
  | some m => exact Rat.le_trans (h m hm) (minDate_le _ _ hm _ (List.mem_map.mpr ⟨x, hx, rfl⟩))

theorem timeDelta_some {now : Rat} {tnext top : Option Rat} {d : Rat} (h : timeDelta now tnext top = some d) :
    (tnext = some (now + d) ∨ (top = some (now + d) ∧ 0 ≤ d)) ∧ (∀ t, tnext = some t → now + d ≤ t) ∧
    (∀ x, top = some x → now ≤ x → now + d ≤ x) := by
  unfold timeDelta at h
  cases tnext <;> cases top <;> simp only [Option.map] at h <;> grind

theorem timeDelta_none {now : Rat} {tnext top : Option Rat} (h : timeDelta now tnext top = none) :
    tnext = none ∧ ∀ x, top = some x → x < now := by
  unfold timeDelta at h
  cases tnext <;> cases top <;> simp only [Option.map] at h <;> grind

/-- `time_delta >= 0`: with `max_date >= now_` (the `xbt_assert` of `solve`) and the `next_event >= 0.0` test. -/
theorem timeDelta_nonneg (now : Rat) (tnext top : Option Rat) (d : Rat)
    (ht : ∀ t, tnext = some t → now ≤ t) (h : timeDelta now tnext top = some d) : 0 ≤ d := by
  rcases (timeDelta_some h).1 with h1 | h1
  · have := ht _ h1; grind
  · exact h1.2

theorem outerPast_false {s : St} (h : outerPast s = false) : ∀ t ∈ s.k.timers, s.now ≤ t.date :=
  minDate_map_ge _ fun m hm => by
    unfold outerPast at h; rw [hm] at h
    exact Rat.not_lt.mp (of_decide_eq_false h)

theorem solveStep_now (s : St) (d : Rat) : (solveStep s (some d)).now = s.now + d :=
  popWindow_now _ _ _

theorem outerDelta_some {s : St} {d : Rat} (hp : ∀ t ∈ s.k.timers, s.now ≤ t.date) (hd : outerDelta s = some d) :
    0 ≤ d ∧ ∀ t ∈ s.k.timers, s.now + d ≤ t.date := by
  refine ⟨timeDelta_nonneg _ _ _ _ (fun m hm => ?_) hd, minDate_map_ge _ (timeDelta_some hd).2.1⟩
  obtain ⟨t, ht, rfl⟩ := List.mem_map.mp (minDate_mem _ _ hm)
  exact hp t ht

theorem outer_now (s : St) :
    (outer s).now = s.now ∨
    ∃ d, 0 ≤ d ∧ (∀ t ∈ s.k.timers, s.now + d ≤ t.date) ∧ (outer s).now = s.now + d := by
  rw [outer_eq]
  split
  · exact Or.inl rfl
  · rename_i hp
    dsimp only []
    rw [outerTail_keeps (·.now) (fun _ _ _ => rfl), timersLoop_now]
    cases hd : outerDelta s with
    | none => exact Or.inl rfl
    | some d =>
      obtain ⟨h0, ht⟩ := outerDelta_some (outerPast_false hp) hd
      exact Or.inr ⟨d, h0, ht, solveStep_now s d⟩

theorem outer_log (s : St) : (outer s).log = s.log := by
  rw [outer_eq]
  split
  · rfl
  · simp only []
    rw [outerTail_keeps (·.log) (fun _ _ _ => rfl), timersLoop_log]
    cases outerDelta s with
    | none => rfl
    | some d => exact popWindow_log _ _ _

theorem outer_now_le (s : St) : s.now ≤ (outer s).now := by
  rcases outer_now s with h | ⟨d, h0, _, h⟩ <;> rw [h]
  · exact Rat.le_refl
  · grind

theorem outer_now_le_timer (s : St) (t : Timer) (ht : t ∈ s.k.timers) (hf : s.now ≤ t.date) :
    (outer s).now ≤ t.date := by
  rcases outer_now s with h | ⟨d, _, hd, h⟩ <;> rw [h]
  · exact hf
  · exact hd t ht

theorem subround_now (s : St) : (subround s).now = s.now := rfl

/-- stamps of the log are sorted and none is in the future -/
def LogInv (s : St) : Prop := (∀ e ∈ s.log, e.1 ≤ s.now) ∧ s.log.Pairwise (fun a b => a.1 ≤ b.1)

theorem step_logInv (s : St) (h : LogInv s) : LogInv (step s) := by
  refine step_ind (fun h => ?_) (fun h => ?_) h
  · unfold LogInv; rw [outer_log]
    exact ⟨fun e he => Rat.le_trans (h.1 e he) (outer_now_le s), h.2⟩
  · have hl : (subround s).log = s.log ++ _ := rfl
    unfold LogInv
    rw [hl, subround_now, List.pairwise_append]
    refine ⟨fun e he => ?_, h.2, ?_, fun a ha b hb => ?_⟩
    · rcases List.mem_append.mp he with he | he
      · exact h.1 e he
      · obtain ⟨x, _, rfl⟩ := List.mem_map.mp he; exact Rat.le_refl
    · exact List.pairwise_map.mpr (List.pairwise_of_forall (fun _ _ => Rat.le_refl))
    · obtain ⟨x, _, rfl⟩ := List.mem_map.mp hb
      exact h.1 a ha

theorem run_logInv (n : Nat) (s : St) (h : LogInv s) : LogInv (run n s) := run_ind step_logInv n s h

theorem initSt_logInv (progs : List (List Op)) (ties : List Nat) : LogInv (initSt progs ties) := by
  simp [LogInv, initSt]

theorem upd_eq_modify {α} (l : List α) (i : Nat) (f : α → α) : upd l i f = l.modify i f := by
  induction l generalizing i with
  | nil => cases i <;> rfl
  | cons x xs ih => cases i with
    | zero => rfl
    | succ n => rw [upd, ih, List.modify_succ_cons]

theorem upd_length {α} (l : List α) (i : Nat) (f : α → α) : (upd l i f).length = l.length := by
  rw [upd_eq_modify, List.length_modify]

theorem getElem?_upd {α} (l : List α) (i j : Nat) (f : α → α) :
    (upd l i f)[j]? = l[j]?.map fun a => if i = j then f a else a := by
  rw [upd_eq_modify, List.getElem?_modify]; rfl

theorem getElem?_upd_same {α} (l : List α) (i : Nat) (f : α → α) :
    (upd l i f)[i]? = l[i]?.map f := by
  rw [getElem?_upd]; simp

theorem getD_upd {α} (l : List α) (i j : Nat) (f : α → α) (d : α) :
    (upd l i f).getD j d = if j = i ∧ i < l.length then f (l.getD i d) else l.getD j d := by
  rw [List.getD_eq_getElem?_getD, getElem?_upd, List.getD_eq_getElem?_getD, List.getD_eq_getElem?_getD]
  by_cases hb : j = i
  · subst hb
    by_cases hl : j < l.length <;> simp [hl]
  · simp [hb, Ne.symm hb]

theorem upd_of_ge {α} (l : List α) (i : Nat) (f : α → α) (h : l.length ≤ i) : upd l i f = l := by
  rw [upd_eq_modify]; exact List.modify_eq_self h

theorem map_upd_inv {α β} (g : α → β) (l : List α) (i : Nat) (f : α → α) (hf : ∀ x, g (f x) = g x) :
    (upd l i f).map g = l.map g := by
  apply List.ext_getElem?
  intro j
  rw [List.getElem?_map, getElem?_upd, List.getElem?_map, Option.map_map]
  congr 1; funext a; simp only [Function.comp]; split <;> simp [hf]

theorem mem_upd {α} (l : List α) (i : Nat) (f : α → α) (x : α) (h : x ∈ upd l i f) : x ∈ l ∨ ∃ y ∈ l, x = f y := by
  obtain ⟨j, hj⟩ := List.mem_iff_getElem?.mp h
  rw [getElem?_upd] at hj
  obtain ⟨a, ha, e⟩ := Option.map_eq_some_iff.mp hj
  have hm := List.mem_of_getElem? ha
  split at e
  · exact .inr ⟨a, hm, e.symm⟩
  · exact .inl (e ▸ hm)

theorem actor_setActor (k : K) (a b : Nat) (f : Actor → Actor) :
    (k.setActor a f).actor b = if b = a ∧ a < k.actors.length then f (k.actor a) else k.actor b := by
  unfold K.actor K.setActor; exact getD_upd _ _ _ _ _

theorem impl_setImpl (k : K) (i j : Nat) (f : Impl → Impl) :
    (k.setImpl i f).impl j = if j = i ∧ i < k.impls.length then f (k.impl i) else k.impl j := by
  unfold K.impl K.setImpl; exact getD_upd _ _ _ _ _

@[simp] theorem actor_setActor_same (k : K) (a : Nat) (f : Actor → Actor) (h : a < k.actors.length) :
    (k.setActor a f).actor a = f (k.actor a) := by
  rw [actor_setActor, if_pos ⟨rfl, h⟩]

@[simp] theorem impl_setImpl_same (k : K) (i : Nat) (f : Impl → Impl) (h : i < k.impls.length) :
    (k.setImpl i f).impl i = f (k.impl i) := by
  rw [impl_setImpl, if_pos ⟨rfl, h⟩]

theorem actor_setActor_ne (k : K) (a b : Nat) (f : Actor → Actor) (h : b ≠ a) :
    (k.setActor a f).actor b = k.actor b := by
  rw [actor_setActor, if_neg fun e => h e.1]

theorem impl_setImpl_ne (k : K) (i j : Nat) (f : Impl → Impl) (h : j ≠ i) :
    (k.setImpl i f).impl j = k.impl j := by
  rw [impl_setImpl, if_neg fun e => h e.1]

@[simp] theorem impl_setActor (k : K) (a i : Nat) (f : Actor → Actor) : (k.setActor a f).impl i = k.impl i := rfl
@[simp] theorem actor_setImpl (k : K) (a i : Nat) (f : Impl → Impl) : (k.setImpl i f).actor a = k.actor a := rfl
@[simp] theorem setActor_actors_length (k : K) (a : Nat) (f : Actor → Actor) :
    (k.setActor a f).actors.length = k.actors.length := by simp [K.setActor, upd_length]
@[simp] theorem setImpl_actors (k : K) (i : Nat) (f : Impl → Impl) : (k.setImpl i f).actors = k.actors := rfl
@[simp] theorem setImpl_impls_length (k : K) (i : Nat) (f : Impl → Impl) :
    (k.setImpl i f).impls.length = k.impls.length := by simp [K.setImpl, upd_length]
@[simp] theorem setActor_impls (k : K) (a : Nat) (f : Actor → Actor) : (k.setActor a f).impls = k.impls := rfl

@[simp] theorem setActor_toRun (k : K) (a : Nat) (f : Actor → Actor) : (k.setActor a f).toRun = k.toRun := rfl
@[simp] theorem setActor_bad (k : K) (a : Nat) (f : Actor → Actor) : (k.setActor a f).bad = k.bad := rfl
@[simp] theorem setActor_heap (k : K) (a : Nat) (f : Actor → Actor) : (k.setActor a f).heap = k.heap := rfl
@[simp] theorem setActor_timers (k : K) (a : Nat) (f : Actor → Actor) : (k.setActor a f).timers = k.timers := rfl
@[simp] theorem setActor_failedQ (k : K) (a : Nat) (f : Actor → Actor) : (k.setActor a f).failedQ = k.failedQ := rfl
@[simp] theorem setActor_doneQ (k : K) (a : Nat) (f : Actor → Actor) : (k.setActor a f).doneQ = k.doneQ := rfl
@[simp] theorem setImpl_toRun (k : K) (i : Nat) (f : Impl → Impl) : (k.setImpl i f).toRun = k.toRun := rfl
@[simp] theorem setImpl_bad (k : K) (i : Nat) (f : Impl → Impl) : (k.setImpl i f).bad = k.bad := rfl
@[simp] theorem setImpl_heap (k : K) (i : Nat) (f : Impl → Impl) : (k.setImpl i f).heap = k.heap := rfl
@[simp] theorem setImpl_timers (k : K) (i : Nat) (f : Impl → Impl) : (k.setImpl i f).timers = k.timers := rfl
@[simp] theorem setImpl_failedQ (k : K) (i : Nat) (f : Impl → Impl) : (k.setImpl i f).failedQ = k.failedQ := rfl
@[simp] theorem setImpl_doneQ (k : K) (i : Nat) (f : Impl → Impl) : (k.setImpl i f).doneQ = k.doneQ := rfl

/-! `simcall_answer` writes the actor's record, actors_to_run_ (or `bad`) and nothing else -/

@[simp] theorem answer_timers (k : K) (a : Nat) : (k.answer a).timers = k.timers := by
  unfold K.answer; split <;> rfl
@[simp] theorem answer_heap (k : K) (a : Nat) : (k.answer a).heap = k.heap := by unfold K.answer; split <;> rfl
@[simp] theorem impl_answer (k : K) (a i : Nat) : (k.answer a).impl i = k.impl i := by unfold K.answer; split <;> rfl

theorem answer_of_blocked {k : K} {a : Nat} (hb : (k.actor a).blocked = true) :
    k.answer a = { k.setActor a (fun x => { x with blocked := false }) with toRun := k.toRun ++ [a] } := by
  unfold K.answer; rw [if_pos hb]

theorem answer_wakes {k : K} {a : Nat} (hb : (k.actor a).blocked = true) (ha : a < k.actors.length) :
    a ∈ (k.answer a).toRun ∧ (k.answer a).actor a = { k.actor a with blocked := false } := by
  rw [answer_of_blocked hb]
  exact ⟨by simp, actor_setActor_same k a _ ha⟩

end SgVerif.TimeCore
