import SgVerif.TimeCore.Lemmas
import SgVerif.Common.Fold
/-
Frame lemmas of the kernel functions of the time-core model: what each function can NOT do.  `Shr k k'` ("k' shrinks
k") holds of the functions that answer, end or remove something; those that create (`K.register`, `K.timerSet`,
`K.newImpl`, `K.issue`, hence `K.handle` and an actor's slice) and `K.handleEnded`, which stamps the finish time, do not
satisfy it: `cancel_ind`, `handle_ind` and `slice_ind` say of which elementary steps they are made.
-/
namespace SgVerif.TimeCore

/-- the records `K.actor` / `K.impl` answer for an index out of range, under a name -/
def dfltActor : Actor := { prog := [], alive := false }
def dfltImpl : Impl := { kind := .exec, st := .failed }

theorem actor_of_ge (k : K) (a : Nat) (h : k.actors.length ≤ a) : k.actor a = dfltActor := by
  unfold K.actor dfltActor; simp [List.getD_eq_getElem?_getD, List.getElem?_eq_none h]

/-- an actor whose record differs from the default one exists -/
theorem lt_of_actor_ne {β} (g : Actor → β) {k : K} {a : Nat} {v : β} (h : g (k.actor a) = v) (hv : v ≠ g dfltActor) :
    a < k.actors.length :=
  Nat.lt_of_not_le fun hge => hv (by rw [← h, actor_of_ge k a hge])

theorem impl_of_ge (k : K) (i : Nat) (h : k.impls.length ≤ i) : k.impl i = dfltImpl := by
  unfold K.impl dfltImpl; simp [List.getD_eq_getElem?_getD, List.getElem?_eq_none h]

theorem setActor_of_ge (k : K) (a : Nat) (f : Actor → Actor) (h : k.actors.length ≤ a) : k.setActor a f = k := by
  unfold K.setActor; rw [upd_of_ge _ _ _ h]

theorem setImpl_of_ge (k : K) (i : Nat) (f : Impl → Impl) (h : k.impls.length ≤ i) : k.setImpl i f = k := by
  unfold K.setImpl; rw [upd_of_ge _ _ _ h]

theorem actor_setActor_proj {β} (g : Actor → β) (k : K) (a b : Nat) (f : Actor → Actor) (hf : ∀ x, g (f x) = g x) :
    g ((k.setActor a f).actor b) = g (k.actor b) := by
  rw [actor_setActor]; split
  · rename_i h; rw [hf, h.1]
  · rfl

theorem impl_setImpl_proj {β} (g : Impl → β) (k : K) (i j : Nat) (f : Impl → Impl) (hf : ∀ x, g (f x) = g x) :
    g ((k.setImpl i f).impl j) = g (k.impl j) := by
  rw [impl_setImpl]; split
  · rename_i h; rw [hf, h.1]
  · rfl

theorem removeNth_eq_eraseIdx {α} (l : List α) (n : Nat) : removeNth l n = l.eraseIdx n := by
  induction l generalizing n with
  | nil => rfl
  | cons x xs ih => cases n with
    | zero => rfl
    | succ n => rw [removeNth, ih, List.eraseIdx_cons_succ]

theorem removeNth_sublist {α} (l : List α) (n : Nat) : (removeNth l n).Sublist l :=
  removeNth_eq_eraseIdx l n ▸ List.eraseIdx_sublist l n

theorem mem_of_mem_removeNth {α} (l : List α) (n : Nat) (x : α) (h : x ∈ removeNth l n) : x ∈ l :=
  (removeNth_sublist l n).subset h

/-- kind / start / finish of an impl: never rewritten after creation except `finish` by `handle_ended_actions` -/
def Impl.sfk (x : Impl) : Kind × Rat × Rat := (x.kind, x.start, x.finish)

/-- what `K.slice` guarantees about the simcalls it issues (`s4u::this_actor::sleep_for`: `if (duration <= 0) return;`,
the op language starts only activities of non-negative duration, a comm lasts longer than its link's latency) -/
def ReqOk : Req → Prop
  | .sleep d => 0 < d
  | .start _ kind d => 0 ≤ d ∧ (kind = .comm → linkLat < d)
  | _ => True

/-- pending simcall of an actor: unchanged, consumed, or some well-formed request (a case no function proved `Shr` below
produces: issuing is not `Shr`) -/
def PendFr (p p' : Option Req) : Prop := p' = p ∨ p' = none ∨ ∃ r, p' = some r ∧ ReqOk r

theorem PendFr.trans {p1 p2 p3 : Option Req} (h1 : PendFr p1 p2) (h2 : PendFr p2 p3) : PendFr p1 p3 := by
  rcases h2 with h | h | h
  · rw [h]; exact h1
  · exact Or.inr (Or.inl h)
  · exact Or.inr (Or.inr h)

/-- `run`: actors_to_run_ gains only actors that are dying or not in a simcall (`K.answer`, `K.addToRun`) -/
structure Shr (k k' : K) : Prop where
  timers : k'.timers.Sublist k.timers
  heap : k'.heap.Sublist k.heap
  nextT : k'.nextT = k.nextT
  sfk : k'.impls.map Impl.sfk = k.impls.map Impl.sfk
  nact : k'.actors.length = k.actors.length
  pend : ∀ a, PendFr (k.actor a).pending (k'.actor a).pending
  wd : ∀ a, (k.actor a).wannadie = true → (k'.actor a).wannadie = true
  wait : ∀ a, (k.actor a).waiting = [] → (k'.actor a).waiting = []
  blk : ∀ a, (k.actor a).blocked = false → (k'.actor a).blocked = false
  run : ∀ a ∈ k'.toRun, a ∈ k.toRun ∨ (k'.actor a).wannadie = true ∨ (k'.actor a).blocked = false
  pnone : ∀ a, (k.actor a).pending = none → (k'.actor a).pending = none

/-- the three fields of `Shr` about actors_to_run_: `K.register`, `K.timerSet`, `K.handle` keep these though not `Shr` -/
structure RunFr (k k' : K) : Prop where
  wd : ∀ a, (k.actor a).wannadie = true → (k'.actor a).wannadie = true
  blk : ∀ a, (k.actor a).blocked = false → (k'.actor a).blocked = false
  run : ∀ a ∈ k'.toRun, a ∈ k.toRun ∨ (k'.actor a).wannadie = true ∨ (k'.actor a).blocked = false

theorem Shr.runFr {k k' : K} (s : Shr k k') : RunFr k k' := ⟨s.wd, s.blk, s.run⟩

theorem RunFr.refl (k : K) : RunFr k k := ⟨fun _ h => h, fun _ h => h, fun _ h => Or.inl h⟩

theorem RunFr.trans {k1 k2 k3 : K} (h1 : RunFr k1 k2) (h2 : RunFr k2 k3) : RunFr k1 k3 :=
  ⟨fun a h => h2.wd a (h1.wd a h), fun a h => h2.blk a (h1.blk a h), fun a ha => by
     rcases h2.run a ha with h | h
     · rcases h1.run a h with h' | h' | h'
       · exact Or.inl h'
       · exact Or.inr (Or.inl (h2.wd a h'))
       · exact Or.inr (Or.inr (h2.blk a h'))
     · exact Or.inr h⟩

theorem shr_of (k k' : K) (h1 : k'.timers.Sublist k.timers) (h2 : k'.heap.Sublist k.heap) (h3 : k'.nextT = k.nextT)
    (h4 : k'.impls = k.impls) (h5 : k'.actors = k.actors)
    (h6 : ∀ a ∈ k'.toRun, a ∈ k.toRun ∨ (k.actor a).wannadie = true ∨ (k.actor a).blocked = false := by
      exact fun _ h => Or.inl h) : Shr k k' :=
  have e : ∀ a, k'.actor a = k.actor a := fun a => by unfold K.actor; rw [h5]
  ⟨h1, h2, h3, by rw [h4], by rw [h5], fun a => Or.inl (by rw [e]), fun a => by rw [e]; exact id,
   fun a => by rw [e]; exact id, fun a => by rw [e]; exact id, fun a ha => by rw [e]; exact h6 a ha,
   fun a => by rw [e]; exact id⟩

theorem Shr.refl (k : K) : Shr k k := shr_of k k (List.Sublist.refl _) (List.Sublist.refl _) rfl rfl rfl

theorem shr_clearRun (k : K) : Shr k { k with toRun := [] } :=
  shr_of _ _ (List.Sublist.refl _) (List.Sublist.refl _) rfl rfl rfl (fun _ h => by cases h)

theorem shr_pushRun (k : K) (a : Nat) (h : (k.actor a).wannadie = true ∨ (k.actor a).blocked = false) :
    Shr k { k with toRun := k.toRun ++ [a] } :=
  shr_of _ _ (List.Sublist.refl _) (List.Sublist.refl _) rfl rfl rfl fun b hb =>
    (List.mem_append.mp hb).elim Or.inl fun hb => by rw [List.mem_singleton.mp hb]; exact Or.inr h

theorem Shr.trans {k1 k2 k3 : K} (h1 : Shr k1 k2) (h2 : Shr k2 k3) : Shr k1 k3 :=
  ⟨h2.timers.trans h1.timers, h2.heap.trans h1.heap, h2.nextT.trans h1.nextT, h2.sfk.trans h1.sfk,
   h2.nact.trans h1.nact, fun a => (h1.pend a).trans (h2.pend a), fun a h => h2.wd a (h1.wd a h), fun a h => h2.wait a (h1.wait a h),
   fun a h => h2.blk a (h1.blk a h), (h1.runFr.trans h2.runFr).run, fun a h => h2.pnone a (h1.pnone a h)⟩

theorem Shr.nimpl {k k' : K} (h : Shr k k') : k'.impls.length = k.impls.length := by
  have := congrArg List.length h.sfk; simpa using this

theorem Shr.impl_sfk {k k' : K} (h : Shr k k') (i : Nat) : (k'.impl i).sfk = (k.impl i).sfk := by
  have := congrArg (fun l => l[i]?.getD dfltImpl.sfk) h.sfk
  simp only [List.getElem?_map] at this
  unfold K.impl
  rw [List.getD_eq_getElem?_getD, List.getD_eq_getElem?_getD, ← Option.getD_map Impl.sfk, ← Option.getD_map Impl.sfk]
  exact this

theorem Shr.start {k k' : K} (h : Shr k k') (i : Nat) : (k'.impl i).start = (k.impl i).start := by
  have := h.impl_sfk i; unfold Impl.sfk at this; injection this with _ h2; injection h2
theorem Shr.finish {k k' : K} (h : Shr k k') (i : Nat) : (k'.impl i).finish = (k.impl i).finish := by
  have := h.impl_sfk i; unfold Impl.sfk at this; injection this with _ h2; injection h2
theorem Shr.kind {k k' : K} (h : Shr k k') (i : Nat) : (k'.impl i).kind = (k.impl i).kind := by
  have := h.impl_sfk i; unfold Impl.sfk at this; injection this

theorem actor_setActor_rel {R : Actor → Actor → Prop} (hr : ∀ x, R x x) (k : K) (a b : Nat) (f : Actor → Actor)
    (hf : ∀ x, R x (f x)) : R (k.actor b) ((k.setActor a f).actor b) := by
  rw [actor_setActor]; split
  · rename_i h; rw [h.1]; exact hf _
  · exact hr _

theorem shr_setActor (k : K) (a : Nat) (f : Actor → Actor)
    (hf : ∀ x, PendFr x.pending (f x).pending ∧ (x.wannadie = true → (f x).wannadie = true) ∧
      (x.waiting = [] → (f x).waiting = []) ∧ (x.blocked = false → (f x).blocked = false) ∧
      (x.pending = none → (f x).pending = none)) :
    Shr k (k.setActor a f) :=
  have h := fun b => actor_setActor_rel (R := fun x y => PendFr x.pending y.pending ∧
    (x.wannadie = true → y.wannadie = true) ∧ (x.waiting = [] → y.waiting = []) ∧
    (x.blocked = false → y.blocked = false) ∧ (x.pending = none → y.pending = none))
    (fun _ => ⟨Or.inl rfl, id, id, id, id⟩) k a b f hf
  ⟨List.Sublist.refl _, List.Sublist.refl _, rfl, rfl, by simp, fun b => (h b).1, fun b => (h b).2.1,
   fun b => (h b).2.2.1, fun b => (h b).2.2.2.1, fun _ h => Or.inl h, fun b => (h b).2.2.2.2⟩

/-- the fields of an actor's record that `Shr` watches -/
def Actor.sched (x : Actor) : Option Req × Bool × List Nat × Bool := (x.pending, x.wannadie, x.waiting, x.blocked)

theorem shr_setActor_keep (k : K) (a : Nat) (f : Actor → Actor) (hf : ∀ x, (f x).sched = x.sched) :
    Shr k (k.setActor a f) :=
  shr_setActor k a f fun x => by
    have h := hf x
    simp only [Actor.sched, Prod.mk.injEq] at h
    obtain ⟨h1, h2, h3, h4⟩ := h
    rw [h1, h2, h3, h4]; exact ⟨Or.inl rfl, id, id, id, id⟩

theorem shr_setImpl (k : K) (i : Nat) (f : Impl → Impl) (hf : ∀ x, (f x).sfk = x.sfk) : Shr k (k.setImpl i f) :=
  ⟨List.Sublist.refl _, List.Sublist.refl _, rfl, by simp [K.setImpl, map_upd_inv _ _ _ _ hf], rfl, fun _ => Or.inl rfl, fun _ h => h, fun _ h => h, fun _ h => h,
   fun _ h => Or.inl h, fun _ h => h⟩

theorem shr_popHeap (k : K) (j : Nat) : Shr k { k with heap := removeNth k.heap j } :=
  shr_of _ _ (List.Sublist.refl _) (removeNth_sublist _ _) rfl rfl rfl

theorem shr_popTimer (k : K) (j : Nat) : Shr k { k with timers := removeNth k.timers j } :=
  shr_of _ _ (removeNth_sublist _ _) (List.Sublist.refl _) rfl rfl rfl

theorem shr_actionDone (k : K) (i : Nat) :
    Shr k { k.setImpl i (fun x => { x with act := .finished }) with doneQ := k.doneQ ++ [i] } :=
  (shr_setImpl k i (fun x => { x with act := .finished }) (fun _ => rfl)).trans
    (shr_of _ _ (List.Sublist.refl _) (List.Sublist.refl _) rfl rfl rfl)

theorem shr_answer (k : K) (a : Nat) : Shr k (k.answer a) := by
  unfold K.answer; split
  · refine (shr_setActor k a (fun x => { x with blocked := false }) (by intro _; exact ⟨Or.inl rfl, id, id, fun _ => rfl, id⟩)).trans (shr_pushRun _ a ?_)
    right
    rw [actor_setActor]; split
    · rfl
    · rename_i hb hn
      simp only [true_and, Nat.not_lt] at hn
      rw [actor_of_ge _ _ hn]; rfl
  · exact shr_of _ _ (List.Sublist.refl _) (List.Sublist.refl _) rfl rfl rfl

theorem shr_unregister (k : K) (i a : Nat) : Shr k (k.unregister i a) := by
  unfold K.unregister
  exact (shr_setImpl k i _ (by intro _; rfl)).trans (shr_setActor _ a _ (by intro _; exact ⟨Or.inl rfl, id, fun h => by simp [h], id, id⟩))

theorem shr_timerRemove (k : K) (id : Nat) : Shr k (k.timerRemove id) :=
  shr_of _ _ (List.filter_sublist) (List.Sublist.refl _) rfl rfl rfl

theorem Shr.pre : Pre Shr := ⟨Shr.refl, Shr.trans⟩

theorem shr_foldl_unregister (l : List Nat) (a : Nat) (k : K) :
    Shr k (l.foldl (fun k j => k.unregister j a) k) :=
  Shr.pre.foldl l (fun k j => shr_unregister k j a) k

/-- `unregister_first_simcall` in three stages -/
def K.uf1 (k : K) (i a : Nat) : K :=
  (k.setImpl i (fun x => { x with simcalls := x.simcalls.drop 1 })).setActor a
    (fun x => { x with waiting := x.waiting.erase i })
def K.uf2 (k : K) (a : Nat) : K :=
  match (k.actor a).tcb with
  | some t => (k.timerRemove t).setActor a (fun x => { x with tcb := none })
  | none => k
def K.uf3 (k : K) (i a : Nat) : K :=
  if (k.actor a).anyList.isEmpty then k else
    ((k.actor a).anyList.foldl (fun k j => k.unregister j a) k).setActor a
      (fun x => { x with res := .rank (rankOf (k.actor a).anyList i) })
def K.ufAll (k : K) (i a : Nat) : K := ((k.uf1 i a).uf2 a).uf3 i a

theorem unregisterFirst_eq (k : K) (i a : Nat) :
    k.unregisterFirst i a =
      (k.ufAll i a, ((k.ufAll i a).actor a).blocked && !((k.ufAll i a).actor a).wannadie) := by
  unfold K.unregisterFirst K.ufAll
  dsimp only []
  show (if (!(((k.uf1 i a).uf2 a).uf3 i a |>.actor a).blocked) = true then ((((k.uf1 i a).uf2 a).uf3 i a), false)
        else if ((((k.uf1 i a).uf2 a).uf3 i a).actor a).wannadie = true then ((((k.uf1 i a).uf2 a).uf3 i a), false)
        else ((((k.uf1 i a).uf2 a).uf3 i a), true)) = _
  cases h1 : ((((k.uf1 i a).uf2 a).uf3 i a).actor a).blocked <;>
    cases h2 : ((((k.uf1 i a).uf2 a).uf3 i a).actor a).wannadie <;> simp

theorem shr_uf1 (k : K) (i a : Nat) : Shr k (k.uf1 i a) :=
  (shr_setImpl k i (fun x => { x with simcalls := x.simcalls.drop 1 }) (by intro _; rfl)).trans (shr_setActor _ a _ (by intro _; exact ⟨Or.inl rfl, id, fun h => by simp [h], id, id⟩))

theorem shr_uf2 (k : K) (a : Nat) : Shr k (k.uf2 a) := by
  unfold K.uf2; split
  · exact (shr_timerRemove k _).trans (shr_setActor_keep _ a _ (by intro _; rfl))
  · exact Shr.refl _

theorem shr_uf3 (k : K) (i a : Nat) : Shr k (k.uf3 i a) := by
  unfold K.uf3; split
  · exact Shr.refl _
  · exact (shr_foldl_unregister _ a k).trans (shr_setActor_keep _ a _ (by intro _; rfl))

theorem shr_ufAll (k : K) (i a : Nat) : Shr k (k.ufAll i a) :=
  ((shr_uf1 k i a).trans (shr_uf2 _ a)).trans (shr_uf3 _ i a)

theorem shr_unregisterFirst (k : K) (i a : Nat) : Shr k (k.unregisterFirst i a).1 := by
  rw [unregisterFirst_eq]; exact shr_ufAll k i a

/-- one iteration of the loop of `finish()` once the front simcall `a` is known -/
def K.finishOne (k : K) (i a : Nat) : K :=
  let k1 := k.ufAll i a
  if ((k1.actor a).blocked && !(k1.actor a).wannadie) then
    let k2 := k1.setImpl i (fun x => { x with owners := x.owners.erase a })
    let k3 := if (k2.impl i).st == .canceled then k2.setActor a (fun x => { x with res := .cancelExc }) else k2
    k3.answer a
  else k1

theorem finishLoop_succ (k : K) (i n : Nat) :
    k.finishLoop i (n+1) = match (k.impl i).simcalls with
      | [] => k
      | a :: _ => (k.finishOne i a).finishLoop i n := by
  conv => lhs; unfold K.finishLoop
  cases h : (k.impl i).simcalls with
  | nil => rfl
  | cons a tl =>
    simp only [unregisterFirst_eq, K.finishOne]

theorem shr_finishOne (k : K) (i a : Nat) : Shr k (k.finishOne i a) := by
  unfold K.finishOne
  dsimp only []
  split
  · refine (shr_ufAll k i a).trans (Shr.trans ?_ (shr_answer _ a))
    refine (shr_setImpl _ i (fun x => { x with owners := x.owners.erase a }) (by intro _; rfl)).trans ?_
    split
    · exact shr_setActor_keep _ a _ (by intro _; rfl)
    · exact Shr.refl _
  · exact shr_ufAll k i a

theorem shr_finishLoop (k : K) (i n : Nat) : Shr k (k.finishLoop i n) := by
  induction n generalizing k with
  | zero => exact Shr.refl k
  | succ n ih =>
    rw [finishLoop_succ]
    split
    · exact Shr.refl k
    · exact (shr_finishOne k i _).trans (ih _)

/-- `finish()` before its loop: the final state is set, `clean_action()` takes the action off the heap and the queues -/
def K.finishPre (k : K) (i : Nat) : K :=
  let im := k.impl i
  let st :=
    if im.kind.timed then
      (if im.act == .none then im.st else if im.act == .failed then .canceled else .done)
    else (if im.st == .running then .done else im.st)
  let k := k.setImpl i (fun x => { x with st := st, act := .none })
  { k with heap := k.heap.filter (fun e => e.impl != i), failedQ := k.failedQ.erase i, doneQ := k.doneQ.erase i }

theorem finish_eq (k : K) (i : Nat) :
    k.finish i = (k.finishPre i).finishLoop i ((k.finishPre i).impl i).simcalls.length := rfl

theorem shr_finishPre (k : K) (i : Nat) : Shr k (k.finishPre i) :=
  (shr_setImpl k i _ (by intro _; rfl)).trans (shr_of _ _ (List.Sublist.refl _) List.filter_sublist rfl rfl rfl)

theorem shr_finish (k : K) (i : Nat) : Shr k (k.finish i) :=
  (shr_finishPre k i).trans (shr_finishLoop _ i _)

/-- `cancel` rewrites fields of activity `i` other than kind, dates and registered simcalls, takes entries off the heap
and edits the two queues of ended actions -/
theorem cancel_ind {P : K → Prop} (k : K) (i : Nat)
    (hset : ∀ k' (f : Impl → Impl), (∀ x, (f x).sfk = x.sfk ∧ (f x).simcalls = x.simcalls) → P k' →
      P (k'.setImpl i f))
    (hq : ∀ (k' : K) hp dq fq, hp.Sublist k'.heap → P k' → P { k' with heap := hp, doneQ := dq, failedQ := fq })
    (h : P k) : P (k.cancel i) := by
  have hact : P { k.setImpl i (fun x => { x with act := .failed }) with
      heap := k.heap.filter (fun e => e.impl != i), doneQ := k.doneQ.erase i,
      failedQ := (k.failedQ.erase i) ++ [i] } :=
    hq _ _ _ _ List.filter_sublist (hset k _ (fun _ => ⟨rfl, rfl⟩) h)
  unfold K.cancel
  dsimp only []
  split
  · refine hset _ _ (fun _ => ⟨rfl, rfl⟩) ?_
    split
    · exact hset k _ (fun _ => ⟨rfl, rfl⟩) h
    · exact h
  · refine hset _ _ (fun _ => ⟨rfl, rfl⟩) ?_
    split
    · exact hset k _ (fun _ => ⟨rfl, rfl⟩) h
    · exact h
  · refine hset _ _ (fun _ => ⟨rfl, rfl⟩) ?_
    split
    · exact hact
    · exact h
  · refine hset _ _ (fun _ => ⟨rfl, rfl⟩) ?_
    split
    · exact hact
    · exact h

theorem shr_cancel (k : K) (i : Nat) : Shr k (k.cancel i) :=
  cancel_ind (P := Shr k) k i (fun k' f hf h => h.trans (shr_setImpl k' i f fun x => (hf x).1))
    (fun _ _ _ _ hs h => h.trans (shr_of _ _ (List.Sublist.refl _) hs rfl rfl rfl)) (Shr.refl k)

theorem shr_foldl_cancel (l : List Nat) (k : K) : Shr k (l.foldl (fun k i => k.cancel i) k) :=
  Shr.pre.foldl l shr_cancel k

/-- one iteration of the loop of `ActorImpl::exit()` -/
theorem shr_exitOne (k : K) (a i : Nat) :
    Shr k ((((k.setActor a fun x => { x with waiting := x.waiting.dropLast }).cancel i).setImpl i
      fun x => { x with st := .failed }).finish i) :=
  (((shr_setActor k a _ (by intro _; exact ⟨Or.inl rfl, id, fun h => by simp [h], id, id⟩)).trans
    (shr_cancel _ i)).trans (shr_setImpl _ i _ (by intro _; rfl))).trans (shr_finish _ i)

theorem shr_exitLoop (k : K) (a n : Nat) : Shr k (k.exitLoop a n) := by
  induction n generalizing k with
  | zero => exact Shr.refl k
  | succ n ih =>
    unfold K.exitLoop
    split
    · exact Shr.refl k
    · exact (shr_exitOne k a _).trans (ih _)

theorem shr_exit (k : K) (a : Nat) : Shr k (k.exit a) := by
  unfold K.exit
  dsimp only []
  exact ((shr_setActor k a _ (by intro _; exact ⟨Or.inl rfl, fun _ => rfl, id, id, id⟩)).trans (shr_exitLoop _ a _)).trans (shr_foldl_cancel _ _)

theorem shr_addToRun (k : K) (a : Nat) (h : (k.actor a).wannadie = true ∨ (k.actor a).blocked = false) :
    Shr k (k.addToRun a) := by
  unfold K.addToRun; split
  · exact Shr.refl k
  · exact shr_pushRun k a h

theorem exit_wd (k : K) (a : Nat) :
    ((k.exit a).actor a).wannadie = true ∨ ((k.exit a).actor a).blocked = false := by
  by_cases ha : a < k.actors.length
  · left
    unfold K.exit
    dsimp only []
    exact ((shr_exitLoop _ a _).trans (shr_foldl_cancel _ _)).wd a (by rw [actor_setActor_same _ _ _ ha])
  · exact Or.inr ((shr_exit k a).blk a (by rw [actor_of_ge k a (by omega)]; rfl))

theorem shr_kill (k : K) (a : Nat) : Shr k (k.kill a) := by
  unfold K.kill; split
  · exact Shr.refl k
  · exact (shr_exit k a).trans (shr_addToRun _ a (exit_wd k a))

/-- the middle of `K.die` under names (`die_eq`): the kill timer goes (`dieK`), then the timeout timer (`uf2`) -/
def K.dieK (k : K) (a : Nat) : K :=
  match (k.actor a).ktimer with
    | some t => (k.timerRemove t).setActor a (fun x => { x with ktimer := none })
    | none => k
def K.dieTimers (k : K) (a : Nat) : K := (k.dieK a).uf2 a

theorem die_eq (k : K) (a : Nat) (failed : Bool) :
    (k.die a failed).1 = (((k.ownedBy a).foldl (fun k i => k.cancel i) k).dieTimers a).setActor a
      (fun x => { x with alive := false, wannadie := true, blocked := false, pending := none, prog := [] }) := by
  unfold K.die
  dsimp only []
  rfl

theorem shr_dieTimers (k : K) (a : Nat) : Shr k (k.dieTimers a) := by
  refine Shr.trans ?_ (shr_uf2 _ a)
  unfold K.dieK; split
  · exact (shr_timerRemove k _).trans (shr_setActor_keep _ a _ (by intro _; rfl))
  · exact Shr.refl _

theorem shr_die (k : K) (a : Nat) (failed : Bool) : Shr k (k.die a failed).1 := by
  rw [die_eq]
  exact ((shr_foldl_cancel _ k).trans (shr_dieTimers _ a)).trans (shr_setActor _ a _ (by intro _; exact ⟨Or.inr (Or.inl rfl), fun _ => rfl, id, fun _ => rfl, fun _ => rfl⟩))


/-- the updates of its own record that an actor's slice makes between two ops.  `slotAny`: the `.getD 0` is the model's
(`K.slice`, wait_any returning a rank); a rank in the result is what makes index 0 valid (`RegInvF.rank`) -/
inductive SliceUpd (k : K) (a : Nat) : (Actor → Actor) → Prop where
  | next : SliceUpd k a (fun x => { x with prog := x.prog.drop 1, stage := 0, res := .none, anyList := [] })
  | slot (s i : Nat) (st st' : SState) : (k.actor a).slot s = some (i, st') → SliceUpd k a (fun x => x.setSlot s i st)
  | slotAny (s r : Nat) (st : SState) : (k.actor a).res = .rank r →
      SliceUpd k a (fun x => x.setSlot s ((((k.actor a).slot s).map (·.1)).getD 0) st)

/-- the activities a wait names are bound in slots of the issuer -/
def ReqFrom (x : Actor) : Req → Prop
  | .waitFor i _ => ∃ s st, x.slot s = some (i, st)
  | .waitAny is _ => ∀ i ∈ is, ∃ s st, x.slot s = some (i, st)
  | _ => True

theorem waitOp_ind (a : Nat) (P Q : K → Prop)
    (hupd : ∀ k f, P k → SliceUpd k a f → P (k.setActor a f))
    (hissue : ∀ k r b, P k → ReqOk r → ReqFrom (k.actor a) r → Q (k.issue a r b))
    (hbad : ∀ (k : K) s, P k → Q { k with bad := some s })
    (k : K) (s : Nat) (tau : Rat) (oc : Bool) (stage : Nat)
    (next stop : K → List Ev → K × List Ev) (mk : String → String → List Ev)
    (hn : ∀ k' e, P k' → Q (next k' e).1) (hs : ∀ k' e, (stop k' e).1 = k') (hP : P k) :
    Q (K.slice.waitOp k a s tau oc stage (k.actor a) next stop mk).1 := by
  unfold K.slice.waitOp
  split
  · rw [hs]; exact hbad _ _ hP
  · rename_i i st hsl
    dsimp only []
    split
    · split
      · rw [hs]; exact hbad _ _ hP
      · rw [hs]; exact hissue _ _ _ hP trivial ⟨s, st, hsl⟩
    · split
      · split
        · rw [hs]; exact hissue _ _ _ hP trivial trivial
        · exact hn _ _ hP
      · exact hn _ _ hP
      · exact hn _ _ (hupd _ _ hP (.slot s i _ st hsl))
    · exact hn _ _ (hupd _ _ hP (.slot s i _ st hsl))

/-- `P` holds between the ops a slice completes locally, `Q` where it ends (a simcall issued, the actor's end, `bad`;
`hPQ`: out of fuel) -/
theorem slice_ind (a : Nat) (P Q : K → Prop)
    (hupd : ∀ k f, P k → SliceUpd k a f → P (k.setActor a f))
    (hissue : ∀ k r b, P k → ReqOk r → ReqFrom (k.actor a) r → Q (k.issue a r b))
    (hbad : ∀ (k : K) s, P k → Q { k with bad := some s })
    (hdie : ∀ k, P k → Q (k.die a false).1)
    (hPQ : ∀ k, P k → Q k) :
    ∀ fuel k evs, P k → Q (k.slice a fuel evs).1 := by
  intro fuel
  induction fuel with
  | zero => intro k evs hP; exact hPQ k hP
  | succ fuel ih =>
    intro k evs hP
    unfold K.slice
    dsimp only []
    split
    · exact hdie k hP
    · split
      case h_1 =>
        split
        · exact ih _ _ (hupd _ _ hP .next)
        · rename_i hd
          refine hissue _ _ true hP ?_ trivial
          show (0 : Rat) < _
          exact Rat.not_le.mp hd
      case h_2 | h_4 | h_6 | h_8 | h_10 => exact ih _ _ (hupd _ _ hP .next)
      case h_5 | h_7 | h_9 => exact hissue _ _ false hP trivial trivial
      case h_3 =>
        split
        · exact hbad _ _ hP
        · rename_i kind d _ _ hc
          refine hissue _ _ false hP ?_ trivial
          simp only [Bool.or_eq_true, Bool.and_eq_true, decide_eq_true_eq, beq_iff_eq, not_or, not_and] at hc
          refine ⟨Rat.not_lt.mp hc.1.1.1, fun hk => ?_⟩
          exact Rat.not_le.mp (hc.1.1.2 hk)
      case h_11 =>
        split
        · exact hbad _ _ hP
        · split
          · exact ih _ _ (hupd _ _ hP .next)
          · exact hissue _ _ false hP trivial trivial
      case h_12 =>
        split
        · rename_i i _ hsl _
          exact ih _ _ (hupd _ _ (hupd _ _ hP (.slot _ i _ _ hsl)) .next)
        · exact ih _ _ (hupd _ _ hP .next)
      case h_13 | h_14 | h_15 =>
        exact waitOp_ind a P Q hupd hissue hbad k _ _ _ _ _ _ _ (fun k' e hP' => ih _ _ (hupd _ _ hP' .next))
          (fun _ _ => rfl) hP
      case h_16 =>
        split
        · exact hbad _ _ hP
        · split
          · exact hbad _ _ hP
          · refine hissue _ _ true hP trivial ?_
            intro i hi
            simp only [List.mem_filterMap, List.mem_map, id] at hi
            obtain ⟨_, ⟨s, _, rfl⟩, hx⟩ := hi
            obtain ⟨p, hp, rfl⟩ := Option.map_eq_some_iff.mp hx
            exact ⟨s, p.2, hp⟩
      case h_17 =>
        split
        · rename_i r hr
          split
          · exact ih _ _ (hupd _ _ (hupd _ _ hP (.slotAny _ r _ hr)) .next)
          · exact hbad _ _ hP
        · exact ih _ _ (hupd _ _ hP .next)

theorem shr_fire (k : K) (t : Timer) : Shr k (k.fire t) := by
  unfold K.fire
  split
  · rename_i a _
    have s1 := shr_setActor_keep (k.exit a) a (fun x => { x with ktimer := none }) (by intro _; rfl)
    refine ((shr_exit k a).trans s1).trans (shr_addToRun _ _ ?_)
    rcases exit_wd k a with h | h
    · exact Or.inl (s1.wd a h)
    · exact Or.inr (s1.blk a h)
  · simp only []
    split
    · exact shr_setActor_keep _ _ _ (by intro _; rfl)
    · exact (((shr_setActor_keep k _ _ (by intro _; rfl)).trans (shr_unregister _ _ _)).trans
        (shr_setActor_keep _ _ _ (by intro _; rfl))).trans (shr_answer _ _)
  · simp only []
    exact (((shr_setActor_keep k _ _ (by intro _; rfl)).trans (shr_foldl_unregister _ _ _)).trans
        (shr_setActor_keep _ _ _ (by intro _; rfl))).trans (shr_answer _ _)

theorem clampSleep_pos (d : Rat) (h : 0 < d) : 0 ≤ clampSleep prec d := by
  unfold clampSleep
  rw [if_pos h]
  split
  · unfold prec; grind
  · exact Rat.le_of_lt h

theorem handle_go_ind {P : K → Prop} (a : Nat) (hshr : ∀ k1 k2, Shr k1 k2 → P k1 → P k2)
    (hreg : ∀ k1 i, P k1 → P (k1.register i a)) (l : List Nat) (k : K) (h : P k) : P (K.handle.go a k l) := by
  induction l generalizing k with
  | nil => unfold K.handle.go; exact h
  | cons i rest ih =>
    unfold K.handle.go
    dsimp only []
    split
    · exact hshr _ _ (shr_finish _ i) (hreg k i h)
    · exact ih _ (hreg k i h)

theorem rat_le_add {a b : Rat} (h : 0 ≤ b) : a ≤ a + b := by grind
theorem rat_sub_nonneg {a b : Rat} (h : b < a) : 0 ≤ a - b := by grind
theorem linkLat_pos : (0 : Rat) < linkLat := by unfold linkLat; grind

/-- `K.handle` is made of steps of the `Shr` family and of four kinds of creation: a new activity (started now, or
a message not started at all), a heap entry (not in the past for a well-formed request), a registration of the issuer,
a timer not in the past. -/
theorem handle_ind {P : K → Prop} (now : Rat) (a : Nat) (r : Req)
    (hshr : ∀ k1 k2, Shr k1 k2 → P k1 → P k2)
    (hnew : ∀ k1 (im : Impl), im.start = now ∨ im.start = -1 → im.finish = -1 → P k1 → P (k1.newImpl im).1)
    (hpush : ∀ k1 (e : HeapE), (ReqOk r → now ≤ e.date ∧ (e.lat = true → 0 ≤ e.rem)) → P k1 →
      P { k1 with heap := k1.heap ++ [e] })
    (hreg : ∀ k1 i, P k1 → P (k1.register i a))
    (htim : ∀ k1 d cb, now ≤ d → P k1 → P (k1.timerSet d cb).1)
    (k : K) (h : P k) : P (k.handle now a r) := by
  have hans : ∀ k1, P k1 → P (k1.answer a) := fun k1 h1 => hshr _ _ (shr_answer k1 a) h1
  have hslot : ∀ k1 s i, P k1 → P ((k1.setActor a fun x => x.setSlot s i .started).answer a) :=
    fun k1 s i h1 => hans _ (hshr _ _ (shr_setActor_keep k1 a _ (by intro _; rfl)) h1)
  cases r with
  | sleep d =>
    simp only [K.handle]
    refine hreg _ _ (hpush _ _ (fun hr => ⟨?_, fun hc => by cases hc⟩) (hnew k _ (Or.inl rfl) rfl h))
    exact rat_le_add (clampSleep_pos d hr)
  | start slot kind d =>
    simp only [K.handle]
    refine hslot _ _ _ (hpush _ _ (fun hr => ?_) (hnew k _ (Or.inl rfl) rfl h))
    obtain ⟨h1, h2⟩ := hr
    split
    · rename_i hc
      exact ⟨rat_le_add (Rat.le_of_lt linkLat_pos), fun _ => rat_sub_nonneg (h2 (by simpa using hc))⟩
    · exact ⟨rat_le_add h1, fun hc => by cases hc⟩
  | iget slot q | iput slot q =>
    simp only [K.handle]
    split
    · exact hslot _ _ _ (hshr _ _ ((shr_setImpl k _ _ (by intro _; rfl)).trans (shr_finish _ _)) h)
    · exact hslot _ _ _ (hnew k _ (Or.inr rfl) rfl h)
  | waitFor i tau =>
    simp only [K.handle]
    split
    · exact hshr _ _ (shr_finish _ _) (hreg k i h)
    · split
      · rename_i ht
        exact hshr _ _ (shr_setActor_keep _ a _ (by intro _; rfl)) (htim _ _ _ (rat_le_add ht) (hreg k i h))
      · exact hreg k i h
  | waitAny is tau =>
    simp only [K.handle]
    refine handle_go_ind a hshr hreg is _ ?_
    split
    · exact hshr _ _ ((shr_setActor_keep _ a _ (by intro _; rfl)).trans (shr_setActor_keep _ a _ (by intro _; rfl))) h
    · rename_i ht
      exact hshr _ _ (shr_setActor_keep _ a _ (by intro _; rfl))
        (htim _ _ _ (rat_le_add (Rat.not_lt.mp ht)) (hshr _ _ (shr_setActor_keep k a _ (by intro _; rfl)) h))
  | test i =>
    simp only [K.handle]
    refine hans _ ?_
    split
    · exact hshr _ _ ((shr_finish k i).trans (shr_setActor_keep _ a _ (by intro _; rfl))) h
    · exact hshr _ _ (shr_setActor_keep k a _ (by intro _; rfl)) h
  | cancel i =>
    simp only [K.handle]
    exact hans _ (hshr _ _ (shr_cancel k i) h)
  | killAt t =>
    simp only [K.handle]
    refine hans _ ?_
    split
    · exact h
    · rename_i ht
      exact hshr _ _ (shr_setActor_keep _ a _ (by intro _; rfl)) (htim k t _ (Rat.le_of_lt (Rat.not_le.mp ht)) h)

theorem shr_foldl_kill (l : List Nat) (k : K) : Shr k (l.foldl (fun k a => k.kill a) k) :=
  Shr.pre.foldl l shr_kill k

end SgVerif.TimeCore
