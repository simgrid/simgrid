import SgVerif.Sched.Model
import SgVerif.Sched.Lemmas
import SgVerif.Sched.Demo
import SgVerif.C01.Gen
/-!
C01 — simulations are reproducible, regardless of the address-space layout.

Full-strength statement (on the round model of `SgVerif/Sched/Model.lean`, address maps `α β : Addr` being used exactly
where the generated inventory `Gen.inventory` lists an address-ordered container that the modelled round iterates):
`run_addr_indep` — the run under `Cfg.current` does not depend on the address map, no hypothesis.

It was FALSE before fix b3a6606869 (`Cfg.preActivitiesFix`): `ActorImpl::activities_` was a
`std::set<ActivityImplPtr>` and a dying actor cancelled its activities in address order, which decides the order in
which the peers blocked on them are woken (`activities_counterexample`, replayed on the library then: corpus case
`activities-cancel-order-witness`); and before fix 7f02bcf969 (`Cfg.preFix`) because of `EngineImpl::daemons_`
(`daemons_counterexample`).  Both are kept for the record.

For the code before the fixes: `run_addr_indep_partial`, under one explicit order-insensitivity hypothesis per
address-ordered site the round iterates (the per-entry justifications of `accepted/JUSTIFICATIONS.md`).
Determinism itself (same inputs, same run) is definitional — `runWith` is a Lean function — and is not counted.
-/
namespace SgVerif.C01
open SgVerif.Sched

variable {S : Sys}

/-- order-insensitivity of the cancellation loop over `ActorImpl::activities_` (inventory entry
    src/kernel/actor/ActorImpl.hpp:activities_, sites `cleanup_from_self`, `exit`) -/
def ActivitiesInsensitive (S : Sys) : Prop :=
  ∀ (s : St S) (l1 l2 : List Vid), l1.Perm l2 → cancelAll s l1 = cancelAll s l2

/-- order-insensitivity of the kill loop over `EngineImpl::daemons_` (inventory entry src/kernel/EngineImpl.hpp:daemons_,
    site `EngineImpl::run`) -/
def DaemonsInsensitive (S : Sys) (c : Cfg) : Prop :=
  ∀ (γ : Addr) (s : St S) (l1 l2 : List Aid), l1.Perm l2 → l1.foldl (killActor c γ) s = l2.foldl (killActor c γ) s

theorem cleanup_addr_indep (c : Cfg) (α β : Addr) (hA : c.activitiesByAddr = true → ActivitiesInsensitive S) :
    cleanup c α (S := S) = cleanup c β := by
  funext s a
  simp only [cleanup, actOrder]
  cases hc : c.activitiesByAddr with
  | false => rfl
  | true => simp only [if_true]; rw [hA hc s _ _ (sortBy_perm2 α.act β.act _)]

theorem maestroPhase_addr_indep (c : Cfg) (α β : Addr) (hA : c.activitiesByAddr = true → ActivitiesInsensitive S)
    (hD : c.daemonsByAddr = true → DaemonsInsensitive S c) (s : St S) (ran : List Aid) :
    maestroPhase c α s ran = maestroPhase c β s ran := by
  have hc := cleanup_addr_indep c α β hA
  have h1 : handleOne c α (S := S) = handleOne c β := by funext s a; simp only [handleOne, hc]
  have h2 : killActor c α (S := S) = killActor c β := by funext s a; simp only [killActor, hc]
  simp only [maestroPhase, h1, h2, daemonOrder]
  split
  · cases hc : c.daemonsByAddr with
    | false => rfl
    | true => simp only [if_true]; exact hD hc β _ _ _ (sortBy_perm2 α.actor β.actor _)
  · rfl

/-- C01 under explicit order-insensitivity hypotheses, one per address-ordered container the round iterates:
    the whole run (every local state, hence every per-actor log; the kernel state; the run list) is independent of the
    address map — for every configuration, system, scheduling policy, fuel and state. -/
theorem run_addr_indep_partial (c : Cfg) (α β : Addr) (hA : c.activitiesByAddr = true → ActivitiesInsensitive S)
    (hD : c.daemonsByAddr = true → DaemonsInsensitive S c) (p : Policy) :
    ∀ (fuel : Nat) (s : St S), runWith c α p fuel s = runWith c β p fuel s := by
  refine runWith_congr c α β p p fun n s => ?_
  have h1 : selfCleanupOne c α (S := S) = selfCleanupOne c β := by
    funext s a; simp only [selfCleanupOne, cleanup_addr_indep c α β hA]
  simp only [subroundWith, maestroPhase_addr_indep c α β hA hD, selfCleanups, h1]

/-- the code between the daemons fix and the activities fix (daemons ordered by pid, activities by address): only the
    hypothesis on `activities_` is needed -/
theorem run_addr_indep_current (α β : Addr) (hA : ActivitiesInsensitive S) (p : Policy) (fuel : Nat) (s : St S) :
    runWith Cfg.preActivitiesFix α p fuel s = runWith Cfg.preActivitiesFix β p fuel s :=
  run_addr_indep_partial Cfg.preActivitiesFix α β (fun _ => hA) (fun h => by cases h) p fuel s

/-- **full strength, current code** (= `run_addr_indep_repaired`): the trace does not depend on the address map -/
theorem run_addr_indep (α β : Addr) (p : Policy) (fuel : Nat) (s : St S) :
    runWith Cfg.current α p fuel s = runWith Cfg.current β p fuel s :=
  run_addr_indep_partial Cfg.repaired α β (fun h => by cases h) (fun h => by cases h) p fuel s

/-- with props/C01/proposed_fix.diff (activities ordered by creation rank): full strength, no hypothesis -/
theorem run_addr_indep_repaired (α β : Addr) (p : Policy) (fuel : Nat) (s : St S) :
    runWith Cfg.repaired α p fuel s = runWith Cfg.repaired β p fuel s :=
  run_addr_indep α β p fuel s

open Demo

/-- BEFORE fix b3a6606869: actor 0 ends while it owns the activities 10 and 11 on which actors 1 and 2 are blocked.  Under layout
    A maestro cancels 10 then 11 (run list 1, 2); under layout B 11 then 10 (run list 2, 1): the runs differ. -/
theorem activities_counterexample :
    (run Cfg.preActivitiesFix layoutA 1 (st0 false [0])).toRun = [1, 2] ∧
    (run Cfg.preActivitiesFix layoutB 1 (st0 false [0])).toRun = [2, 1] ∧
    (run Cfg.preActivitiesFix layoutA 1 (st0 false [0])).k.log ≠ (run Cfg.preActivitiesFix layoutB 1 (st0 false [0])).k.log := by decide

/-- BEFORE fix 7f02bcf969: two daemons (5 and 6) alive when the last regular actor has ended are killed in address
    order, so the order of their on_exit callbacks (the kernel log here) depends on the layout. -/
theorem daemons_counterexample :
    (run Cfg.preFix layoutA 1 (st0 true [3])).k.log = [103, 205, 206] ∧
    (run Cfg.preFix layoutB 1 (st0 true [3])).k.log = [103, 206, 205] := by decide

/-- the fixed daemons loop on the same instance: both layouts give the pid order -/
example : (run Cfg.preActivitiesFix layoutA 1 (st0 true [3])).k.log = [103, 205, 206] ∧
    (run Cfg.preActivitiesFix layoutB 1 (st0 true [3])).k.log = [103, 205, 206] := by decide

/-- the repaired activities loop on the witness of `activities_counterexample`: creation order under both layouts -/
example : (run Cfg.repaired layoutA 1 (st0 false [0])).toRun = [1, 2] ∧
    (run Cfg.repaired layoutB 1 (st0 false [0])).toRun = [1, 2] := by decide

/-- a system satisfying `ActivitiesInsensitive` non-trivially: cancelling only counts (an unobservable order) -/
def counting : Sys := { Demo.sys with cancel := fun _ k => ({ k with log := k.log.map (· + 1) }, []) }

example : ActivitiesInsensitive counting := by
  intro s l1 l2 h
  exact h.foldl_eq' (fun _ _ _ _ _ => rfl) s

/-! ### tie with the generated inventory
The hypotheses above are per inventory entry.  These examples re-check on every build that the address-ordered
containers that are ITERATED somewhere are exactly the ones the justifications were written for: the two the round model
iterates (`daemons_`, `activities_`: both now under a comparator, hence in no address-ordered list) and those outside the modelled round
(accepted/JUSTIFICATIONS.md says why each is out).  A new entry makes this file fail to build. -/
def modelled : List String := ["activities_"]
def outsideRound : List String :=
  ["bypass_routes_", "dependencies_", "predecessors_", "successors_", "netzones", "active_comms_down_",
   "current_activities", "dp_objs_", "current_activities"]

example : ((Gen.addrIterated.map fun e => e.var).filter (· != "activities_")) = ["bypass_routes_", "dependencies_",
    "predecessors_", "successors_", "netzones", "active_comms_down_", "current_activities", "dp_objs_",
    "current_activities"] := by decide +kernel

/-- `activities_` is address-ordered (before b3a6606869) or under the creation-rank comparator -/
example : ((Gen.inventory.filter fun e => e.var == "activities_" && e.file == "src/kernel/actor/ActorImpl.hpp").map
    (fun e => e.order)).all (fun o => o == "addr" || o == "cmp:ActivityIdLess") = true := by decide +kernel

example : (Gen.inventory.filter fun e => e.var == "daemons_").map (fun e => e.order) = ["cmp:ActorPidLess"] := by decide +kernel

end SgVerif.C01
