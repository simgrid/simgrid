import SgVerif.C36.Segment
/-
C36 — lemmas for the address-level model: the implementation refines the private-globals specification.
An access of rank `r` at address `a` means the same in both when `Own c s r a` holds; the invariant gives this to the
running rank at every address, `smpi_switch_data_segment(r, a)` gives it to `r` on the whole object at `a`.
-/
namespace SgVerif.C36.Seg

/-- while a rank runs, its own file is the mapped one (or there is nothing to privatize) -/
def Inv (c : Cfg) (s : St) : Prop := ∀ r, s.cur = some r → s.loaded = some r ∨ c.size = 0

theorem inv_of_cur_none {c : Cfg} {s : St} (h : s.cur = none) : Inv c s :=
  fun _ hr => nomatch h.symm.trans hr

theorem inSeg_size0 (c : Cfg) (a : Nat) (h : c.size = 0) : c.inSeg a = false := by
  simp only [Cfg.inSeg, h, Nat.add_zero, Bool.and_eq_false_iff, decide_eq_false_iff_not]
  omega

/-- an access at `a` through the current mapping reaches rank `r`'s view: `r`'s file is mapped, or `a` is not a global -/
def Own (c : Cfg) (s : St) (r a : Nat) : Prop := s.loaded = some r ∨ c.inSeg a = false

theorem Inv.own {c : Cfg} {s : St} {r : Nat} (hI : Inv c s) (hc : s.cur = some r) (a : Nat) : Own c s r a :=
  (hI r hc).imp_right (inSeg_size0 c a)

theorem rd_abs {c : Cfg} {s : St} {r a : Nat} (h : Own c s r a) : rd c s a = viewRd c (abs s) r a := by
  unfold rd viewRd abs
  rcases h with h | h
  · rw [h]
  · rw [h]
    rfl

theorem wr_loaded (c : Cfg) (s : St) (a : Nat) (v : Int) : (wr c s a v).loaded = s.loaded := by
  unfold wr
  cases c.inSeg a <;> cases s.loaded <;> rfl

theorem wr_cur (c : Cfg) (s : St) (a : Nat) (v : Int) : (wr c s a v).cur = s.cur := by
  unfold wr
  cases c.inSeg a <;> cases s.loaded <;> rfl

theorem wr_abs {c : Cfg} {s : St} {r a : Nat} (v : Int) (h : Own c s r a) :
    abs (wr c s a v) = viewWr c (abs s) r a v := by
  unfold wr viewWr
  rcases h with h | h <;> rw [h]
  · cases c.inSeg a <;> rfl
  · rfl

theorem wrList_abs {c : Cfg} {r : Nat} {vals : List Int} : ∀ {s : St} {a : Nat},
    (∀ i < vals.length, Own c s r (a + i)) → abs (wrList c s a vals) = viewWrList c (abs s) r a vals := by
  induction vals with
  | nil => exact fun _ => rfl
  | cons v vs ih =>
    intro s a h
    have h0 : Own c s r a := h 0 (Nat.zero_lt_succ _)
    rw [wrList, viewWrList, ← wr_abs v h0]
    refine ih fun i hi => ?_
    rw [Own, wr_loaded, Nat.add_assoc, Nat.add_comm 1]
    exact h (i + 1) (Nat.succ_lt_succ hi)

theorem wrList_cur (c : Cfg) (vals : List Int) : ∀ (s : St) (a : Nat), (wrList c s a vals).cur = s.cur := by
  induction vals with
  | nil => exact fun _ _ => rfl
  | cons v vs ih => exact fun s a => (ih _ _).trans (wr_cur c s a v)

theorem rdList_abs {c : Cfg} {s : St} {r a n : Nat} (h : ∀ i < n, Own c s r (a + i)) :
    rdList c s a n = (List.range n).map (fun i => viewRd c (abs s) r (a + i)) :=
  List.map_congr_left fun i hi => rd_abs (h i (List.mem_range.mp hi))

theorem switchSeg_spec (c : Cfg) (s : St) (r : Nat) (addr : Option Nat) :
    switchSeg c s r addr = ({ s with loaded := some r }, true) ∨
    switchSeg c s r addr = (s, false) ∧ (c.size = 0 ∨ ∃ a, addr = some a ∧ c.inSeg a = false) := by
  have hl : (if s.loaded = some r then (s, true) else ({ s with loaded := some r }, true)) =
      ({ s with loaded := some r }, true) := ite_eq_right_iff.mpr fun h => by rw [← h]
  unfold switchSeg
  by_cases h0 : c.size = 0
  · exact Or.inr ⟨if_pos h0, Or.inl h0⟩
  · rw [if_neg h0]
    cases addr with
    | none => exact Or.inl hl
    | some a =>
      dsimp only
      cases hi : c.inSeg a
      · exact Or.inr ⟨rfl, Or.inr ⟨a, rfl, hi⟩⟩
      · exact Or.inl hl

theorem switchSeg_abs (c : Cfg) (s : St) (r : Nat) (addr : Option Nat) : abs (switchSeg c s r addr).1 = abs s := by
  rcases switchSeg_spec c s r addr with h | ⟨h, _⟩ <;> rw [h] <;> rfl

theorem switchSeg_buf {c : Cfg} {a n : Nat} (s : St) (r : Nat) (hb : bufOk c a n) :
    switchSeg c s r (some a) = ({ s with loaded := some r }, true) ∨
    switchSeg c s r (some a) = (s, false) ∧ ∀ i < n, c.inSeg (a + i) = false := by
  rcases switchSeg_spec c s r (some a) with h | ⟨h, h0 | ⟨_, ha, hi⟩⟩
  · exact Or.inl h
  · exact Or.inr ⟨h, fun _ _ => inSeg_size0 c _ h0⟩
  · cases ha
    exact Or.inr ⟨h, hb hi⟩

/-- the destination switch of the copy callback and its `memcpy` -/
theorem copy_abs {c : Cfg} {t t' : St} {i : Ideal} {src dst buff dbuff n : Nat}
    (hs : ∀ k < n, Own c t' src (buff + k)) (hb : bufOk c dbuff n) (ht' : abs t' = i) (ht : abs t = i) :
    abs (wrList c (switchSeg c t dst (some dbuff)).1 dbuff (rdList c t' buff n)) =
      viewWrList c i dst dbuff ((List.range n).map fun k => viewRd c i src (buff + k)) := by
  rw [rdList_abs hs, wrList_abs, switchSeg_abs, ht, ht']
  rw [List.length_map, List.length_range]
  rcases switchSeg_buf t dst hb with h | ⟨h, x⟩ <;> rw [h]
  · exact fun _ _ => Or.inl rfl
  · exact fun k hk => Or.inr (x k hk)

theorem abs_cur_none (s : St) : abs { s with cur := none } = { abs s with cur := none } := rfl

theorem commCopy_abs (c : Cfg) (s : St) (src dst buff dbuff n : Nat) (hb1 : bufOk c buff n) (hb2 : bufOk c dbuff n) :
    abs (commCopyImpl c s src dst buff dbuff n) =
      viewWrList c { abs s with cur := none } dst dbuff
        ((List.range n).map (fun i => viewRd c { abs s with cur := none } src (buff + i))) := by
  unfold commCopyImpl
  dsimp only
  -- the values are read under the first mapping (the temporary buffer) or, the source lying outside the data segment,
  -- under the second
  rcases switchSeg_buf { s with cur := none } src hb1 with h | ⟨h, x⟩ <;> rw [h]
  · exact copy_abs (fun _ _ => Or.inl rfl) hb2 rfl rfl
  · exact copy_abs (fun i hi => Or.inr (x i hi)) hb2 (switchSeg_abs ..) rfl

theorem step_refines (c : Cfg) (s : St) (e : Ev) (hI : Inv c s) (hok : evOk c e) :
    (step c s e).map (fun p => (abs p.1, p.2)) = istep c (abs s) e := by
  cases e with
  | resume r =>
    rw [← switchSeg_abs c s r none]
    rfl
  | kswitch r addr =>
    rw [← switchSeg_abs c s r addr]
    rfl
  | store r a v =>
    exact Option.map_if.trans (ite_congr rfl (fun hc => by rw [← wr_abs v (hI.own hc a)]) fun _ => rfl)
  | load r a =>
    exact Option.map_if.trans (ite_congr rfl (fun hc => by rw [← rd_abs (hI.own hc a)]) fun _ => rfl)
  | commCopy src dst buff dbuff n =>
    exact congrArg (fun i => some (i, none)) (commCopy_abs c s src dst buff dbuff n hok.1 hok.2)

theorem inv_step (c : Cfg) (s : St) (e : Ev) (p : St × Option Int) (hI : Inv c s) (hs : step c s e = some p) :
    Inv c p.1 := by
  cases e with
  | resume r =>
    obtain rfl := Option.some.inj hs
    intro r' hr'
    cases hr'
    rcases switchSeg_spec c s r none with h | ⟨_, h0 | ⟨_, ha, _⟩⟩
    · rw [h]
      exact Or.inl rfl
    · exact Or.inr h0
    · cases ha
  | kswitch r addr =>
    obtain rfl := Option.some.inj hs
    exact inv_of_cur_none rfl
  | store r a v =>
    obtain rfl := Option.some.inj (Option.ite_none_right_eq_some.mp hs).2
    intro r' hr'
    rw [wr_loaded]
    exact hI r' ((wr_cur c s a v).symm.trans hr')
  | load r a =>
    obtain rfl := Option.some.inj (Option.ite_none_right_eq_some.mp hs).2
    exact hI
  | commCopy src dst buff dbuff n =>
    obtain rfl := Option.some.inj hs
    refine inv_of_cur_none ?_
    unfold commCopyImpl
    dsimp only
    rw [wrList_cur]
    -- `cur` is a field of the abstraction, which the two `switchSeg` keep
    exact congrArg Ideal.cur ((switchSeg_abs ..).trans (switchSeg_abs ..))

theorem initProc_other (s : St) (r r' : Nat) (h : r' ≠ r) : (initProc s r).region r' = s.region r' :=
  funext fun _ => if_neg h

theorem foldl_initProc (ranks : List Nat) : ∀ t : St, ranks.foldl initProc t =
    { t with region := fun r off => if r ∈ ranks then t.copy off else t.region r off } := by
  induction ranks with
  | nil => exact fun t => rfl
  | cons r0 rest ih =>
    intro t
    refine (ih _).trans (congrArg (fun f => ({ t with region := f } : St)) (funext fun r => funext fun off => ?_))
    simp only [initProc, List.mem_cons]
    by_cases h : r ∈ rest <;> simp [h]

end SgVerif.C36.Seg
