import SgVerif.C36.Model
import SgVerif.C36.SegLemmas
/-
C36 — with the switch in `ActorImpl::yield` the implementation semantics (accesses go to the mapped copy) coincides with
private per-rank memories on every event sequence; without it values leak (what privatization OFF shows in the
correspondence).  First on the thin model, then on the address-level model of Segment.lean.
-/
namespace SgVerif.C36

/-- invariant: while a rank runs, its own copy is the mapped one -/
def Inv (s : St) : Prop := ∀ r, s.cur = some r → s.seg = r

theorem step_eq_ideal (s : St) (h : Inv s) (e : Ev) : step true s e = ideal true s e := by
  cases e with
  | resume r => rfl
  | kswitch r => rfl
  | write r g v => exact ite_congr rfl (fun hc => by rw [h r hc]) fun _ => rfl
  | read r g => exact ite_congr rfl (fun hc => by rw [h r hc]) fun _ => rfl

theorem inv_step (s : St) (h : Inv s) (e : Ev) (p : St × Option Int) (hs : step true s e = some p) : Inv p.1 := by
  cases e with
  | resume r =>
    obtain rfl := Option.some.inj hs
    exact fun _ => Option.some.inj
  | kswitch r =>
    -- whether or not a rank was running, none runs afterwards
    intro r' hr'
    obtain ⟨seg, mem, cur⟩ := s
    cases cur <;> cases hs <;> cases hr'
  | write r g v =>
    obtain rfl := Option.some.inj (Option.ite_none_right_eq_some.mp hs).2
    exact h
  | read r g =>
    obtain rfl := Option.some.inj (Option.ite_none_right_eq_some.mp hs).2
    exact h

/-- for every event sequence (all interleavings of rank slices, kernel switches anywhere between
slices) the implementation with the switch on every resume returns exactly what private per-rank memories return. -/
theorem switch_on_every_resume_isolation (evs : List Ev) (s : St) (h : Inv s) :
    runWith (step true) s evs = runWith (ideal true) s evs := by
  induction evs generalizing s with
  | nil => rfl
  | cons e es ih =>
    unfold runWith
    rw [← step_eq_ideal s h e]
    cases hs : step true s e with
    | none => rfl
    | some p =>
      obtain ⟨s', o⟩ := p
      dsimp only
      rw [ih s' (inv_step s h e _ hs)]

theorem inv_init (vals : Nat → Int) : Inv (init vals) :=
  fun _ hr => nomatch hr

theorem ideal_write_invisible_to_others (s s' : St) (i j g g' : Nat) (v : Int) (hij : j ≠ i)
    (hs : ideal true s (.write i g v) = some (s', none)) : s'.mem j g' = s.mem j g' := by
  cases (Option.ite_none_right_eq_some.mp hs).2
  exact if_neg fun h => hij h.1

/-- without the switch in `yield` (`sw = false`): rank 1 writes 42 into its global, rank 0 is resumed and reads 42 -/
theorem no_switch_leaks_counterexample :
    (runWith (step false) (init (fun _ => 7)) [.kswitch 1, .resume 1, .write 1 0 42, .resume 0, .read 0 0]).map (·.2) =
      some [42] ∧
    (runWith (ideal false) (init (fun _ => 7)) [.kswitch 1, .resume 1, .write 1 0 42, .resume 0, .read 0 0]).map (·.2) =
      some [7] := by
  decide +kernel

/-- non-vacuity: an interleaving with kernel switches in between, implementation = private memories -/
example : (runWith (step true) (init (fun _ => 7))
    [.resume 0, .write 0 0 1, .kswitch 1, .resume 1, .read 1 0, .write 1 0 2, .kswitch 0, .kswitch 1, .resume 0,
     .read 0 0, .resume 1, .read 1 0]).map (·.2) = some [7, 1, 2] := by decide +kernel

/-- for every event sequence — any interleaving of rank slices (`resume`), loads and stores of the
    running rank at ANY address (globals, stack, heap), kernel-side `smpi_switch_data_segment(actor, addr)` calls with
    or without an address (the filter may refuse to switch), and copy callbacks between any two ranks with the source and
    the destination buffer each either in the globals or outside (four combinations: temp copy + two switches, one switch,
    none) — the implementation (one file mapped at a time, `smpi_loaded_page`, MAP_SHARED writes) returns exactly what
    "private globals per rank + shared rest of the address space" returns, and ends in the same abstract state.
    Hypotheses: the invariant holds initially (`setup_regions`), and a communication buffer that starts outside the data
    segment lies entirely outside (`Seg.evOk`). -/
theorem segment_isolation (c : Seg.Cfg) : ∀ (evs : List Seg.Ev) (s : Seg.St), Seg.Inv c s → (∀ e ∈ evs, Seg.evOk c e) →
    (Seg.runWith (Seg.step c) s evs).map (fun p => (Seg.abs p.1, p.2)) = Seg.runWith (Seg.istep c) (Seg.abs s) evs := by
  intro evs
  induction evs with
  | nil => intro s _ _; rfl
  | cons e es ih =>
    intro s hI hok
    unfold Seg.runWith
    rw [← Seg.step_refines c s e hI (hok e List.mem_cons_self)]
    cases hs : Seg.step c s e with
    | none => rfl
    | some p =>
      obtain ⟨s', o⟩ := p
      dsimp only [Option.map_some]
      rw [← ih s' (Seg.inv_step c s e _ hI hs) fun e' he' => hok e' (List.mem_cons_of_mem _ he')]
      cases Seg.runWith (Seg.step c) s' es <;> rfl

/-- `smpi_backup_global_memory_segment` + `smpi_init_global_memory_segment_process` for every rank: each rank's private file
    starts as a copy of the executable's data segment, the mapping is untouched, and the invariant holds (maestro runs) -/
theorem setup_regions (s : Seg.St) (ranks : List Nat) (hc : s.cur = none) :
    (∀ r ∈ ranks, (Seg.setup s ranks).region r = s.orig) ∧ (Seg.setup s ranks).loaded = s.loaded ∧
      (Seg.setup s ranks).other = s.other ∧ ∀ c, Seg.Inv c (Seg.setup s ranks) := by
  rw [Seg.setup, Seg.foldl_initProc]
  exact ⟨fun r hr => funext fun _ => if_pos hr, rfl, rfl, fun _ => Seg.inv_of_cur_none hc⟩

theorem ideal_store_invisible (c : Seg.Cfg) (s s' : Seg.Ideal) (i j a a' : Nat) (v : Int) (hij : j ≠ i)
    (hs : Seg.istep c s (.store i a v) = some (s', none)) (ha : c.inSeg a = true) : Seg.viewRd c s' j a' = Seg.viewRd c s j a' := by
  cases (Option.ite_none_right_eq_some.mp hs).2
  unfold Seg.viewWr Seg.viewRd
  rw [if_pos ha]
  exact ite_congr rfl (fun _ => if_neg fun h => hij h.1) fun _ => rfl

/-- a global → global message on a concrete state: segment [100, 104), rank 0 holds 1 and rank 1 holds 2 at offset 0, rank
    1's file is mapped.  The callback maps rank 0's file, saves the byte to the temp buffer, maps rank 1's file and stores
    it at offset 1 of rank 1's copy: rank 1 receives rank 0's value (not its own 2), nothing else changes, rank 1's file
    stays mapped.  (Without the temp copy the memcpy would read address 100 after the second switch, i.e. rank 1's own 2.) -/
theorem commCopy_global_to_global_example :
    let c : Seg.Cfg := ⟨100, 4⟩
    let s : Seg.St := ⟨fun _ => 0, fun _ => 0, fun r _ => if r = 0 then 1 else 2, some 1, fun _ => 0, none⟩
    (Seg.commCopyImpl c s 0 1 100 101 1).region 1 1 = 1 ∧ (Seg.commCopyImpl c s 0 1 100 101 1).region 0 0 = 1 ∧
    (Seg.commCopyImpl c s 0 1 100 101 1).region 1 0 = 2 ∧ (Seg.commCopyImpl c s 0 1 100 101 1).loaded = some 1 := by
  decide +kernel

/-- non-vacuity of `segment_isolation`: stores to globals and to the stack, a kernel switch that the address filter
    refuses, global → stack and stack → global messages; every value read is the rank's own -/
example :
    let c : Seg.Cfg := ⟨100, 4⟩
    let s0 : Seg.St := Seg.setup ⟨fun o => 10 + o, fun _ => 0, fun _ _ => 0, none, fun _ => 0, none⟩ [0, 1]
    (Seg.runWith (Seg.step c) s0
      [.resume 0, .store 0 100 5, .store 0 500 77, .resume 1, .load 1 100, .store 1 100 6, .kswitch 0 (some 500),
       .commCopy 0 1 100 600 2, .commCopy 1 0 600 102 1, .resume 0, .load 0 100, .load 0 102, .resume 1, .load 1 600,
       .load 1 601, .load 1 102]).map (·.2) = some [10, 5, 5, 5, 11, 12] := by
  decide +kernel

end SgVerif.C36
