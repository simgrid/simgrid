import SgVerif.C29.LemmasBcast
import SgVerif.C29.LemmasReduce
import SgVerif.C29.LemmasExchange
/-
C29 — Every collective algorithm computes the MPI result.  First theorems on the specification (Model.lean, section Spec), for
every communicator size, count, buffers and every associative operator (commutative where stated); then the round-based
models of nine schedules (the `…_eq_spec` theorems) compute the spec's result for every communicator size, root and rank.
The other selectable algorithms are not modelled: they are tied to the spec by the correspondence only.
-/
namespace SgVerif.C29
variable {α : Type}

/-- **Any reduction tree equals the left fold.**  For an associative and commutative operator, whatever tree an
algorithm uses (any bracketing, any order of the ranks' contributions — `t.leaves` is any permutation of
`x :: xs`), the value is `x ⊕ xs₀ ⊕ xs₁ ⊕ …`: this is why every algorithm must equal the one reference. -/
theorem reduce_any_tree_eq_fold (op : α → α → α) (hA : ∀ a b c, op (op a b) c = op a (op b c))
    (hC : ∀ a b, op a b = op b a) (t : RTree α) (x : α) (xs : List α) (hp : t.leaves.Perm (x :: xs)) :
    t.eval op = xs.foldl op x := by
  have h := fold1_perm op hA hC hp
  rw [tree_eval_fold op hA] at h
  exact Option.some.inj h

/-- the same on whole buffers: MPI reductions are element-wise, and the element-wise operator is associative and
commutative as soon as `op` is; `reduceAll` is the value of every tree over the ranks' buffers -/
theorem reduce_any_tree_eq_reduceAll (op : α → α → α) (hA : ∀ a b c, op (op a b) c = op a (op b c))
    (hC : ∀ a b, op a b = op b a) (t : RTree (List α)) (b : List α) (bs : List (List α)) (hp : t.leaves.Perm (b :: bs)) :
    reduceAll op (b :: bs) = some (t.eval (zipOp op)) := by
  rw [reduce_any_tree_eq_fold (zipOp op) (zipOp_assoc op hA) (zipOp_comm op hC) t b bs hp]
  rfl

/-- a tree that keeps the rank order needs associativity only (what MPI requires for non-commutative operators) -/
theorem reduce_ordered_tree_eq_fold (op : α → α → α) (hA : ∀ a b c, op (op a b) c = op a (op b c))
    (t : RTree α) (x : α) (xs : List α) (hl : t.leaves = x :: xs) : t.eval op = xs.foldl op x := by
  have h := tree_eval_fold op hA t
  rw [hl] at h
  exact (Option.some.inj h).symm

/-- `allreduce = bcast ∘ reduce`: put the root's reduce result in the root's buffer and broadcast it -/
theorem allreduce_eq_bcast_reduce (op : α → α → α) (root : Nat) (bufs : Bufs α) (res : Res α) (v : List α)
    (hr : reduce op root bufs = some res) (hv : res[root]? = some (some v)) :
    bcast root (bufs.set root v) = allreduce op bufs := by
  obtain ⟨hlt, hra⟩ := reduce_root op root bufs res v hr hv
  simp [bcast, allreduce, hra, hlt]

/-- `allgather = bcast ∘ gather` -/
theorem allgather_eq_bcast_gather (root : Nat) (bufs : Bufs α) (res : Res α) (v : List α)
    (hr : gather root bufs = some res) (hv : res[root]? = some (some v)) :
    bcast root (bufs.set root v) = allgather bufs := by
  obtain ⟨hlt, rfl⟩ := gather_root root bufs res v hr hv
  simp [bcast, allgather, hlt]

/-- **scan, prefix property**: rank 0 gets its own buffer, rank `r+1` gets (result of rank `r`) ⊕ (buffer of `r+1`),
and the last rank gets the allreduce value -/
theorem scan_zero (op : α → α → α) (b : List α) (bs : Bufs α) (res : Res α) (h : scan op (b :: bs) = some res) :
    res[0]? = some (some b) :=
  scan_get op _ res 0 h (Nat.succ_pos _)

theorem scan_succ (op : α → α → α) (bufs : Bufs α) (res : Res α) (r : Nat) (x : List α) (h : scan op bufs = some res)
    (hx : bufs[r + 1]? = some x) :
    ∃ p, res[r]? = some (some p) ∧ res[r + 1]? = some (some (zipOp op p x)) := by
  have hlt : r + 1 < bufs.length := (List.getElem?_eq_some_iff.mp hx).1
  rw [scan_get op bufs res r h (by omega), scan_get op bufs res (r + 1) h hlt, List.take_add_one (i := r + 1), hx,
    reduceAll_eq_fold1, reduceAll_eq_fold1]
  cases hp : fold1 (zipOp op) (bufs.take (r + 1)) with
  | none =>
    cases bufs with
    | nil => cases hx
    | cons _ _ => cases hp
  | some p => exact ⟨p, rfl, congrArg some (fold1_concat _ hp x)⟩

theorem scan_last_eq_allreduce (op : α → α → α) (bufs : Bufs α) (res : Res α) (h : scan op bufs = some res)
    (hne : bufs ≠ []) : res[bufs.length - 1]? = some (reduceAll op bufs) := by
  have : 0 < bufs.length := List.length_pos_iff.mpr hne
  rw [scan_get op bufs res _ h (by omega), Nat.sub_add_cancel this, List.take_length]

/-- exscan is scan shifted by one rank -/
theorem exscan_succ_eq_scan (op : α → α → α) (bufs : Bufs α) (rs re : Res α) (r : Nat) (hs : scan op bufs = some rs)
    (he : exscan op bufs = some re) (hr : r + 1 < bufs.length) : re[r + 1]? = rs[r]? := by
  cases he
  rw [scan_get op bufs rs r hs (by omega), List.getElem?_map, List.getElem?_range hr]
  exact congrArg some (if_neg (Nat.succ_ne_zero r))

theorem transposeN_getElem? {β : Type} (n : Nat) (m : List (List β)) (r : Nat) (hr : r < n) :
    (transposeN n m)[r]? = some (m.filterMap (·[r]?)) := by
  rw [transposeN_eq, List.getElem?_map, List.getElem?_range hr]; rfl

/-- **alltoall is the block transpose**: block `j` of the receive buffer of rank `r` is block `r` of the send buffer
of rank `j` -/
theorem alltoall_column (c : Nat) (bufs : Bufs α) (res : Res α) (r : Nat) (hr : r < bufs.length)
    (h : alltoall c bufs = some res) :
    (∀ row ∈ bufs.map (chunks c bufs.length), r < row.length) ∧
    res[r]? = some (some ((bufs.map (chunks c bufs.length)).filterMap (·[r]?)).flatten) := by
  refine ⟨fun row hrow => ?_, ?_⟩
  · obtain ⟨b, _, rfl⟩ := List.mem_map.mp hrow
    rw [chunks_length]; exact hr
  · unfold alltoall at h
    split at h
    · cases h
      rw [List.getElem?_map, transposeN_getElem? _ _ _ hr]
      rfl
    · cases h

theorem transpose_entry {β : Type} (n : Nat) (m : List (List β)) (r j : Nat) (hr : r < n)
    (hrow : ∀ row ∈ m, r < row.length) :
    ((transposeN n m)[r]?).bind (·[j]?) = (m[j]?).bind (·[r]?) := by
  rw [transposeN_getElem? n m r hr]
  simp only [Option.bind_some]
  exact filterMap_col m r j hrow

/-- **reduce_scatter = scatterv ∘ reduce**: reduce to `root`, put the result in the root's buffer and scatter it with
the counts `cnts` at consecutive displacements -/
theorem reduce_scatter_eq_scatter_reduce (op : α → α → α) (root : Nat) (cnts : List Nat) (bufs : Bufs α) (res : Res α)
    (v : List α) (hr : reduce op root bufs = some res) (hv : res[root]? = some (some v)) :
    scatterv root cnts (offsets 0 cnts) (bufs.set root v) = reduceScatter op cnts bufs := by
  obtain ⟨hlt, hra⟩ := reduce_root op root bufs res v hr hv
  unfold scatterv reduceScatter
  simp [hra, hlt, offsets_length]

/-- **reduce_scatter_block = scatter ∘ reduce** (all buffers of `np * c` cells) -/
theorem reduce_scatter_block_eq_scatter_reduce (op : α → α → α) (root c : Nat) (bufs : Bufs α) (res : Res α)
    (v : List α) (hlen : ∀ b ∈ bufs, b.length = bufs.length * c) (hr : reduce op root bufs = some res)
    (hv : res[root]? = some (some v)) :
    scatter root c (bufs.set root v) = reduceScatter op (List.replicate bufs.length c) bufs := by
  obtain ⟨hlt, hra⟩ := reduce_root op root bufs res v hr hv
  have hvl : v.length = bufs.length * c := reduce_count op _ bufs v hlen hra
  have hsl := slices_replicate c bufs.length 0 v (by omega)
  unfold scatter reduceScatter
  simp [hra, hlt, hvl, hsl]

theorem mem_transposeN {β : Type} (n : Nat) (m : List (List β)) (row : List β) (h : row ∈ transposeN n m) :
    ∃ r, r < n ∧ row = m.filterMap (·[r]?) := by
  rw [transposeN_eq] at h
  obtain ⟨r, hr, rfl⟩ := List.mem_map.mp h
  exact ⟨r, List.mem_range.mp hr, rfl⟩

theorem transposeN_rows {β : Type} (n : Nat) (m : List (List β)) (hrow : ∀ row ∈ m, row.length = n) :
    ∀ row ∈ transposeN n m, row.length = m.length := by
  intro row hmem
  obtain ⟨r, hr, rfl⟩ := mem_transposeN n m row hmem
  exact filterMap_col_length m r (fun row' h' => by rw [hrow row' h']; exact hr)

theorem transposeN_involutive {β : Type} (n : Nat) (m : List (List β)) (hm : m.length = n)
    (hrow : ∀ row ∈ m, row.length = n) : transposeN n (transposeN n m) = m := by
  rw [transposeN_eq, transposeN_eq]
  refine map_range_eq n m _ hm fun j hj => ?_
  have hj' : j < m.length := hm ▸ hj
  have hlen := hrow _ (List.getElem_mem hj')
  -- row `j` of the double transpose collects entry `j` of every column, i.e. the entries of row `j`
  rw [List.filterMap_map, List.getElem?_eq_getElem hj', ← hlen]
  refine congrArg some ((filterMap_range_getElem? m[j]).symm.trans (filterMap_congr_ptw fun r hr => ?_))
  rw [hlen] at hr
  simp only [Function.comp]
  rw [filterMap_col m r j fun row h => by rw [hrow row h]; exact List.mem_range.mp hr, List.getElem?_eq_getElem hj']
  rfl

/-- **alltoall ∘ alltoall = id**: sending the received buffers back returns every rank's original send buffer -/
theorem alltoall_involutive (c : Nat) (bufs : Bufs α) (res : Res α) (h : alltoall c bufs = some res) :
    alltoall c (res.map (·.getD [])) = some (bufs.map some) := by
  unfold alltoall at h
  split at h
  · rename_i hall
    cases h
    have hlen : ∀ b ∈ bufs, b.length = bufs.length * c := fun b hb => by simpa using List.all_eq_true.mp hall b hb
    have hM : (bufs.map (chunks c bufs.length)).length = bufs.length := List.length_map ..
    have hMrow : ∀ row ∈ bufs.map (chunks c bufs.length), row.length = bufs.length := by
      intro row hrow
      obtain ⟨b, _, rfl⟩ := List.mem_map.mp hrow
      exact chunks_length _ _ _
    have hTT := transposeN_involutive bufs.length _ hM hMrow
    have hTrow := transposeN_rows bufs.length _ hMrow
    have hTlen := transposeN_length bufs.length (bufs.map (chunks c bufs.length))
    -- every block of the transposed matrix `T` has `c` cells
    have hblk : ∀ row ∈ transposeN bufs.length (bufs.map (chunks c bufs.length)), ∀ x ∈ row, x.length = c := by
      intro row hmem x hx
      obtain ⟨r, _, rfl⟩ := mem_transposeN _ _ row hmem
      obtain ⟨row', hrow', hget⟩ := List.mem_filterMap.mp hx
      have hx' := List.mem_of_getElem? hget
      obtain ⟨b, hb, rfl⟩ := List.mem_map.mp hrow'
      exact chunks_mem_length c bufs.length b (hlen b hb) x hx'
    rw [hM] at hTrow
    generalize transposeN bufs.length (bufs.map (chunks c bufs.length)) = T at hTT hTrow hTlen hblk ⊢
    -- the received buffers are the flattened rows of `T`; cutting them gives `T` back, transposing `T` the matrix
    have hres : (T.map fun row => some row.flatten).map (·.getD []) = T.map List.flatten := by
      rw [List.map_map]; rfl
    have hall' : ((T.map List.flatten).all fun b => decide (b.length = (T.map List.flatten).length * c)) = true := by
      rw [List.length_map, hTlen]
      apply List.all_eq_true.mpr
      intro b hb
      obtain ⟨row, hrow, rfl⟩ := List.mem_map.mp hb
      rw [flatten_length_const c row (hblk row hrow), hTrow row hrow]
      exact decide_eq_true rfl
    have hch : (T.map List.flatten).map (chunks c bufs.length) = T := by
      rw [List.map_map]
      conv => rhs; rw [← List.map_id T]
      exact List.map_congr_left fun row hrow => chunks_flatten c bufs.length row (hTrow row hrow) (hblk row hrow)
    unfold alltoall
    rw [hres, if_pos hall', List.length_map, hTlen, hch, hTT, List.map_map]
    congr 1
    conv => rhs; rw [← List.map_id bufs, List.map_map]
    exact List.map_congr_left fun b hb =>
      congrArg some (flatten_chunks c bufs.length b (by rw [hlen b hb]; exact Nat.le_refl _))
  · cases h

/-- **gather ∘ scatter = id** on the root's buffer -/
theorem gather_scatter_inverse (root c : Nat) (bufs : Bufs α) (res : Res α) (h : scatter root c bufs = some res) :
    ∃ b, bufs[root]? = some b ∧ gather root (res.map (·.getD [])) = some (onlyAt bufs.length root b) := by
  unfold scatter at h
  cases hb : bufs[root]? with
  | none => simp only [hb] at h; cases h
  | some b =>
    simp only [hb] at h
    split at h
    · rename_i hl
      cases h
      refine ⟨b, rfl, ?_⟩
      unfold gather
      rw [map_getD_map_some, chunks_length, if_pos (List.getElem?_eq_some_iff.mp hb).1,
        flatten_chunks c bufs.length b (by omega)]
    · cases h

/-- **scatter ∘ gather = id** on buffers of `c` cells -/
theorem scatter_gather_inverse (root c : Nat) (bufs : Bufs α) (res : Res α) (v : List α) (hc : ∀ b ∈ bufs, b.length = c)
    (hg : gather root bufs = some res) (hv : res[root]? = some (some v)) :
    scatter root c (bufs.set root v) = some (bufs.map some) := by
  obtain ⟨hlt, rfl⟩ := gather_root root bufs res v hg hv
  unfold scatter
  simp [hlt, flatten_length_const c bufs hc, chunks_flatten c bufs.length bufs rfl hc]

/-- count 0: every rank of a non-empty communicator gets the empty buffer from an allreduce -/
theorem allreduce_count_zero (op : α → α → α) (bufs : Bufs α) (hne : bufs ≠ []) (hb : ∀ b ∈ bufs, b.length = 0) :
    allreduce op bufs = some (everywhere bufs.length []) := by
  cases hra : reduceAll op bufs with
  | none => cases bufs with
    | nil => exact absurd rfl hne
    | cons b bs => simp [reduceAll] at hra
  | some v =>
    have := reduce_count op 0 bufs v hb hra
    have hv : v = [] := List.eq_nil_of_length_eq_zero this
    simp [allreduce, hra, hv]

/-- non-vacuity: 3 ranks, 1 cell per block: transpose twice -/
example : alltoall 1 [[1, 2, 3], [4, 5, 6], [7, 8, 9]] = some [some [1, 4, 7], some [2, 5, 8], some [3, 6, 9]] ∧
    alltoall 1 [[1, 4, 7], [2, 5, 8], [3, 6, 9]] = some [some [1, 2, 3], some [4, 5, 6], some [7, 8, 9]] := by decide
/-- count 0 -/
example : allreduce (· + ·) [([] : List Int), [], []] = some [some [], some [], some []] := by decide
/-- non-vacuity: reduce_scatter of 3 ranks with counts 2,0,1 (a zero count, total 3 = np) -/
example : reduceScatter (· + ·) [2, 0, 1] [[1, 2, 3], [10, 20, 30], [100, 200, 300]]
    = some [some [111, 222], some [], some [333]] ∧
    reduce (· + ·) 1 [[1, 2, 3], [10, 20, 30], [100, 200, 300]] = some [none, some [111, 222, 333], none] := by decide
example : scatter 1 2 [[], [1, 2, 3, 4, 5, 6], []] = some [some [1, 2], some [3, 4], some [5, 6]] ∧
    gather 1 [[1, 2], [3, 4], [5, 6]] = some [none, some [1, 2, 3, 4, 5, 6], none] := by decide

/-- **allreduce recursive doubling = the spec, for every communicator size** (power of two or not: the pre/post phase
of allreduce-rdb.cpp is part of the model) and every rank, for any ASSOCIATIVE operator: the schedule keeps the rank
order, commutativity is not needed.  `x r` = send buffer of rank `r`. -/
theorem allreduce_rdb_eq_spec (op : α → α → α) (hA : ∀ a b c, op (op a b) c = op a (op b c)) (x : Nat → List α)
    (np r : Nat) (hnp : 1 ≤ np) (hr : r < np) :
    some (allreduceRdb (zipOp op) x np r) = reduceAll op ((List.range np).map x) := by
  rw [reduceAll_eq_fold1, allreduceRdb_fold (zipOp op) (zipOp_assoc op hA) x np r hr]

/-- **allgather ring = the spec, for every communicator size and rank**: after the `np-1` rounds every slot of the
receive buffer of `rank` holds the block of the corresponding rank (every posted receive is matched by the send the
schedule pairs it with: the `(src + i) % np = rank` test of the model never fails). -/
theorem allgather_ring_eq_spec (bufs : Bufs α) (rank : Nat) (hr : rank < bufs.length) :
    allgatherRing bufs rank = bufs.map some := by
  have h0 : (rank + bufs.length - 0) % bufs.length = rank := by
    rw [Nat.sub_zero, Nat.add_mod_right, Nat.mod_eq_of_lt hr]
  unfold allgatherRing
  rw [List.getElem?_eq_getElem hr]
  simp only
  -- the local copy is round 0 of the ring
  have := fill_full (fun k => match k with
      | 0 => List.replicate bufs.length none
      | k + 1 => ringRounds bufs rank k (setSlot (List.replicate bufs.length none) rank bufs[rank]))
    (fun i => (rank + bufs.length - i) % bufs.length) (bufs[·]?) bufs.length
    (fun k hk => by
      cases k with
      | zero => simp only [ringRounds, setSlot, h0, List.getElem?_eq_getElem hr]
      | succ k =>
        simp only [ringRounds, setSlot, if_pos (ring_back bufs.length rank (k + 1) hr (Nat.le_of_lt hk)),
          List.getElem?_eq_getElem (Nat.mod_lt (rank + bufs.length - (k + 1)) (Nat.zero_lt_of_lt hr))])
    (fun _ _ => Nat.mod_lt _ (by omega)) (fun s hs => ring_sub_sub _ rank s hr hs) (List.length_replicate ..)
  obtain ⟨n, hn⟩ : ∃ n, bufs.length = n + 1 := ⟨bufs.length - 1, by omega⟩
  rw [hn] at this
  rw [hn, Nat.add_sub_cancel]
  refine this.trans ?_
  rw [← hn]
  exact map_range_getElem? bufs

/-- **binomial-tree broadcast (bcast-binomial-tree.cpp, also `bcast__default`) = the spec, for every communicator size
and every root**: after the rounds at masks `2^(K-1) … 1` every rank holds the root's buffer.  (Every posted receive is
matched by the send of the model's `sendsAt` test, which is proved to succeed: `sendsAt_parent`.) -/
theorem bcast_binomial_eq_spec (bufs : Bufs α) (root : Nat) (hroot : root < bufs.length) :
    some (bcastBinomial bufs.length root bufs[root]) = bcast root bufs := by
  unfold bcast
  rw [List.getElem?_eq_getElem hroot, bcastBinomial_eq _ _ _ hroot]
  rfl

/-- the same, rank by rank -/
theorem bcast_binomial_rank (np root rank : Nat) (v : α) (hroot : root < np) (hr : rank < np) :
    (bcastBinomial np root v)[rank]? = some (some v) := by
  rw [bcastBinomial_eq _ _ _ hroot, List.getElem?_map, List.getElem?_range hr]
  rfl

/-- non-vacuity: 6 ranks, root 4 -/
example : bcastBinomial 6 4 'x' = List.replicate 6 (some 'x') := by decide

/-- **pairwise-exchange alltoall (alltoall-pair.cpp) = the spec, for every power-of-two communicator size** (the code
refuses the other sizes, and so does the model: `alltoall_pair_refuses`), every rank, every block size: the slots
received by `rank` are block `rank` of every rank's send buffer, i.e. `rank`'s receive buffer of `MPI_Alltoall`. -/
theorem alltoall_pair_eq_spec (c : Nat) (bufs : Bufs α) (res : Res α) (rank : Nat) (hp : isPow2 bufs.length = true)
    (hr : rank < bufs.length) (h : alltoall c bufs = some res) :
    ((alltoallPair (bufs.map (chunks c bufs.length)) rank).bind allSome).map (fun row => some row.flatten) = res[rank]? := by
  obtain ⟨hrow, hres⟩ := alltoall_column c bufs res rank hr h
  rw [hres, alltoallPair_blocks (bufs.map (chunks c bufs.length)) rank (by simpa using hp) hrow (by simpa using hr),
    Option.bind_some, allSome_map_some]
  rfl

theorem alltoall_pair_refuses (blocks : List (List (List α))) (rank : Nat) (hp : isPow2 blocks.length = false) :
    alltoallPair blocks rank = none := by
  simp [alltoallPair, hp]

/-- non-vacuity: 4 ranks, 1 cell per block; and a refused size -/
example : alltoallPair [[[1], [2], [3], [4]], [[5], [6], [7], [8]], [[9], [10], [11], [12]], [[13], [14], [15], [16]]] 2
    = some [some [3], some [7], some [11], some [15]] := by decide
example : alltoallPair [[[1], [2], [3]], [[4], [5], [6]], [[7], [8], [9]]] 1 = none := by decide

/-- **ring alltoall (alltoall-ring.cpp) = the spec, for EVERY communicator size** (the pairwise exchange above only
exists for powers of two), every rank, every block size: in round `i` rank `r` receives from `(r - i) % np` the block
that this rank sends to `((r - i) + i) % np = r`. -/
theorem alltoall_ring_eq_spec (c : Nat) (bufs : Bufs α) (res : Res α) (rank : Nat) (hr : rank < bufs.length)
    (h : alltoall c bufs = some res) :
    (allSome (alltoallRing (bufs.map (chunks c bufs.length)) rank)).map (fun row => some row.flatten) = res[rank]? := by
  obtain ⟨hrow, hres⟩ := alltoall_column c bufs res rank hr h
  rw [hres, alltoallRing_blocks (bufs.map (chunks c bufs.length)) rank hrow (by simpa using hr), allSome_map_some]
  rfl

/-- non-vacuity: 3 ranks (not a power of two), 1 cell per block -/
example : alltoallRing [[[1], [2], [3]], [[4], [5], [6]], [[7], [8], [9]]] 1 = [some [2], some [5], some [8]] := by decide

/-- **flat-tree reduce (reduce-flat-tree.cpp) = the spec, for every communicator size and root**: the root computes
`x₀ ⊕ (x₁ ⊕ (… ⊕ x_{np-1}))`; associativity only. -/
theorem reduce_flat_tree_eq_spec (op : α → α → α) (hA : ∀ a b c, op (op a b) c = op a (op b c)) (x : Nat → List α)
    (np root : Nat) (hnp : 1 ≤ np) (hroot : root < np) :
    some (onlyAt np root (reduceFlatTree (zipOp op) x np)) = reduce op root ((List.range np).map x) := by
  obtain ⟨n, rfl⟩ : ∃ n, np = n + 1 := ⟨np - 1, by omega⟩
  exact reduce_of_fold op x _ root hroot _ (reduceFlatTree_fold (zipOp op) (zipOp_assoc op hA) x n)

/-- non-vacuity: 5 ranks, operator `+` -/
example : reduceFlatTree (zipOp (· + ·)) (fun r => [(r : Int), 1]) 5 = [10, 5] := by decide

/-- **binomial-tree reduce (reduce-binomial.cpp) = the spec, for every communicator size and root.**
`comm` is the operator's `is_commutative()` flag: when it is set the tree is rooted at `root` and the code applies
`received ⊕ mine` (the result is the fold of a rotation of the ranks, with swapped operands: commutativity needed and
assumed — `hC`); when it is not set the tree is rooted at rank 0, the code applies `mine ⊕ received`, and associativity
alone gives the rank-order fold. -/
theorem reduce_binomial_eq_spec (op : α → α → α) (hA : ∀ a b c, op (op a b) c = op a (op b c)) (comm : Bool)
    (hC : comm = true → ∀ a b, op a b = op b a) (x : Nat → List α) (np root : Nat) (hnp : 1 ≤ np) (hroot : root < np) :
    some (onlyAt np root (reduceBinomial (zipOp op) comm x np root)) = reduce op root ((List.range np).map x) :=
  reduce_of_fold op x np root hroot _
    (reduceBinomial_fold (zipOp op) (zipOp_assoc op hA) comm (fun h => zipOp_comm op (hC h)) x np root hroot)

/-- non-vacuity: 6 ranks (not a power of two), root 4, both branches -/
example : reduceBinomial (zipOp (· + ·)) true (fun r => [(r : Int), 1]) 6 4 = [15, 6] := by decide
example : reduceBinomial (zipOp (· ++ ·)) false (fun r => [[r]]) 6 4 = [[0, 1, 2, 3, 4, 5]] := by decide

/-- **logical-ring allreduce (allreduce-lr.cpp: ring reduce-scatter + ring allgather) = the spec, for every
communicator size and rank**, when the count is a positive multiple of the size (otherwise the code calls other
algorithms: redbcast for `rcount < size`, the selector's allreduce on the remainder — not modelled).  `x r b` = block `b`
(of `c` cells) of the send buffer of rank `r`.  The ring accumulates every block in the order `r, r-1, …` (cyclically):
commutativity is needed, as the source says ("assume commutative and associative reduce operator"). -/
theorem allreduce_lr_eq_spec (op : α → α → α) (hA : ∀ a b c, op (op a b) c = op a (op b c)) (hC : ∀ a b, op a b = op b a)
    (x : Nat → Nat → List α) (np c : Nat) (hnp : 1 ≤ np) (hlen : ∀ r b, r < np → b < np → (x r b).length = c)
    (rank : Nat) (hr : rank < np) :
    (allSome ((List.range np).map (allreduceLr (zipOp op) x np rank))).map List.flatten
      = reduceAll op ((List.range np).map fun r => ((List.range np).map (x r)).flatten) := by
  obtain ⟨n, rfl⟩ : ∃ n, np = n + 1 := ⟨np - 1, by omega⟩
  have hl : (List.range (n + 1)).map (allreduceLr (zipOp op) x (n + 1) rank)
      = ((List.range (n + 1)).map fun b => lrTotal (zipOp op) x (n + 1) b).map some := by
    rw [List.map_map]
    apply List.map_congr_left
    intro b hb
    exact allreduceLr_get (zipOp op) x (n + 1) rank b hr (List.mem_range.mp hb)
  have hblk := fold1_zipOp_blocks op (n + 1) c ((List.range (n + 1)).map x)
    (by rw [List.range_succ_eq_map]; exact List.cons_ne_nil _ _)
    (fun X hX b hb => by
      obtain ⟨r, hr', rfl⟩ := List.mem_map.mp hX
      exact hlen r b (List.mem_range.mp hr') hb)
    (lrTotal (zipOp op) x (n + 1))
    (fun b hb => by
      rw [List.map_map]
      exact lrTotal_fold (zipOp op) (zipOp_assoc op hA) (zipOp_comm op hC) x (n + 1) b hb)
  rw [List.map_map] at hblk
  rw [hl, allSome_map_some, Option.map_some, reduceAll_eq_fold1]
  exact hblk.symm

/-- non-vacuity: 3 ranks, 3 blocks of 2 cells -/
example : (allSome ((List.range 3).map (allreduceLr (zipOp (· + ·)) (fun r b => [(10 * r + b : Int), 1]) 3 1))).map List.flatten
    = some [30, 3, 33, 3, 36, 3] := by decide

/-- **Bruck allgather (allgather-bruck.cpp) = the spec, for every communicator size (power of two or not: the
remainder round is part of the model) and every rank**: after the doubling rounds, the remainder round and the final
local rotation, slot `i` of the receive buffer holds the block of rank `i`. -/
theorem allgather_bruck_eq_spec (bufs : Bufs α) (rank : Nat) (hr : rank < bufs.length) :
    allgatherBruck (fun r => bufs.getD r []) bufs.length rank = bufs.map some := by
  rw [allgatherBruck_eq _ _ _ hr]
  exact map_range_eq _ _ _ (List.length_map ..) fun i hi => by
    rw [List.getElem?_map, List.getD_eq_getElem?_getD, List.getElem?_eq_getElem hi]; rfl

/-- non-vacuity: 6 ranks (not a power of two) -/
example : allgatherBruck (fun r => [r]) 6 4 = [some [0], some [1], some [2], some [3], some [4], some [5]] := by decide

/-- non-vacuity: 5 ranks -/
example : allgatherRing [[1], [2], [3], [4], [5]] 3 = [some [1], some [2], some [3], some [4], some [5]] := by decide

/-- the model writes `newrank ^ mask` arithmetically; finite sanity check (enumeration, not a proof for all sizes) -/
example : ∀ nr < 64, ∀ k < 6, rdbPartner nr k = nr ^^^ 2 ^ k := by decide +kernel

/-- non-vacuity: 6 ranks (not a power of two), `+` on Int -/
example : allreduceRdb (zipOp (· + ·)) (fun r => [(r : Int), 10 * r]) 6 3 = [15, 150] := by decide

end SgVerif.C29
