import SgVerif.C29.Lemmas
import SgVerif.C29.LemmasSpec
/-
C29: the schedules that only move blocks.  Ring allgather, ring alltoall and pairwise alltoall fill one slot per round
(`fill_full`, from the equation of one round); Bruck's allgather grows a list of blocks.
-/
namespace SgVerif.C29
variable {α β : Type}

/-- the common shape of the exchange schedules (`ringRounds`, `a2aRingRounds`, `pairRounds`) once their tests succeed:
round `k` writes the block `val (src k)` of rank `src k` into slot `src k`.  If `src` is an involution of the rounds
`0 … n-1` (so slot `s` is written in round `src s`), after `k` rounds exactly the slots `s` with `src s < k` hold their block -/
theorem fill_full (g : Nat → List (Option β)) (src : Nat → Nat) (val : Nat → Option β) (n : Nat)
    (hstep : ∀ k, k < n → g (k + 1) = (g k).set (src k) (val (src k))) (hsrc : ∀ i, i < n → src i < n)
    (hinv : ∀ s, s < n → src (src s) = s) (hl : (g 0).length = n) : g n = (List.range n).map val := by
  have key : ∀ k, k ≤ n →
      (g k).length = n ∧ ∀ s, s < n → (g k)[s]? = if src s < k then some (val s) else (g 0)[s]? := by
    intro k hk
    induction k with
    | zero => exact ⟨hl, fun _ _ => rfl⟩
    | succ k ih =>
      have hkn : k < n := hk
      obtain ⟨ihl, ih⟩ := ih (Nat.le_of_lt hkn)
      rw [hstep k hkn]
      refine ⟨(List.length_set ..).trans ihl, fun s hs => ?_⟩
      rw [List.getElem?_set, ihl]
      by_cases he : src k = s
      · rw [if_pos he, if_pos (he ▸ hsrc k hkn), if_pos (by rw [← he, hinv k hkn]; omega), ← he]
      · have hne : src s ≠ k := fun h => he (h ▸ hinv s hs)
        rw [if_neg he, ih s hs]
        by_cases hlt : src s < k
        · rw [if_pos hlt, if_pos (by omega)]
        · rw [if_neg hlt, if_neg (by omega)]
  obtain ⟨h1, h2⟩ := key n (Nat.le_refl n)
  exact (map_range_eq n _ val h1 fun s hs => by rw [h2 s hs, if_pos (hsrc s hs)]).symm

theorem column_getD (blocks : List (List β)) (rank s : Nat) (hrow : ∀ row ∈ blocks, rank < row.length)
    (hs : s < blocks.length) : ∃ b, (blocks.getD s [])[rank]? = some b ∧ (blocks[s]?).bind (·[rank]?) = some b := by
  have : rank < (blocks[s]).length := hrow _ (List.getElem_mem hs)
  exact ⟨blocks[s][rank], by simp [List.getD_eq_getElem?_getD, hs, this]⟩

theorem map_column (blocks : List (List β)) (rank : Nat) (hrow : ∀ row ∈ blocks, rank < row.length) :
    (List.range blocks.length).map (fun s => (blocks.getD s [])[rank]?) = (blocks.filterMap (·[rank]?)).map some := by
  refine map_range_eq _ _ _ (by rw [List.length_map, filterMap_col_length blocks rank hrow]) fun s hs => ?_
  obtain ⟨b, hb1, hb2⟩ := column_getD blocks rank s hrow hs
  rw [List.getElem?_map, filterMap_col blocks rank s hrow, hb2, hb1]
  rfl

theorem alltoallRing_blocks (blocks : List (List β)) (rank : Nat) (hrow : ∀ row ∈ blocks, rank < row.length)
    (hr : rank < blocks.length) : alltoallRing blocks rank = (blocks.filterMap (·[rank]?)).map some := by
  unfold alltoallRing
  rw [fill_full (fun k => a2aRingRounds blocks rank k (List.replicate blocks.length none))
    (fun i => (rank + blocks.length - i) % blocks.length) (fun s => (blocks.getD s [])[rank]?) blocks.length
    (fun k hk => by
      -- round `k`: the source is `k` places back, its destination `k` places ahead is `rank` again, and it has a block for `rank`
      obtain ⟨b, hb, _⟩ := column_getD blocks rank _ hrow (Nat.mod_lt (rank + blocks.length - k) (by omega))
      simp only [a2aRingRounds, if_pos (ring_back blocks.length rank k hr (Nat.le_of_lt hk)), hb])
    (fun _ _ => Nat.mod_lt _ (by omega)) (fun s hs => ring_sub_sub _ rank s hr hs) (List.length_replicate ..)]
  exact map_column blocks rank hrow

/-- the test of alltoall-pair.cpp accepts exactly the powers of two -/
theorem isPow2_iff (n : Nat) : isPow2 n = true ↔ ∃ k, n = 2 ^ k := by
  unfold isPow2
  constructor
  · intro h
    simp only [Bool.and_eq_true, bne_iff_ne, ne_eq, beq_iff_eq] at h
    exact (Nat.and_sub_one_eq_zero_iff_isPowerOfTwo h.1).mp h.2
  · intro ⟨k, hk⟩
    have hne : n ≠ 0 := by have := Nat.two_pow_pos k; omega
    simp only [Bool.and_eq_true, bne_iff_ne, ne_eq, beq_iff_eq]
    exact ⟨hne, (Nat.and_sub_one_eq_zero_iff_isPowerOfTwo hne).mpr ⟨k, hk⟩⟩

theorem xor_cancel_right (a b : Nat) : (a ^^^ b) ^^^ b = a := by
  rw [Nat.xor_assoc, Nat.xor_self, Nat.xor_zero]

theorem xor_cancel_left (a b : Nat) : a ^^^ (a ^^^ b) = b := by
  rw [← Nat.xor_assoc, Nat.xor_self, Nat.zero_xor]

theorem alltoallPair_blocks (blocks : List (List (List α))) (rank : Nat) (hp : isPow2 blocks.length = true)
    (hrow : ∀ row ∈ blocks, rank < row.length) (hr : rank < blocks.length) :
    alltoallPair blocks rank = some ((blocks.filterMap (·[rank]?)).map some) := by
  obtain ⟨n, hn⟩ := (isPow2_iff _).mp hp
  have hlt : ∀ s, s < blocks.length → rank ^^^ s < blocks.length := by
    intro s hs
    rw [hn] at hr hs ⊢
    exact Nat.xor_lt_two_pow hr hs
  unfold alltoallPair
  simp only [hp, if_true]
  rw [fill_full (fun k => pairRounds blocks rank k (List.replicate blocks.length none)) (fun i => rank ^^^ i)
    (fun s => (blocks.getD s [])[rank]?) blocks.length
    (fun k hk => by
      obtain ⟨b, hb, _⟩ := column_getD blocks rank _ hrow (hlt k hk)
      simp only [pairRounds, if_pos (xor_cancel_right rank k), hb])
    hlt (fun s _ => xor_cancel_left rank s) (List.length_replicate ..), map_column blocks rank hrow]

theorem bruck_dst (np p r : Nat) (hr : r < np) (hp : p ≤ np) : ((r + p) % np + np - p) % np = r := by
  rw [Nat.add_sub_assoc hp, Nat.mod_add_mod, show r + p + (np - p) = r + np by omega, Nat.add_mod_right,
    Nat.mod_eq_of_lt hr]

/-- `tmp_buff` of rank `r` holds the blocks of ranks `r, r+1, …, r+n-1` (cyclically) -/
def bruckInv (x : Nat → β) (np n : Nat) (st : Nat → List β) : Prop :=
  ∀ r, r < np → st r = (List.range n).map fun j => x ((r + j) % np)

theorem bruckRound_inv (x : Nat → β) (np p n : Nat) (st : Nat → List β) (hp : p ≤ np) (hn : n ≤ p) (hnp : 0 < np)
    (h : bruckInv x np p st) : bruckInv x np (p + n) (bruckRound np p n st) := by
  intro r hr
  unfold bruckRound
  simp only
  rw [if_pos (bruck_dst np p r hr hp), h r hr, h ((r + p) % np) (Nat.mod_lt _ hnp)]
  rw [List.take_of_length_le (by simp), ← List.map_take, List.take_range, Nat.min_eq_left hn, List.range_add,
    List.map_append, List.map_map]
  congr 1
  apply List.map_congr_left
  intro j _
  simp only [Function.comp]
  rw [Nat.mod_add_mod, Nat.add_assoc]

theorem bruckLoop_spec (x : Nat → β) (np : Nat) (hnp : 0 < np) (fuel p : Nat) (st : Nat → List β) (hp0 : 0 < p)
    (hp : p ≤ np) (hf : np < p * 2 ^ fuel) (h : bruckInv x np p st) :
    bruckInv x np (bruckLoop np fuel p st).1 (bruckLoop np fuel p st).2 ∧ (bruckLoop np fuel p st).1 ≤ np ∧
      np < 2 * (bruckLoop np fuel p st).1 := by
  induction fuel generalizing p st with
  | zero => exact ⟨h, hp, by rw [Nat.pow_zero] at hf; omega⟩
  | succ fuel ih =>
    unfold bruckLoop
    by_cases hc : p ≤ np / 2
    · rw [if_pos hc]
      exact ih (p * 2) _ (by omega) (by omega) (by rw [Nat.mul_assoc, ← Nat.pow_succ']; exact hf)
        (by rw [Nat.mul_two]; exact bruckRound_inv x np p p st hp (Nat.le_refl _) hnp h)
    · rw [if_neg hc]
      exact ⟨h, hp, by omega⟩

theorem allgatherBruck_eq (x : Nat → β) (np rank : Nat) (hr : rank < np) :
    allgatherBruck x np rank = (List.range np).map fun i => some (x i) := by
  have hnp : 0 < np := by omega
  obtain ⟨hinv, h1, h2⟩ := bruckLoop_spec x np hnp np 1 (fun r => [x r]) Nat.one_pos hnp
    (by rw [Nat.one_mul]; exact Nat.lt_two_pow_self) (by intro r hr'; simp [Nat.mod_eq_of_lt hr'])
  unfold allgatherBruck
  generalize bruckLoop np np 1 (fun r => [x r]) = res at hinv h1 h2
  obtain ⟨P, st'⟩ := res
  simp only at hinv h1 h2 ⊢
  -- after the remainder round (if any) `tmp_buff` holds all `np` blocks, starting with the rank's own
  have hfin : bruckInv x np np (if np - P ≠ 0 then bruckRound np P (np - P) st' else st') := by
    by_cases hrem : np - P ≠ 0
    · rw [if_pos hrem]
      have := bruckRound_inv x np P (np - P) st' h1 (by omega) hnp hinv
      rwa [Nat.add_sub_of_le h1] at this
    · rw [if_neg hrem]
      exact Nat.le_antisymm h1 (Nat.sub_eq_zero_iff_le.mp (Decidable.not_not.mp hrem)) ▸ hinv
  rw [hfin rank hr]
  apply List.map_congr_left
  intro i hi
  have hin : i < np := List.mem_range.mp hi
  split
  next hle =>
    rw [List.getElem?_map, List.getElem?_range (Nat.sub_lt_of_lt hin), Option.map_some,
      Nat.add_sub_of_le hle, Nat.mod_eq_of_lt hin]
  next =>
    rw [List.getElem?_map, List.getElem?_range (by omega), Option.map_some, ← Nat.add_assoc,
      Nat.add_sub_of_le (Nat.le_of_lt hr), Nat.add_mod_left, Nat.mod_eq_of_lt hin]

end SgVerif.C29
