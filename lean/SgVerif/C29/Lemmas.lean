import SgVerif.C29.Model
/-
C29: what all the schedules share.  A reduction schedule is verified by showing that every rank holds `fold1` of a
known list of contributions, which grows by concatenation (`fold1_append`); an exchange schedule by `fill_full`
(LemmasExchange).
-/
namespace SgVerif.C29
variable {α : Type}

/-- `a₀ ⊕ a₁ ⊕ … ⊕ aₙ`, left-nested; no value on the empty list (`reduceAll` is `fold1` of the element-wise operator) -/
def fold1 (op : α → α → α) : List α → Option α
  | [] => none
  | a :: l => some (l.foldl op a)

theorem reduceAll_eq_fold1 (op : α → α → α) (bufs : Bufs α) : reduceAll op bufs = fold1 (zipOp op) bufs := by
  cases bufs <;> rfl

theorem fold1_append (op : α → α → α) (hA : ∀ a b c, op (op a b) c = op a (op b c)) {l₁ l₂ : List α} {a b : α}
    (h₁ : fold1 op l₁ = some a) (h₂ : fold1 op l₂ = some b) : fold1 op (l₁ ++ l₂) = some (op a b) := by
  cases l₁ with
  | nil => cases h₁
  | cons x l₁ =>
    cases l₂ with
    | nil => cases h₂
    | cons y l₂ =>
      cases h₁; cases h₂
      simp only [List.cons_append, fold1, List.foldl_append, List.foldl_cons]
      rw [List.foldl_assoc (ha := ⟨hA⟩)]

theorem fold1_cons (op : α → α → α) (hA : ∀ a b c, op (op a b) c = op a (op b c)) (a : α) {l : List α} {b : α}
    (h : fold1 op l = some b) : fold1 op (a :: l) = some (op a b) :=
  fold1_append op hA (l₁ := [a]) rfl h

theorem fold1_concat (op : α → α → α) {l : List α} {a : α} (h : fold1 op l = some a) (b : α) :
    fold1 op (l ++ [b]) = some (op a b) := by
  cases l with
  | nil => cases h
  | cons x l => cases h; simp [fold1]

theorem fold1_perm (op : α → α → α) (hA : ∀ a b c, op (op a b) c = op a (op b c)) (hC : ∀ a b, op a b = op b a)
    {l₁ l₂ : List α} (hp : l₁.Perm l₂) : fold1 op l₁ = fold1 op l₂ := by
  induction hp with
  | nil => rfl
  | @cons x l₁ l₂ _ ih =>
    cases l₁ with
    | nil => cases l₂ with
      | nil => rfl
      | cons _ _ => cases ih
    | cons a l₁ => cases l₂ with
      | nil => cases ih
      | cons b l₂ =>
        simp only [fold1, List.foldl_cons]
        rw [List.foldl_assoc (ha := ⟨hA⟩), List.foldl_assoc (ha := ⟨hA⟩), Option.some.inj ih]
  | swap x y l => simp only [fold1, List.foldl_cons]; rw [hC]
  | trans _ _ ih₁ ih₂ => exact ih₁.trans ih₂

theorem tree_eval_fold (op : α → α → α) (hA : ∀ a b c, op (op a b) c = op a (op b c)) (t : RTree α) :
    fold1 op t.leaves = some (t.eval op) := by
  induction t with
  | leaf x => rfl
  | node l r ihl ihr => exact fold1_append op hA ihl ihr

theorem zipOp_assoc (op : α → α → α) (hA : ∀ a b c, op (op a b) c = op a (op b c)) (a b c : List α) :
    zipOp op (zipOp op a b) c = zipOp op a (zipOp op b c) := by
  unfold zipOp
  induction a generalizing b c with
  | nil => simp
  | cons x a ih =>
    cases b with
    | nil => simp
    | cons y b =>
      cases c with
      | nil => simp
      | cons z c => simp [hA, ih]

theorem zipOp_comm (op : α → α → α) (hC : ∀ a b, op a b = op b a) (a b : List α) : zipOp op a b = zipOp op b a :=
  List.zipWith_comm_of_comm hC

theorem zipOp_length (op : α → α → α) (a b : List α) : (zipOp op a b).length = min a.length b.length := by
  simp [zipOp]

theorem foldl_zipOp_length (op : α → α → α) (c : Nat) (b : List α) (bs : List (List α)) (hb : b.length = c)
    (h : ∀ x ∈ bs, x.length = c) : (bs.foldl (zipOp op) b).length = c := by
  induction bs generalizing b with
  | nil => exact hb
  | cons x bs ih =>
    simp only [List.foldl_cons]
    apply ih
    · rw [zipOp_length, hb, h x (by simp)]; exact Nat.min_self c
    · intro y hy; exact h y (by simp [hy])

/-- **any count, including 0 and counts below the communicator size**: the reduction of buffers of `c` cells has `c`
cells (nothing in the spec or in the theorems of Props.lean depends on `c ≥ np`) -/
theorem reduce_count (op : α → α → α) (c : Nat) (bufs : Bufs α) (v : List α) (hb : ∀ b ∈ bufs, b.length = c)
    (h : reduceAll op bufs = some v) : v.length = c := by
  cases bufs with
  | nil => cases h
  | cons b bs =>
    cases h
    exact foldl_zipOp_length op c b bs (hb b (by simp)) (fun x hx => hb x (by simp [hx]))

theorem map_range_eq {γ : Type} (n : Nat) (l : List γ) (f : Nat → γ) (hl : l.length = n)
    (h : ∀ s, s < n → l[s]? = some (f s)) : (List.range n).map f = l := by
  apply List.ext_getElem?
  intro s
  by_cases hs : s < n
  · rw [h s hs, List.getElem?_map, List.getElem?_range hs]; rfl
  · rw [List.getElem?_eq_none (by rw [List.length_map, List.length_range]; omega), List.getElem?_eq_none (by omega)]

theorem everywhere_getElem? (n : Nat) (v : List α) (r : Nat) (h : r < n) : (everywhere n v)[r]? = some (some v) := by
  simp [everywhere, h]

theorem onlyAt_getElem? (n root : Nat) (v : List α) (r : Nat) (h : r < n) :
    (onlyAt n root v)[r]? = some (if r = root then some v else none) := by
  simp [onlyAt, h]

theorem ring_sub (np a j : Nat) (ha : a < np) (hj : j ≤ np) :
    (a + np - j) % np = if j ≤ a then a - j else a + np - j := by
  split
  · rw [show a + np - j = a - j + np by omega, Nat.add_mod_right, Nat.mod_eq_of_lt (by omega)]
  · rw [Nat.mod_eq_of_lt (by omega)]

theorem ring_back (np a j : Nat) (ha : a < np) (hj : j ≤ np) : ((a + np - j) % np + j) % np = a := by
  rw [Nat.mod_add_mod, show a + np - j + j = a + np by omega, Nat.add_mod_right, Nat.mod_eq_of_lt ha]

theorem ring_sub_sub (np a b : Nat) (ha : a < np) (hb : b < np) : (a + np - (a + np - b) % np) % np = b := by
  rw [ring_sub np a b ha (Nat.le_of_lt hb)]
  split
  · rw [show a + np - (a - b) = b + np by omega, Nat.add_mod_right, Nat.mod_eq_of_lt hb]
  · rw [show a + np - (a + np - b) = b by omega, Nat.mod_eq_of_lt hb]

theorem ring_pred_sub (np r c j : Nat) (hnp : 0 < np) (hj : j < c) :
    ((r + np - 1) % np + c - j) % np = (r + c - (j + 1)) % np := by
  rw [Nat.add_sub_assoc (Nat.le_of_lt hj), Nat.mod_add_mod, show r + np - 1 + (c - j) = r + c - (j + 1) + np by omega,
    Nat.add_mod_right]

theorem rot_perm (np c : Nat) : ((List.range np).map fun d => (d + c) % np).Perm (List.range np) := by
  induction c with
  | zero =>
    have : (List.range np).map (fun d => (d + 0) % np) = (List.range np).map id :=
      List.map_congr_left fun d hd => Nat.mod_eq_of_lt (List.mem_range.mp hd)
    rw [this, List.map_id]
  | succ c ih =>
    -- one more shift moves the head `c % np` to the end: compare the two ways of writing `range (np + 1)`
    have e : c % np :: (List.range np).map (fun d => (d + (c + 1)) % np)
        = (List.range np).map (fun d => (d + c) % np) ++ [c % np] := by
      have h1 := congrArg (List.map fun d => (d + c) % np) (@List.range_succ_eq_map np)
      simp only [List.range_succ, List.map_append, List.map_cons, List.map_nil, List.map_map, Nat.add_mod_left,
        Nat.zero_add] at h1
      rw [h1]
      congr 1
      apply List.map_congr_left
      intro d _
      simp only [Function.comp, Nat.succ_eq_add_one]
      rw [Nat.add_right_comm, Nat.add_assoc]
    have h2 := List.perm_append_singleton (c % np) ((List.range np).map fun d => (d + c) % np)
    rw [← e] at h2
    exact ((List.perm_cons _).mp h2).trans ih

theorem ring_desc_perm (np r : Nat) : ((List.range np).map fun t => (r + np - t) % np).Perm (List.range np) := by
  refine (List.reverse_perm _).symm.trans (List.Perm.trans (List.Perm.of_eq ?_) (rot_perm np (r + 1)))
  rw [← List.map_reverse, List.range_eq_range', List.reverse_range', List.map_map, ← List.range_eq_range']
  apply List.map_congr_left
  intro i hi
  have := List.mem_range.mp hi
  simp only [Function.comp]
  congr 1
  omega

theorem log2up_spec (np : Nat) : np ≤ 2 ^ log2up np := by
  unfold log2up
  have hex : ∃ x, x ∈ List.range (np + 1) ∧ decide (np ≤ 2 ^ x) = true :=
    ⟨np, List.mem_range.mpr (by omega), by simpa using Nat.le_of_lt Nat.lt_two_pow_self⟩
  have hlt := List.findIdx_lt_length_of_exists hex
  have h := @List.findIdx_getElem _ (fun k => decide (np ≤ 2 ^ k)) (List.range (np + 1)) hlt
  rw [List.getElem_range] at h
  simpa using h

end SgVerif.C29
