import SgVerif.C29.Lemmas
/-
C29: the reduction schedules (flat tree, recursive doubling, binomial tree, logical ring).  Each invariant says which
list of contributions the value held by a rank is the `fold1` of.
-/
namespace SgVerif.C29
variable {α β : Type}

theorem flatLoop_fold (op : α → α → α) (hA : ∀ a b c, op (op a b) c = op a (op b c)) (x : Nat → α) (i : Nat)
    {l : List α} {acc : α} (h : fold1 op l = some acc) :
    fold1 op ((List.range i).map x ++ l) = some (flatLoop op x i acc) := by
  induction i generalizing l acc with
  | zero => exact h
  | succ i ih =>
    rw [List.range_succ, List.map_append, List.append_assoc]
    exact ih (fold1_cons op hA (x i) h)

theorem reduceFlatTree_fold (op : α → α → α) (hA : ∀ a b c, op (op a b) c = op a (op b c)) (x : Nat → α) (n : Nat) :
    fold1 op ((List.range (n + 1)).map x) = some (reduceFlatTree op x (n + 1)) := by
  rw [List.range_succ, List.map_append]
  exact flatLoop_fold op hA x n rfl

/-- one round: the two partners `2^k*(2q)+t` and `2^k*(2q+1)+t` (bit `k` flipped) both end with (lower value) ⊕ (upper value) -/
theorem rdbVal_succ (op : α → α → α) (g : Nat → α) (k q b t : Nat) (hb : b < 2) (ht : t < 2 ^ k) :
    rdbVal op g (k + 1) (2 ^ k * (2 * q + b) + t)
      = op (rdbVal op g k (2 ^ k * (2 * q) + t)) (rdbVal op g k (2 ^ k * (2 * q + 1) + t)) := by
  have hdiv : ∀ m, (2 ^ k * m + t) / 2 ^ k = m := fun m => by
    rw [Nat.mul_add_div (Nat.two_pow_pos k), Nat.div_eq_of_lt ht, Nat.add_zero]
  have hup : 2 ^ k * (2 * q + 1) + t = 2 ^ k * (2 * q) + t + 2 ^ k := by
    rw [Nat.mul_add, Nat.mul_one, Nat.add_right_comm]
  simp only [rdbVal, rdbPartner, hdiv]
  match b, hb with
  | 0, _ =>
    rw [Nat.add_zero, Nat.mul_mod_right, if_neg Nat.zero_ne_one, if_neg (Nat.not_lt.mpr (Nat.le_add_right ..)), hup]
  | 1, _ =>
    rw [Nat.mul_add_mod, if_pos (show 1 % 2 = 1 from rfl), hup, Nat.add_sub_cancel,
      if_pos (Nat.lt_add_of_pos_right (Nat.two_pow_pos k))]

/-- after `k` rounds every new rank of the aligned block `[2^k*q, 2^k*(q+1))` holds the ordered fold of the block -/
theorem rdbVal_fold (op : α → α → α) (hA : ∀ a b c, op (op a b) c = op a (op b c)) (g : Nat → α) (k q t : Nat)
    (ht : t < 2 ^ k) : fold1 op ((List.range' (2 ^ k * q) (2 ^ k)).map g) = some (rdbVal op g k (2 ^ k * q + t)) := by
  induction k generalizing q t with
  | zero =>
    have : t = 0 := by omega
    subst this
    simp [rdbVal, fold1]
  | succ k ih =>
    have hP := Nat.two_pow_pos k
    have hb : t / 2 ^ k < 2 := Nat.div_lt_of_lt_mul (by rw [← Nat.pow_succ]; exact ht)
    have hnr : 2 ^ (k + 1) * q + t = 2 ^ k * (2 * q + t / 2 ^ k) + t % 2 ^ k := by
      rw [Nat.pow_succ, Nat.mul_add, Nat.mul_assoc, Nat.add_assoc, Nat.div_add_mod]
    have hl : List.range' (2 ^ (k + 1) * q) (2 ^ (k + 1))
        = List.range' (2 ^ k * (2 * q)) (2 ^ k) ++ List.range' (2 ^ k * (2 * q + 1)) (2 ^ k) := by
      rw [Nat.mul_add, Nat.mul_one, List.range'_append_1, Nat.pow_succ, Nat.mul_assoc, Nat.mul_two]
    rw [hnr, rdbVal_succ op g k q _ _ hb (Nat.mod_lt _ hP), hl, List.map_append]
    exact fold1_append op hA (ih (2 * q) _ (Nat.mod_lt _ hP)) (ih (2 * q + 1) _ (Nat.mod_lt _ hP))

/-- the pre-phase only brackets neighbours: folding the first `n + 1` new ranks = folding the ranks they stand for -/
theorem rdbPre_fold (op : α → α → α) (hA : ∀ a b c, op (op a b) c = op a (op b c)) (x : Nat → α) (rem n : Nat) :
    fold1 op ((List.range (n + 1)).map (rdbPre op x rem))
      = fold1 op ((List.range (if n < rem then 2 * n + 2 else n + 1 + rem)).map x) := by
  induction n with
  | zero =>
    by_cases h : 0 < rem
    · simp [rdbPre, h, fold1, List.range_succ]
    · obtain rfl : rem = 0 := by omega
      rfl
  | succ n ih =>
    obtain ⟨v, hv⟩ : ∃ v, fold1 op ((List.range (n + 1)).map (rdbPre op x rem)) = some v := by
      rw [List.range_succ_eq_map]; exact ⟨_, rfl⟩
    rw [hv] at ih
    rw [List.range_succ, List.map_append, List.map_singleton, fold1_concat op hv]
    by_cases h1 : n + 1 < rem
    · have h0 : n < rem := by omega
      rw [if_pos h0] at ih
      rw [if_pos h1, show 2 * (n + 1) + 2 = 2 * n + 2 + 2 by omega, List.range_add, List.map_append,
        fold1_append op hA ih.symm rfl]
      simp only [rdbPre, if_pos h1, Nat.mul_add]
      rfl
    · rw [if_neg h1, Nat.add_right_comm (n + 1) 1 rem, List.range_succ, List.map_append, List.map_singleton]
      have hc : (if n < rem then 2 * n + 2 else n + 1 + rem) = n + 1 + rem := by split <;> omega
      rw [hc] at ih
      rw [fold1_concat op ih.symm]
      simp only [rdbPre, if_neg h1]

theorem allreduceRdb_fold (op : α → α → α) (hA : ∀ a b c, op (op a b) c = op a (op b c)) (x : Nat → α)
    (np r : Nat) (hr : r < np) : fold1 op ((List.range np).map x) = some (allreduceRdb op x np r) := by
  have hP1 : 2 ^ np.log2 ≤ np := Nat.log2_self_le (by omega)
  have hP2 : np < 2 ^ (np.log2 + 1) := Nat.lt_log2_self
  rw [Nat.pow_succ] at hP2
  have hPpos := Nat.two_pow_pos np.log2
  -- every new rank ends with the fold of the `pof2` pre-phase values, which is the fold of all the ranks
  have key : ∀ nr, nr < 2 ^ np.log2 →
      fold1 op ((List.range np).map x) = some (rdbVal op (rdbPre op x (np - 2 ^ np.log2)) np.log2 nr) := by
    intro nr hnr
    have h := rdbVal_fold op hA (rdbPre op x (np - 2 ^ np.log2)) np.log2 0 nr hnr
    have hpre := rdbPre_fold op hA x (np - 2 ^ np.log2) (2 ^ np.log2 - 1)
    rw [if_neg (by omega), Nat.sub_add_cancel hPpos, Nat.add_sub_cancel' hP1] at hpre
    rwa [Nat.mul_zero, Nat.zero_add, ← List.range_eq_range', hpre] at h
  unfold allreduceRdb pof2le
  simp only
  split
  · exact key _ (by omega)
  · exact key _ (by omega)

/-- while relative rank `rr = 2^k * q` is in its loop it holds the fold of the relative ranks `rr … min (rr + 2^k, np) - 1`,
in this order (a commutative operator is needed when the code applies `tmp op recvbuf`) -/
theorem binVal_fold (op : α → α → α) (hA : ∀ a b c, op (op a b) c = op a (op b c)) (comm : Bool)
    (hC : comm = true → ∀ a b, op a b = op b a) (g : Nat → α) (np k q : Nat) (hlt : 2 ^ k * q < np) :
    fold1 op ((List.range' (2 ^ k * q) (min (2 ^ k) (np - 2 ^ k * q))).map g)
      = some (binVal op comm g np k (2 ^ k * q)) := by
  induction k generalizing q with
  | zero =>
    rw [Nat.min_eq_left (by omega)]
    rfl
  | succ k ih =>
    have hlo := ih (2 * q)
    have hhi := ih (2 * q + 1)
    have hc2 : 2 ^ k * (2 * q + 1) % 2 ^ k = 0 := Nat.mul_mod_right _ _
    have hc3 : 2 ^ k * (2 * q + 1) / 2 ^ k % 2 = 1 := by rw [Nat.mul_div_cancel_left _ (Nat.two_pow_pos k), Nat.mul_add_mod]
    rw [Nat.pow_succ, Nat.mul_assoc] at hlt ⊢
    rw [Nat.mul_add, Nat.mul_one] at hhi hc2 hc3
    dsimp only [binVal]
    -- with `P = 2^k` and `s = P * (2 * q)`: `s` holds the block `[s, s + P)`, its partner `s + P` the rest
    clear ih
    generalize 2 ^ k = P at *
    generalize P * (2 * q) = s at *
    by_cases h : s + P < np
    · have hle : P ≤ np - s := Nat.le_sub_of_add_le' (Nat.le_of_lt h)
      have hlo := hlo hlt
      rw [Nat.min_eq_left hle] at hlo
      have := fold1_append op hA hlo (hhi h)
      rw [← List.map_append, List.range'_append_1, Nat.sub_add_eq, ← Nat.add_min_add_left, Nat.add_sub_of_le hle,
        ← Nat.mul_two] at this
      rw [if_pos ⟨h, hc2, hc3, Nat.add_sub_cancel ..⟩, this]
      cases comm with
      | true => rw [if_pos rfl, hC rfl]
      | false => rfl
    · have hle : np - s ≤ P := Nat.sub_le_iff_le_add'.mpr (Nat.not_lt.mp h)
      rw [if_neg (fun c => h c.1), ← hlo hlt, Nat.min_eq_right hle,
        Nat.min_eq_right (Nat.le_trans hle (Nat.le_mul_of_pos_right P Nat.two_pos))]

/-- the tree rooted at relative rank 0 holds the fold over the relative ranks, a rotation of the ranks when `comm` is set -/
theorem reduceBinomial_fold (op : α → α → α) (hA : ∀ a b c, op (op a b) c = op a (op b c)) (comm : Bool)
    (hC : comm = true → ∀ a b, op a b = op b a) (x : Nat → α) (np root : Nat) (hroot : root < np) :
    fold1 op ((List.range np).map x) = some (reduceBinomial op comm x np root) := by
  have hbin := binVal_fold op hA comm hC (fun d => x ((d + (if comm = true then root else 0)) % np)) np (log2up np) 0
    (by omega)
  rw [Nat.mul_zero, Nat.sub_zero, Nat.min_eq_right (log2up_spec np), ← List.range_eq_range'] at hbin
  rw [← show _ = some (reduceBinomial op comm x np root) from hbin]
  cases comm with
  | false =>
    exact congrArg _ (List.map_congr_left fun d hd => by
      rw [if_neg Bool.false_ne_true, Nat.add_zero, Nat.mod_eq_of_lt (List.mem_range.mp hd)])
  | true =>
    have hp := (rot_perm np root).map x
    rw [List.map_map] at hp
    exact (fold1_perm op hA (hC rfl) hp).symm

/-- value accumulated along the ring: `x r b ⊕ (x (r-1) b ⊕ (… ⊕ x (r-j) b))` (ranks modulo `np`) -/
def lrChain (op : β → β → β) (x : Nat → Nat → β) (np : Nat) : Nat → Nat → Nat → β
  | 0, r, b => x r b
  | j+1, r, b => op (x r b) (lrChain op x np j ((r + np - 1) % np) b)

theorem lrChain_fold (op : β → β → β) (hA : ∀ a b c, op (op a b) c = op a (op b c)) (x : Nat → Nat → β) (np j r b : Nat)
    (hr : r < np) (hj : j < np) :
    fold1 op ((List.range (j + 1)).map fun t => x ((r + np - t) % np) b) = some (lrChain op x np j r b) := by
  have h0 : (r + np - 0) % np = r := by rw [Nat.sub_zero, Nat.add_mod_right, Nat.mod_eq_of_lt hr]
  induction j generalizing r with
  | zero => rw [List.range_one, List.map_singleton, h0]; rfl
  | succ j ih =>
    rw [List.range_succ_eq_map, List.map_cons, List.map_map, h0, lrChain]
    refine fold1_cons op hA _ ?_
    rw [← ih _ (Nat.mod_lt _ (by omega)) (by omega)
      (by rw [Nat.sub_zero, Nat.add_mod_right, Nat.mod_mod])]
    congr 1
    apply List.map_congr_left
    intro t ht
    have := List.mem_range.mp ht
    simp only [Function.comp, Nat.succ_eq_add_one]
    rw [ring_pred_sub np r np t (by omega) (by omega)]

/-- reduce-scatter phase: after `k` rounds rank `r` holds in block `r - 1 - k` the chain of `k + 1` contributions -/
theorem lr_rs_inv (op : β → β → β) (x : Nat → Nat → β) (np k : Nat) (hk : k + 1 ≤ np) (r : Nat) (hr : r < np) (b : Nat)
    (hb : b = (r + 2 * np - (1 + k)) % np) :
    lrIter (lrRsRound op x np) k (lrInit x np) r b = some (lrChain op x np k r b) := by
  induction k generalizing r b with
  | zero =>
    rw [show r + 2 * np - (1 + 0) = r + np - 1 + np by omega, Nat.add_mod_right] at hb
    simp only [lrIter, lrInit, lrChain, if_pos hb]
  | succ k ih =>
    have hpb : ((r + np - 1) % np + 2 * np - (1 + k)) % np = b := by
      rw [hb, ring_pred_sub np r (2 * np) (1 + k) (by omega) (by omega)]
      rfl
    simp only [lrIter, lrRsRound]
    rw [if_pos ⟨by rw [hb, Nat.add_comm 2 k, Nat.add_comm 1 (k + 1)], ring_back np r 1 hr (by omega)⟩, hpb,
      ih (by omega) _ (Nat.mod_lt _ (by omega)) b hpb.symm]
    rfl

/-- what block `b` holds everywhere at the end: the chain that went once round the ring and stopped on rank `b` -/
def lrTotal (op : β → β → β) (x : Nat → Nat → β) (np b : Nat) : β := lrChain op x np (np - 1) b b

/-- allgather phase: after `k` rounds rank `r` holds the final blocks `r, r-1, …, r-k` -/
theorem lr_ag_inv (st : LrState β) (tot : Nat → β) (np k : Nat) (hk : k + 1 ≤ np)
    (h0 : ∀ r, r < np → st r r = some (tot r)) (r : Nat) (hr : r < np) (j : Nat) (hj : j ≤ k) :
    lrIter (lrAgRound np) k st r ((r + 2 * np - j) % np) = some (tot ((r + 2 * np - j) % np)) := by
  induction k generalizing r j with
  | zero =>
    obtain rfl : j = 0 := by omega
    rw [Nat.sub_zero, Nat.add_mod, Nat.mul_mod_left, Nat.add_zero, Nat.mod_mod, Nat.mod_eq_of_lt hr]
    exact h0 r hr
  | succ k ih =>
    have hp := ring_pred_sub np r (2 * np) k (by omega) (by omega)
    simp only [lrIter, lrAgRound]
    by_cases hc : (r + 2 * np - j) % np = (r + 2 * np - (1 + k)) % np ∧ ((r + np - 1) % np + 1) % np = r
    · -- the block received in this round, whatever `j` is
      rw [if_pos hc, hc.1, Nat.add_comm 1 k, ← hp]
      exact ih (by omega) _ (Nat.mod_lt _ (by omega)) k (Nat.le_refl _)
    · rw [if_neg hc]
      by_cases hjk : j = k + 1
      · exact absurd ⟨by rw [hjk, Nat.add_comm 1 k], ring_back np r 1 hr (by omega)⟩ hc
      · exact ih (by omega) r hr j (by omega)

theorem allreduceLr_get (op : β → β → β) (x : Nat → Nat → β) (np : Nat) (r b : Nat) (hr : r < np) (hb : b < np) :
    allreduceLr op x np r b = some (lrTotal op x np b) := by
  have hfin : ∀ r, r < np → lrIter (lrRsRound op x np) (np - 1) (lrInit x np) r r = some (lrTotal op x np r) := by
    intro r hr
    refine lr_rs_inv op x np (np - 1) (by omega) r hr r ?_
    rw [show r + 2 * np - (1 + (np - 1)) = r + np by omega, Nat.add_mod_right, Nat.mod_eq_of_lt hr]
  have hj := Nat.mod_lt (r + np - b) (Nat.zero_lt_of_lt hr)
  have h := lr_ag_inv _ (lrTotal op x np) np (np - 1) (by omega) hfin r hr _ (Nat.le_sub_one_of_lt hj)
  rw [Nat.two_mul, ← Nat.add_assoc, Nat.sub_add_comm (Nat.le_trans (Nat.le_of_lt hj) (Nat.le_add_left ..)),
    Nat.add_mod_right, ring_sub_sub np r b hr hb] at h
  exact h

theorem lrTotal_fold (op : β → β → β) (hA : ∀ a b c, op (op a b) c = op a (op b c)) (hC : ∀ a b, op a b = op b a)
    (x : Nat → Nat → β) (np b : Nat) (hb : b < np) :
    fold1 op ((List.range np).map fun r => x r b) = some (lrTotal op x np b) := by
  have h := lrChain_fold op hA x np (np - 1) b b hb (by omega)
  rw [show np - 1 + 1 = np by omega] at h
  have hp := (ring_desc_perm np b).map fun r => x r b
  rw [List.map_map] at hp
  exact (fold1_perm op hA hC hp).symm.trans h

theorem zipOp_flatten_map (op : α → α → α) (nb : Nat) (f g : Nat → List α) (h : ∀ b, b < nb → (f b).length = (g b).length) :
    zipOp op ((List.range nb).map f).flatten ((List.range nb).map g).flatten
      = ((List.range nb).map fun b => zipOp op (f b) (g b)).flatten := by
  induction nb generalizing f g with
  | zero => simp [zipOp]
  | succ n ih =>
    rw [List.range_succ_eq_map]
    simp only [List.map_cons, List.flatten_cons, List.map_map]
    unfold zipOp
    rw [List.zipWith_append (h 0 (by omega))]
    congr 1
    exact ih (f ∘ Nat.succ) (g ∘ Nat.succ) (fun b hb => h (b + 1) (by omega))

theorem foldl_zipOp_blocks (op : α → α → α) (nb c : Nat) (l : List (Nat → List α)) (a : Nat → List α)
    (ha : ∀ b, b < nb → (a b).length = c) (hl : ∀ X ∈ l, ∀ b, b < nb → (X b).length = c) :
    (l.map fun X => ((List.range nb).map X).flatten).foldl (zipOp op) ((List.range nb).map a).flatten
      = ((List.range nb).map fun b => (l.map (· b)).foldl (zipOp op) (a b)).flatten := by
  induction l generalizing a with
  | nil => rfl
  | cons X l ih =>
    have hX := hl X (List.mem_cons_self ..)
    rw [List.map_cons, List.foldl_cons, zipOp_flatten_map op nb a X fun b hb => (ha b hb).trans (hX b hb).symm]
    exact ih _ (fun b hb => by rw [zipOp_length, ha b hb, hX b hb, Nat.min_self])
      fun Y hY => hl Y (List.mem_cons_of_mem _ hY)

theorem fold1_zipOp_blocks (op : α → α → α) (nb c : Nat) (L : List (Nat → List α)) (hne : L ≠ [])
    (hL : ∀ X ∈ L, ∀ b, b < nb → (X b).length = c) (v : Nat → List α)
    (hv : ∀ b, b < nb → fold1 (zipOp op) (L.map (· b)) = some (v b)) :
    fold1 (zipOp op) (L.map fun X => ((List.range nb).map X).flatten) = some ((List.range nb).map v).flatten := by
  cases L with
  | nil => exact absurd rfl hne
  | cons a l =>
    simp only [List.map_cons, fold1]
    rw [foldl_zipOp_blocks op nb c l a (hL a (List.mem_cons_self ..)) fun Y hY => hL Y (List.mem_cons_of_mem _ hY)]
    congr 2
    apply List.map_congr_left
    intro b hb
    exact Option.some.inj (hv b (List.mem_range.mp hb))

end SgVerif.C29
