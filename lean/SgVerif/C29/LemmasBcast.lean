import SgVerif.C29.Lemmas
import SgVerif.Common.List
/-
C29: the binomial-tree broadcast.  `recvMask` (the first loop of the code) stops at the lowest set bit of the relative rank, so
after the rounds at masks `≥ 2^j` exactly the multiples of `2^j` hold the data (`bcastInv`, one round: `bcastRound_inv`).
-/
namespace SgVerif.C29
variable {α : Type}

theorem mod_pow_of_le (d a b : Nat) (h : a ≤ b) (hb : d % 2 ^ b = 0) : d % 2 ^ a = 0 := by
  rw [← Nat.mod_mod_of_dvd d (Nat.pow_dvd_pow 2 h), hb, Nat.zero_mod]

/-- if bit `i` is the lowest set bit of `d` (`d % 2^(i+1) = 2^i`) then `d` is a multiple of `2^i` -/
theorem lowbit_mod (d i : Nat) (h : d % 2 ^ (i + 1) = 2 ^ i) : d % 2 ^ i = 0 := by
  rw [← Nat.mod_mod_of_dvd d (Nat.pow_dvd_pow 2 (Nat.le_succ i)), h, Nat.mod_self]

theorem lowbit_ge (d k i : Nat) (hk : d % 2 ^ k = 0) (hi : d % 2 ^ (i + 1) = 2 ^ i) : k ≤ i := by
  apply Nat.le_of_not_lt
  intro hlt
  have := mod_pow_of_le d (i + 1) k hlt hk
  rw [hi] at this
  exact absurd this (Nat.pos_iff_ne_zero.mp (Nat.two_pow_pos i))

theorem lowbit_sub (d i : Nat) (h : d % 2 ^ (i + 1) = 2 ^ i) : (d - 2 ^ i) % 2 ^ (i + 1) = 0 := by
  exact Nat.sub_mod_eq_zero_of_mod_eq (h.trans (Nat.mod_eq_of_lt (Nat.pow_lt_pow_succ Nat.one_lt_two)).symm)

theorem recvMask_spec (fuel j rr np : Nat) (hrr : rr % 2 ^ j = 0) (hf : np ≤ 2 ^ (j + fuel)) :
    (∃ i, recvMask fuel rr np (2 ^ j) = (2 ^ i, true) ∧ 2 ^ i < np ∧ rr % 2 ^ (i + 1) = 2 ^ i) ∨
    (∃ i, recvMask fuel rr np (2 ^ j) = (2 ^ i, false) ∧ np ≤ 2 ^ i ∧ rr % 2 ^ i = 0) := by
  induction fuel generalizing j with
  | zero => exact Or.inr ⟨j, rfl, hf, hrr⟩
  | succ fuel ih =>
    have hm := @Nat.mod_pow_succ rr 2 j
    unfold recvMask
    by_cases h1 : 2 ^ j < np
    · rw [if_pos h1]
      by_cases h2 : rr / 2 ^ j % 2 = 1
      · rw [if_pos h2]
        exact Or.inl ⟨j, rfl, h1, by rw [hm, hrr, h2, Nat.zero_add, Nat.mul_one]⟩
      · rw [if_neg h2, ← Nat.pow_succ]
        exact ih (j + 1) (by rw [hm, hrr, (Nat.mod_two_eq_zero_or_one _).resolve_right h2]; rfl) (by rw [Nat.add_right_comm]; exact hf)
    · rw [if_neg h1]
      exact Or.inr ⟨j, rfl, Nat.not_lt.mp h1, hrr⟩

theorem recvMask_pos (np d : Nat) (hd : d ≠ 0) (hdn : d < np) :
    ∃ i, recvMask (np + 1) d np 1 = (2 ^ i, true) ∧ 2 ^ i < np ∧ d % 2 ^ (i + 1) = 2 ^ i := by
  have hf : np ≤ 2 ^ (0 + (np + 1)) := by
    have := @Nat.lt_two_pow_self (np + 1); rw [Nat.zero_add]; omega
  rcases recvMask_spec (np + 1) 0 d np (by simp [Nat.mod_one]) hf with ⟨i, h1, h2, h3⟩ | ⟨i, _, h2, h3⟩
  · exact ⟨i, by simpa using h1, h2, h3⟩
  · exfalso
    have : d % 2 ^ i = d := Nat.mod_eq_of_lt (by omega)
    omega

theorem recvMask_zero (np : Nat) : ∃ i, recvMask (np + 1) 0 np 1 = (2 ^ i, false) ∧ np ≤ 2 ^ i := by
  have hf : np ≤ 2 ^ (0 + (np + 1)) := by
    have := @Nat.lt_two_pow_self (np + 1); rw [Nat.zero_add]; omega
  rcases recvMask_spec (np + 1) 0 0 np (by simp) hf with ⟨i, _, _, h3⟩ | ⟨i, h1, h2, _⟩
  · exfalso
    have := Nat.two_pow_pos i
    simp at h3
    omega
  · exact ⟨i, by simpa using h1, h2⟩

theorem sendsAt_parent (np d k : Nat) (hdn : d < np) (hbit : d % 2 ^ (k + 1) = 2 ^ k) :
    sendsAt (d - 2 ^ k) np (2 ^ k) = true := by
  have hge : 2 ^ k ≤ d := hbit ▸ Nat.mod_le d (2 ^ (k + 1))
  unfold sendsAt
  simp only [Bool.and_eq_true, decide_eq_true_eq]
  refine ⟨?_, by rw [Nat.sub_add_cancel hge]; exact hdn⟩
  -- the sender leaves its first loop at a mask above `2^k`
  by_cases h0 : d - 2 ^ k = 0
  · obtain ⟨i, h1, h2⟩ := recvMask_zero np
    rw [h0, h1]
    exact Nat.lt_of_le_of_lt hge (Nat.lt_of_lt_of_le hdn h2)
  · obtain ⟨i, h1, _, h3⟩ := recvMask_pos np (d - 2 ^ k) h0 (Nat.sub_lt_of_lt hdn)
    rw [h1]
    exact Nat.pow_lt_pow_right Nat.one_lt_two (lowbit_ge _ (k + 1) i (lowbit_sub d k hbit) h3)

/-- state of the broadcast when the rounds at masks `≥ 2^j` are done: exactly the multiples of `2^j` hold the data -/
def bcastInv (np j : Nat) (v : α) : List (Option α) :=
  (List.range np).map fun d => if d % 2 ^ j = 0 then some v else none

theorem bcastRound_inv (np k : Nat) (v : α) : bcastRound np (2 ^ k) (bcastInv np (k + 1) v) = bcastInv np k v := by
  unfold bcastRound bcastInv
  apply List.map_congr_left
  intro d hd
  have hdn : d < np := List.mem_range.mp hd
  by_cases h0 : d = 0
  · subst h0
    obtain ⟨i, h1, _⟩ := recvMask_zero np
    rw [h1]
    simp only
    rw [getD_map_range _ _ _ hdn, Nat.zero_mod, Nat.zero_mod]
  · obtain ⟨i, h1, h2, h3⟩ := recvMask_pos np d h0 hdn
    rw [h1]
    simp only
    have hi0 := lowbit_mod d i h3
    by_cases hik : i = k
    · -- lowest set bit `k`: `d` receives from `d - 2^k`, a multiple of `2^(k+1)`
      subst hik
      have hge : 2 ^ i ≤ d := h3 ▸ Nat.mod_le d (2 ^ (i + 1))
      rw [if_pos ⟨rfl, hge, sendsAt_parent np d i hdn h3⟩, getD_map_range _ _ _ (Nat.sub_lt_of_lt hdn),
        if_pos (lowbit_sub d i h3), if_pos hi0]
    · -- otherwise `d` keeps its buffer, and is a multiple of `2^k` iff it is one of `2^(k+1)`
      rw [if_neg fun c => hik ((Nat.pow_right_inj (Nat.lt_succ_self 1)).mp c.1), getD_map_range _ _ _ hdn]
      have : d % 2 ^ (k + 1) = 0 ↔ d % 2 ^ k = 0 :=
        ⟨mod_pow_of_le d k (k + 1) (Nat.le_succ k), fun h =>
          mod_pow_of_le d (k + 1) i (Nat.lt_of_le_of_ne (lowbit_ge d k i h h3) (Ne.symm hik)) hi0⟩
      simp only [this]

theorem bcastRounds_inv (np k : Nat) (v : α) : bcastRounds np k (bcastInv np k v) = bcastInv np 0 v := by
  induction k with
  | zero => rfl
  | succ k ih => rw [bcastRounds, bcastRound_inv, ih]

theorem bcastBinomialRel_eq (np : Nat) (v : α) : bcastBinomialRel np v = (List.range np).map fun _ => some v := by
  unfold bcastBinomialRel
  have hinit : ((List.range np).map fun d => if d = 0 then some v else none) = bcastInv np (log2up np) v := by
    unfold bcastInv
    apply List.map_congr_left
    intro d hd
    have hdn : d < np := List.mem_range.mp hd
    have := log2up_spec np
    rw [Nat.mod_eq_of_lt (by omega)]
  rw [hinit, bcastRounds_inv]
  unfold bcastInv
  apply List.map_congr_left
  intro d _
  simp [Nat.mod_one]

theorem bcastBinomial_eq (np root : Nat) (v : α) (hroot : root < np) :
    bcastBinomial np root v = (List.range np).map fun _ => some v := by
  unfold bcastBinomial
  rw [bcastBinomialRel_eq]
  apply List.map_congr_left
  intro r hr
  have := List.mem_range.mp hr
  rw [getD_map_range]
  split <;> omega

end SgVerif.C29
