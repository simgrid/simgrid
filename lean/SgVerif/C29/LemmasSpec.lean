import SgVerif.C29.Lemmas
import SgVerif.Common.List
/- C29: the algebra of the collective specifications (chunks, flatten, slices, columns of a block matrix). -/
namespace SgVerif.C29
variable {α : Type}

theorem reduce_of_fold (op : α → α → α) (x : Nat → List α) (np root : Nat) (hroot : root < np) (v : List α)
    (h : fold1 (zipOp op) ((List.range np).map x) = some v) :
    some (onlyAt np root v) = reduce op root ((List.range np).map x) := by
  unfold reduce
  rw [List.length_map, List.length_range, if_pos hroot, reduceAll_eq_fold1, h]
  rfl

theorem offsets_length (o : Nat) (cs : List Nat) : (offsets o cs).length = cs.length := by
  induction cs generalizing o with
  | nil => rfl
  | cons c cs ih => simp [offsets, ih]

theorem chunks_length (c n : Nat) (l : List α) : (chunks c n l).length = n := by
  induction n generalizing l with
  | zero => rfl
  | succ n ih => simp [chunks, ih]

theorem allSome_map_some {β : Type} (l : List β) : allSome (l.map some) = some l := by
  induction l with
  | nil => rfl
  | cons x l ih => simp [allSome, ih]

theorem chunks_flatten (c n : Nat) (bl : List (List α)) (hl : bl.length = n) (hc : ∀ b ∈ bl, b.length = c) :
    chunks c n bl.flatten = bl := by
  induction bl generalizing n with
  | nil => subst hl; rfl
  | cons b bl ih =>
    subst hl
    have hb : b.length = c := hc b (by simp)
    simp only [List.length_cons, chunks, List.flatten_cons]
    rw [List.take_left' hb, List.drop_left' hb, ih bl.length rfl (fun x hx => hc x (by simp [hx]))]

theorem flatten_chunks (c n : Nat) (b : List α) (h : b.length ≤ n * c) : (chunks c n b).flatten = b := by
  induction n generalizing b with
  | zero =>
    have : b = [] := List.eq_nil_of_length_eq_zero (by omega)
    subst this; rfl
  | succ n ih =>
    simp only [chunks, List.flatten_cons]
    rw [ih (b.drop c) (by rw [List.length_drop, Nat.succ_mul] at *; omega), List.take_append_drop]

theorem chunks_mem_length (c n : Nat) (b : List α) (h : b.length = n * c) : ∀ x ∈ chunks c n b, x.length = c := by
  induction n generalizing b with
  | zero => intro x hx; cases hx
  | succ n ih =>
    intro x hx
    rw [Nat.succ_mul] at h
    simp only [chunks, List.mem_cons] at hx
    rcases hx with rfl | hx
    · rw [List.length_take]; omega
    · exact ih (b.drop c) (by rw [List.length_drop]; omega) x hx

theorem flatten_length_const (c : Nat) (bl : List (List α)) (hc : ∀ b ∈ bl, b.length = c) :
    bl.flatten.length = bl.length * c := by
  rw [← List.flatMap_id]; exact length_flatMap_const bl id c hc

theorem slices_replicate (c n o : Nat) (v : List α) (h : o + n * c ≤ v.length) :
    allSome (((List.replicate n c).zip (offsets o (List.replicate n c))).map fun (c, o) => slice v o c)
      = some (chunks c n (v.drop o)) := by
  induction n generalizing o with
  | zero => rfl
  | succ n ih =>
    rw [Nat.succ_mul] at h
    simp only [List.replicate_succ, offsets, List.zip_cons_cons, List.map_cons, chunks]
    have hs : slice v o c = some ((v.drop o).take c) := by
      unfold slice; rw [if_pos (by omega)]
    rw [hs]
    simp only [allSome]
    rw [ih (o + c) (by omega), List.drop_drop]
    rfl

theorem map_getD_map_some {β : Type} (l : List (List β)) : (l.map some).map (·.getD []) = l := by
  rw [List.map_map]
  exact List.map_id l

/-- row `r` of the transpose is column `r` of the matrix -/
theorem transposeN_eq {β : Type} (n : Nat) (m : List (List β)) :
    transposeN n m = (List.range n).map fun r => m.filterMap (·[r]?) := by
  induction n generalizing m with
  | zero => rfl
  | succ n ih =>
    rw [transposeN, ih, List.range_succ_eq_map, List.map_cons, List.map_map]
    congr 1
    · congr 1; funext l; cases l <;> rfl
    · refine List.map_congr_left fun r _ => ?_
      rw [List.filterMap_map]
      congr 1; funext l; cases l <;> rfl

theorem transposeN_length {β : Type} (n : Nat) (m : List (List β)) : (transposeN n m).length = n := by
  rw [transposeN_eq, List.length_map, List.length_range]

theorem filterMap_col {β : Type} (m : List (List β)) (r j : Nat) (hrow : ∀ row ∈ m, r < row.length) :
    (m.filterMap (·[r]?))[j]? = (m[j]?).bind (·[r]?) := by
  induction m generalizing j with
  | nil => simp
  | cons row m ih =>
    have hr : r < row.length := hrow row (by simp)
    have hm : ∀ row' ∈ m, r < row'.length := fun row' h => hrow row' (by simp [h])
    rw [List.filterMap_cons, List.getElem?_eq_getElem hr]
    cases j with
    | zero => simp [List.getElem?_eq_getElem hr]
    | succ j => simp [ih j hm]

theorem filterMap_col_length {β : Type} (m : List (List β)) (r : Nat) (hrow : ∀ row ∈ m, r < row.length) :
    (m.filterMap (·[r]?)).length = m.length :=
  List.filterMap_length_eq_length.mpr fun row h => (isSome_getElem? row r).mpr (hrow row h)

theorem map_range_getElem? {β : Type} (l : List β) : (List.range l.length).map (l[·]?) = l.map some :=
  map_range_eq _ _ _ (List.length_map ..) fun s hs => by rw [List.getElem?_map, List.getElem?_eq_getElem hs]; rfl

theorem filterMap_range_getElem? {β : Type} (l : List β) : (List.range l.length).filterMap (l[·]?) = l := by
  have := congrArg (List.filterMap id) (map_range_getElem? l)
  rw [List.filterMap_map, List.filterMap_map] at this
  exact this.trans List.filterMap_some

theorem reduce_root (op : α → α → α) (root : Nat) (bufs : Bufs α) (res : Res α) (v : List α)
    (hr : reduce op root bufs = some res) (hv : res[root]? = some (some v)) :
    root < bufs.length ∧ reduceAll op bufs = some v := by
  unfold reduce at hr
  split at hr
  · rename_i hlt
    cases hra : reduceAll op bufs with
    | none => rw [hra] at hr; cases hr
    | some w =>
      rw [hra] at hr
      cases hr
      rw [onlyAt_getElem? _ _ _ _ hlt, if_pos rfl] at hv
      cases hv
      exact ⟨hlt, rfl⟩
  · cases hr

theorem gather_root (root : Nat) (bufs : Bufs α) (res : Res α) (v : List α) (hg : gather root bufs = some res)
    (hv : res[root]? = some (some v)) : root < bufs.length ∧ v = bufs.flatten := by
  unfold gather at hg
  split at hg
  · rename_i hlt
    cases hg
    rw [onlyAt_getElem? _ _ _ _ hlt, if_pos rfl] at hv
    cases hv
    exact ⟨hlt, rfl⟩
  · cases hg

theorem scan_get (op : α → α → α) (bufs : Bufs α) (res : Res α) (r : Nat) (h : scan op bufs = some res)
    (hr : r < bufs.length) : res[r]? = some (reduceAll op (bufs.take (r + 1))) := by
  cases h
  rw [List.getElem?_map, List.getElem?_range hr]
  rfl

end SgVerif.C29
